import JoblibProofs.Lemmas.ZlibFile
/-!
# C13 — joblib's compressed file objects behave exactly like a plain byte stream

Statement (properties.jsonl): a file object opened for reading on zlib- or gzip-compressed data through
joblib's compressor classes behaves like a read-only binary stream over the uncompressed bytes: any sequence
of `read(n)`, `read()`, `readinto`, `readline`, `tell` and seeks to positions at or after the start (all three
whence modes, forwards and backwards, past the end clamping to the end) returns the same bytes and positions
as the reference stream. Writing the same bytes in any chunking and at any level yields a stream that the
standard zlib/gzip decoders expand to exactly those bytes.

Quantifier reached here: EVERY payload, EVERY chunking of it into decompressed chunks (any number of chunks,
empty chunks allowed — i.e. every way `zlib.decompressobj` may spread the payload over the 8192-byte raw
blocks, for every compression level), EVERY finite operation sequence over
{read n (n any integer), read(), readinto, readline, tell, seek off whence} in which no seek has a negative
target (`Spec.run … = some …` is exactly that side condition; an invalid `whence` is inside: both sides raise
ValueError). Write side: every chunk sequence, any compressor satisfying the streaming law (the level is a
parameter of the compressor).

Model: `JoblibModel.ZlibFile` — `ZFile` over `chunkSource`; reference stream `Spec` (= `io.BytesIO` with the
documented clamping of seeks past the end). Abstraction (informally; there is no definition `abs`):
`abs s = (payload, s.pos)`, under the invariant `InvAt`.

Modelled, not verified: the codec (`zlib`): on the read side it only enters through the chunk list, on the
write side through the hypothesis `law` of `write_roundtrip`; `io.BufferedIOBase.readinto` and
`io.IOBase.readline` (C code) as `read(len(b))` / repeated `read(1)`.

`Yields`, `Regular`, `InvAt`, `ValidFile` of the statements are defined in `Lemmas/ZlibFile.lean`.
-/
namespace C13
open JoblibModel.ZlibFile

/-- Fuel that suffices for any operation on a file with this chunking (the driver uses exactly this). -/
def fuelFor (chunks : List Bytes) : Nat := chunks.length + chunks.flatten.length + 2

/-- REFINEMENT, general form. For any block source `S` that — under a source invariant `G` — delivers some
chunking (≤ `N` chunks) of `payload` after every rewind (`Regular`), and any file-object state `s` satisfying
the invariant `InvAt` (`_pos` = bytes consumed; the rest of the payload = unread part of `_buffer` ++ chunks
still to come): every operation sequence that the reference stream accepts (`Spec.run`) produces on the file
object exactly the reference outputs, ends at the reference position, and re-establishes the invariant —
i.e. every operation commutes with `abs s = (payload, s.pos)`. No operation runs out of fuel. -/
theorem zfile_refines_stream {σ : Type} {S : Source σ} {payload : Bytes} {G : σ → Prop} {N : Nat}
    (hR : Regular S payload G N) {fuel : Nat} (hf : N + payload.length + 2 ≤ fuel)
    (ops : List Op) (s : ZFile σ) (o : Nat) (cs : List Bytes) (pos' : Nat) (outs : List Out)
    (hI : InvAt S payload G N s o cs)
    (hspec : Spec.run payload s.pos ops = some (pos', outs)) :
    ∃ s' o' cs', runOps S fuel s ops = (s', outs) ∧ InvAt S payload G N s' o' cs' ∧ s'.pos = pos' :=
  runOps_refines hR hf ops s o cs pos' outs hI hspec

/-- REFINEMENT for `BinaryZlibFile(fp, "rb")` and EVERY chunking of the payload: a freshly opened file over
the chunk list `chunks` answers every in-scope operation sequence exactly as `io.BytesIO(chunks.flatten)`. -/
theorem zfile_refines_stream_chunks (chunks : List Bytes) (ops : List Op) (pos' : Nat) (outs : List Out)
    {fuel : Nat} (hf : fuelFor chunks ≤ fuel)
    (hspec : Spec.run chunks.flatten 0 ops = some (pos', outs)) :
    (runOps chunkSource fuel (openChunks chunks) ops).2 = outs ∧
    (runOps chunkSource fuel (openChunks chunks) ops).1.pos = pos' := by
  obtain ⟨cs, hI⟩ := openChunks_inv chunks
  obtain ⟨s', _, _, h1, _, h3⟩ := runOps_refines (chunk_regular chunks) hf
    ops (openChunks chunks) 0 cs pos' outs hI hspec
  rw [h1]; exact ⟨rfl, h3⟩

/-- INVARIANT `pos = bytes consumed`: after any in-scope operation sequence on a fresh file, what is left of
the payload after `_pos` is exactly the unread part of `_buffer` followed by the chunks not yet fetched. -/
theorem invariant_preserved (chunks : List Bytes) (ops : List Op) (pos' : Nat) (outs : List Out)
    {fuel : Nat} (hf : fuelFor chunks ≤ fuel)
    (hspec : Spec.run chunks.flatten 0 ops = some (pos', outs)) :
    ∃ (o : Nat) (rest : List Bytes),
      let s := (runOps chunkSource fuel (openChunks chunks) ops).1
      s.bufferOffset = (o : Int) ∧ o ≤ s.buffer.length ∧ s.pos ≤ chunks.flatten.length ∧
      s.src.rest = rest ∧ chunks.flatten.drop s.pos = s.buffer.drop o ++ rest.flatten := by
  obtain ⟨cs, hI⟩ := openChunks_inv chunks
  obtain ⟨s', o', cs', h1, h2, _⟩ := runOps_refines (chunk_regular chunks) hf
    ops (openChunks chunks) 0 cs pos' outs hI hspec
  rw [h1]
  refine ⟨o', s'.src.rest, h2.off, h2.off_le, h2.pos_le, rfl, ?_⟩
  rw [← chunk_yields_unique h2.yields]; exact h2.rem

/-- `_size` is known once EOF has been reached: in mode `_MODE_READ_EOF` (in particular after `read()`),
`_size = _pos = len(payload)`; and `_size` is never anything but -1 or the payload length. -/
theorem size_known_at_eof {σ : Type} {S : Source σ} {payload : Bytes} {G : σ → Prop} {N : Nat}
    {s : ZFile σ} {o : Nat} {cs : List Bytes} (hI : InvAt S payload G N s o cs) :
    (s.size = -1 ∨ s.size = (payload.length : Int)) ∧
    (s.mode = .readEof → s.size = (payload.length : Int) ∧ s.pos = payload.length) := by
  refine ⟨hI.size, fun hm => ?_⟩
  obtain ⟨e1, e2, e3⟩ := hI.eof hm
  subst e2
  exact ⟨e3, hI.pos_of_nil e1⟩

/-- `read()` reaches EOF: afterwards the mode is `_MODE_READ_EOF`, so (previous theorem) the size is known. -/
theorem read_all_reaches_eof {σ : Type} {S : Source σ} {payload : Bytes} {G : σ → Prop} {N : Nat}
    (hR : Regular S payload G N) {fuel : Nat} {s : ZFile σ} {o : Nat} {cs : List Bytes}
    (hI : InvAt S payload G N s o cs) (hf : N + 2 ≤ fuel) :
    ∃ s', read S fuel (-1) s = .ok (s', payload.drop s.pos) ∧ s'.mode = .readEof ∧
      s'.size = (payload.length : Int) ∧ s'.pos = payload.length := by
  obtain ⟨s', o', h1, h2, h3, h4⟩ := readAll_spec hR hI hf
  refine ⟨s', ?_, h3, (h2.eof h3).2.2, h4⟩
  rw [JoblibModel.ZlibFile.read, checkCanRead_ok hI]
  exact h1

/-- WRITE SIDE: writing the chunks `ds` and closing hands the compressor exactly `ds`, in order, one
`compress` call per `write`, followed by exactly one `flush`; the file then contains the compressor's stream
for `ds`, and `tell()` before closing is the total length. -/
theorem write_concat {γ : Type} (C : Compressor γ) (init : γ) (ds : List Bytes) :
    ∃ w, (openWrite init).writeAll C ds = .ok w ∧ w.pos = ds.flatten.length ∧
      (w.close C).handed = ds ∧ (w.close C).flushes = 1 ∧ (w.close C).mode = .closed ∧
      (w.close C).fp = C.stream init ds := by
  obtain ⟨w, h1, h2, h3, h4, h5, h6⟩ := writeAll_spec C ds (openWrite init) rfl
  refine ⟨w, h1, by simpa [openWrite] using h5, ?_, ?_, ?_, ?_⟩
  · simpa [WFile.close, h2, openWrite] using h3
  · simp [WFile.close, h2, h4, openWrite]
  · simp [WFile.close, h2]
  · simpa [WFile.close, h2, openWrite] using h6

/-- With zlib's streaming law as the parameter (`law`: a decoder expands the concatenation of the outputs of
successive `compress` calls and the final `flush` to the concatenation of the inputs), the standard decoder
expands what was written — in ANY chunking — to exactly the bytes written. -/
theorem write_roundtrip {γ : Type} (C : Compressor γ) (init : γ) (decode : Bytes → Option Bytes)
    (law : ∀ ds : List Bytes, decode (C.stream init ds) = some ds.flatten) (ds : List Bytes) :
    ∃ w, (openWrite init).writeAll C ds = .ok w ∧ decode (w.close C).fp = some ds.flatten := by
  obtain ⟨w, h1, _, _, _, _, h6⟩ := write_concat C init ds
  exact ⟨w, h1, by rw [h6]; exact law ds⟩

/-- BYTES AFTER THE END OF THE COMPRESSED STREAM DO NOT CHANGE THE STREAM. `raw` a valid file of payload `p`
(codec law as hypothesis) followed by ANY bytes `t` (padding, the rest of a container, a plausible but wrong size
field): at the raw-block level (`rawSource`: 8192-byte reads of `raw ++ t`, `zlib.decompressobj` with `eof` /
`unused_data`) the file object answers EVERY in-scope operation sequence — in particular seeks relative to the end
issued before the object has seen EOF — exactly as `io.BytesIO(p)`. The size the object uses is the number of
decompressed bytes, never anything read from the file's last bytes. -/
theorem trailing_bytes_same_stream {c : Codec} {raw p : Bytes} {out : Nat → Bytes} (hv : ValidFile c raw p out)
    (t : Bytes) (ops : List Op) (pos' : Nat) (outs : List Out) {fuel : Nat}
    (hf : rawBound (raw ++ t) + p.length + 2 ≤ fuel)
    (hspec : Spec.run p 0 ops = some (pos', outs)) :
    (runOps (rawSource c) fuel (openRaw (raw ++ t)) ops).2 = outs ∧
    (runOps (rawSource c) fuel (openRaw (raw ++ t)) ops).1.pos = pos' :=
  raw_runOps (trail_law hv t) (if_neg (by rw [List.length_append]; omega)) hf ops pos' outs hspec

/-- A list fact about the model's reference stream `Spec.run` alone, not a property of joblib. -/
theorem Spec.run_snoc (p : Bytes) (op : Op) : ∀ (ops : List Op) (pos pos' pos'' : Nat) (outs : List Out) (o : Out),
    Spec.run p pos ops = some (pos', outs) → Spec.applyOp p pos' op = some (pos'', o) →
    Spec.run p pos (ops ++ [op]) = some (pos'', outs ++ [o]) := by
  intro ops
  induction ops with
  | nil =>
    intro pos pos' pos'' outs o h1 h2
    simp only [Spec.run] at h1
    cases h1
    simp [Spec.run, h2]
  | cons a ops ih =>
    intro pos pos' pos'' outs o h1 h2
    simp only [Spec.run] at h1
    split at h1
    · cases h1
    · rename_i p1 o1 ha
      split at h1
      · cases h1
      · rename_i p2 os hr
        cases h1
        have := ih p1 pos' pos'' os o hr h2
        simp [Spec.run, ha, this]

theorem Spec.seek_end (p : Bytes) (pos k : Nat) (hk : k ≤ p.length) :
    Spec.applyOp p pos (.seek (-(k : Int)) 2) = some (p.length - k, .num (p.length - k)) := by
  have ht : specTarget p pos (-(k : Int)) 2 = ((p.length - k : Nat) : Int) := (Int.ofNat_sub hk).symm
  rw [Spec.applyOp_seek, if_pos (Or.inr (Or.inr rfl)), ht, if_neg (Int.not_lt.mpr (Int.natCast_nonneg _)),
    Int.toNat_natCast, Nat.min_eq_left (Nat.sub_le _ _)]

/-- A SEEK FROM THE END LANDS AT `size - k` IN EVERY STATE OF THE OBJECT. After ANY in-scope operation sequence
(nothing read yet, mid-stream, EOF seen, rewound, …) on ANY chunking — one chunk of megabytes included —
`seek(-k, 2)` with `k ≤ size` returns `len(payload) - k`: the size is the full decompressed length whatever
the history, and whatever the number of decompressed bytes one raw block expands to. -/
theorem seek_end_in_every_state (chunks : List Bytes) (ops : List Op) (pos' : Nat) (outs : List Out) (k : Nat)
    (hk : k ≤ chunks.flatten.length) {fuel : Nat} (hf : fuelFor chunks ≤ fuel)
    (hspec : Spec.run chunks.flatten 0 ops = some (pos', outs)) :
    (runOps chunkSource fuel (openChunks chunks) (ops ++ [.seek (-(k : Int)) 2])).2 =
      outs ++ [.num (chunks.flatten.length - k)] ∧
    (runOps chunkSource fuel (openChunks chunks) (ops ++ [.seek (-(k : Int)) 2])).1.pos =
      chunks.flatten.length - k := by
  have h2 := Spec.seek_end chunks.flatten pos' k hk
  exact zfile_refines_stream_chunks chunks _ _ _ hf (Spec.run_snoc _ _ ops 0 pos' _ outs _ hspec h2)

/-! Non-vacuity: a concrete chunking with an empty chunk, reads across chunk boundaries, a backward seek
(rewind) and a seek past the end; the reference stream accepts the sequence and the hypotheses hold. -/
def exChunks : List Bytes := [[97, 98, 10], [], [99, 100], [10, 101]]
def exOps : List Op := [.readline, .read 3, .tell, .seek (-5) 1, .readinto 2, .seek 100 0, .read (-1), .seek (-2) 2,
  .readline]

example : Spec.run exChunks.flatten 0 exOps =
    some (6, [.bytes [97, 98, 10], .bytes [99, 100, 10], .num 6, .num 1, .into [98, 10], .num 7, .bytes [],
              .num 5, .bytes [10]]) := by decide +kernel
example : (runOps chunkSource (fuelFor exChunks) (openChunks exChunks) exOps).2 =
    [.bytes [97, 98, 10], .bytes [99, 100, 10], .num 6, .num 1, .into [98, 10], .num 7, .bytes [],
     .num 5, .bytes [10]] := by decide +kernel
/-- A seek with a negative target is outside the property (the reference run is `none`). -/
example : Spec.run exChunks.flatten 0 [.seek (-1) 0] = none := by decide +kernel
/-- …and there the real code (and the model) indeed misbehave: after `seek(-3, 0)` a `read(2)` returns `b''`
although the stream is at position 0 (`_buffer_offset` is left negative). Not a C13 violation: out of scope. -/
example : (runOps chunkSource (fuelFor exChunks) (openChunks exChunks) [.seek (-3) 0, .read 2, .tell]).2 =
    [.num 0, .bytes [], .num 0] := by decide +kernel

end C13
