import JoblibProofs.Lemmas.ArrayFormat
/-!
# C19 — numpy arrays persist bit-exactly and memory-map faithfully

Statement (properties.jsonl): numpy arrays of any dtype (structured, object, datetime, either endianness),
shape (0-d, empty, n-d), memory layout (C, Fortran, non-contiguous, memmap-backed) and subclass, alone or
nested in other containers, come back from dump/load with identical dtype, shape, order and element bytes
under every compressor. Loading an uncompressed file with `mmap_mode` yields arrays with identical contents
that are correctly aligned views on the file, and large arrays passed to process workers through automatic
memmapping present the same values to the task.

Quantifier reached here (byte-layout level): every start position in the file, every alignment constant,
every itemsize ≥ 1, every count (hence every shape), both orders, every payload and every continuation of the
file (so: arrays nested anywhere in a container), every buffer size of the chunked read; for the worker
path every shape / stride vector / offsets.

numpy itself is a PARAMETER (`nditer` order, `tobytes`, `frombuffer`, `memmap`, `as_strided`, `.flags`): the
model takes the byte string of the elements in the chosen order, and the flags, as inputs; what numpy does
with them is tested by the harness under numpy 2.4.6 (python3-vt), not proved.

Where the code makes the full statement false the negation is proved on a concrete witness and the fragment
that holds is kept as `…_partial`:
* F27  `read_inverts_write_partial` needs `itemsize ≥ 1` / `itemsize_zero_counterexample`
* F57  `history_faithful_partial` needs that no array is changed in place between two dispatches into one folder /
       `history_stale_counterexample`
Repaired in /repo (b514cf6: F24; 5cddabe: F25, F26) — the model follows the repaired code and the full
statements are the property theorems `reduce_contiguous_faithful`, `reduce_strided_faithful`,
`total_buffer_len_covers`; the witnesses against the code as it was are kept in the section "PRE-FIX witnesses"
(`prefix_transposed_counterexample`, `prefix_negative_stride_counterexample`,
`prefix_total_buffer_len_floor_counterexample`) over the `…PreFix` definitions of the model file.
(F16, `np.matrix` loading as a plain `ndarray` under numpy 2, is about a `hasattr` on a numpy object: it
has no arithmetic to model and is reproduced by the harness oracle only.)

Model: `JoblibModel.ArrayFormat`.
-/
namespace C19
open JoblibModel.ArrayFormat JoblibModel.Generated

/-- The alignment constant is 16, so the padding length (≤ 16) fits the single byte it is stored in. -/
theorem table_alignment : numpyArrayAlignmentBytes = 16 := by decide +kernel

/-- `BUFFER_SIZE` is positive: `max_read_count ≥ 1` for every itemsize ≥ 1. -/
theorem table_buffer_size : 0 < bufferSize := by decide +kernel

/-- **padding_aligns.** For every position of the file handle the data start `pos + 1 + pad` is a multiple of
the alignment, and `1 ≤ pad ≤ align`: at least the length byte itself is always there to be skipped. -/
theorem padding_aligns (align pos : Nat) (h : 0 < align) :
    (pos + 1 + paddingLength align pos) % align = 0
    ∧ 1 ≤ paddingLength align pos ∧ paddingLength align pos ≤ align := by
  unfold paddingLength
  have hr : (pos + 1) % align < align := Nat.mod_lt _ h
  have hq := Nat.div_add_mod (pos + 1) align
  refine ⟨?_, Nat.sub_pos_of_lt hr, Nat.sub_le _ _⟩
  have : pos + 1 + (align - (pos + 1) % align) = align * ((pos + 1) / align + 1) := by
    rw [Nat.mul_add, Nat.mul_one]
    generalize align * ((pos + 1) / align) = aq at hq
    omega
  rw [this, Nat.mul_mod_right]

/-- … and with the code's constant: 16-byte aligned, `1 ≤ pad ≤ 16`, so the pad length fits its byte and
`write_array` never raises `OverflowError`. -/
theorem padding_aligns_16 (pos : Nat) :
    (pos + 1 + paddingLength numpyArrayAlignmentBytes pos) % 16 = 0
    ∧ 1 ≤ paddingLength numpyArrayAlignmentBytes pos
    ∧ paddingLength numpyArrayAlignmentBytes pos ≤ 16
    ∧ paddingLength numpyArrayAlignmentBytes pos < 256 := by
  rw [table_alignment]
  have := padding_aligns 16 pos (by decide)
  omega

/-- The bytes `write_array` emits: the pad-length byte, that many `0xff`, the data. -/
theorem write_layout (align pos itemsize : Nat) (data : Bytes) (ha : 0 < align) (ha' : align < 256)
    (hi : 0 < itemsize) :
    writeArray (some align) pos itemsize data
      = .ok (paddingLength align pos :: (List.replicate (paddingLength align pos) padValue ++ data)) := by
  have hp := (padding_aligns align pos ha).2.2
  unfold writeArray
  simp only [Nat.ne_of_gt hi, if_false, Nat.ne_of_gt ha]
  rw [if_neg (by omega)]

/-! `Tiles` is defined in `JoblibProofs/Lemmas/ArrayFormat.lean`. -/
example : Tiles [(0, 4), (4, 4), (8, 2)] 0 10 := by simp [Tiles]
example : ¬ Tiles [(0, 4), (5, 4)] 0 9 := by simp [Tiles]

/-- **chunked_read_covers_exactly.** For every `count`, `itemsize ≥ 1` and buffer size, the
`for i in range(0, count, max_read_count)` loop reads consecutive pieces that start at item 0 and end at item
`count` — no item twice, none skipped, none beyond — each of 1…`max_read_count` items, in
`⌈count / max_read_count⌉` reads. (Stated for any positive `max_read_count`; `max_read_count_pos` shows the
code's value is positive.) -/
theorem chunked_read_covers_exactly (max_read_count count : Nat) (hm : 0 < max_read_count) :
    Tiles (chunks max_read_count count 0) 0 count
    ∧ ((chunks max_read_count count 0).map (·.2)).sum = count
    ∧ (∀ c ∈ chunks max_read_count count 0, 1 ≤ c.2 ∧ c.2 ≤ max_read_count ∧ c.1 + c.2 ≤ count)
    ∧ (chunks max_read_count count 0).length = (count + max_read_count - 1) / max_read_count :=
  ⟨chunks_tiles _ _ 0 hm (Nat.zero_le _), chunks_sum _ _ 0 hm, chunks_bounds _ _ 0 hm, chunks_length _ _ 0 hm⟩

/-- The code's `max_read_count` exists and is positive for `itemsize ≥ 1`, and one read never asks
for more than `max(BUFFER_SIZE, itemsize)` bytes (the purpose of the chunking: joblib issue with reads
≥ 2**32 from gzip streams). -/
theorem max_read_count_pos (itemsize : Nat) (hi : 0 < itemsize) :
    ∃ m, maxReadCount itemsize = .ok m ∧ 0 < m ∧ m * itemsize ≤ max bufferSize itemsize := by
  have hmin : 0 < min bufferSize itemsize := Nat.lt_min.mpr ⟨table_buffer_size, hi⟩
  refine ⟨bufferSize / min bufferSize itemsize, by rw [maxReadCount, if_neg (Nat.ne_of_gt hmin)],
    Nat.div_pos (Nat.min_le_left _ _) hmin, ?_⟩
  by_cases hle : itemsize ≤ bufferSize
  · rw [Nat.min_eq_right hle]
    exact Nat.le_trans (Nat.div_mul_le_self _ _) (Nat.le_max_left _ _)
  · rw [Nat.min_eq_left (Nat.le_of_not_le hle), Nat.div_self table_buffer_size, Nat.one_mul]
    exact Nat.le_max_right _ _

/-- **read_inverts_write** (`_partial`: needs `itemsize ≥ 1`, see `itemsize_zero_counterexample`). For every
alignment setting (16, any other constant that fits a byte, or `None` as in joblib ≤ 1.1 pickles), every start
position `pos`, every itemsize ≥ 1, every count, every element byte string of that size and EVERY continuation
`suf` of the file: what `read_array` reads back from the bytes `write_array` appended is exactly the element
bytes, and the handle is left exactly at the end of the array — so whatever was pickled after the array (the
rest of a container) is read from the right place. -/
theorem read_inverts_write_partial (align : Option Nat) (pos itemsize cnt : Nat) (data suf w : Bytes)
    (ha : ∀ a, align = some a → 0 < a ∧ a < 256) (hi : 0 < itemsize)
    (hd : data.length = cnt * itemsize)
    (hw : writeArray align pos itemsize data = .ok w) :
    readArray align ⟨w ++ suf, pos⟩ cnt itemsize = .ok (data, ⟨suf, pos + w.length⟩) := by
  obtain ⟨m, hm, hmpos, _⟩ := max_read_count_pos itemsize hi
  unfold readArray
  rw [hm]
  simp only
  cases align with
  | none =>
    rw [writeArray, if_neg (Nat.ne_of_gt hi)] at hw
    cases hw
    exact readLoop_spec itemsize m cnt hmpos 0 data suf [] pos hd
  | some a =>
    obtain ⟨ha0, ha1⟩ := ha a rfl
    rw [write_layout a pos itemsize data ha0 ha1 hi] at hw
    cases hw
    rw [List.cons_append, List.append_assoc, skipPadding_written a _ pos _ (padding_aligns a pos ha0).2.1,
      readLoop_spec itemsize m cnt hmpos 0 data suf [] _ hd]
    simp only [List.nil_append, List.length_cons, List.length_append, List.length_replicate]
    rw [Nat.add_assoc, Nat.add_assoc, Nat.add_comm 1]

/-- F27 witness: with `itemsize = 0` (`np.empty(3, 'V0')`, `np.zeros(3, np.dtype([]))`) neither side works:
`write_array` divides by the itemsize, and so does `read_array` (`BUFFER_SIZE // min(BUFFER_SIZE, 0)`). -/
theorem itemsize_zero_counterexample :
    writeArray (some 16) 100 0 [] = .error .zeroDivision
    ∧ readArray (some 16) ⟨[11, 255, 255, 255, 255, 255, 255, 255, 255, 255, 255, 255], 100⟩ 3 0
        = .error .zeroDivision := by
  constructor <;> rfl

/-- A truncated file is reported (`ValueError: EOF: reading array data`), never silently short:
if fewer than `count * itemsize` bytes follow the padding, `read_array` fails. -/
theorem short_data_is_an_error (pos itemsize cnt m : Nat) (d : Bytes) (hmp : 0 < m)
    (hshort : d.length < cnt * itemsize) :
    ∃ e, readLoop itemsize m cnt 0 ⟨d, pos⟩ [] = .error e :=
  ⟨.eof, by rw [readLoop_eq _ _ _ hmp]; exact if_neg (Nat.not_le_of_lt hshort)⟩

/-- **mmap_offset_is_data_start.** For a file written by `write_array` (alignment recorded in the wrapper),
`read_mmap` maps from exactly the first data byte, that offset is a multiple of the alignment, no
"not byte aligned" warning is due, and the handle is left at the same place `read_array` leaves it. -/
theorem mmap_offset_is_data_start (a pos itemsize cnt : Nat) (data suf w : Bytes)
    (ha0 : 0 < a) (ha1 : a < 256) (hi : 0 < itemsize) (hd : data.length = cnt * itemsize)
    (hw : writeArray (some a) pos itemsize data = .ok w) :
    let r := readMmap (some a) ⟨w ++ suf, pos⟩ cnt itemsize
    r.offset = pos + (w.length - data.length)
    ∧ r.offset % a = 0
    ∧ r.warns = false
    ∧ r.after = ⟨suf, pos + w.length⟩
    ∧ readArray (some a) ⟨w ++ suf, pos⟩ cnt itemsize = .ok (data, r.after) := by
  have hrw := read_inverts_write_partial (some a) pos itemsize cnt data suf w
    (fun a' h => by cases h; exact ⟨ha0, ha1⟩) hi hd hw
  rw [write_layout a pos itemsize data ha0 ha1 hi] at hw
  cases hw
  have hmod := (padding_aligns a pos ha0).1
  generalize paddingLength a pos = p at hmod hrw
  have hlen : (List.replicate p padValue ++ data).length = p + cnt * itemsize := by
    rw [List.length_append, List.length_replicate, hd]
  rw [List.cons_append] at hrw ⊢
  rw [readMmap_some a p _ suf pos cnt itemsize hlen]
  exact ⟨by simp only [List.length_cons, hlen, hd]; omega, hmod, rfl, rfl, hrw⟩

/-- With a page-aligned mapping (numpy maps from `offset - offset % ALLOCATIONGRANULARITY`, the granularity
being a multiple of the alignment), the address of the first element is aligned whenever the file offset is. -/
theorem mmap_pointer_aligned (base gran offset a : Nat) (hg : a ∣ gran) (hb : base % gran = 0)
    (ho : offset % a = 0) : (base + offset % gran) % a = 0 := by
  have hba : base % a = 0 := by
    have : gran ∣ base := Nat.dvd_of_mod_eq_zero hb
    exact Nat.mod_eq_zero_of_dvd (Nat.dvd_trans hg this)
  have hoa : offset % gran % a = 0 := by
    rw [Nat.mod_mod_of_dvd _ hg]; exact ho
  rw [Nat.add_mod, hba, hoa]
  simp

/-- Old pickles (no alignment recorded): mapped from the current position, and the warning is issued
exactly when that position is not a multiple of `NUMPY_ARRAY_ALIGNMENT_BYTES`. -/
theorem mmap_legacy (h : Handle) (cnt itemsize : Nat) :
    (readMmap none h cnt itemsize).offset = h.pos
    ∧ ((readMmap none h cnt itemsize).warns = true ↔ h.pos % numpyArrayAlignmentBytes ≠ 0) := by
  simp [readMmap]

/-- **order_choice.** Fortran order is recorded exactly for arrays that are F- and not C-contiguous; for
both orders the element that `read_array` places at index `idx` (C: `array.shape = shape`; F:
`array.shape = shape[::-1]` then `transpose()`) is the one `write_array` took from index `idx`
(`nditer(order=…)`) — for every shape of every rank and every index vector of that rank. -/
theorem order_choice (c f : Bool) (o : Order) (shape idx : List Nat) (h : shape.length = idx.length) :
    (orderOf c f = .F ↔ (f = true ∧ c = false))
    ∧ readIndex o shape idx = writeIndex o shape idx := by
  constructor
  · cases c <;> cases f <;> decide
  · cases o with
    | C => rfl
    | F => exact cIndex_reverse shape idx h

/-! ## the worker path: `_reduce_memmap_backed` / `_strided_from_memmap` (the code after /repo b514cf6, 5cddabe) -/

/-- **reduce_offset.** The offset handed to the worker is the file offset of the LOWEST byte of the view:
`a_start - m_start + m.offset`, where for a backing memmap with non-negative strides `m_start` is the
address that file offset `m.offset` is mapped at. -/
theorem reduce_offset (a m : Arr) (m_offset : Nat) (a_c a_f : Bool)
    (hm : ∀ s ∈ m.strides, 0 ≤ s) :
    (reduceMemmapBacked a m m_offset a_c a_f).offset
      = (a.ptr + lowAdj a.shape a.strides) - m.ptr + m_offset := by
  unfold reduceMemmapBacked
  simp only [byteBounds_fst m hm]
  cases (a_f || a_c) <;> rfl

/-- **reduce_strided_faithful.** For a non-contiguous view with ANY stride vector — negative strides, strides
that are not multiples of the itemsize — the array rebuilt in the worker (`as_strided` anchored `first` bytes
into a byte buffer mapped at `offset`) finds every element at the file offset where the original view has it. -/
theorem reduce_strided_faithful (a m : Arr) (m_offset : Nat) (idx : List Nat)
    (hm : ∀ s ∈ m.strides, 0 ≤ s) :
    rebuiltElemOffset (reduceMemmapBacked a m m_offset false false) a.itemsize idx
      = originalElemOffset a m m_offset idx := by
  have h1 := lowAdj_nonneg_strides m.shape m.strides hm
  simp only [reduceMemmapBacked, Bool.or_self, Bool.false_eq_true, if_false,
    rebuiltElemOffset, originalElemOffset, byteBounds, firstElem, h1]
  omega

/-- **reduce_contiguous_faithful.** For a contiguous view — its strides are those of its own order: Fortran
strides when it is F- and not C-contiguous, C strides otherwise — the rebuilt memmap (`make_memmap(shape,
order)` at `offset`) is faithful, whatever the order of the backing memmap. -/
theorem reduce_contiguous_faithful (a m : Arr) (m_offset : Nat) (a_c a_f : Bool) (idx : List Nat)
    (hm : ∀ s ∈ m.strides, 0 ≤ s) (hcontig : (a_f || a_c) = true)
    (hown : a.strides = (if a_f && !a_c then fStrides a.shape a.itemsize else cStrides a.shape a.itemsize)) :
    rebuiltElemOffset (reduceMemmapBacked a m m_offset a_c a_f) a.itemsize idx
      = originalElemOffset a m m_offset idx := by
  have hnn : ∀ s ∈ a.strides, 0 ≤ s := by
    rw [hown]
    cases (a_f && !a_c)
    · exact cStrides_nonneg _ _
    · exact fStrides_nonneg _ _
  simp only [reduceMemmapBacked, hcontig, if_true, rebuiltElemOffset, originalElemOffset, byteBounds_fst m hm,
    byteBounds_fst a hnn]
  cases hord : (a_f && !a_c)
  · simp only [hord, Bool.false_eq_true, if_false] at hown ⊢
    rw [hown]; omega
  · simp only [hord, if_true] at hown ⊢
    rw [hown]; omega

/-- **total_buffer_len_covers.** The byte buffer mapped in the worker for a non-contiguous view is EXACTLY the
extent `[a_start, a_end)` of the view — every byte of every element, nothing floored, nothing beyond — and the
anchor `first` lies inside it with room for one item (a non-contiguous array has no empty dimension). -/
theorem total_buffer_len_covers (a : Arr) (hpos : ∀ n ∈ a.shape, 1 ≤ n) :
    mappedBytes a.shape a.strides a.itemsize = (byteBounds a).2 - (byteBounds a).1
    ∧ 0 ≤ firstElem a.shape a.strides
    ∧ firstElem a.shape a.strides + a.itemsize ≤ mappedBytes a.shape a.strides a.itemsize := by
  obtain ⟨hl, hh⟩ := adj_bounds a.shape a.strides hpos
  simp only [mappedBytes, firstElem, byteBounds]
  omega

/-! ## which arguments travel as memory maps: `ArrayMemmapForwardReducer.__call__` -/

/-- **object_arrays_are_never_memmapped.** An array that is not already memmap-backed and whose dtype holds Python
objects ANYWHERE (`dtype.hasobject`: a plain object array, or a structured / sub-array dtype with an object field,
whose `kind` is `'V'`) is never dumped to the temp folder to be memory-mapped in the worker, whatever `max_nbytes`
and its size: it is pickled by value. (Its dump has `allow_mmap=False`, so `load_temporary_memmap` would get a
plain array back and fail.) -/
theorem object_arrays_are_never_memmapped (registeredType : Bool) (max_nbytes : Option Nat) (nbytes : Nat)
    (mmapModeNone : Bool) :
    forwardReduce registeredType false true max_nbytes nbytes mmapModeNone = .plainPickle := by
  cases registeredType <;> rfl

/-- The whole decision: an argument is dumped and memory-mapped exactly when it is an exact `ndarray`/`memmap`,
not memmap-backed, object-free, `mmap_mode` is not `None`, `max_nbytes` is not `None` and `nbytes > max_nbytes`
(strictly); a memmap-backed one reuses its file whatever its size. -/
theorem forward_decision (rt bk ho : Bool) (max_nbytes : Option Nat) (nbytes : Nat) (mmapModeNone : Bool) :
    (forwardReduce rt bk ho max_nbytes nbytes mmapModeNone = .dumpAndMemmap
      ↔ rt = true ∧ bk = false ∧ ho = false ∧ mmapModeNone = false ∧ ∃ m, max_nbytes = some m ∧ m < nbytes)
    ∧ (forwardReduce rt bk ho max_nbytes nbytes mmapModeNone = .reuseBacking ↔ rt = true ∧ bk = true) := by
  cases rt
  · simp [forwardReduce]
  cases bk
  · -- the only branch in which the array itself is looked at
    cases ho <;> cases mmapModeNone <;> cases max_nbytes <;> simp [forwardReduce] <;> split <;> simp
  · simp [forwardReduce]

/-- **mmap_mode_none_disables_memmapping** (repair F58). With `Parallel(mmap_mode=None)` — documented as "None
will disable memmapping" — no argument is ever dumped to the temp folder: an array that is not already backed by a
user memmap is pickled by value whatever `max_nbytes` and its size. Hence every dumped argument is loaded in the
worker with a real mode, for which `load_temporary_memmap` gets an `np.memmap` back. -/
theorem mmap_mode_none_disables_memmapping (rt ho : Bool) (max_nbytes : Option Nat) (nbytes : Nat) :
    forwardReduce rt false ho max_nbytes nbytes true = .plainPickle
    ∧ ∀ bk md, forwardReduce rt bk ho max_nbytes nbytes md = .dumpAndMemmap → loadTemporaryMemmapOk md = true := by
  constructor
  · cases rt <;> cases ho <;> rfl
  · intro bk md h
    cases md
    · rfl
    · cases rt <;> cases bk <;> cases ho <;> cases h

/-- F58 witness (the code before the repair): `Parallel(max_nbytes=1000, mmap_mode=None)` and a 2400-byte float
array: it is dumped although `mmap_mode` is `None`, and the worker's `load_temporary_memmap(filename, None, …)`
cannot give the task an array (`AttributeError` on `obj.filename`: BrokenProcessPool). -/
theorem prefix_mmap_mode_none_counterexample :
    forwardReducePreF58 true false false (some 1000) 2400 true = .dumpAndMemmap
    ∧ loadTemporaryMemmapOk true = false
    ∧ forwardReduce true false false (some 1000) 2400 true = .plainPickle := by
  decide +kernel

/-! ## the temporary dumps over a history of calls (`_memmaped_arrays`, `os.path.exists`)

FULL statement wanted by the property ("large arrays passed to process workers through automatic memmapping
present the same values to the task"): `∀ h, runHistory [] h = h.map (·.vals)`. It is FALSE of the code (F57, a
design trade-off: the dump is keyed by the identity of the array object and never refreshed inside one temp
folder): `history_stale_counterexample`. The fragment that holds: `history_faithful_partial` (no object changes
its values between two dispatches in the same folder), with its two practical instances
`fresh_context_is_faithful` (an unmanaged `Parallel`: a new folder per call) and `new_object_is_faithful`. -/

/-- **F57 witness.** `with Parallel(n_jobs=2, max_nbytes=1000) as p:` (one folder, 0), the same array object (7)
dispatched with values 1, mutated in place, dispatched with values 2: the second call's task sees 1. The same two
dispatches from an unmanaged `Parallel` (folders 0 and 1) see 1 then 2. -/
theorem history_stale_counterexample :
    runHistory [] [⟨0, 7, 1⟩, ⟨0, 7, 2⟩] = [1, 1]
    ∧ runHistory [] [⟨0, 7, 1⟩, ⟨1, 7, 2⟩] = [1, 2] := by
  decide +kernel

/-- **history_faithful_partial.** If the files already on disk hold the values their objects still have, and no
array object is dispatched twice in one folder with different values (it is not mutated in place between calls of
one managed `Parallel`), then every task of the history sees exactly the values its argument has at dispatch
time. -/
theorem history_faithful_partial (h : List Dispatch) (fs : TempFiles)
    (hfs : ∀ d ∈ h, ∀ v, fs.lookup (d.ctx, d.obj) = some v → v = d.vals)
    (hconst : ∀ d ∈ h, ∀ e ∈ h, d.ctx = e.ctx → d.obj = e.obj → d.vals = e.vals) :
    runHistory fs h = h.map (·.vals) :=
  runHistory_faithful h fs hfs hconst

/-- A dispatch into a folder that holds no dump of that object (every call of an unmanaged `Parallel`; the first
dispatch of a new object) dumps and shows the dispatch-time values. -/
theorem fresh_context_is_faithful (fs : TempFiles) (d : Dispatch) (hnew : fs.lookup (d.ctx, d.obj) = none) :
    (dispatchStep fs d).2 = d.vals ∧ (dispatchStep fs d).1.lookup (d.ctx, d.obj) = some d.vals := by
  simp [dispatchStep, hnew]

/-- Replacing the array by a NEW object (an equal copy, a freshly built array) between calls is always safe: a
history whose dispatches all have distinct (folder, object) pairs is faithful whatever the values. -/
theorem new_object_is_faithful (h : List Dispatch)
    (hdistinct : (h.map (fun d => (d.ctx, d.obj))).Nodup) :
    runHistory [] h = h.map (·.vals) := by
  apply history_faithful_partial
  · intro d _ v hv; simp [List.lookup] at hv
  · intro d hd e he hc ho
    have := nodup_key_eq h hdistinct d hd e he hc ho
    rw [this]

/-! ## PRE-FIX witnesses: the three defects of the code BEFORE b514cf6 / 5cddabe, on the `…PreFix` definitions,
and the same inputs on the code as it is now -/

/-- F25 witness (pre-fix): `m` = a C-order int64 memmap of 8 items, `a = m[::-1]` (`ptr` at the last item,
stride −8). The pre-fix rebuilt view looked for element 0 at file offset 0 — the original has it at 56 — and for
element 1 at offset −8, before the mapping (wrong values, or SIGSEGV in the worker). -/
theorem prefix_negative_stride_counterexample :
    let m : Arr := ⟨1000, [8], [8], 8⟩
    let a : Arr := ⟨1056, [8], [-8], 8⟩
    let r := reduceMemmapBackedPreFix a m 0 false false false
    rebuiltElemOffsetPreFix r 8 [0] = 0 ∧ originalElemOffset a m 0 [0] = 56
    ∧ rebuiltElemOffsetPreFix r 8 [1] = -8 ∧ originalElemOffset a m 0 [1] = 48 := by
  decide +kernel

/-- F24 witness (pre-fix): `m` = a C-order int64 memmap of shape (2, 3), `a = m.T` (shape (3, 2), strides
(8, 24), F-contiguous). The pre-fix reducer passed `order = "C"` (the memmap's) with `strides = None`, so the
worker's array had element [0, 1] at file offset 8 — the original has it at 24: wrong values, silently. -/
theorem prefix_transposed_counterexample :
    let m : Arr := ⟨1000, [2, 3], [24, 8], 8⟩
    let a : Arr := ⟨1000, [3, 2], [8, 24], 8⟩
    let r := reduceMemmapBackedPreFix a m 0 false true false
    r.strides = none ∧ r.order = .C
    ∧ rebuiltElemOffsetPreFix r 8 [0, 1] = 8 ∧ originalElemOffset a m 0 [0, 1] = 24 := by
  decide +kernel

/-- F26 witness (pre-fix): a field view `m['a']` (int64, itemsize 8) of 342 records of 12 bytes: the extent is
341·12 + 8 = 4100 bytes, `total_buffer_len = 4100 // 8 = 512` items = 4096 bytes mapped: the last element's
final 4 bytes lay beyond the mapping. -/
theorem prefix_total_buffer_len_floor_counterexample :
    let m : Arr := ⟨4096, [342], [12], 12⟩
    let a : Arr := ⟨4096, [342], [12], 8⟩
    let r := reduceMemmapBackedPreFix a m 0 false false false
    (byteBounds a).2 - (byteBounds a).1 = 4100 ∧ mappedBytesPreFix r 8 = some 4096
    ∧ originalElemOffset a m 0 [341] + 8 = 4100 := by
  decide +kernel

/-- The same three inputs on the code as it is now. -/
theorem prefix_witnesses_repaired :
    (let m : Arr := ⟨1000, [8], [8], 8⟩
     let a : Arr := ⟨1056, [8], [-8], 8⟩
     rebuiltElemOffset (reduceMemmapBacked a m 0 false false) 8 [1] = originalElemOffset a m 0 [1])
    ∧ (let m : Arr := ⟨1000, [2, 3], [24, 8], 8⟩
       let a : Arr := ⟨1000, [3, 2], [8, 24], 8⟩
       rebuiltElemOffset (reduceMemmapBacked a m 0 false true) 8 [0, 1] = originalElemOffset a m 0 [0, 1])
    ∧ mappedBytes [342] [12] 8 = 4100 := by
  decide +kernel

example : writeArray (some 16) 121 8 [1, 2, 3, 4, 5, 6, 7, 8]
    = .ok ([6, 255, 255, 255, 255, 255, 255, 1, 2, 3, 4, 5, 6, 7, 8]) := by rfl
example : (121 + 1 + 6) % 16 = 0 := by decide +kernel
example : chunks 4 10 0 = [(0, 4), (4, 4), (8, 2)] := by
  simp [chunks]
example : maxReadCount 8 = .ok 32768 := by rfl
example : orderOf false true = .F ∧ orderOf true true = .C ∧ orderOf false false = .C := by decide +kernel
example : writeIndex .F [2, 3] [1, 2] = 5 ∧ readIndex .F [2, 3] [1, 2] = 5 ∧ writeIndex .C [2, 3] [1, 2] = 5 := by
  decide +kernel
example : reduceMemmapBacked ⟨1008, [3, 3], [128, 24], 8⟩ ⟨1000, [6, 8], [64, 8], 8⟩ 0 false false
    = ⟨8, .C, [3, 3], some [128, 24], some 39⟩ := by decide +kernel
example : mappedBytes [3, 3] [128, 24] 8 = 312 ∧ firstElem [3, 3] [-128, 24] = 256 := by decide +kernel

end C19
