import JoblibProofs.Lemmas.DumpLoad
/-!
# C03 — dump/load round-trips every picklable object under every compressor/target

Statement (properties.jsonl): for every picklable Python object, every supported compressor and level,
every pickle protocol, and whether the target is a path (with or without a compression extension), an open
file object or an in-memory buffer, `load(dump(x))` reconstructs an object equal to `x`, with shared and
recursive references preserved. The compression format is recognised from the file content, so a file loads
identically whatever it is named.

Quantifier reached here: EVERY compress argument (`CompressArg`: `True`/`False`/`None`, any integer, integral
floats, any string, any 2-tuple of (string | other hashable | unhashable, any level value), tuples of any other
length, other objects), EVERY target (any file name, file objects, non-files), every protocol
`0 … pickle.HIGHEST_PROTOCOL`, every object and every payload (byte strings of any length), every file name
at load time. For `load` from an OPEN FILE OBJECT (`sniff`, `loadAt`): buffered seekable files with every header
of every length before the dump and every state of the read buffer (what `peek` returns); objects without `peek` with
the cursor at the start, or at the end of an uncompressed dump. For HISTORIES (`Proc`, `hstep`, `hfinal`): every
sequence of dumps, loads and re-bindings of module globals from every state, every `envOf`.

What is PROVED is that dump-time resolution and load-time sniffing always select matching codecs, for the
magic-number / extension / opcode tables that the code has NOW (`JoblibModel.Generated.Tables`, regenerated
from the live objects on every run; the table-level facts below are re-checked by `decide` against it).
CPython's `pickle` and the C codecs are PARAMETERS (`Env`) constrained by the explicit laws `Laws`
(trusted base: DESIGN section 3, "Modelled, not verified", item 1): `unpickle ∘ pickle = id`, a pickle of protocol 0–5 starts as CPython's opcode
table says, a codec's output starts with its magic number, `decompress ∘ compress = id`. Shared/recursive
reference preservation is pickle's memo: it is inside the `unpickle ∘ pickle = id` parameter and is tested by
the harness (identity structure), not proved.

Model: `JoblibModel.DumpLoad` (`numpy_pickle.dump`, `_write_fileobject`, `_detect_compressor`, `load`).
-/
namespace C03
open JoblibModel.DumpLoad JoblibModel.Generated

/-! ## Table-level facts -/

/-- No magic prefix is a prefix of another one (entries with comparable prefixes are the same entry), so at
most one entry matches any file and the dict order of `_COMPRESSORS` does not matter for sniffing. -/
theorem table_prefix_free :
    compressors.all (fun c => compressors.all (fun c' =>
      !(comparable c.pfx c'.pfx) || c.name == c'.name)) = true := by decide +kernel

/-- The pre-0.10 `ZF` prefix is comparable with no compressor prefix: a compressed file is never taken for
a compat file, nor the other way round. -/
theorem table_disjoint_from_compat :
    compressors.all (fun c => !(comparable zfilePrefix c.pfx)) = true := by decide +kernel

/-- No magic prefix (nor `ZF`) can begin a pickle of protocol 0–5 as CPython's opcode table defines it:
`\x80` + protocol for protocols ≥ 2; for protocols 0/1 a first opcode that needs an empty stack, and — where
a magic number shares it (`]` of the LZMA prefix `]\x00`) — a second opcode, which `\x00` is not. -/
theorem table_disjoint_from_pickle :
    compressors.all (fun c => !(prefixMayStartPickle c.pfx)) = true
    ∧ prefixMayStartPickle zfilePrefix = false := by decide +kernel

/-- Compressor names are distinct (dict keys), `"zlib"` — the literal default of `dump` and the fallback of
`_write_fileobject` — is registered and available. -/
theorem table_names :
    (compressors.map (·.name)).Nodup
    ∧ registered "zlib" = true
    ∧ (lookup "zlib").map (·.available) = some true := by decide +kernel

/-- No registered extension is a suffix of another one and none is empty: at most one entry matches any file
name, so "the last match wins" in `dump`'s loop never has two candidates to choose from. -/
theorem table_extensions_suffix_free :
    compressors.all (fun c => c.ext != "" && compressors.all (fun c' =>
      !(c.ext.toList.isSuffixOf c'.ext.toList) || c.name == c'.name)) = true := by decide +kernel

/-- The five extensions `dump`'s docstring promises ("The compression method corresponding to one of the
supported filename extensions ('.z', '.gz', '.bz2', '.xz' or '.lzma') will be used automatically") select
the compressor of that name. -/
theorem table_documented_extensions :
    [("zlib", ".z"), ("gzip", ".gz"), ("bz2", ".bz2"), ("xz", ".xz"), ("lzma", ".lzma")].all
      (fun ne => (lookup ne.1).map (·.ext) == some ne.2) = true := by decide +kernel

/-- The model's `max_prefix_len` is the number the code computes. -/
theorem table_max_prefix_len : maxPrefixLen = prefixesMaxLen := by decide +kernel

/-- `lz4 is None` in `dump` agrees with the availability recorded for the entry named `lz4`. -/
theorem table_lz4_flag :
    (lookup "lz4").map (·.available) = some lz4Installed ∨ lookup "lz4" = none := by decide +kernel

/-- Load-time sniffing recognises every format from the content: whatever follows the magic number of a
registered compressor, `_detect_compressor` answers that compressor. -/
theorem detect_after_write (c : CompressorEntry) (hc : c ∈ compressors) (rest : Bytes) :
    detect (c.pfx ++ rest) = .method c.name := by
  rw [detect_eq]
  have hself : startsWith (c.pfx ++ rest) c.pfx = true := List.isPrefixOf_iff_prefix.mpr (List.prefix_append _ _)
  have hzf : startsWith (c.pfx ++ rest) zfilePrefix = false := by
    cases h : startsWith (c.pfx ++ rest) zfilePrefix with
    | false => rfl
    | true =>
      have hcmp := comparable_of_common h hself
      have := List.all_eq_true.mp table_disjoint_from_compat c hc
      simp [hcmp] at this
  rw [hzf]
  simp only [Bool.false_eq_true, if_false]
  apply detectIn_unique compressors _ c hc hself
  intro c' hc' hstart
  have hcmp := comparable_of_common hstart hself
  have h1 := List.all_eq_true.mp (List.all_eq_true.mp table_prefix_free c' hc') c hc
  simpa [hcmp] using h1

/-- … and every file that starts the way a pickle of protocol 0–5 can start is recognised as not compressed. -/
theorem detect_pickle (file : Bytes) (h : isPickleStart file = true) : detect file = .notCompressed := by
  rw [detect_eq]
  have hzf : startsWith file zfilePrefix = false := by
    cases hz : startsWith file zfilePrefix with
    | false => rfl
    | true =>
      have := mayStart_of_prefix zfilePrefix file h hz
      rw [table_disjoint_from_pickle.2] at this
      exact absurd this (by decide)
  rw [hzf]
  simp only [Bool.false_eq_true, if_false]
  apply detectIn_none
  intro c hc
  cases hs : startsWith file c.pfx with
  | false => rfl
  | true =>
    have := mayStart_of_prefix c.pfx file h hs
    have h2 := List.all_eq_true.mp table_disjoint_from_pickle.1 c hc
    simp [this] at h2

/-- The laws the parameters (CPython's pickle, the codecs) are assumed to satisfy. -/
structure Laws {Obj : Type} (E : Env Obj) : Prop where
  unpickle_pickle : ∀ proto, proto ≤ pickleHighestProtocol → ∀ x, E.unpickle (E.pickle proto x) = some x
  pickle_start : ∀ proto, proto ≤ pickleHighestProtocol → ∀ x, isPickleStart (E.pickle proto x) = true
  magic : ∀ c ∈ compressors, c.available = true → ∀ l b, c.pfx <+: E.compress c.name l b
  inverse : ∀ c ∈ compressors, c.available = true → ∀ l b, E.decompress c.name (E.compress c.name l b) = some b

/-- **Round trip.** For every object, compress argument, target, file name at dump time and protocol for
which `dump` does not raise, `load` of the bytes written gives back the object — under whatever name the file
is loaded. -/
theorem roundtrip {Obj : Type} (E : Env Obj) (L : Laws E) (x : Obj) (compress : CompressArg)
    (filename : Target) (protocol : Nat) (hp : protocol ≤ pickleHighestProtocol) (file : Bytes)
    (hdump : dump E x compress filename protocol = .ok file) (nameAtLoad : String) :
    load E nameAtLoad file = some x := by
  unfold dump at hdump
  cases hh : dumpHeader compress filename with
  | error e => rw [hh] at hdump; cases hdump
  | ok w =>
    rw [hh] at hdump
    cases w with
    | raw =>
      cases hdump
      unfold load
      rw [detect_pickle _ (L.pickle_start protocol hp x)]
      exact L.unpickle_pickle protocol hp x
    | codec n l =>
      cases hdump
      unfold dumpHeader at hh
      cases hr : resolve compress filename with
      | error e => rw [hr] at hh; cases hh
      | ok r =>
        rw [hr] at hh
        obtain ⟨c, hc, hn, hav⟩ := writer_codec_registered r n l hh
        subst hn
        obtain ⟨rest, hrest⟩ := L.magic c hc hav l (E.pickle protocol x)
        unfold load
        rw [← hrest, detect_after_write c hc rest, hrest]
        simp only []
        rw [L.inverse c hc hav l (E.pickle protocol x)]
        exact L.unpickle_pickle protocol hp x

/-! The acceptance specification (`ArgOK`, `MethodOK`, `LevelOK`) is DEFINED in
`JoblibProofs/Lemmas/DumpLoad.lean`; it is spelled out here (checked by `rfl`, so this is what it says):
a level is acceptable when it is `None`, a bool, an integer in 0…9 or an integral float 0.0…9.0; a method name
when it is registered and is not `"lz4"` while the lz4 package is missing; a compress argument when it is a
level value on its own, a method name on its own, or a 2-tuple of an acceptable name and an acceptable level.
Nothing else: tuples of another length, and tuples whose first element is not a string, are rejected. -/
example (l : PyLevel) : ArgOK (.val l) = LevelOK l := rfl
example (s : String) : ArgOK (.str s) = MethodOK s := rfl
example (s : String) (l : PyLevel) : ArgOK (.tuple2 (.str s) l) = (MethodOK s && LevelOK l) := rfl
example (l : PyLevel) : ArgOK (.tuple2 .hashable l) = false ∧ ArgOK (.tuple2 .unhashable l) = false := ⟨rfl, rfl⟩
example (n : Nat) : ArgOK (.tupleN n) = false := rfl
example (s : String) : MethodOK s = (registered s && !(s == "lz4" && !lz4Installed)) := rfl
example (n : Int) : LevelOK (.int n) = (decide (0 ≤ n) && decide (n < 10)) ∧ LevelOK (.float n) = (decide (0 ≤ n) && decide (n < 10)) := ⟨rfl, rfl⟩
example (b : Bool) : LevelOK .none = true ∧ LevelOK (.bool b) = true ∧ LevelOK .other = false := ⟨rfl, rfl, rfl⟩

/-- **The exact set of accepted arguments**: the ladder of `dump` succeeds iff the compress argument is one of
the documented forms (`ArgOK`, above) and the target is a path or has a `write` attribute. -/
theorem resolve_total (compress : CompressArg) (filename : Target) :
    (∃ r, resolve compress filename = .ok r) ↔ (ArgOK compress = true ∧ filename ≠ .other) := by
  have hz : MethodOK "zlib" = true := by
    have := table_names.2.1
    simp [MethodOK, this]
  have key : ∀ s l t, (∃ r, resolveTail (.str s) l t filename = .ok r)
      ↔ ((MethodOK s = true ∧ LevelOK l = true) ∧ filename ≠ .other) := by
    intro s l t
    rw [resolveTail_str]
    split
    · rw [finish_ok]; exact (and_iff_right ‹_›).symm
    · exact ⟨nofun, fun h => absurd h.1 ‹_›⟩
  cases compress with
  | tupleN n => simp [resolve, parseArg, ArgOK]
  | str s => exact (key s .none true).trans (and_congr_left' (and_iff_left rfl))
  | tuple2 m l =>
    cases m with
    | str s => exact (key s l true).trans (and_congr_left' Bool.and_eq_true_iff.symm)
    | hashable => simp [resolve, parseArg, ArgOK, resolveTail_hashable]
    | unhashable => simp [resolve, parseArg, ArgOK, resolveTail_unhashable]
  | val l =>
    have hl : LevelOK (if l = .bool true then .none else l) = LevelOK l := by
      split
      · subst l; rfl
      · rfl
    rw [resolve_val, key, hl]
    exact and_congr_left' (and_iff_right hz)

/-- **The error class of every rejected argument**: `TypeError` exactly for an unhashable object in the method
position of a 2-tuple whose level is acceptable (the dict lookup `compress_method not in _COMPRESSORS` raises
it); every other rejection is a `ValueError`. -/
theorem resolve_error_class (compress : CompressArg) (filename : Target) (e : Err)
    (h : resolve compress filename = .error e) :
    (e = .typeError ↔ ∃ l, compress = .tuple2 .unhashable l ∧ LevelOK l = true) ∧
    (e = .valueError ∨ e = .typeError) := by
  refine ⟨?_, by cases e <;> simp⟩
  have key : ∀ s l t, resolveTail (.str s) l t filename = .error e → e = .valueError := by
    intro s l t h
    rw [resolveTail_str] at h
    split at h
    · exact finish_error _ _ _ _ _ h
    · cases h; rfl
  cases compress with
  | tupleN n => cases h; simp
  | str s => cases key s _ _ h; simp
  | val l => rw [resolve_val] at h; cases key _ _ _ h; simp
  | tuple2 m l =>
    cases m with
    | str s => cases key s _ _ h; simp
    | hashable => cases (resolveTail_hashable l true filename).symm.trans h; simp
    | unhashable =>
      cases (resolveTail_unhashable l true filename).symm.trans h
      by_cases hl : LevelOK l = true <;> simp [hl]

/-- An explicit `(name, level)` tuple — and a bare name, which the code turns into `(name, None)` — is
honoured whatever the target: the file name's extension is never consulted. -/
theorem tuple_ignores_filename (m : PyMethod) (l : PyLevel) (f₁ f₂ : String) :
    resolve (.tuple2 m l) (.path f₁) = resolve (.tuple2 m l) (.path f₂)
    ∧ resolve (.tuple2 m l) (.path f₁) = resolve (.tuple2 m l) .fileobj :=
  ⟨(resolveTail_tuple_path m l f₁).trans (resolveTail_tuple_path m l f₂).symm, resolveTail_tuple_path m l f₁⟩

theorem str_ignores_filename (s : String) (f₁ : String) :
    resolve (.str s) (.path f₁) = resolve (.str s) .fileobj :=
  resolveTail_tuple_path (.str s) .none f₁

/-- Level-0 rule, tuple form: `(name, 0)` / `(name, False)` writes the RAW pickle whatever the file is called. -/
theorem level_zero_rule (s : String) (l : PyLevel) (hz : l.eqZero = true) (tgt : Target) (w : Writer)
    (h : dumpHeader (.tuple2 (.str s) l) tgt = .ok w) : w = .raw := by
  unfold dumpHeader at h
  cases hr : resolve (.tuple2 (.str s) l) tgt with
  | error e => rw [hr] at h; cases h
  | ok r =>
    rw [hr] at h
    have hr' : resolveTail (.str s) l true tgt = .ok r := hr
    rw [resolveTail_str] at hr'
    split at hr'
    · simp only [writer, finish_level hr', hz, if_true] at h
      cases h; rfl
    · cases hr'

/-- Extension-implied compressor: with a non-tuple, non-string `compress` that `dump` accepts, a path ending in a
registered extension is written with THAT compressor — at its default level when `compress` is falsy (`0`,
`False`, `0.0`: the level-0 rule for paths), at the given level otherwise. -/
theorem extension_implies_method (l : PyLevel) (fname : String) (c : CompressorEntry)
    (hc : c ∈ compressors) (hext : endsWith fname c.ext = true) (r : Resolved)
    (h : resolve (.val l) (.path fname) = .ok r) :
    r.method = some c.name ∧ (l.eqZero = true → r.level = .none) := by
  have hm : extMethod fname = some c.name := by
    refine extLoop_of_suffix_free (fun a ha b hb hs => ?_) hc hext
    have := List.all_eq_true.mp table_extensions_suffix_free a ha
    rw [Bool.and_eq_true] at this
    simpa [List.isSuffixOf_iff_suffix.mpr hs] using List.all_eq_true.mp this.2 b hb
  rw [resolve_val] at h
  generalize hlv : (if l = PyLevel.bool true then PyLevel.none else l) = lv at h
  rw [resolveTail_str] at h
  split at h
  · simp only [finish, hm, Option.isSome_some, Bool.true_and, Bool.false_eq_true, if_false] at h
    split at h <;> cases h
    · exact ⟨rfl, fun _ => rfl⟩
    · rename_i hne
      refine ⟨rfl, fun hz => ?_⟩
      rw [if_neg (fun hb => by rw [hb] at hz; cases hz)] at hlv
      -- the level is kept only where `eqZero` failed
      exact absurd (hlv ▸ hz) hne
  · cases h

/-- A codec's file object is handed the level as given; an integral float that slipped through `dump`'s own
`in range(10)` test is rejected there, with the class recorded in the regenerated table. -/
theorem writer_float (m : String) (n : Int) (hn : n ≠ 0) (c : CompressorEntry)
    (hm : registered m = true) (hl : lookup m = some c) (hav : c.available = true) :
    (∀ e, errOfName c.floatLevelErr = some e → writer ⟨some m, .float n⟩ = .error e)
    ∧ (errOfName c.floatLevelErr = none → writer ⟨some m, .float n⟩ = .ok (.codec m none)) := by
  constructor
  · intro e he
    simp [writer, PyLevel.eqZero, hn, hm, hl, hav, he]
  · intro he
    simp [writer, PyLevel.eqZero, hn, hm, hl, hav, he]

/-- With an integer/bool/`None` level the writer fails only when the selected compressor is not available
(`.lz4` extension without the lz4 package): then `dump` raises `ValueError`. -/
theorem writer_unavailable (m : String) (l : PyLevel) (c : CompressorEntry) (hz : l.eqZero = false)
    (hm : registered m = true) (hl : lookup m = some c) (hav : c.available = false) :
    writer ⟨some m, l⟩ = .error .valueError := by
  simp [writer, hz, hm, hl, hav]

/-- A toy environment: "pickle" = the start CPython prescribes + the payload, "compress" = magic + payload. -/
def toyEnv : Env Bytes where
  pickle := fun p x => (if 2 ≤ p then [pickleProtoOpcode, p] else [78, 46]) ++ x
  unpickle := fun b => some (b.drop 2)
  compress := fun n _ b => ((lookup n).map (·.pfx)).getD [] ++ b
  decompress := fun n b => some (b.drop (((lookup n).map (·.pfx)).getD []).length)

/-! ## open file objects with the cursor past 0 (header + dump, dumps back to back) -/

/-- **Sniffing a buffered, seekable file does not move the cursor** and detects what is AT the cursor, whatever the
state of its read buffer (`peeked` = the number of bytes `peek` happens to return): since the F43 repair a short
`peek` is completed by `read(max_prefix_len)` + `seek(position)`. -/
theorem sniff_keeps_cursor (file : Bytes) (pos peeked : Nat) :
    sniff true peeked file pos = (detect (file.drop pos), pos) := by
  unfold sniff detect
  by_cases hp : peeked < maxPrefixLen
  · simp [hp, List.take_take]
  · have hle : maxPrefixLen ≤ peeked := Nat.le_of_not_lt hp
    simp [hp, List.take_take, Nat.min_eq_left hle]

/-- A peekable object that is NOT seekable (a buffered reader over a pipe) cannot be read-and-rewound: there the
detection still relies on what `peek` returned (`_partial`: at least `max_prefix_len` bytes). -/
theorem sniff_nonseekable_partial (file : Bytes) (pos peeked : Nat) (hp : maxPrefixLen ≤ peeked) :
    sniff true peeked file pos false = (detect (file.drop pos), pos) := by
  unfold sniff detect
  simp [List.take_take, Nat.min_eq_left hp]

/-- F43 witness, as repaired: a buffered file whose read buffer holds ONE more byte when the gzip dump starts (an
8191-byte header under an 8192-byte buffer). Seekable: recognised (before the repair `peek` returned `\x1f` only, the
two-byte gzip magic was not recognised and the compressed stream was handed to the unpickler). Not seekable: the
short peek is all there is, and the stream is still misread — outside what `load` supports for compressed data
(the decompressor file objects need `seek`/`tell`). -/
theorem sniff_short_peek_counterexample :
    sniff true 1 ([9, 9, 9] ++ [31, 139, 8, 0]) 3 = (.method "gzip", 3)
    ∧ sniff true 1 ([9, 9, 9] ++ [31, 139, 8, 0]) 3 false = (.notCompressed, 3)
    ∧ sniff true 2 ([9, 9, 9] ++ [31, 139, 8, 0]) 3 false = (.method "gzip", 3) := by
  decide +kernel

/-- **load after dump at offset k, buffered files.** For every header of every length `k` written before the dump,
every object / compress argument / target / protocol that `dump` accepts, and every state of the read buffer:
`load(f)` with the cursor at `k` returns the object. -/
theorem load_after_dump_at_offset {Obj : Type} (E : Env Obj) (L : Laws E) (x : Obj)
    (compress : CompressArg) (filename : Target) (protocol : Nat) (hp : protocol ≤ pickleHighestProtocol)
    (file header : Bytes) (hdump : dump E x compress filename protocol = .ok file) (nameAtLoad : String)
    (peeked : Nat) :
    loadAt E true peeked nameAtLoad (header ++ file) header.length = some x := by
  have hd : (header ++ file).drop header.length = file := List.drop_left
  exact (loadAt_eq_load E _ (by rw [sniff_keeps_cursor, hd]) hd).trans
    (roundtrip E L x compress filename protocol hp file hdump nameAtLoad)

/-- **File objects without `peek` are rewound** (behaviour, intended — `io.BytesIO`, raw unbuffered files,
wrappers): wherever the cursor is, after sniffing it is at byte 0; the magic number, however, is looked for where
the cursor WAS. -/
theorem sniff_peekless_rewinds (peeked : Nat) (file : Bytes) (pos : Nat) :
    sniff false peeked file pos = (detect (file.drop pos), 0) := rfl

/-- … so with the cursor at 0, `load` of a peek-less object holding one dump returns the object, for every
compress argument / protocol `dump` accepts … -/
theorem load_peekless_from_start {Obj : Type} (E : Env Obj) (L : Laws E) (x : Obj)
    (compress : CompressArg) (filename : Target) (protocol : Nat) (hp : protocol ≤ pickleHighestProtocol)
    (file : Bytes) (hdump : dump E x compress filename protocol = .ok file) (nameAtLoad : String) (peeked : Nat) :
    loadAt E false peeked nameAtLoad file 0 = some x := by
  exact (loadAt_eq_load E nameAtLoad (g := file) rfl rfl).trans
    (roundtrip E L x compress filename protocol hp file hdump nameAtLoad)

/-- … and "dump; load WITHOUT rewinding" (`f = io.BytesIO(); dump(obj, f); load(f)`, the cursor at the end)
returns the object when the dump is not compressed: nothing is read at the end of the object, nothing is
detected, the object is rewound and the pickle at byte 0 is read. (With a compressed dump the same call hands
compressed bytes to the unpickler — `load_peekless_compressed_needs_rewinding`.) -/
theorem load_peekless_without_rewinding {Obj : Type} (E : Env Obj) (L : Laws E) (x : Obj)
    (compress : CompressArg) (filename : Target) (protocol : Nat) (hp : protocol ≤ pickleHighestProtocol)
    (hraw : dumpHeader compress filename = .ok .raw) (file : Bytes)
    (hdump : dump E x compress filename protocol = .ok file) (nameAtLoad : String) (peeked : Nat) :
    loadAt E false peeked nameAtLoad file file.length = some x := by
  unfold dump at hdump
  rw [hraw] at hdump
  cases hdump
  unfold loadAt sniff
  have hempty : detect ([] : Bytes) = .notCompressed := by decide +kernel
  simp only [Bool.false_eq_true, if_false, List.drop_length, hempty, List.drop_zero]
  exact L.unpickle_pickle protocol hp x

/-- Behaviour witness: a zlib dump in a peek-less object with the cursor left at the end is NOT recognised as
compressed (nothing to sniff there) and is unpickled as it is; from the start it loads. -/
theorem load_peekless_compressed_needs_rewinding :
    let file := toyEnv.compress "zlib" (some 3) (toyEnv.pickle 4 [7, 7])
    sniff false 0 file file.length = (.notCompressed, 0)
    ∧ loadAt toyEnv false 0 "f" file file.length ≠ some [7, 7]
    ∧ loadAt toyEnv false 0 "f" file 0 = some [7, 7] := by
  decide +kernel

/-! ## histories: several dump / load calls in one process, bindings re-bound in between

`load` keeps nothing between calls: its answer is a function of the bytes in the slot and of the CURRENT bindings
only — whatever the process dumped, loaded or re-bound before. Stated over sequences of operations (`hstep`,
`hfinal`): the history is arbitrary, only its last state matters, and of that state only the slot and the bindings. -/

/-- Operations that do not write `slot` leave its content alone; the bindings after them are `rebindsOf`. -/
theorem history_frame {B Obj : Type} (envOf : B → Env Obj) (slot : String) (t : List (HOp B Obj))
    (hw : ∀ op ∈ t, op.writes slot = false) (s : Proc B) :
    (hfinal envOf s t).files.lookup slot = s.files.lookup slot
    ∧ (hfinal envOf s t).bindings = rebindsOf t s.bindings := by
  induction t generalizing s with
  | nil => exact ⟨rfl, rfl⟩
  | cons op ops ih =>
    have hw' : ∀ op ∈ ops, op.writes slot = false := fun o ho => hw o (List.mem_cons_of_mem _ ho)
    have hop := hw op List.mem_cons_self
    cases op with
    | dump sl v c f p =>
      simp only [HOp.writes, beq_eq_false_iff_ne, ne_eq] at hop
      simp only [hfinal, hstep, rebindsOf]
      cases hd : dump (envOf s.bindings) v c f p with
      | error e => exact ih hw' s
      | ok b =>
        have := ih hw' { s with files := (sl, b) :: s.files }
        refine ⟨?_, this.2⟩
        rw [this.1]
        simp only [List.lookup_cons]
        have : (slot == sl) = false := by simpa [beq_eq_false_iff_ne] using fun h => hop h.symm
        rw [this]
    | load sl =>
      simp only [hfinal, hstep, rebindsOf]
      cases s.files.lookup sl <;> exact ih hw' s
    | rebind f =>
      simp only [hfinal, hstep, rebindsOf]
      exact ih hw' { s with bindings := f s.bindings }

/-- **`load` is history-independent.** Take two arbitrary histories `h₁`, `h₂` from arbitrary states. If, at the end,
the slot holds the same bytes and the bindings give the same environment, `load` answers the same. -/
theorem load_history_independent {B Obj : Type} (envOf : B → Env Obj) (slot : String)
    (s₁ s₂ : Proc B) (h₁ h₂ : List (HOp B Obj))
    (hfile : (hfinal envOf s₁ h₁).files.lookup slot = (hfinal envOf s₂ h₂).files.lookup slot)
    (henv : envOf (hfinal envOf s₁ h₁).bindings = envOf (hfinal envOf s₂ h₂).bindings) :
    (hstep envOf (hfinal envOf s₁ h₁) (.load slot)).2 = (hstep envOf (hfinal envOf s₂ h₂) (.load slot)).2 := by
  simp only [hstep, hfile, henv]
  cases (hfinal envOf s₂ h₂).files.lookup slot <;> rfl

/-- **What a load after a history answers**: the bytes the slot held before the operations that did not write it,
decoded under the bindings AS THEY ARE NOW (after all the re-bindings of the history) — an old file follows the
current bindings, exactly like `pickle.loads` of the same bytes at that instant. -/
theorem load_after_history {B Obj : Type} (envOf : B → Env Obj) (slot : String) (s : Proc B)
    (t : List (HOp B Obj)) (hw : ∀ op ∈ t, op.writes slot = false) :
    (hstep envOf (hfinal envOf s t) (.load slot)).2 =
      match s.files.lookup slot with
      | none => .noFile
      | some b => .loaded (load (envOf (rebindsOf t s.bindings)) slot b) := by
  obtain ⟨h1, h2⟩ := history_frame envOf slot t hw s
  simp only [hstep, h1, h2]
  cases s.files.lookup slot <;> rfl

/-- **Round trip inside any history.** In ANY state `s` (reached by whatever history), for every object, compress
argument, target and protocol that `dump` accepts under the current bindings: after the dump and then any
operations that neither write that slot nor change the environment (loads and dumps of other slots, re-bindings
that leave `envOf` as it is), `load` gives back the object. -/
theorem roundtrip_in_history {B Obj : Type} (envOf : B → Env Obj) (s : Proc B) (L : Laws (envOf s.bindings))
    (slot : String) (x : Obj) (compress : CompressArg) (filename : Target) (protocol : Nat)
    (hp : protocol ≤ pickleHighestProtocol)
    (hok : (hstep envOf s (.dump slot x compress filename protocol)).2 = .dumped)
    (t : List (HOp B Obj)) (hw : ∀ op ∈ t, op.writes slot = false)
    (henv : envOf (rebindsOf t s.bindings) = envOf s.bindings) :
    (hstep envOf (hfinal envOf s (.dump slot x compress filename protocol :: t)) (.load slot)).2
      = .loaded (some x) := by
  simp only [hfinal]
  cases hd : dump (envOf s.bindings) x compress filename protocol with
  | error e => simp [hstep, hd] at hok
  | ok b =>
    have hs : (hstep envOf s (.dump slot x compress filename protocol)).1 = { s with files := (slot, b) :: s.files } := by
      simp [hstep, hd]
    rw [hs, load_after_history envOf slot _ t hw]
    simp only [List.lookup_cons, beq_self_eq_true, henv]
    rw [roundtrip (envOf s.bindings) L x compress filename protocol hp b hd slot]

/-- Witness (the instance the driver runs): an instance of global 0 is dumped while the global is at version 0, the
global is re-bound (version 1), the OLD file is loaded: the object comes back as an instance of the class bound NOW;
a dump made after the re-binding comes back alike; the failed dump in between left the slot alone. -/
theorem old_file_follows_current_bindings :
    hreplies histEnv ⟨[], [(0, 0)]⟩
      [.dump "a" (0, 0, 7) (.val (.int 3)) (.path "a") 4, .load "a",
       .rebind (fun b => (0, 1) :: b), .load "a",
       .dump "a" (0, 0, 8) (.val (.int 10)) (.path "a") 4, .load "a",
       .dump "b" (0, 0, 9) (.tuple2 (.str "gzip") (.int 1)) .fileobj 2, .load "b", .load "c"]
    = [.dumped, .loaded (some (0, 0, 7)), .rebound, .loaded (some (0, 1, 7)),
       .dumpErr .valueError, .loaded (some (0, 1, 7)), .dumped, .loaded (some (0, 1, 9)), .noFile] := by
  decide +kernel

example : Laws toyEnv where
  unpickle_pickle := by
    intro p _ x
    simp only [toyEnv]
    split <;> simp
  pickle_start := by
    intro p hp x
    simp only [toyEnv]
    split
    · rename_i h2
      simp [isPickleStart, h2, hp]
    · rfl
  magic := by
    intro c hc _ l b
    simp [toyEnv, lookup_name table_names.1 c hc]
  inverse := by
    intro c hc _ l b
    simp [toyEnv, lookup_name table_names.1 c hc]

example : dumpHeader (.tuple2 (.str "zlib") (.int 3)) (.path "data.gz") = .ok (.codec "zlib" (some 3)) := by decide +kernel
example : dumpHeader (.val (.int 0)) (.path "data.gz") = .ok (.codec "gzip" none) := by decide +kernel
example : dumpHeader (.val (.int 0)) .fileobj = .ok .raw := by rfl
example : dumpHeader (.val (.bool true)) (.path "a.pkl") = .ok (.codec "zlib" none) := by decide +kernel
example : dumpHeader (.tuple2 (.str "bz2") (.int 0)) (.path "a.xz") = .ok .raw := by decide +kernel
example : dumpHeader (.val (.int 10)) .fileobj = .error .valueError := by rfl
example : dumpHeader (.tuple2 .unhashable (.int 3)) .fileobj = .error .typeError := by rfl
example : dumpHeader (.val (.float 3)) (.path "a.bz2") = .error .typeError := by decide +kernel
example : detect [120, 94, 1, 2, 3] = .method "zlib" := by decide +kernel
example : detect [128, 4, 149] = .notCompressed := by decide +kernel
example : detect [93, 113, 0, 46] = .notCompressed := by decide +kernel
example : detect [93, 0, 0, 16, 0] = .method "lzma" := by decide +kernel

end C03
