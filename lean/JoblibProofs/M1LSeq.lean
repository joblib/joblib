import JoblibProofs.M1L
import JoblibProofs.Lemmas.ParallelLockSeq
/-!
# M1L-Seq — SEQUENCES of calls on one `joblib.Parallel` object, stale callback threads, ALL interleavings

Model: `JoblibModel.ParallelLockSeq` (see its header).  The granularity is exactly M1L's (`JoblibModel.ParallelLock`: one
atomic step = the code of one thread between two scheduling points — outermost acquire / release of `Parallel._lock`, a
backend call, `time.sleep`, an unlocked access to a listed shared attribute).  A state `SSt` is the M1L state of the
RUNNING call (`cur`) plus the trackers — with the program counters of their callback threads — of all EARLIER calls
(`old`), which stay alive: the backend contract does not make `abort_everything` / `terminate` join them.  An action is a
step of the caller, of a callback thread of the running call, of a callback thread of an earlier call, or the completion
of a parked batch of the running or of an earlier call; `Reachable sc ss` is "some interleaving, of any length, of any
number of calls and threads leads to `ss`".

Code variants: `SCfg.dispatchNewGuard = true` is /repo as it is now (`_dispatch_new` returns when the call id of its
tracker is not the object's — F50 repaired), `false` the older code; `SCfg.recheck` as in M1L.

Quantifier reached: ALL configurations of the domain (`SCfgOK`: `n_jobs ≥ 1`, batch sizes `≥ 1`, `pre_dispatch` 'all' or
`≥ 1`; any number of calls, each with any number of tasks / failing tasks / failing iterator position; fixed or scripted
auto batch sizes; list / ordered generator; backend dropping or keeping in-flight batches) and ALL schedules, by the
inductive invariant `SeqInv` (`Lemmas/ParallelLockSeq/*`), never by enumeration — for the GUARDED variant.  For the
unguarded variant the property is false: `stale_dispatch_new_counterexample`.

The central result is the REFINEMENT `current_call_refines_M1L` / `finished_call_refines_M1L`: the running call of any
multi-call run, seen through `view` (the M1L state `cur`, with the fields that the set-up of `__call__` has not yet
rewritten shown as in a fresh object), is a reachable state of the single-call model M1L under the configuration of that
call — steps of threads of earlier calls erased.  Hence EVERY theorem of `JoblibProofs/M1L.lean` holds for every call of a
sequence; the corollaries below spell this out for `return_correct`, `error_surfaces`, `raise_is_legit`, `exactly_once`,
`dispatch_conservation`, `pulls_only_by_lock_owner`, `no_premature_exit`, `mutex`.
The tie to the real code is `harness/m1_lock.py` (multi-call scenarios, step-log equality with `drv_m1lseq`).
-/
namespace M1LSeq
open JoblibModel.ParallelLock JoblibModel.ParallelLockSeq

/-- `ss` is reachable: some finite interleaving of steps of the caller, of callback threads of the running and of earlier
calls, and of backend completions leads from the fresh object to `ss` (a non-enabled action is a no-op, so every list
of actions is a schedule). -/
def Reachable (sc : SCfg) (ss : SSt) : Prop := ∃ sched : List Act, ss = runS sc sinit sched

/-- The invariant of the multi-call model holds in every reachable state (guarded variant). -/
theorem reachable_inv {sc : SCfg} {ss : SSt} (hok : SCfgOK sc) (hg : sc.dispatchNewGuard = true)
    (h : Reachable sc ss) : SeqInv sc ss := by
  obtain ⟨sched, rfl⟩ := h
  exact runS_inv hok hg sched (seqInv_init sc)

/-- … and is inductive: preserved by every action of every thread and of the environment. -/
theorem invariant_inductive {sc : SCfg} {ss : SSt} (hok : SCfgOK sc) (hg : sc.dispatchNewGuard = true)
    (h : SeqInv sc ss) (a : Act) : SeqInv sc (stepS sc ss a) := (stepS_both hok hg h a).1

/-- The callback thread `i + 1` belongs to an earlier call and the call id of its tracker is not the object's
`_call_id` any more. -/
def Stale (ss : SSt) (i : Nat) : Prop :=
  i < ss.old.length ∧ ss.callBase + ss.cur.callId ≠ (getOld ss i).t.callId

/-- STALE STEPS ARE NO-OPS (guarded variant; all interleavings, any number of calls and stale threads).  Every step of a
callback thread of an earlier call whose call id is not the object's leaves the whole state unchanged except that
thread's own program counter: the Parallel object and the running call (`cur`: input position, look-ahead queue, `_jobs`,
trackers, both counters, every flag, the log of `pull` / `submit` events), the lock (its outermost acquire and release
happen inside the one step: it is free before and after), the outcomes, the scripted batch sizes consumed, the call id,
the events of old threads.  In particular such a step never pulls from the input, never submits, never changes a counter
or a flag. -/
theorem stale_steps_are_noops {sc : SCfg} {ss : SSt} {i : Nat} (hok : SCfgOK sc) (hg : sc.dispatchNewGuard = true)
    (h : Reachable sc ss) (hs : Stale ss i) :
    stepS sc ss (.thread (i + 1)) = ss ∨
    stepS sc ss (.thread (i + 1)) = setOldPc ss i (staleNext (getOld ss i).t.pc) := by
  have hI := reachable_inv hok hg h
  obtain ⟨hi, hst⟩ := hs
  simp only [stepS, hi, if_true]
  split
  · rename_i he
    right
    exact stepOld_stale hg hst (hI.stale_not_holding hok hi hst) he
  · exact Or.inl rfl

/-- The same, field by field. -/
theorem stale_steps_are_noops' {sc : SCfg} {ss : SSt} {i : Nat} (hok : SCfgOK sc) (hg : sc.dispatchNewGuard = true)
    (h : Reachable sc ss) (hs : Stale ss i) :
    (stepS sc ss (.thread (i + 1))).cur = ss.cur ∧ (stepS sc ss (.thread (i + 1))).oldOwner = ss.oldOwner ∧
    (stepS sc ss (.thread (i + 1))).outs = ss.outs ∧ (stepS sc ss (.thread (i + 1))).k = ss.k ∧
    (stepS sc ss (.thread (i + 1))).bsBase = ss.bsBase ∧ (stepS sc ss (.thread (i + 1))).callBase = ss.callBase ∧
    (stepS sc ss (.thread (i + 1))).hist = ss.hist ∧
    (∀ j, j ≠ i → getOld (stepS sc ss (.thread (i + 1))) j = getOld ss j) := by
  rcases stale_steps_are_noops hok hg h hs with e | e <;> rw [e]
  · exact ⟨rfl, rfl, rfl, rfl, rfl, rfl, rfl, fun _ _ => rfl⟩
  · refine ⟨rfl, rfl, rfl, rfl, rfl, rfl, rfl, fun j hj => ?_⟩
    simp only [setOldPc, getOld_setOld]
    simp [hj]

/-- A stale thread never owns the lock at a step boundary (so it never blocks the running call). -/
theorem stale_never_holds_lock {sc : SCfg} {ss : SSt} {i : Nat} (hok : SCfgOK sc) (hg : sc.dispatchNewGuard = true)
    (h : Reachable sc ss) (hs : Stale ss i) : (getOld ss i).t.pc.holding = false ∧ ss.oldOwner ≠ some i := by
  have hI := reachable_inv hok hg h
  refine ⟨hI.stale_not_holding hok hs.1 hs.2, fun ho => ?_⟩
  obtain ⟨hp, hc⟩ := hI.owner i ho
  have := hI.callId hok
  rw [if_pos hp] at this
  exact hs.2 (by rw [this, hc]; rfl)

/-- Once the running call has drawn its `_call_id` (the caller is past the critical section of `_reset_run_tracking`)
EVERY thread of EVERY earlier call is stale. -/
theorem all_old_threads_stale {sc : SCfg} {ss : SSt} {i : Nat} (hok : SCfgOK sc) (hg : sc.dispatchNewGuard = true)
    (h : Reachable sc ss) (hp : ss.cur.pc ≠ .resetAcq) (hi : i < ss.old.length) : Stale ss i := by
  have hI := reachable_inv hok hg h
  refine ⟨hi, fun e => ?_⟩
  exact hp (hI.fresh_between hok hi e).1

/-- The completion, by the backend, of a parked batch of an earlier call touches nothing but that tracker. -/
theorem old_completion_is_noop (sc : SCfg) (ss : SSt) (i : Nat) :
    (completeOld sc i ss).cur = ss.cur ∧ (completeOld sc i ss).oldOwner = ss.oldOwner ∧
    (completeOld sc i ss).outs = ss.outs ∧ (completeOld sc i ss).hist = ss.hist :=
  ⟨rfl, rfl, rfl, rfl⟩

/-- REFINEMENT (running call).  In every reachable state of the multi-call model the view of the running call is a
reachable state of the SINGLE-call model M1L under the configuration of that call: the projection erases the steps of the
threads of earlier calls, maps every step of the caller / of a callback of the running call / every completion of one of
its batches to the same M1L step (`view_caller_step`, `SeqInv.curStep_both`), and starts every call from M1L's `init`
(`next_call_is_fresh`). -/
theorem current_call_refines_M1L {sc : SCfg} {ss : SSt} (hok : SCfgOK sc) (hg : sc.dispatchNewGuard = true)
    (h : Reachable sc ss) : M1L.Reachable (curCfg sc ss) (view ss) :=
  (reachable_inv hok hg h).reach

/-- REFINEMENT, step by step ("stale steps erased").  Every action taken in a reachable state of the multi-call model is,
on the view of the running call, one of (`ViewStep`): a STUTTER (every step of a thread of an earlier call, every
completion of a batch of an earlier call, every action that is not enabled); the SAME step of the single-call model M1L
under the configuration of the running call (steps of the caller and of the running call's callback threads, completions
of its batches); or the END OF THE CALL — the caller's M1L step reaches `done`, its outcome is recorded, and the view of
the next call is M1L's initial state `init`.  So the sequence of views of a multi-call run is a concatenation of runs of
M1L, one per call. -/
theorem step_refines {sc : SCfg} {ss : SSt} (hok : SCfgOK sc) (hg : sc.dispatchNewGuard = true) (h : Reachable sc ss)
    (a : Act) : ViewStep sc ss (stepS sc ss a) :=
  (stepS_both hok hg (reachable_inv hok hg h) a).2

/-- After the set-up of `__call__` the view IS the state of the running call. -/
theorem view_eq_cur {ss : SSt} (hp : ss.cur.pc.preDispatch = false) : view ss = ss.cur := clean_of_not_pre hp

/-- During the set-up the view differs from it only in the nine fields that the set-up rewrites. -/
theorem view_frame (ss : SSt) :
    (view ss).pc = ss.cur.pc ∧ (view ss).lockOwner = ss.cur.lockOwner ∧ (view ss).trk = ss.cur.trk ∧
    (view ss).callId = ss.cur.callId ∧ (view ss).outcome = ss.cur.outcome ∧ (view ss).jobs = ss.cur.jobs ∧
    (view ss).running = ss.cur.running ∧ (view ss).log = ss.cur.log ∧ (view ss).out = ss.cur.out ∧
    (view ss).bsI = ss.cur.bsI ∧ (view ss).srcPos = ss.cur.srcPos ∧ (view ss).srcDead = ss.cur.srcDead ∧
    (view ss).srcRaised = ss.cur.srcRaised ∧ (view ss).nPop = ss.cur.nPop :=
  have k := clean_keeps ss.cur
  ⟨k.pc, k.lockOwner, k.trk, k.callId, k.outcome, k.jobs, k.running, k.log, k.out, k.bsI, k.srcPos, k.srcDead, k.srcRaised,
    k.nPop⟩

/-- REFINEMENT (finished calls).  The outcome recorded for the `k`-th call of a sequence is the outcome of a reachable
FINAL state of the single-call model M1L under the configuration of that call (`b` = the number of scripted batch sizes
consumed before it). -/
theorem finished_call_refines_M1L {sc : SCfg} {ss : SSt} {k : Nat} {o : Outcome} (hok : SCfgOK sc)
    (hg : sc.dispatchNewGuard = true) (h : Reachable sc ss) (ho : outcomeOf ss k = some o) :
    ∃ b s, M1L.Reachable (sc.callCfg k b) s ∧ s.pc = .done ∧ s.outcome = some o := by
  apply (reachable_inv hok hg h).outs k o
  unfold outcomeOf at ho
  simp only [List.getD_eq_getElem?_getD] at ho
  cases hk : ss.outs[k]? with
  | none => rw [hk] at ho; cases ho
  | some x => rw [hk] at ho; simp only [Option.getD_some] at ho; rw [ho]

/-- NEXT CALL IS FRESH (at this granularity).  Whenever the caller is parked before the critical section of
`_reset_run_tracking` — at the start of the first and of EVERY later call, whatever the earlier calls did and whatever
their surviving threads have done since — the state of the object and of the caller differs from the fresh object `init`
at most in the nine fields `n_dispatched_tasks, n_completed_tasks, _exception, _aborting, _aborted, _ready_batches,
_original_iterator` (alive or not; with the pre-dispatch islice) and `_iterating`: `_jobs` is empty, `_running` is False,
no tracker of the running call exists, the input is untouched, the caller does not own the lock.  Those nine fields are
exactly the ones the set-up rewrites before they are read: `reset_overwrites_before_read`. -/
theorem next_call_is_fresh {sc : SCfg} {ss : SSt} (hok : SCfgOK sc) (hg : sc.dispatchNewGuard = true)
    (h : Reachable sc ss) (hp : ss.cur.pc = .resetAcq) :
    { ss.cur with nDispTasks := 0, nCompleted := 0, exception := false, aborting := false, aborted := false,
                  ready := [], origAlive := false, preLeft := none, iterating := false } = init := by
  have := ((reachable_inv hok hg h).between hp).eq
  unfold clean at this
  split at this <;> first | exact this | simp_all

/-- Each field that may differ at the start of a call is rewritten by the set-up before any step reads it: masking the
not-yet-rewritten fields (`clean`) commutes with every step of the caller (at the first step: given `_running` is False,
which `next_call_is_fresh` provides). -/
theorem reset_overwrites_before_read (c : Cfg) (s : St) (h : s.pc ≠ .resetAcq ∨ s.running = false) :
    clean (stepCaller c s) = stepCaller c (clean s) :=
  clean_stepCaller c s h

/-- What a thread of the call that has just finished can still change before the next call draws its `_call_id`: nothing
of what `next_call_is_fresh` lists — the state keeps differing from `init` only in the nine fields. (Every thread of an
older call is stale already: `stale_steps_are_noops`.) -/
theorem between_calls_steps_keep_fresh {sc : SCfg} {ss : SSt} {i : Nat} (hok : SCfgOK sc)
    (hg : sc.dispatchNewGuard = true) (h : Reachable sc ss) (hp : ss.cur.pc = .resetAcq) :
    clean (stepS sc ss (.thread (i + 1))).cur = init := by
  have hI := invariant_inductive hok hg (reachable_inv hok hg h) (.thread (i + 1))
  have hpc : (stepS sc ss (.thread (i + 1))).cur.pc = .resetAcq := by
    simp only [stepS]
    split
    · split
      · exact (stepOld_keeps sc i ss).pc.trans hp
      · exact hp
    · split
      · exact ((stepCb_keeps _ _ _).pc).trans hp
      · exact hp
  exact (hI.between hpc).eq

/-- The `k`-th call is in the domain of M1L's full statements: the repaired `_wait_retrieval`, or an input iterable that
never raises. -/
def SafeCall (sc : SCfg) (k : Nat) : Prop := sc.recheck = true ∨ (sc.calls.getD k default).iterfail = none

theorem safeCall_iff (sc : SCfg) (k b : Nat) : Safe (sc.callCfg k b) ↔ SafeCall sc k := Iff.rfl

/-- RETURN CORRECT for every call of a sequence (C01 / C04 "called again … returns exactly the results of the new tasks,
with nothing left over from the failed call"), all interleavings with any number of surviving threads of earlier calls:
if the `k`-th call returned (list) / its ordered generator was exhausted, the values are exactly ITS task list
`[0, …, n_k - 1]` (ids relative to the call), in order. -/
theorem return_correct_seq {sc : SCfg} {ss : SSt} {k : Nat} {l : List Nat} (hok : SCfgOK sc)
    (hg : sc.dispatchNewGuard = true) (hs : SafeCall sc k) (h : Reachable sc ss)
    (ho : outcomeOf ss k = some (.ret l)) : l = List.range (sc.calls.getD k default).n := by
  obtain ⟨b, s, hr, _, hout⟩ := finished_call_refines_M1L hok hg h ho
  obtain ⟨hc, hpd⟩ := callCfg_ok hok k b
  exact M1L.return_correct hc hpd hs hr hout

/-- WHAT IS RAISED by a call of a sequence: a failing task's exception of THAT call or its input iterable's — never an
internal `AttributeError` / `IndexError`, never a leftover of an earlier call (ALL configurations). -/
theorem raise_is_legit_seq {sc : SCfg} {ss : SSt} {k : Nat} {e : Exc} (hok : SCfgOK sc)
    (hg : sc.dispatchNewGuard = true) (h : Reachable sc ss) (ho : outcomeOf ss k = some (.raised e)) :
    (∃ id, e = .task id ∧ id ∈ (sc.calls.getD k default).fails) ∨
    (∃ p, e = .iter p ∧ (sc.calls.getD k default).iterfail = some p) := by
  obtain ⟨b, s, hr, _, hout⟩ := finished_call_refines_M1L hok hg h ho
  obtain ⟨hc, hpd⟩ := callCfg_ok hok k b
  exact M1L.raise_is_legit hc hpd hr hout

/-- ERRORS SURFACE for every call of a sequence (C04): if a task of the `k`-th call fails, or its input iterable fails
at a position `≤ n_k`, that call never ends by returning — if it ends, it raises (by `raise_is_legit_seq`: that failure). -/
theorem error_surfaces_seq {sc : SCfg} {ss : SSt} {k : Nat} (hok : SCfgOK sc) (hg : sc.dispatchNewGuard = true)
    (hs : SafeCall sc k) (h : Reachable sc ss)
    (hfail : (∃ id ∈ (sc.calls.getD k default).fails, id < (sc.calls.getD k default).n) ∨
      (∃ p, (sc.calls.getD k default).iterfail = some p ∧ p ≤ (sc.calls.getD k default).n)) :
    ∀ l, outcomeOf ss k ≠ some (.ret l) := by
  intro l ho
  obtain ⟨b, s, hr, _, hout⟩ := finished_call_refines_M1L hok hg h ho
  obtain ⟨hc, hpd⟩ := callCfg_ok hok k b
  exact M1L.error_surfaces hc hpd hs hr hfail l hout

/-- A CLEAN call after any number of failed ones: a call of the sequence without failing task and without failing
iterator step, once finished, has RETURNED exactly its own task list — whatever the earlier calls did (aborted, left
callbacks parked between their critical sections, left batches in the backend). -/
theorem clean_call_returns_seq {sc : SCfg} {ss : SSt} {k : Nat} {o : Outcome} (hok : SCfgOK sc)
    (hg : sc.dispatchNewGuard = true) (h : Reachable sc ss) (hf : (sc.calls.getD k default).fails = [])
    (hi : (sc.calls.getD k default).iterfail = none) (ho : outcomeOf ss k = some o) :
    o = .ret (List.range (sc.calls.getD k default).n) := by
  cases o with
  | ret l => rw [return_correct_seq hok hg (Or.inr hi) h ho]
  | raised e =>
    exfalso
    rcases raise_is_legit_seq hok hg h ho with ⟨id, _, hm⟩ | ⟨p, _, hp⟩
    · rw [hf] at hm; cases hm
    · rw [hi] at hp; cases hp

/-- EXACTLY ONCE / DISPATCH CONSERVATION / PULLS ONLY BY THE LOCK OWNER / MUTEX / NO PREMATURE EXIT for the running
call of a sequence, in every reachable state (stated on the view; after the set-up the view is `cur` itself,
`view_eq_cur`; trackers, log, input position are never masked, `view_frame`). -/
theorem exactly_once_seq {sc : SCfg} {ss : SSt} (hok : SCfgOK sc) (hg : sc.dispatchNewGuard = true)
    (h : Reachable sc ss) :
    (allItems (view ss) ++ (view ss).ready.flatten).Nodup ∧
    List.Pairwise (· < ·) (allItems (view ss) ++ (view ss).ready.flatten) ∧
    ∀ x ∈ allItems (view ss) ++ (view ss).ready.flatten, x < (view ss).srcPos ∧ x < (curCfg sc ss).n :=
  M1L.exactly_once (current_call_refines_M1L hok hg h)

theorem dispatch_conservation_seq {sc : SCfg} {ss : SSt} (hok : SCfgOK sc) (hg : sc.dispatchNewGuard = true)
    (h : Reachable sc ss) (ha : (view ss).aborting = false) :
    allItems (view ss) ++ (view ss).ready.flatten = List.range' 0 (view ss).srcPos :=
  M1L.dispatch_conservation (current_call_refines_M1L hok hg h) ha

/-- Every `pull` of the running call's log was made by the thread owning the lock (C09) — and no thread of an earlier
call ever appears in it (`stale_steps_are_noops`: `cur.log` is untouched by them). -/
theorem pulls_only_by_lock_owner_seq {sc : SCfg} {ss : SSt} (hok : SCfgOK sc) (hg : sc.dispatchNewGuard = true)
    (h : Reachable sc ss) {t : Tid} {id : Nat} {locked : Bool} (hp : Ev.pull t id locked ∈ ss.cur.log) :
    locked = true := by
  exact M1L.pulls_only_by_lock_owner (current_call_refines_M1L hok hg h) (by rw [view, clean_log]; exact hp)

theorem mutex_seq {sc : SCfg} {ss : SSt} (hok : SCfgOK sc) (hg : sc.dispatchNewGuard = true) (h : Reachable sc ss)
    {t t' : Tid} (h1 : M1L.inLocked (view ss) t = true) (h2 : M1L.inLocked (view ss) t' = true) : t = t' :=
  M1L.mutex (current_call_refines_M1L hok hg h) h1 h2

theorem no_premature_exit_seq {sc : SCfg} {ss : SSt} (hok : SCfgOK sc) (hg : sc.dispatchNewGuard = true)
    (h : Reachable sc ss) (hx : ss.cur.pc.exiting = true) :
    (∀ t ∈ ss.cur.trk, t.items ≠ [] → t.status = .done ∧ (t.pc = .relC ∨ t.pc = .done true)) ∧
    (SafeCall sc ss.k → allItems ss.cur = List.range' 0 (curCfg sc ss).n ∧ ∀ t ∈ ss.cur.trk, t.status = .done) := by
  obtain ⟨hc, hpd⟩ := callCfg_ok hok ss.k ss.bsBase
  have hr := current_call_refines_M1L hok hg h
  rw [view_eq_cur (exiting_not_pre hx)] at hr
  exact M1L.no_premature_exit hc hpd hr hx

/-- Two calls on one object, `n_jobs=2`, `batch_size=1`, `pre_dispatch=2`, a backend that keeps in-flight batches; the
first call has 2 tasks of which the second fails, the second call has 2 tasks and NOTHING fails.  `dispatchNewGuard :=
false`: the code before the F50 repair. -/
def scU : SCfg :=
  { nj := 2, bsAuto := false, bs := [1], pdMode := 0, pd := 2, ra := 0, abortDrops := false, recheck := true,
    dispatchNewGuard := false, calls := [{ n := 2, fails := [1] }, { n := 2 }] }

/-- A schedule (choices among the enabled actions, then the drain rule), forced on the real code by
`harness/m1_lock.py` (corpus `F50c`). -/
def schedU : List Nat :=
  [1, 1, 3, 3, 2, 3, 2, 3, 0, 3, 3, 3, 3, 0, 2, 0, 3, 1, 0, 3, 0, 0, 1, 2, 0, 1, 2, 0, 0, 0, 0, 0, 0, 0, 0, 0, 0, 0, 0,
   0, 0, 0, 0, 0, 0, 0, 0, 0, 0, 0, 1, 3, 2, 1, 1, 3, 0, 2, 1, 0, 3, 2, 3, 2, 3, 3, 0, 2, 2, 0, 2, 0, 3, 0, 3, 0, 3, 0,
   3, 2, 0, 1, 0]

theorem runChoicesS_reachable (sc : SCfg) : ∀ (fuel : Nat) (ss : SSt) (chs : List Nat), Reachable sc ss →
    Reachable sc (runChoicesS sc fuel ss chs) := by
  intro fuel
  induction fuel with
  | zero => intro ss chs h; exact h
  | succ f ih =>
    intro ss chs h
    have hstep : ∀ a, Reachable sc (stepS sc ss a) := by
      intro a
      obtain ⟨sched, rfl⟩ := h
      refine ⟨sched ++ [a], ?_⟩
      have : ∀ (l : List Act) (s0 : SSt), runS sc s0 (l ++ [a]) = stepS sc (runS sc s0 l) a := by
        intro l
        induction l with
        | nil => intro s0; rfl
        | cons b r ihr => intro s0; exact ihr (stepS sc s0 b)
      exact (this sched sinit).symm
    cases chs with
    | nil =>
      simp only [runChoicesS]
      split
      · exact ih _ _ (hstep _)
      · exact h
    | cons ch rest =>
      simp only [runChoicesS]
      split
      · exact ih _ _ (hstep _)
      · exact h

/-- THE UNGUARDED CODE IS WRONG (F50, the Lean twin of corpus `F50c`; same mechanism as `F50a`).  The callback of batch 0
of the first call registers its result and is parked before the lock of `_dispatch_new`; task 1 fails, the first call
raises `TaskBoom(1)`; the second call starts, and right after it has set `_original_iterator` the surviving callback
runs `n_completed_tasks += 1; dispatch_next()` ON THE SECOND CALL: it pulls both tasks of the second call and submits the
first; its stale increment later makes `n_completed_tasks == n_dispatched_tasks` (with `_iterating` cleared) while the
first batch of the second call is still pending — the caller leaves the retrieval loop, the tail loop asks the pending
tracker for its result, and the clean second call ends with `AttributeError`.  Reachable state, by evaluation; the real
code before the repair produces the same step log under this schedule. -/
theorem stale_dispatch_new_counterexample :
    Reachable scU (runChoicesS scU 120 sinit schedU) ∧ scU.dispatchNewGuard = false ∧
    (scU.calls.getD 1 default).fails = [] ∧ (scU.calls.getD 1 default).iterfail = none ∧
    outcomeOf (runChoicesS scU 120 sinit schedU) 0 = some (.raised (.task 1)) ∧
    outcomeOf (runChoicesS scU 120 sinit schedU) 1 = some (.raised .attr) :=
  ⟨runChoicesS_reachable scU 120 sinit schedU ⟨[], rfl⟩, rfl, rfl, rfl, by decide +kernel⟩

/-- The same configuration and schedule with the guard: the second call returns its two results. -/
def scG : SCfg := { scU with dispatchNewGuard := true }


theorem scG_ok : SCfgOK scG ∧ scG.dispatchNewGuard = true ∧ SafeCall scG 0 ∧ SafeCall scG 1 :=
  ⟨⟨by decide, by decide, Or.inr (by decide)⟩, rfl, Or.inl rfl, Or.inl rfl⟩

/-- The guarded run of `schedU` after 50 steps: the second call has set `_original_iterator`, the callback of batch 0 of
the first call is still parked before the lock of `_dispatch_new`. -/
def ssMid : SSt := runChoicesS scG 50 sinit (schedU.take 50)

def ssStart : SSt := runChoicesS scG 41 sinit (schedU.take 41)

/-- The guarded run of `schedU` at four points: after 41 steps (`ssStart`), after 50 (`ssMid`, with the step of its stale
thread), after 95, and at its end.  One command for all four: the runs are prefixes of one another, and within one
evaluation the kernel reduces each state of the common prefix once. -/
private theorem runG_facts :
    ((ssStart.k = 1 ∧ ssStart.cur.pc = .resetAcq ∧ ssStart.cur.aborting = true ∧ ssStart.cur.exception = true ∧
        ssStart.cur.nDispTasks = 2 ∧ ssStart.cur.origAlive = true ∧ ssStart.cur.iterating = true ∧ ssStart.cur ≠ init) ∧
      (ssStart.old.length = 2 ∧ ¬ Stale ssStart 0 ∧ oldEnabled ssStart 0 = true)) ∧
    ((ssMid.k = 1 ∧ ssMid.old.length = 2 ∧ ssMid.cur.pc = .wIter0 ∧ ssMid.outs = [some (.raised (.task 1))]) ∧
      (Stale ssMid 0 ∧ oldEnabled ssMid 0 = true ∧ (getOld ssMid 0).t.pc = .acqC) ∧
      ((stepS scG ssMid (.thread 1)).cur = ssMid.cur ∧ (getOld (stepS scG ssMid (.thread 1)) 0).t.pc = .relA false)) ∧
    ((runChoicesS scG 95 sinit schedU).k = 1 ∧ (runChoicesS scG 95 sinit schedU).cur.pc.exiting = true) ∧
    (outcomeOf (runChoicesS scG 200 sinit schedU) 0 = some (.raised (.task 1)) ∧
      outcomeOf (runChoicesS scG 200 sinit schedU) 1 = some (.ret [0, 1])) := by
  unfold Stale
  decide +kernel

set_option maxRecDepth 40000 in
example : outcomeOf (runChoicesS scG 200 sinit schedU) 0 = some (.raised (.task 1)) ∧
    outcomeOf (runChoicesS scG 200 sinit schedU) 1 = some (.ret [0, 1]) := runG_facts.2.2.2
example : Reachable scG ssMid := runChoicesS_reachable scG 50 sinit _ ⟨[], rfl⟩
-- the second call is running (set-up done up to `_original_iterator`), two trackers of the first call are alive
example : ssMid.k = 1 ∧ ssMid.old.length = 2 ∧ ssMid.cur.pc = .wIter0 ∧ ssMid.outs = [some (.raised (.task 1))] :=
  runG_facts.2.1.1
-- `stale_steps_are_noops`: thread 1 is stale, enabled, parked before the lock of `_dispatch_new`
example : Stale ssMid 0 ∧ oldEnabled ssMid 0 = true ∧ (getOld ssMid 0).t.pc = .acqC := runG_facts.2.1.2.1
-- … and its step changes its pc only
example : (stepS scG ssMid (.thread 1)).cur = ssMid.cur ∧ (getOld (stepS scG ssMid (.thread 1)) 0).t.pc = .relA false :=
  runG_facts.2.1.2.2
-- `next_call_is_fresh`: a reachable state at the start of the second call that is NOT `init` (junk in five fields)
example : ssStart.k = 1 ∧ ssStart.cur.pc = .resetAcq ∧ ssStart.cur.aborting = true ∧ ssStart.cur.exception = true ∧
    ssStart.cur.nDispTasks = 2 ∧ ssStart.cur.origAlive = true ∧ ssStart.cur.iterating = true ∧ ssStart.cur ≠ init :=
  runG_facts.1.1
-- … and two threads of the first call that are NOT stale yet (the new call id is not drawn): `between_calls_steps_keep_fresh`
example : ssStart.old.length = 2 ∧ ¬ Stale ssStart 0 ∧ oldEnabled ssStart 0 = true := runG_facts.1.2
-- `return_correct_seq` / `clean_call_returns_seq`: the clean second call after the aborted first one
example : outcomeOf (runChoicesS scG 200 sinit schedU) 1 = some (.ret (List.range 2)) := runG_facts.2.2.2.2
-- `error_surfaces_seq` / `raise_is_legit_seq`: the first call has a failing task
example : (∃ id ∈ (scG.calls.getD 0 default).fails, id < (scG.calls.getD 0 default).n) := ⟨1, by decide, by decide⟩
-- `no_premature_exit_seq`: the second call at a program point of the normal exit
example : ∃ n, (runChoicesS scG n sinit schedU).k = 1 ∧ (runChoicesS scG n sinit schedU).cur.pc.exiting = true :=
  ⟨95, runG_facts.2.2.1⟩

end M1LSeq
