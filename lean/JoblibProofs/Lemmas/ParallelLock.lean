import JoblibProofs.Lemmas.ParallelLock.Term
/-! Umbrella import for the M1L (`ParallelLock`) lemma files. -/
