import JoblibModel.ZFileLegacy
/-! `readZfile` on a file whose header is complete (what is left is the call of `zlib.decompress`) and on one cut inside
the header, for C14. `ZValid` is what C14 assumes of `zlib.decompress`; the lemmas here take the two facts they need of it
directly. -/
namespace JoblibModel.ZFileLegacy
open JoblibModel.ZlibFile (Bytes)

/-- The law of `zlib.decompress` on the zlib stream `z` of the data `p` (HYPOTHESIS about CPython's zlib, probed):
the whole stream, whatever follows it, gives `p`; a strict prefix (the empty one included) raises `zlib.error`;
the first byte of a zlib stream is never a space (RFC 6713 §2.1, what `read_zfile` relies on). -/
structure ZValid (D : Bytes → Option Bytes) (z p : Bytes) : Prop where
  whole : ∀ t, D (z ++ t) = some p
  prefix_raises : ∀ k, k < z.length → D (z.take k) = none
  nonempty : z ≠ []
  not_space : z.head? ≠ some 0x20

/-- The bytes between the prefix and the zlib stream: the length field, followed by one more space in the
wide header of python 2 / joblib <= 0.8.4. -/
def pad (wide : Bool) : Bytes := if wide then [0x20] else []

/-- A legacy file: `b"ZF" ++ field ++ [b" "] ++ z`. -/
def legacyFile (field : Bytes) (wide : Bool) (z : Bytes) : Bytes :=
  (ZFILE_PREFIX ++ field) ++ (pad wide ++ z)

theorem header_len {field : Bytes} (hf : field.length = MAX_LEN) :
    (ZFILE_PREFIX ++ field).length = HEADER_LENGTH := by
  simp [ZFILE_PREFIX, hf, MAX_LEN, HEADER_LENGTH]

theorem readZfile_full_header (D : Bytes → Option Bytes) {field : Bytes} (hf : field.length = MAX_LEN)
    (n : Nat) (hp : pyIntHex field = some (n : Int)) (rest : Bytes) :
    readZfile D ((ZFILE_PREFIX ++ field) ++ rest) =
      match D (rest.drop (if rest.take 1 = [0x20] then 1 else 0)) with
      | none => .error .zlibError
      | some data => if data.length = n then .ok data else .error .assertionError := by
  have hl := header_len hf
  have h1 : ((ZFILE_PREFIX ++ field) ++ rest).take HEADER_LENGTH = ZFILE_PREFIX ++ field := by
    rw [← hl]; exact List.take_left
  have h2 : ((ZFILE_PREFIX ++ field) ++ rest).drop HEADER_LENGTH = rest := by
    rw [← hl]; exact List.drop_left
  have h3 : (ZFILE_PREFIX ++ field).drop ZFILE_PREFIX.length = field := List.drop_left
  have h4 : ((ZFILE_PREFIX ++ field) ++ rest).drop (HEADER_LENGTH + 1) = rest.drop 1 := by
    rw [← List.drop_drop, h2]
  unfold readZfile
  simp only [h1, h2, h3, hp]
  have hn : ¬ ((n : Int) < 0) := by omega
  simp only [hn, if_false]
  by_cases hs : rest.take 1 = [0x20]
  · simp only [hs, if_true, h4]
    cases D (rest.drop 1) <;> simp [Int.natCast_inj]
  · simp only [hs, if_false, h2, List.drop_zero]
    cases D rest <;> simp [Int.natCast_inj]

/-- `read_zfile` on a file cut inside (or right after) the header: whatever the cut length field parses to,
the zlib payload is empty and the call raises. -/
theorem readZfile_short (D : Bytes → Option Bytes) (hD : D [] = none) (file : Bytes)
    (hlen : file.length ≤ HEADER_LENGTH) : ∃ e, readZfile D file = .error e := by
  have h2 : file.drop HEADER_LENGTH = [] := List.drop_eq_nil_of_le hlen
  have h3 : file.drop (HEADER_LENGTH + 1) = [] := List.drop_eq_nil_of_le (by omega)
  have hne : ¬ (([] : Bytes) = [0x20]) := by simp
  simp only [readZfile, h2, List.take_nil, hne, if_false, hD]
  split
  · exact ⟨_, rfl⟩
  · split
    · exact ⟨_, rfl⟩
    · exact ⟨_, rfl⟩

theorem take_one_ne {rest : Bytes} (hns : rest.head? ≠ some 0x20) : rest.take 1 ≠ [0x20] := by
  cases rest with
  | nil => nofun
  | cons a r => exact fun h => hns (congrArg List.head? h)

theorem readZfile_legacy (D : Bytes → Option Bytes) {field : Bytes} (hf : field.length = MAX_LEN)
    (n : Nat) (hp : pyIntHex field = some (n : Int)) (wide : Bool) {rest : Bytes} (hns : rest.head? ≠ some 0x20) :
    readZfile D (legacyFile field wide rest) =
      match D rest with
      | none => .error .zlibError
      | some data => if data.length = n then .ok data else .error .assertionError := by
  rw [legacyFile, readZfile_full_header D hf n hp]
  cases wide with
  | true => rfl
  | false => rw [show pad false ++ rest = rest from rfl, if_neg (take_one_ne hns)]; rfl

theorem legacyFile_length {field : Bytes} (hf : field.length = MAX_LEN) (wide : Bool) (z : Bytes) :
    (legacyFile field wide z).length = HEADER_LENGTH + (pad wide).length + z.length := by
  rw [legacyFile, List.length_append, header_len hf, List.length_append, Nat.add_assoc]

theorem legacyFile_take {field : Bytes} (hf : field.length = MAX_LEN) (wide : Bool) (z : Bytes) {k : Nat}
    (hk : HEADER_LENGTH + (pad wide).length ≤ k) :
    (legacyFile field wide z).take k = legacyFile field wide (z.take (k - HEADER_LENGTH - (pad wide).length)) := by
  have hl := header_len hf
  rw [legacyFile, List.take_append, hl, List.take_of_length_le (by omega), List.take_append,
    List.take_of_length_le (by omega)]
  rfl

end JoblibModel.ZFileLegacy
