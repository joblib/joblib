import JoblibModel.NJobs
import JoblibProofs.Lemmas.Common  -- `Except.bind_ok`
/-! `JoblibModel.NJobs`: `effective_n_jobs` is one job under a guard and arithmetic otherwise, for the four classes at once
(`effectiveNJobs_eq`, `initializeBackend_eq`); the two values `cpu_count` can return, the aggregate count or the physical one
(`cpuCount_ok`); what a resize of loky's executor and the calls served by one `ThreadingBackend` instance keep (`resize_spec`, `TGood`).
`effectiveNJobs_sequential` has no user. -/
namespace JoblibModel.NJobs
open JoblibModel.Config (BackendClass)

theorem effectiveNJobs_sequential (level : Option Nat) (env : EffEnv) (n : Option Int) :
    effectiveNJobs .sequential level env n = if n = some 0 then .error .valueError else .ok 1 := rfl

/-- The guards that make a backend of class `cls` run with a single job whatever was asked. `C15.guarded` is the same
text: C15 passes hypotheses about `guarded` where `oneJobGuard` is asked, by unfolding, so a change goes into both. -/
def oneJobGuard (cls : BackendClass) (level : Option Nat) (env : EffEnv) : Bool :=
  match cls with
  | .sequential => true
  | .threading => env.mpNone
  | .loky => env.mpNone || env.daemon || nestedBelowThread env level
  | .multiprocessing =>
    env.mpNone || env.daemon || decide (env.lokyDepth > 0) || nestedBelowThread env level

/-- `PoolManagerMixin.effective_n_jobs` with multiprocessing available: what every class does once no guard applies. -/
def unguardedNJobs (cpus : Int) (n_jobs : Option Int) : Except Err Int :=
  if n_jobs = some 0 then .error .valueError
  else match n_jobs with
    | none => .ok 1
    | some n => if n < 0 then .ok (max (cpus + 1 + n) 1) else .ok n

theorem effectiveNJobs_eq (cls : BackendClass) (level : Option Nat) (env : EffEnv) (n : Option Int) :
    effectiveNJobs cls level env n =
      if oneJobGuard cls level env then
        (if cls = .multiprocessing then .ok 1 else if n = some 0 then .error .valueError else .ok 1)
      else unguardedNJobs env.cpus n := by
  -- with the flags of `env` fixed both sides compute
  generalize hnb : nestedBelowThread env level = nb
  obtain ⟨mp, dm, mt, ld, cpus⟩ := env
  cases cls <;> simp only [effectiveNJobs, oneJobGuard, hnb]
  · rfl
  · cases mp <;> rfl
  · cases mp
    · cases dm
      · cases nb <;> cases ld <;> rfl
      · rfl
    · rfl
  · cases mp
    · cases n <;> cases dm <;> cases nb <;> rfl
    · rfl

theorem effectiveNJobs_unguarded {cls : BackendClass} {level : Option Nat} {env : EffEnv}
    (hg : oneJobGuard cls level env = false) (n : Option Int) :
    effectiveNJobs cls level env n = unguardedNJobs env.cpus n := by
  rw [effectiveNJobs_eq, hg]; rfl

theorem unguardedNJobs_pos {cpus n : Int} (h : 0 < n) : unguardedNJobs cpus (some n) = .ok n := by
  have h0 : n ≠ 0 := by omega
  have hneg : ¬ n < 0 := by omega
  simp [unguardedNJobs, h0, hneg]

theorem unguardedNJobs_neg {cpus n : Int} (h : n < 0) :
    unguardedNJobs cpus (some n) = .ok (max (cpus + 1 + n) 1) := by
  have h0 : n ≠ 0 := by omega
  simp [unguardedNJobs, h0, h]

theorem unguardedNJobs_ge_one {cpus : Int} {n : Option Int} {k : Int} (h : unguardedNJobs cpus n = .ok k) :
    1 ≤ k := by
  unfold unguardedNJobs at h
  split at h
  · cases h
  · rename_i h0
    cases n with
    | none => cases h; decide
    | some m =>
      have : m ≠ 0 := fun hm => h0 (by rw [hm])
      dsimp only at h
      split at h <;> cases h <;> omega

theorem initializeBackend_eq (cls : BackendClass) (level : Option Nat) (env : EffEnv) (n : Option Int) :
    initializeBackend cls level env n =
      match effectiveNJobs cls level env n with
      | .error e => .error e
      | .ok k =>
        if cls = .sequential ∨ k = 1 then
          (if n = some 0 then .error .valueError else .ok ⟨.sequential, 1, none⟩)
        else .ok ⟨cls, k, some k⟩ := by
  cases cls
  · by_cases h : n = some 0 <;> simp [initializeBackend, effectiveNJobs, h, bind, Except.bind, pure, Except.pure]
  all_goals
    unfold initializeBackend
    cases effectiveNJobs _ level env n with
    | error e => rfl
    | ok k =>
      by_cases hk : k = 1
      · by_cases h0 : n = some 0 <;> simp [hk, h0, bind, Except.bind, pure, Except.pure, effectiveNJobs]
      · simp [hk, bind, Except.bind, pure, Except.pure]

theorem cpuCountUser_le {e : CpuEnv} {os u : Int} (h : cpuCountUser e os = .ok u) :
    (∀ a, e.affinity = some a → u ≤ (a : Int)) ∧
    (∀ q p, e.cgroup = some (q, p) → 0 < q → 0 < p → u ≤ ceilDiv q p) ∧
    (∀ v, e.lokyMax = some (some v) → u ≤ v) := by
  obtain ⟨lk, hl, h⟩ := Except.bind_ok h
  cases h
  refine ⟨fun a ha => ?_, fun q p hc hq hp => ?_, fun v hv => ?_⟩
  · rw [ha]; exact Int.min_le_left ..
  · rw [hc]; simp only [cpuCountCgroup, hq, hp, and_self, if_true]
    exact Int.le_trans (Int.min_le_right ..) (Int.min_le_left ..)
  · rw [hv] at hl; cases hl
    exact Int.le_trans (Int.min_le_right ..) (Int.min_le_right ..)

theorem cpuCount_ok {e : CpuEnv} {b : Bool} {k : Int} (h : cpuCount e b = .ok k) :
    ∃ u, cpuCountUser e (osCpuCount e) = .ok u ∧
      (k = max (min (osCpuCount e) u) 1 ∨
        ∃ p : Nat, e.physical = some p ∧ 1 ≤ p ∧ osCpuCount e ≤ u ∧ k = p) := by
  obtain ⟨u, hu, h⟩ := Except.bind_ok h
  refine ⟨u, hu, ?_⟩
  dsimp only at h
  split at h
  · exact .inl (Except.ok.inj h).symm
  · split at h
    · -- `max u 1`, the same number when `u < os`
      exact .inl (by rw [Int.min_eq_right (Int.le_of_lt ‹_›)]; exact (Except.ok.inj h).symm)
    · split at h
      · split at h
        · exact .inl (Except.ok.inj h).symm
        · exact .inr ⟨_, ‹_›, by omega, by omega, (Except.ok.inj h).symm⟩
      · exact .inl (Except.ok.inj h).symm

/-- From `cpuCount_ok` to a limit of `cpuCountUser_le`, the limit read as "at least one CPU". -/
theorem le_limit {k os u L : Int} (hk : k ≤ max (min os u) 1) (hu : u ≤ L) : k ≤ max L 1 :=
  Int.le_trans hk (Int.max_le.2 ⟨Int.le_trans (Int.min_le_right ..) (Int.le_trans hu (Int.le_max_left ..)), Int.le_max_right ..⟩)

theorem resize_spec (p : Pool) (n : Nat) (h1 : p.alive ≤ p.maxWorkers) (h2 : p.started = false → p.alive = 0) :
    (resize p n).maxWorkers = n ∧ (resize p n).alive ≤ n := by
  unfold resize
  split
  · rename_i hn; rw [hn]; exact ⟨rfl, h1⟩
  · split
    · rename_i hs
      exact ⟨rfl, (h2 (by simpa using hs)).symm ▸ Nat.zero_le _⟩
    · exact ⟨rfl, Nat.max_le.2 ⟨Nat.min_le_right _ _, Nat.le_refl _⟩⟩

theorem getReusableExecutor_spec (cur : Option Pool) (same_args : Bool) (n : Nat)
    (h : ∀ p, cur = some p → p.alive ≤ p.maxWorkers ∧ (p.started = false → p.alive = 0)) :
    (getReusableExecutor cur same_args n).maxWorkers = n ∧ (getReusableExecutor cur same_args n).alive ≤ n := by
  unfold getReusableExecutor
  split
  · split
    · exact resize_spec _ n (h _ rfl).1 (h _ rfl).2
    · exact ⟨rfl, Nat.zero_le _⟩
  · exact ⟨rfl, Nat.zero_le _⟩

/-- Between two dispatches of a call that resolved `n` jobs: `_n_jobs = n` and the pool is either
not built yet or has exactly `n` threads. -/
def TGood (n : Nat) (b : TBackend) : Prop := b.nJobs = n ∧ (b.pool = none ∨ b.pool = some n)

theorem tSubmits_asIs (n t : Nat) (b : TBackend) (h : TGood n b) :
    (∀ k ∈ (tSubmits .asIs b t).2, k = n) ∧ TGood n (tSubmits .asIs b t).1 ∧
    (tSubmits .asIs b t).2.length = t := by
  induction t generalizing b with
  | zero => exact ⟨nofun, h, rfl⟩
  | succ t ih =>
    have hstep : (tGetPool .asIs b).2 = n ∧ TGood n (tGetPool .asIs b).1 := by
      obtain ⟨hn, hp | hp⟩ := h <;> simp [tGetPool, hp, TGood, hn]
    obtain ⟨h1, h2, h3⟩ := ih _ hstep.2
    exact ⟨List.forall_mem_cons.2 ⟨hstep.1, h1⟩, h2, congrArg (· + 1) h3⟩

theorem tPlain_asIs (n t : Nat) (b : TBackend) (h : b.pool = none) :
    (∀ k ∈ (tPlain .asIs b n t).2, k = n) ∧ (tPlain .asIs b n t).1.pool = none ∧
    (n ≠ 1 → (tPlain .asIs b n t).2.length = t) := by
  unfold tPlain
  by_cases hn : n = 1
  · simp [hn, h]
  · obtain ⟨h1, _, h3⟩ := tSubmits_asIs n t (tConfigure b n) (by simp [tConfigure, hn, TGood, h])
    simp only [hn, if_false]
    exact ⟨h1, rfl, fun _ => h3⟩

/-- The two forms of `h`: with `n = 1` a `with Parallel(n_jobs=n)` block runs on the sequential fallback and never touches this
instance, so the pool stays `none` (and `_n_jobs` is whatever it was). -/
theorem tBody_asIs (n : Nat) (body : List TItem) (hc : (TCall.managed n body).clean = true) (b : TBackend)
    (h : if n = 1 then b.pool = none else TGood n b) :
    (∀ o ∈ (tBody .asIs n b body).2, ∀ k ∈ o.sizes, k = o.n) ∧
    (if n = 1 then (tBody .asIs n b body).1.pool = none else TGood n (tBody .asIs n b body).1) := by
  induction body generalizing b with
  | nil => exact ⟨nofun, h⟩
  | cons i rest ih =>
    cases i with
    | foreign m t => simp [TCall.clean] at hc
    | own t =>
      have step : (∀ k ∈ (if n = 1 then (b, []) else tSubmits .asIs b t).2, k = n) ∧
          (if n = 1 then (if n = 1 then (b, []) else tSubmits .asIs b t).1.pool = none
            else TGood n (if n = 1 then (b, []) else tSubmits .asIs b t).1) := by
        by_cases hn : n = 1
        · simp only [hn, if_true] at h ⊢; exact ⟨nofun, h⟩
        · simp only [hn, if_false] at h ⊢
          exact ⟨(tSubmits_asIs n t b h).1, (tSubmits_asIs n t b h).2.1⟩
      obtain ⟨h1, h2⟩ := ih (by simpa [TCall.clean] using hc) _ step.2
      exact ⟨List.forall_mem_cons.2 ⟨step.1, h1⟩, h2⟩

theorem tManaged_asIs (n : Nat) (body : List TItem) (hc : (TCall.managed n body).clean = true) (b : TBackend)
    (h : b.pool = none) :
    (∀ o ∈ (tManaged .asIs b n body).2, ∀ k ∈ o.sizes, k = o.n) ∧ (tManaged .asIs b n body).1.pool = none := by
  obtain ⟨h1, h2⟩ := tBody_asIs n body hc (tConfigure b n)
    (by by_cases hn : n = 1 <;> simp [tConfigure, hn, TGood, h])
  refine ⟨h1, ?_⟩
  unfold tManaged
  by_cases hn : n = 1
  · simp only [hn, if_true] at h2 ⊢; exact h2
  · simp only [hn, if_false]; rfl

end JoblibModel.NJobs
