import JoblibModel.HashStream
import JoblibProofs.Lemmas.Common
/-! Lemmas about the stream model `JoblibModel.HashStream` (C08), in this order:
* `cmpK`, what `sorted` compares, is a strict total order wherever it answers (the leaf orders are core's `compare`), so
  `sortOn` is determined up to permutation on pairwise strict keys (`StrictOn`, `sortOn_perm_eq`);
* `Reorder` ("same value, dict / set / frozenset parts listed in another order"): the container encoders are congruences for
  it (`_congr`: related items, one item encoder), so where `sorted` is well defined at every node (`KeysStrict`) the stream
  does not depend on the listing: `encF_reorder`;
* `_ext` (the same items, pointwise equal item encoders) and `encF_old_eq_fixed`: the two versions of the code write the same
  stream for a value that holds no frozenset;
* the top-level `OrderedDict` (`encodeOD`); `reiter`, the value as another string-hash seed iterates it, is `Reorder`-related
  to the value. -/
namespace JoblibModel.HashStream

/-- A string literal is `String.ofList` of its characters (for the unifier and for the kernel): through this equation
the class names are read off without decoding the literal from its UTF-8 bytes. -/
theorem asciiBytes_ofList (l : List Char) : asciiBytes (String.ofList l) = l.map Char.toNat := by
  rw [asciiBytes, String.toList_ofList]

theorem cmpInt_eq_compare (a b : Int) : cmpInt a b = compare a b := rfl

section
attribute [local instance] lexOrd

theorem cmpKey_eq_compare (a b : Int × Int) : cmpKey a b = compare a b := rfl

theorem cmpKey_swap (a b : Int × Int) : cmpKey b a = (cmpKey a b).swap :=
  show compare b a = (compare a b).swap from Std.OrientedOrd.eq_swap

theorem cmpKey_eq {a b : Int × Int} : cmpKey a b = .eq ↔ a = b :=
  show compare a b = .eq ↔ a = b from Std.LawfulEqOrd.compare_eq_iff_eq

theorem cmpKey_trans {a b c : Int × Int} (h1 : cmpKey a b = .lt) (h2 : cmpKey b c = .lt) : cmpKey a c = .lt :=
  show compare a c = .lt from Std.TransCmp.lt_trans (cmp := compare) h1 h2

end

theorem cmpBs_eq_compare (a b : Bs) : cmpBs a b = compare a b := by
  induction a generalizing b with
  | nil => cases b <;> rfl
  | cons x xs ih =>
    cases b with
    | nil => rfl
    | cons y ys =>
      show (if x < y then _ else if x = y then cmpBs xs ys else _) = List.compareLex compare (x :: xs) (y :: ys)
      rw [List.compareLex_cons_cons, ih, Nat.compare_eq_ite_lt]
      split
      · rfl
      · split
        · rename_i h; subst h; rw [if_neg (Nat.lt_irrefl _)]; rfl
        · rw [if_pos (by omega)]; rfl

theorem cmpBs_swap (a b : Bs) : cmpBs b a = (cmpBs a b).swap := by
  rw [cmpBs_eq_compare, cmpBs_eq_compare]; exact Std.OrientedOrd.eq_swap

theorem cmpBs_eq {a b : Bs} : cmpBs a b = .eq ↔ a = b := by
  rw [cmpBs_eq_compare]; exact Std.LawfulEqOrd.compare_eq_iff_eq

theorem cmpBs_trans {a b c : Bs} (h1 : cmpBs a b = .lt) (h2 : cmpBs b c = .lt) : cmpBs a c = .lt := by
  rw [cmpBs_eq_compare] at *; exact Std.TransCmp.lt_trans h1 h2

/-! Each law is proved for `cmpK` and `cmpKList` together, by the induction principle of their definition: eleven cases, in
the order of the defining equations (six of `cmpK`, five of `cmpKList`); those not closed in the `refine` line are labelled. -/

theorem cmpK_swap_both : (∀ a b : SortKey, cmpK b a = (cmpK a b).map Ordering.swap) ∧
    ∀ a b : List SortKey, cmpKList b a = (cmpKList a b).map Ordering.swap := by
  refine cmpK.mutual_induct_unfolding (fun a b r => cmpK b a = r.map Ordering.swap)
    (fun a b r => cmpKList b a = r.map Ordering.swap) rfl ?_ ?_ ?_ ?_ ?_ rfl ?_ ?_ ?_ ?_
  · exact fun t s t' s' => congrArg some (cmpKey_swap (t, s) (t', s'))  -- num num
  · exact fun a b => congrArg some (cmpBs_swap a b)  -- str str
  · exact fun a b => congrArg some (cmpBs_swap a b)  -- bytes bytes
  · exact fun a b ih => ih  -- tuple tuple
  -- every other pair: `h1 … h5` say that `t, x` are not both `none`, not both `num`, … not both `tuple`;
  -- `cmpK.eq_6 x t` asks the same five of `x, t`: each is passed on, arguments swapped
  · exact fun t x h1 h2 h3 h4 h5 => cmpK.eq_6 x t (fun hx ht => h1 ht hx) (fun a b c d hx ht => h2 c d a b ht hx)
      (fun a b hx ht => h3 b a ht hx) (fun a b hx ht => h4 b a ht hx) (fun a b hx ht => h5 b a ht hx)
  · exact fun _ _ => rfl  -- [] (_ :: _)
  · exact fun _ _ => rfl  -- (_ :: _) []
  · intro a as b bs he ih1 ih2  -- conses, `==` heads
    rw [cmpKList.eq_4, ih1, he]; exact ih2
  · intro a as b bs hne ih1  -- conses, other heads
    rw [cmpKList.eq_4, ih1]
    cases h : cmpK a b with
    | none => rfl
    | some o => cases o with
      | eq => exact absurd h hne
      | lt => rfl
      | gt => rfl

theorem cmpK_swap (a b : SortKey) : cmpK b a = (cmpK a b).map Ordering.swap := cmpK_swap_both.1 a b

theorem cmpKList_swap : ∀ (a b : List SortKey), cmpKList b a = (cmpKList a b).map Ordering.swap :=
  cmpK_swap_both.2

theorem cmpK_eq_both : (∀ a b : SortKey, cmpK a b = some .eq → a = b) ∧
    ∀ a b : List SortKey, cmpKList a b = some .eq → a = b := by
  refine cmpK.mutual_induct_unfolding (fun a b r => r = some .eq → a = b) (fun a b r => r = some .eq → a = b)
    (fun _ => rfl) ?_ ?_ ?_ ?_ ?_ (fun _ => rfl) ?_ ?_ ?_ ?_
  · intro t s t' s' h  -- num num
    cases cmpKey_eq.mp (Option.some.inj h); rfl
  · intro a b h; rw [cmpBs_eq.mp (Option.some.inj h)]  -- str str
  · intro a b h; rw [cmpBs_eq.mp (Option.some.inj h)]  -- bytes bytes
  · intro a b ih h; rw [ih h]  -- tuple tuple
  · exact fun _ _ _ _ _ _ _ h => nomatch h  -- every other pair
  · exact fun _ _ h => nomatch h  -- [] (_ :: _)
  · exact fun _ _ h => nomatch h  -- (_ :: _) []
  · intro a as b bs he ih1 ih2 h; rw [ih1 he, ih2 h]  -- conses, `==` heads
  · exact fun a as b bs hne _ h => absurd h hne  -- conses, other heads

theorem cmpK_eq (a b : SortKey) (h : cmpK a b = some .eq) : a = b := cmpK_eq_both.1 a b h

theorem cmpKList_eq (a b : List SortKey) (h : cmpKList a b = some .eq) : a = b := cmpK_eq_both.2 a b h

/-- What takes `orderable` keys that are pairwise different to `StrictOn` (no lemma here does). -/
theorem cmpK_refl_of_some {a b : SortKey} {o : Ordering} (h : cmpK a b = some o) :
    cmpK a b = some .eq ↔ a = b := by
  constructor
  · exact cmpK_eq a b
  · intro e; subst e
    have := cmpK_swap a a
    rw [h] at this
    cases o <;> simp [Ordering.swap] at this
    exact h

theorem cmpK_trans_both :
    (∀ a b : SortKey, cmpK a b = some .lt → ∀ c, cmpK b c = some .lt → cmpK a c = some .lt) ∧
    ∀ a b : List SortKey, cmpKList a b = some .lt → ∀ c, cmpKList b c = some .lt → cmpKList a c = some .lt := by
  refine cmpK.mutual_induct_unfolding (fun a b r => r = some .lt → ∀ c, cmpK b c = some .lt → cmpK a c = some .lt)
    (fun a b r => r = some .lt → ∀ c, cmpKList b c = some .lt → cmpKList a c = some .lt)
    (fun h => nomatch h) ?_ ?_ ?_ ?_ (fun _ _ _ _ _ _ _ h => nomatch h) (fun h => nomatch h) ?_ (fun _ _ h => nomatch h)
    ?_ ?_
  · intro t s t' s' h c h2  -- num num
    cases c with
    | num t'' s'' => exact congrArg some (cmpKey_trans (Option.some.inj h) (Option.some.inj h2))
    | _ => nomatch h2
  · intro a b h c h2  -- str str
    cases c with
    | str c => exact congrArg some (cmpBs_trans (Option.some.inj h) (Option.some.inj h2))
    | _ => nomatch h2
  · intro a b h c h2  -- bytes bytes
    cases c with
    | bytes c => exact congrArg some (cmpBs_trans (Option.some.inj h) (Option.some.inj h2))
    | _ => nomatch h2
  · intro a b ih h c h2  -- tuple tuple
    cases c with
    | tuple c => exact ih h c h2
    | _ => nomatch h2
  · intro _ _ _ c h2  -- [] (_ :: _)
    cases c with
    | nil => nomatch h2
    | cons _ _ => rfl
  · intro a as b bs he _ ih2 h c h2  -- conses, `==` heads
    cases cmpK_eq a b he
    cases c with
    | nil => nomatch h2
    | cons z zs =>
      rw [cmpKList.eq_4] at h2 ⊢
      split at h2
      · exact ih2 h zs h2
      · rw [h2]
  · intro a as b bs _ ih1 h c h2  -- conses, other heads
    cases c with
    | nil => nomatch h2
    | cons z zs =>
      rw [cmpKList.eq_4] at h2 ⊢
      split at h2
      · rename_i hz; cases cmpK_eq b z hz; rw [h]
      · rw [ih1 h z h2]

theorem cmpK_trans (a b c : SortKey) (h1 : cmpK a b = some .lt) (h2 : cmpK b c = some .lt) :
    cmpK a c = some .lt := cmpK_trans_both.1 a b h1 c h2

theorem cmpKList_trans (a b c : List SortKey) (h1 : cmpKList a b = some .lt)
    (h2 : cmpKList b c = some .lt) : cmpKList a c = some .lt := cmpK_trans_both.2 a b h1 c h2

theorem pyCmp_swap (a b : PyVal) : pyCmp b a = (pyCmp a b).map Ordering.swap := cmpK_swap _ _

theorem pyCmp_trans {a b c : PyVal} (h1 : pyCmp a b = some .lt) (h2 : pyCmp b c = some .lt) :
    pyCmp a c = some .lt := cmpK_trans _ _ _ h1 h2

theorem pyCmp_gt_iff {a b : PyVal} : pyCmp a b = some .gt ↔ pyCmp b a = some .lt := by
  rw [pyCmp_swap a b]
  cases pyCmp a b with
  | none => simp
  | some o => cases o <;> simp [Ordering.swap]

/-- The two keys are comparable and not equal: what `sorted` needs of every pair. -/
def StrictPair (a b : PyVal) : Prop := pyCmp a b = some .lt ∨ pyCmp a b = some .gt

theorem StrictPair.symm {a b : PyVal} (h : StrictPair a b) : StrictPair b a := by
  rcases h with h | h
  · right; exact pyCmp_gt_iff.mpr h
  · left; exact pyCmp_gt_iff.mp h

section sort
variable {α : Type} (key : α → PyVal)

theorem insertOn_perm (x : α) (l : List α) : (insertOn key x l).Perm (x :: l) :=
  List.perm_of_insert (insertOn key) (fun _ => rfl) (fun _ _ _ => rfl) x l

theorem sortOn_perm (l : List α) : (sortOn key l).Perm l :=
  List.perm_of_sort (sortOn key) rfl (fun _ _ => rfl) (insertOn_perm key) l

def StrictOn (l : List α) : Prop := l.Pairwise fun a b => StrictPair (key a) (key b)

theorem StrictOn.perm {l l' : List α} (h : StrictOn key l) (p : l.Perm l') : StrictOn key l' :=
  List.Pairwise.perm h p (fun h => h.symm)

def SortedOn (l : List α) : Prop := l.Pairwise fun a b => pyCmp (key a) (key b) = some .lt

theorem insertOn_sorted (x : α) (l : List α) (hs : SortedOn key l) (hx : ∀ y ∈ l, StrictPair (key x) (key y)) :
    SortedOn key (insertOn key x l) := by
  induction l with
  | nil => exact List.pairwise_singleton _ _
  | cons y ys ih =>
    simp only [insertOn]
    have hs' := List.pairwise_cons.mp hs
    split
    · rename_i hlt
      refine List.pairwise_cons.mpr ⟨fun z hz => ?_, hs⟩
      rcases List.mem_cons.mp hz with rfl | hz
      · exact hlt
      · exact pyCmp_trans hlt (hs'.1 z hz)
    · rename_i hnlt
      have hgt : pyCmp (key y) (key x) = some .lt := by
        rcases hx y (List.mem_cons_self) with h | h
        · exact absurd h hnlt
        · exact pyCmp_gt_iff.mp h
      refine List.pairwise_cons.mpr ⟨fun z hz => ?_, ih hs'.2 (fun z hz => hx z (List.mem_cons_of_mem _ hz))⟩
      rcases List.mem_cons.mp ((insertOn_perm key x ys).subset hz) with rfl | hz
      · exact hgt
      · exact hs'.1 z hz

theorem sortOn_sorted : ∀ l : List α, StrictOn key l → SortedOn key (sortOn key l)
  | [], _ => by simp [sortOn, SortedOn]
  | x :: xs, h => by
    simp only [sortOn]
    have h' := List.pairwise_cons.mp h
    refine insertOn_sorted key x _ (sortOn_sorted xs h'.2) ?_
    intro y hy
    exact h'.1 y ((sortOn_perm key xs).subset hy)

theorem sortOn_perm_eq {l l' : List α} (p : l.Perm l') (h : StrictOn key l) :
    sortOn key l = sortOn key l' := by
  refine List.Perm.eq_of_pairwise (le := fun a b => pyCmp (key a) (key b) = some .lt) ?_
    (sortOn_sorted key l h) (sortOn_sorted key l' (h.perm key p))
    ((sortOn_perm key l).trans (p.trans (sortOn_perm key l').symm))
  intro a b _ _ h1 h2
  rw [pyCmp_gt_iff.mpr h2] at h1; cases h1

end sort

mutual
/-- `Reorder v w`: `w` is `v` with the parts of any of its dicts, sets and frozensets (at any depth)
listed in another order — what rebuilding them in another insertion order, or iterating them
under another string-hash seed, does to the model's input.  Only reflexivity is proved; symmetry and
transitivity (permutations under a `ReorderL`) are not, which is why `C08.encode_injective_partial`
speaks of a common listing `u`. -/
inductive Reorder : PyVal → PyVal → Prop
  | none : Reorder .none .none
  | bool (b : Bool) : Reorder (.bool b) (.bool b)
  | int (i : Int) : Reorder (.int i) (.int i)
  | float (x : Nat) : Reorder (.float x) (.float x)
  | str (s : Bs) : Reorder (.str s) (.str s)
  | bytes (s : Bs) : Reorder (.bytes s) (.bytes s)
  | list {l l' : List PyVal} : ReorderL l l' → Reorder (.list l) (.list l')
  | tuple {l l' : List PyVal} : ReorderL l l' → Reorder (.tuple l) (.tuple l')
  | set {l l' l'' : List PyVal} : ReorderL l l' → l'.Perm l'' → Reorder (.set l) (.set l'')
  | frozenset {l l' l'' : List PyVal} : ReorderL l l' → l'.Perm l'' → Reorder (.frozenset l) (.frozenset l'')
  | dict {l l' l'' : List (PyVal × PyVal)} : ReorderD l l' → l'.Perm l'' → Reorder (.dict l) (.dict l'')
inductive ReorderL : List PyVal → List PyVal → Prop
  | nil : ReorderL [] []
  | cons {a b : PyVal} {as bs : List PyVal} : Reorder a b → ReorderL as bs → ReorderL (a :: as) (b :: bs)
inductive ReorderD : List (PyVal × PyVal) → List (PyVal × PyVal) → Prop
  | nil : ReorderD [] []
  | cons {k k' v v' : PyVal} {xs ys : List (PyVal × PyVal)} :
      Reorder k k' → Reorder v v' → ReorderD xs ys → ReorderD ((k, v) :: xs) ((k', v') :: ys)
end

mutual
theorem Reorder.refl : ∀ v : PyVal, Reorder v v
  | .none => .none
  | .bool b => .bool b
  | .int i => .int i
  | .float x => .float x
  | .str s => .str s
  | .bytes s => .bytes s
  | .list l => .list (ReorderL.refl l)
  | .tuple l => .tuple (ReorderL.refl l)
  | .set l => .set (ReorderL.refl l) (List.Perm.refl _)
  | .frozenset l => .frozenset (ReorderL.refl l) (List.Perm.refl _)
  | .dict l => .dict (ReorderD.refl l) (List.Perm.refl _)
theorem ReorderL.refl : ∀ l : List PyVal, ReorderL l l
  | [] => .nil
  | x :: xs => .cons (Reorder.refl x) (ReorderL.refl xs)
theorem ReorderD.refl : ∀ l : List (PyVal × PyVal), ReorderD l l
  | [] => .nil
  | (k, v) :: xs => .cons (Reorder.refl k) (Reorder.refl v) (ReorderD.refl xs)
end

theorem ReorderL.length_eq {l l' : List PyVal} (h : ReorderL l l') : l.length = l'.length := by
  induction l generalizing l' with
  | nil => cases h; rfl
  | cons a as ih => cases h with | cons _ h2 => rw [List.length_cons, List.length_cons, ih h2]

theorem depthList_perm {l l' : List PyVal} (p : l.Perm l') : depthList l = depthList l' := by
  induction p with
  | nil => rfl
  | cons x _ ih => exact congrArg (max (depth x)) ih
  | swap x y l => exact Nat.max_left_comm ..
  | trans _ _ ih1 ih2 => exact ih1.trans ih2

theorem depthItems_perm {l l' : List (PyVal × PyVal)} (p : l.Perm l') : depthItems l = depthItems l' := by
  induction p with
  | nil => rfl
  | cons x _ ih => exact congrArg (max (max (depth x.1) (depth x.2))) ih
  | swap x y l => exact Nat.max_left_comm ..
  | trans _ _ ih1 ih2 => exact ih1.trans ih2

/-- What `sorted` (`toK`), `_holds_frozenset` and the fuel (`depth`) see of a value does not depend on its listing.  One
induction on the derivation, through its recursor (a structural `mutual` recursion on the derivation checks much slower).
The list forms follow from the `.tuple` and `.dict` cases. -/
theorem Reorder.invariants {a b : PyVal} (h : Reorder a b) :
    toK a = toK b ∧ holdsFrozenset a = holdsFrozenset b ∧ depth a = depth b :=
  h.rec (motive_1 := fun a b _ => toK a = toK b ∧ holdsFrozenset a = holdsFrozenset b ∧ depth a = depth b)
    (motive_2 := fun l l' _ =>
      toKList l = toKList l' ∧ holdsFrozensetList l = holdsFrozensetList l' ∧ depthList l = depthList l')
    (motive_3 := fun l l' _ => depthItems l = depthItems l')
    ⟨rfl, rfl, rfl⟩ (fun _ => ⟨rfl, rfl, rfl⟩) (fun _ => ⟨rfl, rfl, rfl⟩)  -- none bool int
    (fun _ => ⟨rfl, rfl, rfl⟩) (fun _ => ⟨rfl, rfl, rfl⟩) (fun _ => ⟨rfl, rfl, rfl⟩)  -- float str bytes
    (fun _ h => ⟨rfl, rfl, congrArg (· + 1) h.2.2⟩)  -- list
    (fun _ h => ⟨congrArg SortKey.tuple h.1, h.2.1, congrArg (· + 1) h.2.2⟩)  -- tuple
    (fun _ p h => ⟨rfl, rfl, congrArg (· + 1) (h.2.2.trans (depthList_perm p))⟩)  -- set
    (fun _ p h => ⟨rfl, rfl, congrArg (· + 1) (h.2.2.trans (depthList_perm p))⟩)  -- frozenset
    (fun _ p h => ⟨rfl, rfl, congrArg (· + 1) (h.trans (depthItems_perm p))⟩)  -- dict
    ⟨rfl, rfl, rfl⟩  -- ReorderL.nil
    (fun _ _ h1 h2 => ⟨by rw [toKList, toKList, h1.1, h2.1],  -- ReorderL.cons
      by rw [holdsFrozensetList, holdsFrozensetList, h1.2.1, h2.2.1], by rw [depthList, depthList, h1.2.2, h2.2.2]⟩)
    rfl fun _ _ _ h1 h2 h3 => by rw [depthItems, depthItems, h1.2.2, h2.2.2, h3]  -- ReorderD.nil, ReorderD.cons

theorem Reorder.toK_eq (a b : PyVal) (h : Reorder a b) : toK a = toK b := h.invariants.1

theorem ReorderL.toKList_eq : ∀ (l l' : List PyVal), ReorderL l l' → toKList l = toKList l' :=
  fun _ _ h => SortKey.tuple.inj (Reorder.toK_eq _ _ (.tuple h))

theorem Reorder.holdsFrozenset_eq (a b : PyVal) (h : Reorder a b) : holdsFrozenset a = holdsFrozenset b :=
  h.invariants.2.1

theorem ReorderL.holdsFrozensetList_eq : ∀ (l l' : List PyVal), ReorderL l l' →
    holdsFrozensetList l = holdsFrozensetList l' :=
  fun _ _ h => Reorder.holdsFrozenset_eq _ _ (.tuple h)

theorem Reorder.depth_eq (a b : PyVal) (h : Reorder a b) : depth a = depth b := h.invariants.2.2

theorem ReorderL.depthList_eq : ∀ (l l' : List PyVal), ReorderL l l' → depthList l = depthList l' :=
  fun _ _ h => Nat.succ.inj (Reorder.depth_eq _ _ (.tuple h))

theorem ReorderD.depthItems_eq : ∀ (l l' : List (PyVal × PyVal)), ReorderD l l' → depthItems l = depthItems l' :=
  fun _ _ h => Nat.succ.inj (Reorder.depth_eq _ _ (.dict h (.refl _)))

theorem Reorder.pyCmp_eq {a a' b b' : PyVal} (ha : Reorder a a') (hb : Reorder b b') :
    pyCmp a b = pyCmp a' b' := by
  unfold pyCmp; rw [ha.toK_eq, hb.toK_eq]

theorem allPairs_iff {α : Type} (p : α → α → Bool) : ∀ l : List α,
    allPairs p l = true ↔ l.Pairwise (fun a b => p a b = true)
  | [] => by simp [allPairs]
  | x :: xs => by simp [allPairs, allPairs_iff p xs, List.pairwise_cons]

theorem orderable_perm (ver : Version) {l l' : List PyVal} (p : l.Perm l') :
    orderable ver l = orderable ver l' := by
  have h1 : l.any holdsFrozenset = l'.any holdsFrozenset := by
    rw [Bool.eq_iff_iff]; simp only [List.any_eq_true]
    exact ⟨fun ⟨x, hx, h⟩ => ⟨x, p.subset hx, h⟩, fun ⟨x, hx, h⟩ => ⟨x, p.symm.subset hx, h⟩⟩
  have h2 : allPairs (fun a b => (pyCmp a b).isSome) l = allPairs (fun a b => (pyCmp a b).isSome) l' := by
    rw [Bool.eq_iff_iff, allPairs_iff, allPairs_iff]
    refine p.pairwise_iff fun {a b} h => ?_
    rw [pyCmp_swap a b, Option.isSome_map]; exact h
  rw [orderable, orderable, h1, h2]

theorem ReorderL.map_eq {α : Type} (f : PyVal → α) {l l' : List PyVal} (h : ReorderL l l')
    (hf : ∀ a ∈ l, ∀ b, Reorder a b → f a = f b) : l.map f = l'.map f := by
  induction l generalizing l' with
  | nil => cases h; rfl
  | cons a as ih =>
    cases h with
    | cons h1 h2 =>
      rw [List.map_cons, List.map_cons, hf _ List.mem_cons_self _ h1, ih h2 fun x hx => hf x (List.mem_cons_of_mem _ hx)]

theorem allPairs_map {α β : Type} (p : β → β → Bool) (f : α → β) : ∀ l : List α,
    allPairs p (l.map f) = allPairs (fun a b => p (f a) (f b)) l
  | [] => rfl
  | x :: xs => by rw [List.map_cons, allPairs, allPairs, List.all_map, allPairs_map p f xs]; rfl

/-- `orderable` and `StrictOn` look at the keys only through `toK` and `holdsFrozenset`. -/
theorem ReorderL.orderable_eq (ver : Version) {l l' : List PyVal} (h : ReorderL l l') :
    orderable ver l = orderable ver l' := by
  have e : ∀ l, orderable ver l = ((ver = .old || !((l.map holdsFrozenset).any id)) &&
      allPairs (fun a b => (cmpK a b).isSome) (l.map toK)) := fun l => by
    rw [List.any_map, allPairs_map]; rfl
  rw [e, e, h.map_eq toK fun a _ => Reorder.toK_eq a, h.map_eq holdsFrozenset fun a _ => Reorder.holdsFrozenset_eq a]

theorem ReorderL.strictOn {l l' : List PyVal} (h : ReorderL l l') (hs : StrictOn id l) : StrictOn id l' := by
  have e (l : List PyVal) := List.pairwise_map (l := l) (f := toK)
    (R := fun x y => cmpK x y = some .lt ∨ cmpK x y = some .gt)
  exact (e l').mp (h.map_eq toK (fun a _ => Reorder.toK_eq a) ▸ (e l).mpr hs)

theorem ReorderL.insertOn {x y : PyVal} (hx : Reorder x y) {l l' : List PyVal} (h : ReorderL l l') :
    ReorderL (insertOn id x l) (insertOn id y l') := by
  induction l generalizing l' with
  | nil => cases h; exact .cons hx .nil
  | cons a as ih =>
    cases h with
    | cons h1 h2 =>
      simp only [JoblibModel.HashStream.insertOn, id, hx.pyCmp_eq h1]
      split
      · exact .cons hx (.cons h1 h2)
      · exact .cons h1 (ih h2)

theorem ReorderL.sortOn {l l' : List PyVal} (h : ReorderL l l') : ReorderL (sortOn id l) (sortOn id l') := by
  induction l generalizing l' with
  | nil => cases h; exact .nil
  | cons a as ih => cases h with | cons h1 h2 => exact ReorderL.insertOn h1 (ih h2)

theorem ReorderD.insertOn {k k' v v' : PyVal} (hk : Reorder k k') (hv : Reorder v v')
    {l l' : List (PyVal × PyVal)} (h : ReorderD l l') :
    ReorderD (insertOn Prod.fst (k, v) l) (insertOn Prod.fst (k', v') l') := by
  induction l generalizing l' with
  | nil => cases h; exact .cons hk hv .nil
  | cons a as ih =>
    cases h with
    | cons h1 h2 h3 =>
      simp only [JoblibModel.HashStream.insertOn, hk.pyCmp_eq h1]
      split
      · exact .cons hk hv (.cons h1 h2 h3)
      · exact .cons h1 h2 (ih h3)

theorem ReorderD.sortOn {l l' : List (PyVal × PyVal)} (h : ReorderD l l') :
    ReorderD (sortOn Prod.fst l) (sortOn Prod.fst l') := by
  induction l generalizing l' with
  | nil => cases h; exact .nil
  | cons a as ih => cases h with | cons h1 h2 h3 => exact ReorderD.insertOn h1 h2 (ih h3)

theorem ReorderD.map_fst {l l' : List (PyVal × PyVal)} (h : ReorderD l l') :
    ReorderL (l.map Prod.fst) (l'.map Prod.fst) := by
  induction l generalizing l' with
  | nil => cases h; exact .nil
  | cons a as ih => cases h with | cons h1 _ h3 => exact .cons h1 (ih h3)
theorem ReorderD.strictOn {l l' : List (PyVal × PyVal)} (h : ReorderD l l') (hs : StrictOn Prod.fst l) :
    StrictOn Prod.fst l' :=
  List.pairwise_map.mp (h.map_fst.strictOn (List.pairwise_map.mpr hs))

section congr
variable (e : PyVal → Memo → Bs × Memo)

theorem seqM_congr {l l' : List PyVal} (h : ReorderL l l')
    (he : ∀ a ∈ l, ∀ b m, Reorder a b → e a m = e b m) (m : Memo) : seqM e l m = seqM e l' m := by
  induction l generalizing l' m with
  | nil => cases h; rfl
  | cons a as ih =>
    cases h with
    | cons h1 h2 =>
      simp only [seqM]
      rw [he a List.mem_cons_self _ m h1, ih h2 fun x hx => he x (List.mem_cons_of_mem _ hx)]

theorem seqKV_congr {l l' : List (PyVal × PyVal)} (h : ReorderD l l')
    (he : ∀ kv ∈ l, ∀ b m, (Reorder kv.1 b → e kv.1 m = e b m) ∧ (Reorder kv.2 b → e kv.2 m = e b m))
    (m : Memo) : seqKV e l m = seqKV e l' m := by
  induction l generalizing l' m with
  | nil => cases h; rfl
  | cons kv xs ih =>
    cases h with
    | cons h1 h2 h3 =>
      simp only [seqKV]
      rw [(he _ List.mem_cons_self _ m).1 h1, (he _ List.mem_cons_self _ _).2 h2,
        ih h3 fun x hx => he x (List.mem_cons_of_mem _ hx)]

theorem saveList_congr {l l' : List PyVal} (h : ReorderL l l')
    (he : ∀ a ∈ l, ∀ b m, Reorder a b → e a m = e b m) (m : Memo) :
    saveList e l m = saveList e l' m := by
  simp only [saveList]; rw [seqM_congr e h he]

theorem saveTuple_congr {l l' : List PyVal} (h : ReorderL l l')
    (he : ∀ a ∈ l, ∀ b m, Reorder a b → e a m = e b m) (m : Memo) :
    saveTuple e l m = saveTuple e l' m := by
  have hlen := h.length_eq
  have hemp : l.isEmpty = l'.isEmpty := by
    cases h <;> rfl
  simp only [saveTuple]; rw [seqM_congr e h he, hlen, hemp]

theorem wrapper_congr (c : Cls) {l l' : List PyVal} (h : ReorderL l l')
    (he : ∀ a ∈ l, ∀ b m, Reorder a b → e a m = e b m) (m : Memo) :
    wrapper e c l m = wrapper e c l' m := by
  simp only [wrapper]; rw [saveList_congr e h he]

variable (H : Bs → Bs) (ver : Version)

theorem keysOf_of_orderable {l : List PyVal} (h : orderable ver l = true) : keysOf H ver e l = l := if_pos h

theorem itemsOf_of_orderable {l : List (PyVal × PyVal)} (h : orderable ver (l.map Prod.fst) = true) :
    itemsOf H ver e l = l := if_pos h

theorem keysOf_rel {l l' : List PyVal} (h : ReorderL l l')
    (he : ∀ a ∈ l, ∀ b m, Reorder a b → e a m = e b m) :
    ReorderL (keysOf H ver e l) (keysOf H ver e l') := by
  simp only [keysOf]
  rw [← h.orderable_eq ver]
  split
  · exact h
  · rw [h.map_eq (topOf H e) fun a ha b hab => by simp only [topOf, he a ha b _ hab]]; exact ReorderL.refl _

theorem keysOf_perm {l l' : List PyVal} (p : l.Perm l') :
    (keysOf H ver e l).Perm (keysOf H ver e l') := by
  simp only [keysOf]
  rw [← orderable_perm ver p]
  split
  · exact p
  · exact p.map _

theorem keysOf_mem {l : List PyVal} {a : PyVal} (h : a ∈ keysOf H ver e l) :
    a ∈ l ∨ ∃ s, a = .str s := by
  simp only [keysOf] at h
  split at h
  · exact Or.inl h
  · obtain ⟨x, _, rfl⟩ := List.mem_map.mp h
    exact Or.inr ⟨_, rfl⟩

theorem map_item_congr {l l' : List (PyVal × PyVal)} (h : ReorderD l l')
    (he : ∀ kv ∈ l, ∀ b m, Reorder kv.1 b → e kv.1 m = e b m) :
    ReorderD (l.map fun kv => (topOf H e kv.1, kv.2)) (l'.map fun kv => (topOf H e kv.1, kv.2)) := by
  induction l generalizing l' with
  | nil => cases h; exact .nil
  | cons kv xs ih =>
    cases h with
    | cons h1 h2 h3 =>
      refine .cons ?_ h2 (ih h3 fun x hx => he x (List.mem_cons_of_mem _ hx))
      simp only [topOf]
      rw [he _ List.mem_cons_self _ _ h1]
      exact Reorder.refl _

theorem itemsOf_rel {l l' : List (PyVal × PyVal)} (h : ReorderD l l')
    (he : ∀ kv ∈ l, ∀ b m, Reorder kv.1 b → e kv.1 m = e b m) :
    ReorderD (itemsOf H ver e l) (itemsOf H ver e l') := by
  simp only [itemsOf]
  rw [← h.map_fst.orderable_eq ver]
  split
  · exact h
  · exact map_item_congr e H h he

theorem itemsOf_perm {l l' : List (PyVal × PyVal)} (p : l.Perm l') :
    (itemsOf H ver e l).Perm (itemsOf H ver e l') := by
  simp only [itemsOf]
  rw [← orderable_perm ver (p.map Prod.fst)]
  split
  · exact p
  · exact p.map _

theorem itemsOf_mem {l : List (PyVal × PyVal)} {a : PyVal × PyVal} (h : a ∈ itemsOf H ver e l) :
    a ∈ l ∨ ∃ s, a.1 = .str s ∧ ∃ kv ∈ l, a.2 = kv.2 := by
  simp only [itemsOf] at h
  split at h
  · exact Or.inl h
  · obtain ⟨x, hx, rfl⟩ := List.mem_map.mp h
    exact Or.inr ⟨_, rfl, x, hx, rfl⟩

end congr

/-- `sorted` is well defined at every dict / set / frozenset node of the value (looked at `f` levels
deep): the things it sorts — the keys themselves, or their digests on the fallback path — are
pairwise comparable and pairwise different.  For a real Python value this says: on the fallback
path no two keys of one container have the same digest (no md5 collision among them); on the
direct path it always holds (keys of a dict / elements of a set are pairwise `!=`).  At fuel 0 `encF` sorts
nothing and there is nothing to ask: `True`.  The sort keys of a node are computed by `encF` at that node's fuel, so no
lemma moves `KeysStrict` between fuel levels: it is taken at `depth v`, and for a concrete value and digest established by
evaluation (`decKeysStrict`). -/
def KeysStrict (H : Bs → Bs) : Nat → PyVal → Prop
  | 0, _ => True
  | f + 1, v =>
    match v with
    | .list l => ∀ x ∈ l, KeysStrict H f x
    | .tuple l => ∀ x ∈ l, KeysStrict H f x
    | .set l => StrictOn id (keysOf H .fixed (encF H .fixed f) l) ∧ ∀ x ∈ l, KeysStrict H f x
    | .frozenset l => StrictOn id (keysOf H .fixed (encF H .fixed f) l) ∧ ∀ x ∈ l, KeysStrict H f x
    | .dict items => StrictOn Prod.fst (itemsOf H .fixed (encF H .fixed f) items) ∧
        ∀ kv ∈ items, KeysStrict H f kv.1 ∧ KeysStrict H f kv.2
    | _ => True

instance {α : Type} (key : α → PyVal) (l : List α) : Decidable (StrictOn key l) :=
  have (a b : PyVal) : Decidable (StrictPair a b) := inferInstanceAs (Decidable (_ ∨ _))
  inferInstanceAs (Decidable (l.Pairwise _))

instance decKeysStrict (H : Bs → Bs) : ∀ f v, Decidable (KeysStrict H f v)
  | 0, _ => .isTrue trivial
  | f + 1, .list l | f + 1, .tuple l =>
    have := decKeysStrict H f; inferInstanceAs (Decidable (∀ x ∈ l, KeysStrict H f x))
  | f + 1, .set l | f + 1, .frozenset l =>
    have := decKeysStrict H f
    inferInstanceAs (Decidable (StrictOn id (keysOf H .fixed (encF H .fixed f) l) ∧ ∀ x ∈ l, KeysStrict H f x))
  | f + 1, .dict items =>
    have := decKeysStrict H f
    inferInstanceAs (Decidable (StrictOn Prod.fst (itemsOf H .fixed (encF H .fixed f) items) ∧
      ∀ kv ∈ items, KeysStrict H f kv.1 ∧ KeysStrict H f kv.2))
  | _ + 1, .none | _ + 1, .bool _ | _ + 1, .int _ | _ + 1, .float _ | _ + 1, .str _ | _ + 1, .bytes _ =>
    .isTrue trivial

theorem str_reorder {s : Bs} {b : PyVal} (h : Reorder (.str s) b) : b = .str s := by cases h; rfl

theorem wrapper_reorder (H : Bs → Bs) (e : PyVal → Memo → Bs × Memo) (c : Cls) {l l' l'' : List PyVal}
    (hl : ReorderL l l') (hp : l'.Perm l'') (hs : StrictOn id (keysOf H .fixed e l))
    (he : ∀ a ∈ l, ∀ b m, Reorder a b → e a m = e b m) (m : Memo) :
    wrapper e c (sortOn id (keysOf H .fixed e l)) m = wrapper e c (sortOn id (keysOf H .fixed e l'')) m := by
  have r1 := keysOf_rel e H .fixed hl he
  rw [← sortOn_perm_eq id (keysOf_perm e H .fixed hp) (r1.strictOn hs)]
  refine wrapper_congr _ _ r1.sortOn (fun a ha b m' hab => ?_) m
  rcases keysOf_mem _ H .fixed ((sortOn_perm id _).subset ha) with h1 | ⟨s, rfl⟩
  · exact he a h1 b m' hab
  · rw [str_reorder hab]

theorem seqKV_reorder (H : Bs → Bs) (e : PyVal → Memo → Bs × Memo) {l l' l'' : List (PyVal × PyVal)}
    (hl : ReorderD l l') (hp : l'.Perm l'') (hs : StrictOn Prod.fst (itemsOf H .fixed e l))
    (he : ∀ kv ∈ l, ∀ b m, (Reorder kv.1 b → e kv.1 m = e b m) ∧ (Reorder kv.2 b → e kv.2 m = e b m)) (m : Memo) :
    seqKV e (sortOn Prod.fst (itemsOf H .fixed e l)) m = seqKV e (sortOn Prod.fst (itemsOf H .fixed e l'')) m := by
  have r1 := itemsOf_rel e H .fixed hl fun kv hkv b m hab => (he kv hkv b m).1 hab
  rw [← sortOn_perm_eq Prod.fst (itemsOf_perm e H .fixed hp) (r1.strictOn hs)]
  refine seqKV_congr _ r1.sortOn (fun kv hkv b m' => ?_) m
  rcases itemsOf_mem _ H .fixed ((sortOn_perm Prod.fst _).subset hkv) with h1 | ⟨s, hs1, kv', hkv', hs2⟩
  · exact he kv h1 b m'
  · refine ⟨fun hab => ?_, fun hab => ?_⟩
    · rw [hs1] at hab ⊢; rw [str_reorder hab]
    · rw [hs2] at hab ⊢; exact (he kv' hkv' b m').2 hab

theorem encF_reorder (H : Bs → Bs) : ∀ (f : Nat) (v w : PyVal) (m : Memo), Reorder v w →
    KeysStrict H f v → encF H .fixed f v m = encF H .fixed f w m := by
  intro f
  induction f with
  | zero => intro v w m _ _; simp [encF]
  | succ f ih =>
    intro v w m h hk
    have key : ∀ (l : List PyVal), (∀ x ∈ l, KeysStrict H f x) →
        ∀ a ∈ l, ∀ b m, Reorder a b → encF H .fixed f a m = encF H .fixed f b m :=
      fun l hl a ha b m hab => ih a b m hab (hl a ha)
    cases h with
    | none | bool _ | int _ | float _ | str _ | bytes _ => rfl
    | list hl =>
      simp only [encF]
      exact saveList_congr _ hl (key _ hk) m
    | tuple hl =>
      simp only [encF]
      exact saveTuple_congr _ hl (key _ hk) m
    | set hl hp | frozenset hl hp => exact wrapper_reorder H _ _ hl hp hk.1 (key _ hk.2) m
    | dict hl hp =>
      simp only [encF]
      rw [seqKV_reorder H _ hl hp hk.1 fun kv hkv b m =>
        ⟨fun hab => ih _ b m hab (hk.2 kv hkv).1, fun hab => ih _ b m hab (hk.2 kv hkv).2⟩]

theorem encode_reorder (H : Bs → Bs) (v w : PyVal) (h : Reorder v w) (hk : KeysStrict H (depth v) v) :
    encode H v = encode H w := by
  unfold encode encodeV
  rw [← h.depth_eq, encF_reorder H _ v w _ h hk]

mutual
def noFrozenset : PyVal → Bool
  | .frozenset _ => false
  | .list l => noFrozensetL l
  | .tuple l => noFrozensetL l
  | .set l => noFrozensetL l
  | .dict l => noFrozensetD l
  | _ => true
def noFrozensetL : List PyVal → Bool
  | [] => true
  | x :: xs => noFrozenset x && noFrozensetL xs
def noFrozensetD : List (PyVal × PyVal) → Bool
  | [] => true
  | (k, v) :: xs => noFrozenset k && noFrozenset v && noFrozensetD xs
end

theorem noFrozensetL_iff (l : List PyVal) : noFrozensetL l = true ↔ ∀ x ∈ l, noFrozenset x = true := by
  induction l with
  | nil => exact ⟨fun _ _ h => (nomatch h), fun _ => rfl⟩
  | cons x xs ih => rw [noFrozensetL, Bool.and_eq_true, ih, List.forall_mem_cons]

theorem noFrozensetD_iff (l : List (PyVal × PyVal)) :
    noFrozensetD l = true ↔ ∀ kv ∈ l, noFrozenset kv.1 = true ∧ noFrozenset kv.2 = true := by
  induction l with
  | nil => exact ⟨fun _ _ h => (nomatch h), fun _ => rfl⟩
  | cons kv xs ih => rw [noFrozensetD, Bool.and_eq_true, Bool.and_eq_true, ih, List.forall_mem_cons]
mutual
theorem holdsFrozenset_of_no : ∀ v : PyVal, noFrozenset v = true → holdsFrozenset v = false
  | .tuple l, h => holdsFrozensetList_of_no l h
  | .frozenset _, h => nomatch h
  | .none, _ | .bool _, _ | .int _, _ | .float _, _ | .str _, _ | .bytes _, _ | .list _, _ | .set _, _
  | .dict _, _ => rfl
theorem holdsFrozensetList_of_no : ∀ l : List PyVal, noFrozensetL l = true → holdsFrozensetList l = false
  | [], _ => rfl
  | x :: xs, h => by
    simp only [noFrozensetL, Bool.and_eq_true] at h
    simp only [holdsFrozensetList, holdsFrozenset_of_no x h.1, holdsFrozensetList_of_no xs h.2, Bool.or_self]
end

theorem orderable_old_eq_fixed {l : List PyVal} (h : ∀ x ∈ l, noFrozenset x = true) :
    orderable .old l = orderable .fixed l := by
  have : l.any holdsFrozenset = false :=
    List.any_eq_false.mpr fun x hx => by rw [holdsFrozenset_of_no x (h x hx)]; exact Bool.false_ne_true
  simp [orderable, this]

section ext
variable {e e' : PyVal → Memo → Bs × Memo}

theorem seqM_ext (l : List PyVal) (h : ∀ x ∈ l, ∀ m, e x m = e' x m) (m : Memo) : seqM e l m = seqM e' l m := by
  induction l generalizing m with
  | nil => rfl
  | cons x xs ih =>
    simp only [seqM]
    rw [h x List.mem_cons_self, ih fun y hy => h y (List.mem_cons_of_mem _ hy)]

theorem seqKV_ext (l : List (PyVal × PyVal)) (h : ∀ kv ∈ l, ∀ m, e kv.1 m = e' kv.1 m ∧ e kv.2 m = e' kv.2 m)
    (m : Memo) : seqKV e l m = seqKV e' l m := by
  induction l generalizing m with
  | nil => rfl
  | cons kv xs ih =>
    simp only [seqKV]
    rw [(h kv List.mem_cons_self _).1, (h kv List.mem_cons_self _).2,
      ih fun y hy => h y (List.mem_cons_of_mem _ hy)]

theorem saveList_ext {l : List PyVal} (h : ∀ x ∈ l, ∀ m, e x m = e' x m) (m : Memo) :
    saveList e l m = saveList e' l m := by
  simp only [saveList, seqM_ext l h]

theorem saveTuple_ext {l : List PyVal} (h : ∀ x ∈ l, ∀ m, e x m = e' x m) (m : Memo) :
    saveTuple e l m = saveTuple e' l m := by
  simp only [saveTuple, seqM_ext l h]

theorem wrapper_ext (c : Cls) {l : List PyVal} (h : ∀ x ∈ l, ∀ m, e x m = e' x m) (m : Memo) :
    wrapper e c l m = wrapper e' c l m := by
  simp only [wrapper, saveList_ext h]

variable (H : Bs → Bs)

theorem keysOf_old_eq_fixed {l : List PyVal} (hl : ∀ x ∈ l, noFrozenset x = true)
    (he : ∀ x ∈ l, ∀ m, e x m = e' x m) : keysOf H .old e l = keysOf H .fixed e' l := by
  simp only [keysOf, orderable_old_eq_fixed hl]
  split
  · rfl
  · exact List.map_congr_left fun x hx => by simp only [topOf, he x hx]

theorem itemsOf_old_eq_fixed {l : List (PyVal × PyVal)} (hl : ∀ kv ∈ l, noFrozenset kv.1 = true)
    (he : ∀ kv ∈ l, ∀ m, e kv.1 m = e' kv.1 m) : itemsOf H .old e l = itemsOf H .fixed e' l := by
  have ho : orderable .old (l.map Prod.fst) = orderable .fixed (l.map Prod.fst) :=
    orderable_old_eq_fixed fun x hx => by
      obtain ⟨kv, hkv, rfl⟩ := List.mem_map.mp hx
      exact hl kv hkv
  simp only [itemsOf, ho]
  split
  · rfl
  · exact List.map_congr_left fun kv hkv => by simp only [topOf, he kv hkv]

end ext

theorem encF_old_eq_fixed (H : Bs → Bs) : ∀ (f : Nat) (v : PyVal) (m : Memo), noFrozenset v = true →
    encF H .old f v m = encF H .fixed f v m := by
  intro f
  induction f with
  | zero => intro v m _; rfl
  | succ f ih =>
    intro v m h
    cases v with
    | none | bool | int | float | str | bytes => rfl
    | frozenset l => exact nomatch h
    | list l => exact saveList_ext (fun x hx m => ih x m ((noFrozensetL_iff l).mp h x hx)) m
    | tuple l => exact saveTuple_ext (fun x hx m => ih x m ((noFrozensetL_iff l).mp h x hx)) m
    | set l =>
      have hl := (noFrozensetL_iff l).mp h
      simp only [encF]
      rw [keysOf_old_eq_fixed H hl (fun x hx m => ih x m (hl x hx))]
      refine wrapper_ext _ (fun x hx m' => ?_) m
      rcases keysOf_mem _ H .fixed ((sortOn_perm id _).subset hx) with h1 | ⟨s, rfl⟩
      · exact ih x m' (hl x h1)
      · exact ih _ m' rfl
    | dict l =>
      have hl := (noFrozensetD_iff l).mp h
      simp only [encF]
      rw [itemsOf_old_eq_fixed H (fun kv hkv => (hl kv hkv).1) (fun kv hkv m => ih _ m (hl kv hkv).1)]
      rw [seqKV_ext _ (fun kv hkv m' => ?_)]
      rcases itemsOf_mem _ H .fixed ((sortOn_perm Prod.fst _).subset hkv) with h1 | ⟨s, hs1, kv', hkv', hs2⟩
      · exact ⟨ih _ m' (hl kv h1).1, ih _ m' (hl kv h1).2⟩
      · rw [hs1, hs2]; exact ⟨ih _ m' rfl, ih _ m' (hl kv' hkv').2⟩

theorem encodeOld_eq_encode (H : Bs → Bs) (v : PyVal) (h : noFrozenset v = true) : encodeOld H v = encode H v := by
  unfold encodeOld encode encodeV
  rw [encF_old_eq_fixed H _ v _ h]

theorem iterItems_nil (H : Bs → Bs) (e : PyVal → Memo → Bs × Memo) (iv : ItemsVer) : iterItems H e iv [] = [] := by
  cases iv <;> rfl

theorem encodeOD_eq_of_iterItems_nil (H : Bs → Bs) (iv : ItemsVer) (items : List (PyVal × PyVal))
    (h : ∀ e, iterItems H e iv items = []) : encodeOD H iv items = encodeOD H iv [] := by
  simp only [encodeOD, h, iterItems_nil, seqKV]

theorem dropWhile_eq_nil {α : Type} {p : α → Bool} : ∀ {l : List α}, (∀ x ∈ l, p x = true) → l.dropWhile p = []
  | [], _ => rfl
  | x :: xs, h => by
    rw [List.dropWhile_cons, if_pos (h x List.mem_cons_self)]
    exact dropWhile_eq_nil fun y hy => h y (List.mem_cons_of_mem _ hy)

theorem iterItems_regressed_eq_nil (H : Bs → Bs) (e : PyVal → Memo → Bs × Memo) (items : List (PyVal × PyVal))
    (h : (items.any fun kv => holdsFrozenset kv.1) = false) : iterItems H e .regressed items = [] := by
  have : items.dropWhile (fun kv => !holdsFrozenset kv.1) = [] :=
    dropWhile_eq_nil fun kv hkv => by simp [List.any_eq_false.mp h kv hkv]
  simp only [iterItems, this]

theorem iterItems_pinned_eq_nil (H : Bs → Bs) (e : PyVal → Memo → Bs × Memo) (items : List (PyVal × PyVal))
    (h : orderable .old (items.map Prod.fst) = false) : iterItems H e .pinned items = [] := by
  simp [iterItems, h]

/-! `encodeOD` and the pinned code's frozenset stream both begin with a constant (PROTO, a class name,
its memo entry); what follows it is named here, so that two such streams can be told apart without
evaluating the class name. -/

theorem frame_inj {a b : Bs} (h : frame a = frame b) : a = b :=
  List.append_cancel_right (List.cons.inj (List.cons.inj h).2).2

def odItems (H : Bs → Bs) (iv : ItemsVer) (items : List (PyVal × PyVal)) : Bs :=
  let ver : Version := match iv with | .pinned => .old | _ => .fixed
  let e := encF H ver (depthItems items)
  batch SETITEM SETITEMS (seqKV e (iterItems H e iv items) (memoize (memoize Memo.init).2).2).1

theorem odItems_eq_of_encodeOD_eq {H : Bs → Bs} {iv : ItemsVer} {a b : List (PyVal × PyVal)}
    (h : encodeOD H iv a = encodeOD H iv b) : odItems H iv a = odItems H iv b :=
  List.append_cancel_left (List.cons.inj (List.cons.inj (List.append_cancel_left (frame_inj h))).2).2

def oldFrozensetBody (H : Bs → Bs) (l : List PyVal) : Bs :=
  let rl := saveList (encF H .old (depthList l)) l (saveClass .fz Memo.init).2
  let pt := memoize rl.2
  rl.1 ++ TUPLE1 :: (pt.1 ++ REDUCE :: (memoize pt.2).1)

theorem oldFrozensetBody_eq_of_encodeOld_eq {H : Bs → Bs} {l l' : List PyVal}
    (h : encodeOld H (.frozenset l) = encodeOld H (.frozenset l')) : oldFrozensetBody H l = oldFrozensetBody H l' :=
  List.append_cancel_left (((List.append_assoc ..).symm.trans (frame_inj h)).trans (List.append_assoc ..))

mutual
/-- The value as another interpreter sees it: every set and frozenset iterates in the order
`iter` (a function of the string-hash seed and of the hash table's history) puts its elements. -/
def reiter (iter : List PyVal → List PyVal) : PyVal → PyVal
  | .list l => .list (reiterL iter l)
  | .tuple l => .tuple (reiterL iter l)
  | .set l => .set (iter (reiterL iter l))
  | .frozenset l => .frozenset (iter (reiterL iter l))
  | .dict l => .dict (reiterD iter l)
  | .none => .none
  | .bool b => .bool b
  | .int i => .int i
  | .float x => .float x
  | .str s => .str s
  | .bytes s => .bytes s
def reiterL (iter : List PyVal → List PyVal) : List PyVal → List PyVal
  | [] => []
  | x :: xs => reiter iter x :: reiterL iter xs
def reiterD (iter : List PyVal → List PyVal) : List (PyVal × PyVal) → List (PyVal × PyVal)
  | [] => []
  | (k, v) :: xs => (reiter iter k, reiter iter v) :: reiterD iter xs
end

mutual
theorem reorder_reiter (iter : List PyVal → List PyVal) (hit : ∀ l, (iter l).Perm l) :
    ∀ v : PyVal, Reorder v (reiter iter v)
  | .list l => by simp only [reiter]; exact .list (reorderL_reiter iter hit l)
  | .tuple l => by simp only [reiter]; exact .tuple (reorderL_reiter iter hit l)
  | .set l => by simp only [reiter]; exact .set (reorderL_reiter iter hit l) (hit _).symm
  | .frozenset l => by simp only [reiter]; exact .frozenset (reorderL_reiter iter hit l) (hit _).symm
  | .dict l => by simp only [reiter]; exact .dict (reorderD_reiter iter hit l) (List.Perm.refl _)
  | .none => .none
  | .bool b => .bool b
  | .int i => .int i
  | .float x => .float x
  | .str s => .str s
  | .bytes s => .bytes s
theorem reorderL_reiter (iter : List PyVal → List PyVal) (hit : ∀ l, (iter l).Perm l) :
    ∀ l : List PyVal, ReorderL l (reiterL iter l)
  | [] => .nil
  | x :: xs => by simp only [reiterL]; exact .cons (reorder_reiter iter hit x) (reorderL_reiter iter hit xs)
theorem reorderD_reiter (iter : List PyVal → List PyVal) (hit : ∀ l, (iter l).Perm l) :
    ∀ l : List (PyVal × PyVal), ReorderD l (reiterD iter l)
  | [] => .nil
  | (k, v) :: xs => by
    simp only [reiterD]
    exact .cons (reorder_reiter iter hit k) (reorder_reiter iter hit v) (reorderD_reiter iter hit xs)
end

/-- Number of objects the pickler memoises while hashing `v`. -/
def memoCount (H : Bs → Bs) (v : PyVal) : Nat := (encF H .fixed (depth v) v Memo.init).2.next

end JoblibModel.HashStream
