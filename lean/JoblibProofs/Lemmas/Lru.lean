import JoblibModel.Lru
import JoblibProofs.Lemmas.Common
/-! Lemmas for C18 about the selection `_get_items_to_delete`. `total` and `minAccess` are core's `sum` and `min?` (`total_eq`,
`minAccess_eq`; only `total_sublist` is an induction: core has no sublist-sum lemma). Then the LRU order, the loop, and the one
characterisation of the selection (`itemsToDelete_spec`) from which the property theorems follow. -/
namespace JoblibModel.Lru

variable {α : Type}

/-- `size = sum(item.size for item in items)`. -/
theorem total_eq (a : List (Item α)) : total a = ((a.map (·.size)).sum : Nat) := by
  induction a with
  | nil => rfl
  | cons x xs ih => rw [total, ih, List.map_cons, List.sum_cons, Int.natCast_add]

theorem total_append (a b : List (Item α)) : total (a ++ b) = total a + total b := by
  simp only [total_eq, List.map_append, List.sum_append, Int.natCast_add]

theorem total_nonneg (a : List (Item α)) : 0 ≤ total a := total_eq a ▸ Int.natCast_nonneg _

theorem total_perm {a b : List (Item α)} (h : a.Perm b) : total a = total b := by
  rw [total_eq, total_eq, (h.map _).sum_nat]

theorem total_sublist {a b : List (Item α)} (h : a.Sublist b) : total a ≤ total b := by
  induction h with
  | slnil => simp [total]
  | cons x _ ih => simp only [total]; omega
  | cons_cons x _ ih => simp only [total]; omega

theorem sat_nil (l : Limits) (hb : ∀ b, l.bytes = some b → 0 ≤ b) (hn : ∀ n, l.items = some n → 0 ≤ n) :
    Sat ([] : List (Item α)) l :=
  ⟨fun b h => hb b h, fun n h => by simpa using hn n h, fun _ _ _ hit => by simp at hit⟩

theorem sat_mono {a b : List (Item α)} (l : Limits) (htot : total a ≤ total b) (hlen : a.length ≤ b.length)
    (hsub : ∀ it ∈ a, it ∈ b) (hs : Sat b l) : Sat a l :=
  ⟨fun x hx => Int.le_trans htot (hs.1 x hx), fun n hn => Int.le_trans (Int.ofNat_le.mpr hlen) (hs.2.1 n hn),
    fun d hd it hit => hs.2.2 d hd it (hsub it hit)⟩

theorem sat_perm {a b : List (Item α)} (h : a.Perm b) (l : Limits) (hs : Sat b l) : Sat a l :=
  sat_mono l (Int.le_of_eq (total_perm h)) (Nat.le_of_eq h.length_eq) (fun _ => h.mem_iff.mp) hs

theorem sat_sublist {a b : List (Item α)} (h : a.Sublist b) (l : Limits) (hs : Sat b l) : Sat a l :=
  sat_mono l (total_sublist h) h.length_le (fun _ hit => h.subset hit) hs

theorem insertByAccess_perm (x : Item α) (l : List (Item α)) : (insertByAccess x l).Perm (x :: l) :=
  List.perm_of_insert insertByAccess (fun _ => rfl) (fun _ _ _ => rfl) x l

theorem sortByAccess_perm (items : List (Item α)) : (sortByAccess items).Perm items :=
  List.perm_of_sort sortByAccess rfl (fun _ _ => rfl) insertByAccess_perm items

theorem insertByAccess_sorted (x : Item α) (l : List (Item α))
    (h : l.Pairwise (fun a b => a.access ≤ b.access)) :
    (insertByAccess x l).Pairwise (fun a b => a.access ≤ b.access) := by
  induction l with
  | nil => simp [insertByAccess]
  | cons y ys ih =>
    obtain ⟨hy, hys⟩ := List.pairwise_cons.mp h
    simp only [insertByAccess]
    split
    · rename_i hle
      refine List.pairwise_cons.mpr ⟨fun z hz => ?_, h⟩
      rcases List.mem_cons.mp hz with rfl | hz
      · exact hle
      · exact Int.le_trans hle (hy z hz)
    · refine List.pairwise_cons.mpr ⟨fun z hz => ?_, ih hys⟩
      rcases List.mem_cons.mp ((insertByAccess_perm x ys).mem_iff.mp hz) with rfl | hz
      · omega
      · exact hy z hz

theorem sortByAccess_sorted (items : List (Item α)) :
    (sortByAccess items).Pairwise (fun a b => a.access ≤ b.access) := by
  induction items with
  | nil => simp [sortByAccess]
  | cons x xs ih => exact insertByAccess_sorted x _ ih

theorem sortByAccess_length (items : List (Item α)) : (sortByAccess items).length = items.length :=
  (sortByAccess_perm items).length_eq

theorem minAccess_eq (items : List (Item α)) : minAccess items = (items.map (·.access)).min? := by
  induction items with
  | nil => rfl
  | cons x xs ih =>
    rw [minAccess, ih, List.map_cons, List.min?_cons]
    cases (xs.map (·.access)).min? with
    | none => rfl
    | some m => simp only [Option.elim, Int.min_def]

theorem minAccess_none (items : List (Item α)) (h : minAccess items = none) : items = [] := by
  rw [minAccess_eq, List.min?_eq_none_iff] at h
  exact List.map_eq_nil_iff.mp h

theorem minAccess_spec (items : List (Item α)) (m : Int) (h : minAccess items = some m) :
    (∃ it ∈ items, it.access = m) ∧ ∀ it ∈ items, m ≤ it.access := by
  rw [minAccess_eq, List.min?_eq_some_iff] at h
  exact ⟨List.mem_map.mp h.1, fun it hit => h.2 _ (List.mem_map_of_mem hit)⟩

theorem minAccess_mem (items : List (Item α)) (m : Int) (h : minAccess items = some m) :
    ∃ it ∈ items, it.access = m :=
  (minAccess_spec items m h).1

/-- The `break` test of the loop. -/
def Brk (tds tdi : Int) (dl : Option Int) (s n : Int) (it : Item α) : Prop :=
  s ≥ tds ∧ n ≥ tdi ∧ fresh dl it.access = true

theorem takeLoop_cons_brk {tds tdi : Int} {dl : Option Int} {x : Item α} {s n : Int} (xs : List (Item α))
    (hb : Brk tds tdi dl s n x) : takeLoop tds tdi dl (x :: xs) s n = [] :=
  if_pos hb

theorem takeLoop_cons_go {tds tdi : Int} {dl : Option Int} {x : Item α} {s n : Int} (xs : List (Item α))
    (hb : ¬ Brk tds tdi dl s n x) :
    takeLoop tds tdi dl (x :: xs) s n = x :: takeLoop tds tdi dl xs (s + x.size) (n + 1) :=
  if_neg hb

/-- The early `return []` only anticipates the first `break` test. -/
theorem itemsToDelete_eq_takeLoop (items : List (Item α)) (l : Limits) :
    itemsToDelete items l =
      takeLoop (toDeleteSize items l) (toDeleteItems items l) l.deadline (sortByAccess items) 0 0 := by
  unfold itemsToDelete
  split
  · rename_i he
    rw [List.isEmpty_iff.mp he]; rfl
  · split
    · rename_i hn
      simp only [nothingToDo, Bool.and_eq_true, decide_eq_true_eq] at hn
      obtain ⟨⟨h1, h2⟩, h3⟩ := hn
      cases hS : sortByAccess items with
      | nil => rfl
      | cons x S =>
        have hx : x ∈ items := (sortByAccess_perm items).mem_iff.mp (hS ▸ List.mem_cons_self)
        refine (takeLoop_cons_brk S ⟨h1, h2, ?_⟩).symm
        cases hd : l.deadline with
        | none => rfl
        | some d =>
          cases hm : minAccess items with
          | none => rw [minAccess_none items hm] at hx; simp at hx
          | some m =>
            have := (minAccess_spec items m hm).2 x hx
            simp only [hd, hm, gt_iff_lt, decide_eq_true_eq] at h3
            simp only [fresh, decide_eq_true_eq]; omega
    · rfl

/-- With `s`, `n` the size and number of the entries before `x` in the LRU order `… x :: xs`, the `break` test at `x` says
exactly that what is left satisfies the limits — the age limit because `x` is the oldest entry left. -/
theorem brk_iff_sat (items : List (Item α)) (l : Limits) (x : Item α) (xs : List (Item α)) (s n : Int)
    (hs0 : 0 ≤ s) (hn0 : 0 ≤ n) (hs : s + total (x :: xs) = total items) (hn : n + (x :: xs).length = items.length)
    (hold : ∀ y ∈ xs, x.access ≤ y.access) :
    Brk (toDeleteSize items l) (toDeleteItems items l) l.deadline s n x ↔ Sat (x :: xs) l := by
  have hage : fresh l.deadline x.access = true ↔ ∀ d, l.deadline = some d → ∀ y ∈ x :: xs, d < y.access := by
    cases l.deadline with
    | none => simp [fresh]
    | some d =>
      simp only [fresh, decide_eq_true_eq, Option.some.injEq, forall_eq', List.forall_mem_cons]
      exact ⟨fun hd => ⟨hd, fun y hy => Int.lt_of_lt_of_le hd (hold y hy)⟩, fun hd => hd.1⟩
  have hbytes : s ≥ toDeleteSize items l ↔ ∀ b, l.bytes = some b → total (x :: xs) ≤ b := by
    unfold toDeleteSize
    cases l.bytes with
    | none => simpa using hs0
    | some b => simp only [Option.some.injEq, forall_eq']; omega
  have hitems : n ≥ toDeleteItems items l ↔ ∀ m, l.items = some m → ((x :: xs).length : Int) ≤ m := by
    unfold toDeleteItems
    cases l.items with
    | none => simpa using hn0
    | some m => simp only [Option.some.injEq, forall_eq']; omega
  unfold Brk Sat
  rw [hbytes, hitems, hage]

theorem takeLoop_sat (items : List (Item α)) (l : Limits) (xs : List (Item α)) (s n : Int) (hs0 : 0 ≤ s) (hn0 : 0 ≤ n)
    (hs : s + total xs = total items) (hn : n + xs.length = items.length)
    (hsorted : xs.Pairwise (fun a b => a.access ≤ b.access)) (D : List (Item α))
    (hD : takeLoop (toDeleteSize items l) (toDeleteItems items l) l.deadline xs s n = D) :
    D <+: xs ∧ (xs.drop D.length ≠ [] → Sat (xs.drop D.length) l) ∧ ∀ k, k < D.length → ¬ Sat (xs.drop k) l := by
  -- Loop invariant: `s`, `n` are the size and number of the entries taken so far (`hs`, `hn`) and `xs` is sorted, so that
  -- `brk_iff_sat` reads the `break` test at its head. `D` names the loop's result so that a caller can put any term equal to it
  -- there (`itemsToDelete_spec`) without rewriting.
  induction xs generalizing s n D with
  | nil =>
    subst hD
    exact ⟨List.nil_prefix, fun h => absurd rfl h, fun k hk => absurd hk (Nat.not_lt_zero k)⟩
  | cons x xs ih =>
    obtain ⟨hold, hsorted⟩ := List.pairwise_cons.mp hsorted
    have hiff := brk_iff_sat items l x xs s n hs0 hn0 hs hn hold
    by_cases hb : Brk (toDeleteSize items l) (toDeleteItems items l) l.deadline s n x
    · rw [takeLoop_cons_brk xs hb] at hD
      subst hD
      exact ⟨List.nil_prefix, fun _ => hiff.mp hb, fun k hk => absurd hk (Nat.not_lt_zero k)⟩
    · rw [takeLoop_cons_go xs hb] at hD
      subst hD
      obtain ⟨hpre, hsat, hmin⟩ := ih (s + x.size) (n + 1) (by omega) (by omega)
        (by simp only [total] at hs; omega) (by simp only [List.length_cons] at hn; omega) hsorted _ rfl
      refine ⟨List.cons_prefix_cons.mpr ⟨rfl, hpre⟩, hsat, fun k hk => ?_⟩
      cases k with
      | zero => exact fun h => hb (hiff.mpr h)
      | succ k => exact hmin k (Nat.lt_of_succ_lt_succ hk)

/-- The selection is the SHORTEST prefix of the LRU order whose removal leaves the limits satisfied — all of it if no
proper prefix does: what is left, unless empty, satisfies the limits, and what any shorter prefix leaves does not. -/
theorem itemsToDelete_spec (items : List (Item α)) (l : Limits) :
    itemsToDelete items l <+: sortByAccess items ∧
    (survivors items l ≠ [] → Sat (survivors items l) l) ∧
    ∀ k, k < (itemsToDelete items l).length → ¬ Sat ((sortByAccess items).drop k) l := by
  exact takeLoop_sat items l (sortByAccess items) 0 0 (Int.le_refl 0) (Int.le_refl 0)
    (by rw [Int.zero_add, total_perm (sortByAccess_perm items)]) (by rw [Int.zero_add, sortByAccess_length])
    (sortByAccess_sorted items) _ (itemsToDelete_eq_takeLoop items l).symm

theorem itemsToDelete_prefix (items : List (Item α)) (l : Limits) :
    itemsToDelete items l <+: sortByAccess items :=
  (itemsToDelete_spec items l).1

theorem itemsToDelete_append_survivors (items : List (Item α)) (l : Limits) :
    itemsToDelete items l ++ survivors items l = sortByAccess items := by
  obtain ⟨r, hr⟩ := itemsToDelete_prefix items l
  unfold survivors
  rw [← hr]; simp

theorem itemsToDelete_of_sat (items : List (Item α)) (l : Limits) (h : Sat (sortByAccess items) l) :
    itemsToDelete items l = [] :=
  List.eq_nil_of_length_eq_zero <| Nat.eq_zero_of_not_pos fun hpos => (itemsToDelete_spec items l).2.2 0 hpos h

theorem itemsToDelete_no_limits (items : List (Item α)) : itemsToDelete items ⟨none, none, none⟩ = [] :=
  itemsToDelete_of_sat items _ ⟨by simp, by simp, by simp⟩

end JoblibModel.Lru
