import JoblibProofs.Lemmas.TrackerClient.Inv
/-! Preservation of the invariants by the functions of `TemporaryResourcesManager`: each is cut into steps that
change one thing (a request, the cache, the atexit list, the disk), one lemma per step; `inv_congr` is the step that
changes nothing the invariants see. Side conditions of a later step (`NoUsers`, `MgrDown`, a manager index in range) are
carried over the steps between by a frame, the weakest that holds: `Frame` (requests about files), `PFrame` (a clean-up),
and in Procs.lean `WFrame` (the workers leaving). Only some of their fields are read; the others make `refl`/`trans` say that
nothing else moved.
Where a model function updates the client's fields and writes its request in one expression, the state in between gets a
name (`preRelease`; `preExit`, `markDead`, `setShutdown` in Procs.lean; `allLeave` in Ops.lean) and the function is restated over
it by `rfl` (`releaseExtra_eq`, `exitChild_eq`, …); `forceUnregister_eq` and `memmapArray_eq` (Ops.lean) restate a function to
take its steps in another order. -/
namespace JoblibModel.TrackerClient
open JoblibModel.Tracker

theorem inv_congr {cfg : Cfg} {s t : State} (h : Inv cfg s) (hreg : t.reg = s.reg := by rfl)
    (hdisk : t.disk = s.disk := by rfl) (hsent : t.sent = s.sent := by rfl) (hbad : t.bad = s.bad := by rfl)
    (hpa : t.parentAlive = s.parentAlive := by rfl)
    (hc : ∀ m, cachedOf t.toClient m = cachedOf s.toClient m := by exact fun _ => rfl)
    (hr : ∀ m, releasedOf t.toClient m = releasedOf s.toClient m := by exact fun _ => rfl)
    (hat : t.atexit = s.atexit := by rfl) (hh : t.holdings = s.holdings := by rfl)
    (hch : t.children = s.children := by rfl) (hw : t.workers = s.workers := by rfl)
    (hml : s.managers.length ≤ t.managers.length := by exact Nat.le_refl _) (he : t.extra = s.extra := by rfl)
    (hi : t.inflight = s.inflight := by rfl) (hl : t.leaked = s.leaked := by rfl) (hdup : t.dup = s.dup := by rfl) :
    Inv cfg t :=
  ⟨wire_of_eq h.wire hreg hsent, fold_of_eq h.fold hreg hdisk hpa hc hat,
   ⟨by rw [hh, hch]; exact h.users.held, by rw [hw]; exact h.users.i4,
    by rw [hw]; exact fun W hW => Nat.lt_of_lt_of_le (h.users.i4b W hW) hml, by rw [hw]; exact h.users.x3⟩,
   fun hd => cnt_of_eq (h.cnt (hdup ▸ hd)) (fun f => by rw [hreg])
     (fun f => by simp [trackedUsers, trackedWorkerUsers, he, hi, hh, hl]) hbad,
   fun hf => fix_mono (h.fix hf) (fun g hg => hdisk ▸ hg) (fun g hg => he ▸ hg) (fun m g hg => hr m ▸ hg) hw hdup⟩

theorem inv_registerFolder {cfg : Cfg} {s : State} (h : Inv cfg s) (d : FolderKey) :
    Inv cfg (send s .register .folder d.name) :=
  inv_send_folder h .register d (by simp) (Or.inl (execAt_register_ne_none _))

theorem inv_cacheContext {cfg : Cfg} {s : State} (h : Inv cfg s) (m ctx : Nat)
    (hreg : lookup (s.reg.get .folder) (FolderKey.mk m ctx).name ≠ none) :
    Inv cfg { s with atexit := s.atexit ++ [⟨m, ctx⟩],
                     managers := updAt s.managers m (fun M => { M with cached := M.cached ++ [ctx] }) } := by
  refine ⟨wire_of_eq h.wire, { h.fold with f1 := ?_, f4 := ?_, f5 := ?_ }, users_of_eq h.users (h4 := updAt_length ..),
    fun hd => cnt_of_eq (h.cnt hd), fun hx => fix_mono (h.fix hx) (h3 := fun m' g hg => ?_)⟩
  · intro hp m' ctx' hc
    rcases mem_cachedL_updAt_append hc with h1 | ⟨rfl, rfl⟩
    · exact h.fold.f1 hp m' ctx' h1
    · exact hreg
  · exact fun hp x hx => List.mem_append_left _ (h.fold.f4 hp x hx)
  · intro hp m' ctx' hc
    rcases mem_cachedL_updAt_append hc with h1 | ⟨rfl, rfl⟩
    · exact List.mem_append_left _ (h.fold.f5 hp m' ctx' h1)
    · exact List.mem_append_right _ (List.mem_singleton.mpr rfl)
  · rw [releasedOf_eq] at hg ⊢
    rwa [releasedL_updAt_same _ m (fun M => { M with cached := M.cached ++ [ctx] }) (fun M => rfl) m']

theorem inv_registerNewContext {cfg : Cfg} {s : State} (h : Inv cfg s) (m ctx : Nat) :
    Inv cfg (registerNewContext s m ctx) := by
  unfold registerNewContext
  split
  · exact h
  · refine inv_cacheContext (inv_registerFolder h ⟨m, ctx⟩) m ctx ?_
    rw [send_lookup_same _ _ _ _ (FolderKey.mk m ctx).name_ascii h.wire.distinct]
    exact execAt_register_ne_none _

theorem inv_setCurrentContext {cfg : Cfg} {s : State} (h : Inv cfg s) (m ctx : Nat) :
    Inv cfg (setCurrentContext s m ctx) := by
  unfold setCurrentContext
  refine inv_registerNewContext (inv_congr h (hc := fun m' => ?_) (hr := fun m' => ?_) (hml := ?_)) m ctx
  · exact cachedL_updAt_same _ m (fun M => { M with current := ctx }) (fun M => rfl) m'
  · exact releasedL_updAt_same _ m (fun M => { M with current := ctx }) (fun M => rfl) m'
  · exact Nat.le_of_eq (updAt_length ..).symm

theorem inv_newManager {cfg : Cfg} {s : State} (h : Inv cfg s) : Inv cfg (newManager s) := by
  unfold newManager
  refine inv_setCurrentContext (inv_congr h (hc := fun m' => ?_) (hr := fun m' => ?_) (hml := ?_)) _ 0
  · rw [cachedOf_eq, cachedOf_eq, cachedL_append_new]
    split
    · rename_i e; subst e; simp [cachedL]
    · rfl
  · rw [releasedOf_eq, releasedOf_eq, releasedL_append_new]
    split
    · rename_i e; subst e; simp [releasedL]
    · rfl
  · simp

/-- The state just before `releaseExtra` writes its request. -/
def preRelease (s : State) (m : Nat) (f : FileKey) : State :=
  { s with dup := s.dup || decide (f ∉ s.extra), extra := s.extra.erase f,
           managers := updAt s.managers m (fun M => { M with released := f :: M.released }) }

theorem releaseExtra_eq (cfg : Cfg) (s : State) (m : Nat) (f : FileKey) :
    releaseExtra cfg s m f =
      if cfg.fix && decide (f ∈ releasedOf s.toClient m) then s
      else send (preRelease s m f) .maybeUnlink .file f.name := rfl

theorem inv_releaseExtra {cfg : Cfg} {s : State} (h : Inv cfg s) (m : Nat) (f : FileKey) (hm : f.m = m)
    (hlen : m < s.managers.length)
    (hdisk : cfg.fix = true → f ∈ s.disk.files ∨ f ∈ releasedOf s.toClient m) :
    Inv cfg (releaseExtra cfg s m f) := by
  rw [releaseExtra_eq]
  split
  · exact h
  rename_i hskip
  refine (invP_send_file (s := preRelease s m f) .maybeUnlink f (trackedUsers s.toClient) [] (wire_of_eq h.wire)
    (fold_of_eq h.fold (hc := fun m' =>
      cachedL_updAt_same _ m (fun M => { M with released := f :: M.released }) (fun M => rfl) m'))
    (users_of_eq h.users (h4 := updAt_length ..)) (fun hd => ?_) (fun hfx => ?_)).toInv
  · -- no reference released twice so far, and not now: the extra reference of `f` was held
    have hd' : (s.dup || decide (f ∉ s.extra)) = false := hd
    simp only [Bool.or_eq_false_iff, decide_eq_false_iff_not, Decidable.not_not] at hd'
    have hc := h.cnt hd'.1
    refine ⟨hc.j1, fun g => ?_, hc.b⟩
    have h2 : 0 < s.extra.count f := List.count_pos_iff.mpr hd'.2
    by_cases hg : g = f
    · subst hg
      simp only [preRelease, trackedUsers, trackedWorkerUsers, List.count_erase_self, absAt, if_true, List.count_nil]
      omega
    · simp only [preRelease, trackedUsers, trackedWorkerUsers, List.count_erase_of_ne hg, if_neg hg, List.count_nil,
        Nat.add_zero]
  · have hF := h.fix hfx
    have hnr : f ∉ releasedOf s.toClient m := fun hr => hskip (by simp [hfx, hr])
    have hfe : f ∈ s.extra := by
      rcases hF.x1 f ((hdisk hfx).resolve_right hnr) with h1 | h1
      · exact h1
      · exact absurd (hm ▸ h1) hnr
    -- `f` moves from `extra` to `released`; every other file stays where it was
    have key : ∀ g, (g ∈ s.extra ∨ g ∈ releasedOf s.toClient g.m) →
        (g ∈ s.extra.erase f ∨ g ∈ releasedOf (preRelease s m f).toClient g.m) := by
      intro g hg
      by_cases e : g = f
      · subst e; rw [hm]; exact Or.inr (releasedL_updAt_cons_self hlen)
      · exact hg.imp (List.mem_erase_of_ne e).mpr mem_releasedL_updAt_cons
    exact ⟨fun g hg => key g (hF.x1 g hg), fun W hW hsd g hg => key g (hF.x2 W hW hsd g hg), by
      show (s.dup || decide (f ∉ s.extra)) = false
      simp [hF.x0, hfe]⟩

/-- What a clean-up leaves alone in the processes. -/
structure PFrame (s t : State) : Prop where
  inflight : t.inflight = s.inflight
  holdings : t.holdings = s.holdings
  children : t.children = s.children
  workers : t.workers = s.workers
  mlen : t.managers.length = s.managers.length
  pa : t.parentAlive = s.parentAlive
  executor : t.executor = s.executor
  backend : t.backend = s.backend
  executorArgs : t.executorArgs = s.executorArgs

theorem PFrame.refl (s : State) : PFrame s s := ⟨rfl, rfl, rfl, rfl, rfl, rfl, rfl, rfl, rfl⟩

theorem PFrame.trans {s t u : State} (h1 : PFrame s t) (h2 : PFrame t u) : PFrame s u :=
  ⟨h2.inflight.trans h1.inflight, h2.holdings.trans h1.holdings, h2.children.trans h1.children,
   h2.workers.trans h1.workers, h2.mlen.trans h1.mlen, h2.pa.trans h1.pa, h2.executor.trans h1.executor,
   h2.backend.trans h1.backend, h2.executorArgs.trans h1.executorArgs⟩

theorem PFrame.noUsers {s t : State} (h : PFrame s t) {m : Nat} (hn : NoUsers s.toClient m) :
    NoUsers t.toClient m := by
  unfold NoUsers; rw [h.inflight, h.holdings]; exact hn

theorem PFrame.mgrDown {s t : State} (h : PFrame s t) {m : Nat} (hn : MgrDown s.toClient m) :
    MgrDown t.toClient m := by
  unfold MgrDown; rw [h.workers]; exact hn

/-- `t` differs from `s` only by requests about files and what they entail (ghost fields, `released`, files removed). -/
structure Frame (s t : State) : Prop where
  inflight : t.inflight = s.inflight
  holdings : t.holdings = s.holdings
  children : t.children = s.children
  workers : t.workers = s.workers
  mlen : t.managers.length = s.managers.length
  cached : ∀ m, cachedOf t.toClient m = cachedOf s.toClient m
  pa : t.parentAlive = s.parentAlive
  atexit : t.atexit = s.atexit
  dirs : t.disk.dirs = s.disk.dirs
  files : ∀ g ∈ t.disk.files, g ∈ s.disk.files
  released : ∀ m g, g ∈ releasedOf s.toClient m → g ∈ releasedOf t.toClient m
  executor : t.executor = s.executor
  backend : t.backend = s.backend
  executorArgs : t.executorArgs = s.executorArgs

theorem Frame.refl (s : State) : Frame s s :=
  ⟨rfl, rfl, rfl, rfl, rfl, fun _ => rfl, rfl, rfl, rfl, fun _ h => h, fun _ _ h => h, rfl, rfl, rfl⟩

theorem Frame.trans {s t u : State} (h1 : Frame s t) (h2 : Frame t u) : Frame s u :=
  ⟨h2.inflight.trans h1.inflight, h2.holdings.trans h1.holdings, h2.children.trans h1.children,
   h2.workers.trans h1.workers, h2.mlen.trans h1.mlen, fun m => (h2.cached m).trans (h1.cached m),
   h2.pa.trans h1.pa, h2.atexit.trans h1.atexit, h2.dirs.trans h1.dirs,
   fun g hg => h1.files g (h2.files g hg), fun m g hg => h2.released m g (h1.released m g hg),
   h2.executor.trans h1.executor, h2.backend.trans h1.backend, h2.executorArgs.trans h1.executorArgs⟩

theorem Frame.toP {s t : State} (h : Frame s t) : PFrame s t :=
  ⟨h.inflight, h.holdings, h.children, h.workers, h.mlen, h.pa, h.executor, h.backend, h.executorArgs⟩

theorem Frame.mgrDown {s t : State} (h : Frame s t) {m : Nat} (hn : MgrDown s.toClient m) : MgrDown t.toClient m :=
  h.toP.mgrDown hn

theorem frame_send_file {s s' : State} (h : Frame s s') (c : Cmd) (f : FileKey) : Frame s (send s' c .file f.name) :=
  h.trans ⟨by simp, by simp, by simp, by simp, by simp, fun m => by simp, by simp, by simp,
    send_dirs_file _ _ f, send_files_sub _ _ f, fun m g hg => by simpa using hg,
    by simp, by simp, by simp⟩

theorem frame_releaseExtra (cfg : Cfg) (s : State) (m : Nat) (f : FileKey) : Frame s (releaseExtra cfg s m f) := by
  rw [releaseExtra_eq]
  split
  · exact Frame.refl s
  · refine frame_send_file (s := s) (s' := preRelease s m f) { Frame.refl s with
      mlen := updAt_length .., cached := fun m' => ?_, released := fun m' g hg => mem_releasedL_updAt_cons hg } _ f
    exact cachedL_updAt_same _ m (fun M => { M with released := f :: M.released }) (fun M => rfl) m'

theorem frame_forceUnregister (s : State) (f : FileKey) : Frame s (forceUnregister s f) := by
  unfold forceUnregister
  refine frame_send_file (s := s) ?_ _ f
  exact ⟨rfl, rfl, rfl, rfl, rfl, fun _ => rfl, rfl, rfl, rfl, fun _ h => h, fun _ _ h => h, rfl, rfl, rfl⟩

theorem frame_cleanFile (cfg : Cfg) (m : Nat) (force : Bool) (s : State) (f : FileKey) :
    Frame s (cleanFile cfg m force s f) := by
  unfold cleanFile
  split
  · exact frame_forceUnregister s f
  · exact frame_releaseExtra cfg s m f

theorem frame_foldl_cleanFile (cfg : Cfg) (m : Nat) (force : Bool) (l : List FileKey) (s : State) :
    Frame s (l.foldl (cleanFile cfg m force) s) :=
  List.foldlRecOn (motive := Frame s) l _ (Frame.refl s) fun t h a _ => h.trans (frame_cleanFile cfg m force t a)

theorem releaseExtra_keeps (cfg : Cfg) (s : State) (m : Nat) (g f : FileKey) (hlen : m < s.managers.length)
    (h : f ∈ s.disk.files ∨ f ∈ releasedOf s.toClient m) :
    f ∈ (releaseExtra cfg s m g).disk.files ∨ f ∈ releasedOf (releaseExtra cfg s m g).toClient m := by
  rw [releaseExtra_eq]
  split
  · exact h
  · rw [send_toClient]
    by_cases e : f = g
    · subst e; exact Or.inr (releasedL_updAt_cons_self hlen)
    · exact h.imp (send_files_keep (preRelease s m g) _ g f e)
        mem_releasedL_updAt_cons

/- `List.foldlRecOn` and not an induction on `l`, here and in `inv_forceLoop`: the side condition speaks of all of `l` at every step. -/
theorem inv_releaseLoop {cfg : Cfg} (m : Nat) (l : List FileKey) (s : State) (h : Inv cfg s)
    (hlen : m < s.managers.length) (hl : ∀ f ∈ l, f.m = m ∧ (f ∈ s.disk.files ∨ f ∈ releasedOf s.toClient m)) :
    Inv cfg (l.foldl (cleanFile cfg m false) s) :=
  (List.foldlRecOn (motive := fun s => Inv cfg s ∧ m < s.managers.length ∧
      ∀ f ∈ l, f.m = m ∧ (f ∈ s.disk.files ∨ f ∈ releasedOf s.toClient m)) l _ ⟨h, hlen, hl⟩
    fun s hs a ha => ⟨inv_releaseExtra hs.1 m a (hs.2.2 a ha).1 hs.2.1 (fun _ => (hs.2.2 a ha).2),
      (frame_releaseExtra cfg s m a).mlen ▸ hs.2.1,
      fun f hf => ⟨(hs.2.2 f hf).1, releaseExtra_keeps cfg s m a f hs.2.1 (hs.2.2 f hf).2⟩⟩).1

theorem mem_rmtree_dirs {d : Disk} {n : Name} {x : FolderKey} : x ∈ (d.rmtree n).dirs ↔ x ∈ d.dirs ∧ x.name ≠ n := by
  simp [Disk.rmtree, List.mem_filter]

theorem mem_rmtree_files {d : Disk} {n : Name} {g : FileKey} :
    g ∈ (d.rmtree n).files ↔ g ∈ d.files ∧ g.folder.name ≠ n := by
  simp [Disk.rmtree, List.mem_filter]

/-- Files sit in folders (`Fold.f3` says it of the state's disk); removals of either kind keep it so. -/
def Disk.Closed (d : Disk) : Prop := ∀ f ∈ d.files, f.folder ∈ d.dirs

theorem Disk.Closed.unlink {d : Disk} (h : d.Closed) (n : Name) : (d.unlink n).Closed :=
  fun g hg => h g (List.mem_filter.mp hg).1

theorem Disk.Closed.rmtree {d : Disk} (h : d.Closed) (n : Name) : (d.rmtree n).Closed :=
  fun g hg => mem_rmtree_dirs.mpr ⟨h g (mem_rmtree_files.mp hg).1, (mem_rmtree_files.mp hg).2⟩

theorem Disk.Closed.files_nil {d : Disk} (h : d.Closed) (hd : d.dirs = []) : d.files = [] :=
  List.eq_nil_iff_forall_not_mem.mpr fun g hg => by have := h g hg; rw [hd] at this; cases this

theorem Fold.closed {s : State} (h : Fold s) : s.disk.Closed := h.f3

theorem workerUsers_zero_of_noUsers {c : Client} {m : Nat} (hn : NoUsers c m) (g : FileKey) (hg : g.m = m) :
    workerUsers c g = 0 := by
  unfold workerUsers
  have h1 : c.inflight.countP (fun p => decide (p.f = g)) = 0 := by
    rw [List.countP_eq_zero]; intro p hp; simp only [decide_eq_true_eq]; intro e
    exact hn.1 p hp (by rw [e, hg])
  have h2 : c.holdings.countP (fun h => decide (h.f = g)) = 0 := by
    rw [List.countP_eq_zero]; intro p hp; simp only [decide_eq_true_eq]; intro e
    exact hn.2 p hp (by rw [e, hg])
  omega

theorem trackedWorkerUsers_le (c : Client) (g : FileKey) : trackedWorkerUsers c g ≤ workerUsers c g := by
  unfold trackedWorkerUsers workerUsers
  have h1 : c.inflight.countP (fun p => decide (p.f = g) && p.tracked) ≤ c.inflight.countP (fun p => decide (p.f = g)) :=
    List.countP_mono_left (fun p _ hp => by simp at hp ⊢; exact hp.1)
  have h2 : c.holdings.countP (fun p => decide (p.f = g) && p.tracked) ≤ c.holdings.countP (fun p => decide (p.f = g)) :=
    List.countP_mono_left (fun p _ hp => by simp at hp ⊢; exact hp.1)
  omega

theorem inv_clientRmtree {cfg : Cfg} {s : State} (h : Inv cfg s) (d : FolderKey)
    (hsafe : ∀ g ∈ s.disk.files, g.folder = d → workerUsers s.toClient g = 0) : Inv cfg (clientRmtree s d) := by
  have hbad : (clientRmtree s d).bad = s.bad := by
    show s.bad ++ _ = s.bad
    rw [List.append_right_eq_self, List.filter_eq_nil_iff]
    intro g hg
    simp only [decide_eq_true_eq, not_and, Nat.not_lt, Nat.le_zero]
    exact fun e => hsafe g hg (FolderKey.name_inj e)
  refine ⟨wire_of_eq h.wire, { h.fold with f2 := ?_, f3 := h.fold.closed.rmtree _, f4 := ?_ }, h.users,
    fun hd => cnt_of_eq (h.cnt hd) (h3 := hbad), fun hx => fix_mono (h.fix hx) fun g hg => (mem_rmtree_files.mp hg).1⟩
  · exact fun x hx => h.fold.f2 x (mem_rmtree_dirs.mp hx).1
  · exact fun hp x hx => h.fold.f4 hp x (mem_rmtree_dirs.mp hx).1

theorem inv_uncache {cfg : Cfg} {s : State} (h : Inv cfg s) (m ctx : Nat) :
    Inv cfg { s with managers := updAt s.managers m (fun M => { M with cached := M.cached.filter (fun c => c ≠ ctx) }) } :=
  ⟨wire_of_eq h.wire,
   { h.fold with
     f1 := fun hp m' ctx' hc => h.fold.f1 hp m' ctx' (mem_cachedL_updAt_filter hc).1
     f5 := fun hp m' ctx' hc => h.fold.f5 hp m' ctx' (mem_cachedL_updAt_filter hc).1 },
   users_of_eq h.users (h4 := updAt_length ..), fun hd => cnt_of_eq (h.cnt hd),
   fun hx => fix_mono (h.fix hx) (h3 := fun m' g hg => by
     rw [releasedOf_eq] at hg ⊢
     rwa [releasedL_updAt_same _ m (fun M => { M with cached := M.cached.filter (fun c => c ≠ ctx) }) (fun M => rfl) m'])⟩

theorem inv_unregisterFolder {cfg : Cfg} {s : State} (h : Inv cfg s) (d : FolderKey) (hd : d ∉ s.disk.dirs)
    (hc : s.parentAlive = true → d.c ∉ cachedOf s.toClient d.m) : Inv cfg (send s .unregister .folder d.name) :=
  inv_send_folder h .unregister d (by simp) (Or.inr ⟨hd, hc⟩)

theorem inv_dropAtexit {cfg : Cfg} {s : State} (h : Inv cfg s) (d : FolderKey) (hd : d ∉ s.disk.dirs)
    (hc : s.parentAlive = true → d.c ∉ cachedOf s.toClient d.m) :
    Inv cfg { s with atexit := s.atexit.filter (fun x => x ≠ d) } := by
  refine ⟨wire_of_eq h.wire, { h.fold with f4 := fun hp x hx => ?_, f5 := fun hp m ctx hcx => ?_ },
    users_of_eq h.users, fun hd => cnt_of_eq (h.cnt hd), fun hx => fix_mono (h.fix hx)⟩
  · exact List.mem_filter.mpr ⟨h.fold.f4 hp x hx, by simpa using fun e : x = d => hd (e ▸ hx)⟩
  · exact List.mem_filter.mpr ⟨h.fold.f5 hp m ctx hcx, by simpa using fun e : FolderKey.mk m ctx = d => hc hp (e ▸ hcx)⟩

theorem inv_forgetFolder {cfg : Cfg} {s : State} (h : Inv cfg s) (m ctx : Nat)
    (hd : (⟨m, ctx⟩ : FolderKey) ∉ s.disk.dirs) : Inv cfg (forgetFolder s m ctx) := by
  have hc : ctx ∉ cachedL (updAt s.managers m (fun M => { M with cached := M.cached.filter (fun c => c ≠ ctx) })) m :=
    fun hx => (mem_cachedL_updAt_filter hx).2 ⟨rfl, rfl⟩
  have h2 := inv_unregisterFolder (inv_uncache h m ctx) ⟨m, ctx⟩ hd (fun _ => hc)
  refine inv_dropAtexit h2 ⟨m, ctx⟩ ?_ (fun _ => ?_)
  · rw [send_folder_disk _ _ ⟨m, ctx⟩ (by simp)]; exact hd
  · rw [send_toClient]; exact hc

theorem inv_deleteAndForget {cfg : Cfg} {s : State} (h : Inv cfg s) (m ctx : Nat)
    (hsafe : ∀ g ∈ s.disk.files, g.folder = ⟨m, ctx⟩ → workerUsers s.toClient g = 0) :
    Inv cfg (forgetFolder (clientRmtree s ⟨m, ctx⟩) m ctx) :=
  inv_forgetFolder (inv_clientRmtree h _ hsafe) m ctx fun hx => (mem_rmtree_dirs.mp hx).2 rfl

/-- The configuration without the repair: `Inv` at it is `Inv` without the `Fix` part (`Inv.strengthen`). No lemma of this
directory goes that way: every step keeps `Fix` itself. -/
def noFix (cfg : Cfg) : Cfg := { cfg with fix := false }

theorem Inv.strengthen {cfg : Cfg} {s : State} (h : Inv (noFix cfg) s) (hf : cfg.fix = true → Fix s) : Inv cfg s :=
  ⟨h.wire, h.fold, h.users, h.cnt, hf⟩

theorem inv_forceUnregister {cfg : Cfg} {s : State} (h : Inv cfg s) (f : FileKey) (hn : NoUsers s.toClient f.m)
    (hx : cfg.fix = true → f ∉ s.disk.files ∧ MgrDown s.toClient f.m) : Inv cfg (forceUnregister s f) := by
  refine (invP_send_file .unregister f (trackedUsers s.toClient) [] (wire_of_eq h.wire) (fold_of_eq h.fold)
    (users_of_eq h.users) (fun hd => ?_) (fun hfx => ?_)).toInv
  · refine ⟨(h.cnt hd).j1, fun g => ?_, (h.cnt hd).b⟩
    have h1 := trackedWorkerUsers_le s.toClient f
    have h2 := workerUsers_zero_of_noUsers hn f rfl
    simp only [trackedUsers, trackedWorkerUsers, count_filter_ne, absAt, List.count_nil] at h1 ⊢
    split <;> rename_i hg
    · subst hg; omega
    · rfl
  · -- the file is off the disk and no live reducer knows it: nothing asks for its extra reference
    have hF := h.fix hfx
    have key : ∀ g, g ≠ f → g ∈ s.extra ∨ g ∈ releasedOf s.toClient g.m →
        g ∈ s.extra.filter (fun g => g ≠ f) ∨ g ∈ releasedOf s.toClient g.m :=
      fun g hg => Or.imp_left fun h1 => List.mem_filter.mpr ⟨h1, by simpa using hg⟩
    refine { hF with
      x1 := fun g hg => key g (fun e => (hx hfx).1 (e ▸ hg)) (hF.x1 g hg)
      x2 := fun W hW hsd g hg => key g (fun e => ?_) (hF.x2 W hW hsd g hg) }
    have := (hx hfx).2 W hW (by rw [← h.users.x3 W hW g hg, e])
    rw [hsd] at this; cases this

theorem forceUnregister_eq (s : State) (f : FileKey) :
    forceUnregister s f =
      { s with extra := s.extra.filter (fun g => g ≠ f), leaked := s.leaked.filter (fun g => g ≠ f),
               reg := (exec s.reg .unregister .file f.name).1,
               sent := reqLine .unregister .file f.name :: s.sent } := by
  unfold forceUnregister
  rw [send_eq _ _ _ _ f.name_ascii]
  rfl

/-- An `UNREGISTER` touches neither the disk nor the monitor: removing the folder first gives the same state. -/
theorem forceLoop_clientRmtree (l : List FileKey) (s : State) (d : FolderKey) :
    l.foldl forceUnregister (clientRmtree s d) = clientRmtree (l.foldl forceUnregister s) d := by
  induction l generalizing s with
  | nil => rfl
  | cons a r ih =>
    have e : forceUnregister (clientRmtree s d) a = clientRmtree (forceUnregister s a) d := by
      rw [forceUnregister_eq, forceUnregister_eq]; rfl
    rw [List.foldl_cons, List.foldl_cons, e, ih]

theorem inv_forceLoop {cfg : Cfg} (m : Nat) (l : List FileKey) (s : State) (h : Inv cfg s)
    (hn : NoUsers s.toClient m) (hl : ∀ f ∈ l, f.m = m)
    (hx : cfg.fix = true → (∀ f ∈ l, f ∉ s.disk.files) ∧ MgrDown s.toClient m) :
    Inv cfg (l.foldl forceUnregister s) :=
  (List.foldlRecOn (motive := fun s => Inv cfg s ∧ NoUsers s.toClient m ∧
      (cfg.fix = true → (∀ f ∈ l, f ∉ s.disk.files) ∧ MgrDown s.toClient m)) l _ ⟨h, hn, hx⟩
    fun s hs a ha =>
      have fr := frame_forceUnregister s a
      ⟨inv_forceUnregister hs.1 a (hl a ha ▸ hs.2.1) fun hfx => ⟨(hs.2.2 hfx).1 a ha, hl a ha ▸ (hs.2.2 hfx).2⟩,
       fr.toP.noUsers hs.2.1,
       fun hfx => ⟨fun f hf hmem => (hs.2.2 hfx).1 f hf (fr.files f hmem), fr.mgrDown (hs.2.2 hfx).2⟩⟩).1

theorem pframe_deleteAndForget (s : State) (m ctx : Nat) : PFrame s (forgetFolder (clientRmtree s ⟨m, ctx⟩) m ctx) := by
  unfold forgetFolder
  refine ⟨?_, ?_, ?_, ?_, ?_, ?_, ?_, ?_, ?_⟩ <;> simp [updAt_length]

theorem pframe_tryDeleteFolder (s : State) (m ctx : Nat) (allow : Bool) : PFrame s (tryDeleteFolder s m ctx allow) := by
  unfold tryDeleteFolder
  split
  · exact pframe_deleteAndForget s m ctx
  · exact PFrame.refl s

theorem pframe_cleanContext (cfg : Cfg) (s : State) (m ctx : Nat) (force allow : Bool) :
    PFrame s (cleanContext cfg s m ctx force allow) := by
  unfold cleanContext
  split
  · exact PFrame.refl s
  · split
    · exact PFrame.refl s
    · exact (frame_foldl_cleanFile cfg m force _ s).toP.trans (pframe_tryDeleteFolder _ m ctx _)

theorem pframe_cleanAll (cfg : Cfg) (s : State) (m : Nat) (force allow : Bool) :
    PFrame s (cleanAll cfg s m force allow) :=
  List.foldlRecOn (motive := PFrame s) _ _ (PFrame.refl s) fun t h ctx _ => h.trans (pframe_cleanContext cfg t m ctx force allow)

theorem mem_listdir {d : Disk} {x : FolderKey} {g : FileKey} : g ∈ d.listdir x ↔ g ∈ d.files ∧ g.folder = x := by
  simp [Disk.listdir, List.mem_filter]

theorem lt_length_of_mem_cachedL {ms : List Manager} {m ctx : Nat} (h : ctx ∈ cachedL ms m) : m < ms.length := by
  unfold cachedL at h
  cases hM : ms[m]? with
  | none => simp [hM] at h
  | some M => exact (List.getElem?_eq_some_iff.mp hM).1

theorem inv_cleanContext {cfg : Cfg} {s : State} (h : Inv cfg s) (m ctx : Nat) (force allow : Bool)
    (hforce : force = true → NoUsers s.toClient m ∧ MgrDown s.toClient m)
    (hallow : allow = true → NoUsers s.toClient m) : Inv cfg (cleanContext cfg s m ctx force allow) := by
  unfold cleanContext
  split
  · exact h
  rename_i hc
  split
  · exact h
  have hlen : m < s.managers.length := lt_length_of_mem_cachedL (Decidable.not_not.mp hc)
  have hL : ∀ f ∈ s.disk.listdir ⟨m, ctx⟩, f.m = m := fun f hf => congrArg FolderKey.m (mem_listdir.mp hf).2
  cases force with
  | false =>
    have hinv : Inv cfg ((s.disk.listdir ⟨m, ctx⟩).foldl (cleanFile cfg m false) s) :=
      inv_releaseLoop m _ s h hlen fun f hf => ⟨hL f hf, Or.inl (mem_listdir.mp hf).1⟩
    have hfr := frame_foldl_cleanFile cfg m false (s.disk.listdir ⟨m, ctx⟩) s
    generalize (s.disk.listdir ⟨m, ctx⟩).foldl (cleanFile cfg m false) s = t0 at hinv hfr
    unfold tryDeleteFolder
    split
    · rename_i hcond
      apply inv_deleteAndForget hinv
      intro g hg hgf
      simp only [Bool.or_false, Bool.or_eq_true, List.isEmpty_iff] at hcond
      rcases hcond with he | ha
      · have : g ∈ t0.disk.listdir ⟨m, ctx⟩ := mem_listdir.mpr ⟨hg, hgf⟩
        rw [he] at this; simp at this
      · exact workerUsers_zero_of_noUsers (hfr.toP.noUsers (hallow ha)) g (congrArg FolderKey.m hgf)
    · exact hinv
  | true =>
    obtain ⟨hn, hmd⟩ := hforce rfl
    have hcf : cleanFile cfg m true = forceUnregister := by funext s f; simp [cleanFile]
    have hfr := frame_foldl_cleanFile cfg m true (s.disk.listdir ⟨m, ctx⟩) (clientRmtree s ⟨m, ctx⟩)
    rw [hcf] at hfr ⊢
    unfold tryDeleteFolder
    -- the folder can go first: then no file that loses its references is on disk
    rw [if_pos (by simp), ← forceLoop_clientRmtree]
    have h1 := inv_clientRmtree h ⟨m, ctx⟩ fun g _ hgf =>
      workerUsers_zero_of_noUsers hn g (congrArg FolderKey.m hgf)
    have h2 := inv_forceLoop m _ _ h1 hn hL fun _ =>
      ⟨fun f hf hmem => (mem_rmtree_files.mp hmem).2 (by rw [(mem_listdir.mp hf).2]), hmd⟩
    refine inv_forgetFolder h2 m ctx fun hx => ?_
    rw [hfr.dirs] at hx
    exact (mem_rmtree_dirs.mp hx).2 rfl

theorem inv_cleanAll {cfg : Cfg} {s : State} (h : Inv cfg s) (m : Nat) (force allow : Bool)
    (hforce : force = true → NoUsers s.toClient m ∧ MgrDown s.toClient m)
    (hallow : allow = true → NoUsers s.toClient m) : Inv cfg (cleanAll cfg s m force allow) :=
  (List.foldlRecOn (motive := fun s => Inv cfg s ∧ (force = true → NoUsers s.toClient m ∧ MgrDown s.toClient m) ∧
      (allow = true → NoUsers s.toClient m)) _ _ ⟨h, hforce, hallow⟩
    fun s hs a _ =>
      have hp := pframe_cleanContext cfg s m a force allow
      ⟨inv_cleanContext hs.1 m a force allow hs.2.1 hs.2.2,
       fun hf => ⟨hp.noUsers (hs.2.1 hf).1, hp.mgrDown (hs.2.1 hf).2⟩, fun ha => hp.noUsers (hs.2.2 ha)⟩).1

end JoblibModel.TrackerClient
