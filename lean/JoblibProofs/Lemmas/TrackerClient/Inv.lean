import JoblibProofs.Lemmas.TrackerClient.Basic
/-! The invariants of the composed system (client + tracker + disk), their transport along unchanged fields
(`wire_of_eq`, `fold_of_eq`, `users_of_eq`, `cnt_of_eq`, `fix_mono`: only what changed is passed; all five at once: `inv_congr`
in Leaves.lean), and their preservation by one request (`inv_send_folder`, `invP_send_file`). The fields, in words:
* `Fold` (folders): f1 cached ⇒ registered (parent alive) · f2 on disk ⇒ registered · f3 a file's folder is on disk ·
  f4 on disk ⇒ has its atexit callback (parent alive) · f5 cached ⇒ has its callback (parent alive)
* `Users` (processes): held a memmap's holder is a live worker of the file's manager · i4 one executor / pool per manager ·
  i4b that manager exists · x3 a reducer's `temporary` files are its manager's
* `Cnt` (counts, while `dup = false`): j1 registry count of a file = `enc` of its registered users · b nothing was deleted in use
* `Fix` (with the repair): x1 a file on disk, x2 a file a live reducer knows: its extra reference is held or was released ·
  x0 no clean-up has released an extra reference that was not held -/
namespace JoblibModel.TrackerClient
open JoblibModel.Tracker

/-- Nobody on the worker side uses a file of manager `m`. -/
def NoUsers (c : Client) (m : Nat) : Prop :=
  (∀ p ∈ c.inflight, p.f.m ≠ m) ∧ (∀ h ∈ c.holdings, h.f.m ≠ m)

/-- Every executor / pool built around manager `m` has been shut down. -/
def MgrDown (c : Client) (m : Nat) : Prop := ∀ W ∈ c.workers, W.mgr = m → W.shutdown = true

structure Fold (s : State) : Prop where
  f1 : s.parentAlive = true → ∀ m ctx, ctx ∈ cachedOf s.toClient m →
    lookup (s.reg.get .folder) (FolderKey.mk m ctx).name ≠ none
  f2 : ∀ d ∈ s.disk.dirs, lookup (s.reg.get .folder) d.name ≠ none
  f3 : ∀ f ∈ s.disk.files, f.folder ∈ s.disk.dirs
  f4 : s.parentAlive = true → ∀ d ∈ s.disk.dirs, d ∈ s.atexit
  f5 : s.parentAlive = true → ∀ m ctx, ctx ∈ cachedOf s.toClient m → FolderKey.mk m ctx ∈ s.atexit

structure Users (c : Client) : Prop where
  held : ∀ x ∈ c.holdings, ∃ ch, c.children[x.child]? = some ch ∧ ch.alive = true ∧ ch.mgr = x.f.m
  i4 : (c.workers.map (·.mgr)).Nodup
  i4b : ∀ W ∈ c.workers, W.mgr < c.managers.length
  x3 : ∀ W ∈ c.workers, ∀ f ∈ W.temporary, f.m = W.mgr

structure Cnt (s : State) : Prop where
  j1 : ∀ f, lookup (s.reg.get .file) f.name = enc (trackedUsers s.toClient f)
  b : s.bad = []

structure Fix (s : State) : Prop where
  x1 : ∀ f ∈ s.disk.files, f ∈ s.extra ∨ f ∈ releasedOf s.toClient f.m
  x2 : ∀ W ∈ s.workers, W.shutdown = false → ∀ f ∈ W.temporary, f ∈ s.extra ∨ f ∈ releasedOf s.toClient f.m
  x0 : s.dup = false

structure Inv (cfg : Cfg) (s : State) : Prop where
  wire : Wire s
  fold : Fold s
  users : Users s.toClient
  cnt : s.dup = false → Cnt s
  fix : cfg.fix = true → Fix s

theorem inv_init (cfg : Cfg) : Inv cfg State.init := by
  refine ⟨wire_init, ⟨?_, ?_, ?_, ?_, ?_⟩, ⟨?_, ?_, ?_, ?_⟩, fun _ => ⟨?_, rfl⟩, fun _ => ⟨?_, ?_, rfl⟩⟩ <;>
    simp [State.init, cachedOf, trackedUsers, trackedWorkerUsers, enc, Registry.empty, Registry.get, lookup]

/-- `cachedOf` as a function of the manager list alone. -/
def cachedL (ms : List Manager) (m : Nat) : List Nat :=
  match ms[m]? with
  | some M => M.cached
  | none => []

def releasedL (ms : List Manager) (m : Nat) : List FileKey :=
  match ms[m]? with
  | some M => M.released
  | none => []

theorem cachedOf_eq (c : Client) (m : Nat) : cachedOf c m = cachedL c.managers m := rfl
theorem releasedOf_eq (c : Client) (m : Nat) : releasedOf c m = releasedL c.managers m := rfl

theorem cachedL_append_new (ms : List Manager) (M : Manager) (m : Nat) :
    cachedL (ms ++ [M]) m = if m = ms.length then M.cached else cachedL ms m := by
  unfold cachedL
  rw [getElem?_append_new]
  by_cases h : m = ms.length <;> simp [h]

theorem releasedL_append_new (ms : List Manager) (M : Manager) (m : Nat) :
    releasedL (ms ++ [M]) m = if m = ms.length then M.released else releasedL ms m := by
  unfold releasedL
  rw [getElem?_append_new]
  by_cases h : m = ms.length <;> simp [h]

theorem cachedL_updAt_same (ms : List Manager) (m : Nat) (g : Manager → Manager)
    (hg : ∀ M, (g M).cached = M.cached) (m' : Nat) : cachedL (updAt ms m g) m' = cachedL ms m' := by
  unfold cachedL
  rw [getElem?_updAt]
  by_cases h : m' = m
  · subst h; cases ms[m']? <;> simp [hg]
  · simp [h]

theorem releasedL_updAt_same (ms : List Manager) (m : Nat) (g : Manager → Manager)
    (hg : ∀ M, (g M).released = M.released) (m' : Nat) : releasedL (updAt ms m g) m' = releasedL ms m' := by
  unfold releasedL
  rw [getElem?_updAt]
  by_cases h : m' = m
  · subst h; cases ms[m']? <;> simp [hg]
  · simp [h]

theorem mem_cachedL_updAt_append {ms : List Manager} {m ctx m' ctx' : Nat}
    (h : ctx' ∈ cachedL (updAt ms m (fun M => { M with cached := M.cached ++ [ctx] })) m') :
    ctx' ∈ cachedL ms m' ∨ (m' = m ∧ ctx' = ctx) := by
  unfold cachedL at h ⊢
  rw [getElem?_updAt] at h
  by_cases e : m' = m
  · subst e; cases hM : ms[m']? <;> simp [hM] at h ⊢; exact h
  · simp only [e, if_false] at h; exact Or.inl h

theorem mem_cachedL_updAt_filter {ms : List Manager} {m ctx m' ctx' : Nat}
    (h : ctx' ∈ cachedL (updAt ms m (fun M => { M with cached := M.cached.filter (fun c => c ≠ ctx) })) m') :
    ctx' ∈ cachedL ms m' ∧ ¬ (m' = m ∧ ctx' = ctx) := by
  unfold cachedL at h ⊢
  rw [getElem?_updAt] at h
  by_cases e : m' = m
  · subst e; cases hM : ms[m']? <;> simp [hM] at h ⊢; exact h
  · simp only [e, if_false] at h; exact ⟨h, fun hh => e hh.1⟩

/-- `Users` when only who holds which memmap has changed: the new `held` clause is all there is to show. -/
theorem Users.of_held {c c' : Client} (h : Users c)
    (held : ∀ x ∈ c'.holdings, ∃ ch, c'.children[x.child]? = some ch ∧ ch.alive = true ∧ ch.mgr = x.f.m)
    (h3 : c'.workers = c.workers := by rfl) (h4 : c'.managers.length = c.managers.length := by rfl) : Users c' :=
  ⟨held, by rw [h3]; exact h.i4, by rw [h3, h4]; exact h.i4b, by rw [h3]; exact h.x3⟩

theorem users_of_eq {c c' : Client} (h : Users c) (h1 : c'.holdings = c.holdings := by rfl)
    (h2 : c'.children = c.children := by rfl) (h3 : c'.workers = c.workers := by rfl)
    (h4 : c'.managers.length = c.managers.length := by rfl) : Users c' :=
  h.of_held (by rw [h1, h2]; exact h.held) h3 h4

theorem fold_of_eq {s t : State} (h : Fold s) (hreg : t.reg = s.reg := by rfl) (hdisk : t.disk = s.disk := by rfl)
    (hpa : t.parentAlive = s.parentAlive := by rfl)
    (hc : ∀ m, cachedOf t.toClient m = cachedOf s.toClient m := by exact fun _ => rfl)
    (hat : t.atexit = s.atexit := by rfl) : Fold t := by
  refine ⟨?_, ?_, ?_, ?_, ?_⟩
  · intro hp m ctx hcx; rw [hreg]; exact h.f1 (hpa ▸ hp) m ctx (hc m ▸ hcx)
  · intro d hd; rw [hreg]; exact h.f2 d (hdisk ▸ hd)
  · intro f hf; rw [hdisk]; exact h.f3 f (hdisk ▸ hf)
  · intro hp d hd; rw [hat]; exact h.f4 (hpa ▸ hp) d (hdisk ▸ hd)
  · intro hp m ctx hcx; rw [hat]; exact h.f5 (hpa ▸ hp) m ctx (hc m ▸ hcx)

theorem liveUsers_le_tracked (c : Client) (f : FileKey) : liveUsers c f ≤ trackedUsers c f := by
  unfold liveUsers trackedUsers
  split <;> omega

theorem mem_releasedL_updAt_cons {ms : List Manager} {m m' : Nat} {f g : FileKey}
    (h : g ∈ releasedL ms m') : g ∈ releasedL (updAt ms m (fun M => { M with released := f :: M.released })) m' := by
  unfold releasedL at h ⊢
  rw [getElem?_updAt]
  by_cases e : m' = m
  · subst e; cases hM : ms[m']? <;> simp [hM] at h ⊢; exact Or.inr h
  · simp only [e, if_false]; exact h

theorem releasedL_updAt_cons_self {ms : List Manager} {m : Nat} {f : FileKey} (hm : m < ms.length) :
    f ∈ releasedL (updAt ms m (fun M => { M with released := f :: M.released })) m := by
  unfold releasedL
  rw [getElem?_updAt, if_pos rfl, List.getElem?_eq_getElem hm]
  exact List.mem_cons_self ..

theorem cnt_of_eq {s t : State} (h : Cnt s)
    (h1 : ∀ f : FileKey, lookup (t.reg.get .file) f.name = lookup (s.reg.get .file) f.name := by exact fun _ => rfl)
    (h2 : ∀ f, trackedUsers t.toClient f = trackedUsers s.toClient f := by exact fun _ => rfl)
    (h3 : t.bad = s.bad := by rfl) : Cnt t :=
  ⟨fun f => by rw [h1, h2]; exact h.j1 f, by rw [h3]; exact h.b⟩

theorem fix_mono {s t : State} (h : Fix s) (h1 : ∀ g ∈ t.disk.files, g ∈ s.disk.files := by exact fun _ h => h)
    (h2 : ∀ g ∈ s.extra, g ∈ t.extra := by exact fun _ h => h)
    (h3 : ∀ m g, g ∈ releasedOf s.toClient m → g ∈ releasedOf t.toClient m := by exact fun _ _ h => h)
    (h4 : t.workers = s.workers := by rfl) (h5 : t.dup = s.dup := by rfl) : Fix t :=
  ⟨fun g hg => (h.x1 g (h1 g hg)).imp (h2 g) (h3 _ g),
   fun W hW hs g hg => (h.x2 W (h4 ▸ hW) hs g hg).imp (h2 g) (h3 _ g), h5 ▸ h.x0⟩

theorem send_file_disk (s : State) (c : Cmd) (f : FileKey) :
    (send s c .file f.name).disk = s.disk ∨ (send s c .file f.name).disk = s.disk.unlink f.name := by
  cases c
  · exact Or.inl (send_disk_of_ne_mu s _ _ _ f.name_ascii (by simp)).1
  · exact Or.inl (send_disk_of_ne_mu s _ _ _ f.name_ascii (by simp)).1
  · rw [(send_mu_file s _ f.name_ascii).1]
    split
    · exact Or.inr rfl
    · exact Or.inl rfl

theorem send_dirs_file (s : State) (c : Cmd) (f : FileKey) :
    (send s c .file f.name).disk.dirs = s.disk.dirs := by
  rcases send_file_disk s c f with h | h <;> rw [h]; rfl

theorem send_files_sub (s : State) (c : Cmd) (f g : FileKey)
    (hg : g ∈ (send s c .file f.name).disk.files) : g ∈ s.disk.files := by
  rcases send_file_disk s c f with h | h <;> rw [h] at hg
  · exact hg
  · exact (List.mem_filter.mp hg).1

theorem send_files_keep (s : State) (c : Cmd) (f g : FileKey)
    (hn : g ≠ f) (hg : g ∈ s.disk.files) : g ∈ (send s c .file f.name).disk.files := by
  rcases send_file_disk s c f with h | h <;> rw [h]
  · exact hg
  · exact List.mem_filter.mpr ⟨hg, by simpa using fun e => hn (FileKey.name_inj e)⟩

theorem send_folder_disk (s : State) (c : Cmd) (d : FolderKey) (hc : c ≠ .maybeUnlink) :
    (send s c .folder d.name).disk = s.disk := (send_disk_of_ne_mu s c .folder _ d.name_ascii hc).1

theorem send_file_lookup_folder (s : State) (c : Cmd) (f : FileKey) (n : Name) :
    lookup ((send s c .file f.name).reg.get .folder) n = lookup (s.reg.get .folder) n :=
  send_lookup_other s c .file f.name f.name_ascii .folder n (by simp)

theorem fold_send_file {s : State} (h : Fold s) (c : Cmd) (f : FileKey) : Fold (send s c .file f.name) := by
  refine ⟨?_, ?_, ?_, ?_, ?_⟩
  · intro hp m ctx hc
    rw [send_file_lookup_folder]
    exact h.f1 (by simpa using hp) m ctx (by simpa using hc)
  · intro d hd
    rw [send_file_lookup_folder]
    exact h.f2 d (by rwa [send_dirs_file _ _ f] at hd)
  · intro g hg
    rw [send_dirs_file _ _ f]
    exact h.f3 g (send_files_sub _ _ f g hg)
  · intro hp d hd
    rw [send_dirs_file _ _ f] at hd
    simpa using h.f4 (by simpa using hp) d hd
  · intro hp m ctx hc
    simpa using h.f5 (by simpa using hp) m ctx (by simpa using hc)

/-- One request about a folder `d` (never a `MAYBE_UNLINK`). `Fold.f1/f2` want every folder that is known (on disk, or cached
while the parent lives) registered: so the request leaves `d` registered, or `d` is not known. -/
theorem inv_send_folder {cfg : Cfg} {s : State} (h : Inv cfg s) (c : Cmd) (d : FolderKey) (hc : c ≠ .maybeUnlink)
    (hd : execAt c (lookup (s.reg.get .folder) d.name) ≠ none ∨
      (d ∉ s.disk.dirs ∧ (s.parentAlive = true → d.c ∉ cachedOf s.toClient d.m))) :
    Inv cfg (send s c .folder d.name) := by
  have e := send_folder_disk s c d hc
  have hk : ∀ x : FolderKey, lookup (s.reg.get .folder) x.name ≠ none →
      x ∈ s.disk.dirs ∨ (s.parentAlive = true ∧ x.c ∈ cachedOf s.toClient x.m) →
      lookup ((send s c .folder d.name).reg.get .folder) x.name ≠ none := by
    intro x hx hu
    by_cases hxd : x = d
    · subst hxd
      rw [send_lookup_same _ _ _ _ x.name_ascii h.wire.distinct]
      exact hd.resolve_right fun hn => hu.elim hn.1 fun a => hn.2 a.1 a.2
    · rwa [send_lookup_other _ _ _ _ d.name_ascii _ _ (fun a => hxd (FolderKey.name_inj a.2))]
  refine ⟨wire_sendFolder h.wire c d, ⟨?_, ?_, ?_, ?_, ?_⟩, by rw [send_toClient]; exact h.users,
    fun hd => cnt_of_eq (h.cnt (by simpa using hd))
      (fun f => send_lookup_other s c .folder d.name d.name_ascii .file f.name (by simp)) (fun f => by simp)
      (send_disk_of_ne_mu s c .folder _ d.name_ascii hc).2,
    fun hx => fix_mono (h.fix hx) (fun g hg => by rwa [e] at hg) (by simp) (by simp) (by simp) (by simp)⟩
  · intro hp m ctx hcx
    rw [send_toClient] at hp hcx
    exact hk ⟨m, ctx⟩ (h.fold.f1 hp m ctx hcx) (Or.inr ⟨hp, hcx⟩)
  · intro x hx
    rw [e] at hx
    exact hk x (h.fold.f2 x hx) (Or.inl hx)
  · rw [e]; exact h.fold.f3
  · rw [e, send_toClient]; exact h.fold.f4
  · rw [send_toClient]; exact h.fold.f5

/-- `Inv` with the registry's count ahead of the users by `pend`: finalizers not yet run (the memmaps are gone, their
references not yet given back), or a reference registered before its user, the pickle, is there (`inv_pickleFor`). -/
structure InvP (cfg : Cfg) (s : State) (pend : List FileKey) : Prop where
  wire : Wire s
  fold : Fold s
  users : Users s.toClient
  cnt : s.dup = false →
    (∀ f, lookup (s.reg.get .file) f.name = enc (trackedUsers s.toClient f + pend.count f)) ∧ s.bad = []
  fix : cfg.fix = true → Fix s

theorem InvP.toInv {cfg : Cfg} {s : State} (h : InvP cfg s []) : Inv cfg s :=
  ⟨h.wire, h.fold, h.users, fun hd => ⟨by simpa using (h.cnt hd).1, (h.cnt hd).2⟩, h.fix⟩

theorem Inv.toP {cfg : Cfg} {s : State} (h : Inv cfg s) : InvP cfg s [] :=
  ⟨h.wire, h.fold, h.users, fun hd => ⟨by simpa using (h.cnt hd).j1, (h.cnt hd).b⟩, h.fix⟩

/-- One request about a file `f`. `u` is the tracker's count of every file before the request; the hypothesis says
that the request brings the count of `f` to the number of its registered users (plus the finalizers still pending).
The one request that deletes, a `MAYBE_UNLINK` at count 1, therefore meets a file nobody uses.
The groups come apart, and `u` is free, because the callers (`releaseExtra`, `forceUnregister`, `registerExtra`) have updated
`extra`, `leaked` or `released` before they write: no `Inv` or `InvP` holds of the state the request is sent from, and `u` is
`trackedUsers` of the state before that update. -/
theorem invP_send_file {cfg : Cfg} {s : State} (c : Cmd) (f : FileKey) (u : FileKey → Nat) (pend : List FileKey)
    (hw : Wire s) (hf : Fold s) (hu : Users s.toClient)
    (hc : s.dup = false → (∀ g, lookup (s.reg.get .file) g.name = enc (u g)) ∧
      (∀ g, trackedUsers s.toClient g + pend.count g = if g = f then absAt c (u f) else u g) ∧ s.bad = [])
    (hx : cfg.fix = true → Fix s) : InvP cfg (send s c .file f.name) pend := by
  refine ⟨wire_sendFile hw c f, fold_send_file hf c f, by rw [send_toClient]; exact hu, fun hd => ?_,
    fun hfx => fix_mono (hx hfx) (send_files_sub s c f) (by simp) (by simp) (by simp) (by simp)⟩
  obtain ⟨hl, ht, hb⟩ := hc (by simpa using hd)
  refine ⟨fun g => ?_, ?_⟩
  · rw [send_toClient, ht g]
    by_cases hg : g = f
    · subst hg; rw [if_pos rfl, send_lookup_same _ _ _ _ g.name_ascii hw.distinct, hl, execAt_enc]
    · rw [if_neg hg, send_lookup_other _ _ _ _ f.name_ascii _ _ (fun e => hg (FileKey.name_inj e.2)), hl]
  · cases c with
    | maybeUnlink =>
      rw [(send_mu_file s f.name f.name_ascii).2]
      split
      · rename_i h1
        rw [hl, enc_eq_some_one] at h1
        have h0 := ht f
        rw [if_pos rfl, h1] at h0
        rw [hb, List.nil_append, List.filter_eq_nil_iff]
        intro g _
        simp only [decide_eq_true_eq, not_and, Nat.not_lt, Nat.le_zero]
        intro e
        cases FileKey.name_inj e
        have := liveUsers_le_tracked s.toClient f
        simp only [absAt] at h0
        omega
      · exact hb
    | register => rw [(send_disk_of_ne_mu s _ _ _ f.name_ascii (by simp)).2]; exact hb
    | unregister => rw [(send_disk_of_ne_mu s _ _ _ f.name_ascii (by simp)).2]; exact hb

end JoblibModel.TrackerClient
