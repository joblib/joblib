import JoblibModel.TrackerClient
import JoblibProofs.Lemmas.Tracker
import JoblibProofs.Lemmas.Common
/-! `send` as one `exec` of the tracker plus what its action does to the disk, and `Wire`, the first of the five groups of
the invariant `Inv` of `Inv.lean`: the registry is the tracker's run over what was written. At the head, the facts about
lists (`updAt`, `removeAt`, counting, folds) that the five files use. -/
namespace JoblibModel.TrackerClient
open JoblibModel.Tracker

theorem replicate_append_cons_inj {a b : Nat} (hab : a ≠ b) :
    ∀ (m m' : Nat) (t t' : List Nat), List.replicate m a ++ b :: t = List.replicate m' a ++ b :: t' →
      m = m' ∧ t = t'
  | 0, 0, t, t', h => by simpa using h
  | 0, m' + 1, t, t', h => by simp [List.replicate_succ] at h; exact absurd h.1.symm hab
  | m + 1, 0, t, t', h => by simp [List.replicate_succ] at h; exact absurd h.1 hab
  | m + 1, m' + 1, t, t', h => by
    simp only [List.replicate_succ, List.cons_append, List.cons.injEq, true_and] at h
    have := replicate_append_cons_inj hab m m' t t' h
    exact ⟨by omega, this.2⟩

theorem forall_mem_snoc {α : Type} {P : α → Prop} {l : List α} {a : α} (h1 : ∀ x ∈ l, P x) (h2 : P a) :
    ∀ x ∈ l ++ [a], P x :=
  List.forall_mem_append.mpr ⟨h1, List.forall_mem_singleton.mpr h2⟩

theorem getElem?_append_new {α : Type} (l : List α) (x : α) (m : Nat) :
    (l ++ [x])[m]? = if m = l.length then some x else l[m]? := by
  rcases Nat.lt_trichotomy m l.length with h | h | h
  · rw [List.getElem?_append_left h, if_neg (Nat.ne_of_lt h)]
  · subst h; simp
  · rw [List.getElem?_eq_none (by simp; omega), if_neg (Nat.ne_of_gt h), List.getElem?_eq_none (by omega)]

theorem updAt_eq_modify {α : Type} (l : List α) (i : Nat) (f : α → α) : updAt l i f = l.modify i f := by
  induction l generalizing i with
  | nil => simp [updAt]
  | cons x r ih => cases i <;> simp [updAt, ih]

theorem removeAt_eq_eraseIdx {α : Type} (l : List α) (i : Nat) : removeAt l i = l.eraseIdx i := by
  induction l generalizing i with
  | nil => rfl
  | cons x r ih => cases i <;> simp [removeAt, ih]

theorem updAt_length {α : Type} (l : List α) (i : Nat) (f : α → α) : (updAt l i f).length = l.length := by
  rw [updAt_eq_modify, List.length_modify]

theorem getElem?_updAt {α : Type} (l : List α) (i j : Nat) (f : α → α) :
    (updAt l i f)[j]? = if j = i then (l[i]?).map f else l[j]? := by
  rw [updAt_eq_modify, List.getElem?_modify]
  by_cases h : j = i
  · subst h; simp
  · simp [h, Ne.symm h]

theorem mem_updAt {α : Type} {l : List α} {i : Nat} {f : α → α} {x : α} (h : x ∈ updAt l i f) :
    x ∈ l ∨ ∃ y, l[i]? = some y ∧ x = f y := by
  obtain ⟨j, hj⟩ := List.getElem?_of_mem h
  rw [getElem?_updAt] at hj
  split at hj
  · obtain ⟨y, hy, rfl⟩ := Option.map_eq_some_iff.mp hj
    exact Or.inr ⟨y, hy, rfl⟩
  · exact Or.inl (List.mem_of_getElem? hj)

theorem mem_removeAt {α : Type} {l : List α} {i : Nat} {x : α} (h : x ∈ removeAt l i) : x ∈ l :=
  List.mem_of_mem_eraseIdx (removeAt_eq_eraseIdx l i ▸ h)

theorem map_updAt_preserve {α β : Type} (l : List α) (i : Nat) (f : α → α) (g : α → β) (h : ∀ x, g (f x) = g x) :
    (updAt l i f).map g = l.map g := by
  induction l generalizing i with
  | nil => rfl
  | cons a r ih => cases i <;> simp [updAt, h, ih]

theorem nodup_map_index {α β : Type} (l : List α) (g : α → β) (hn : (l.map g).Nodup) (i j : Nat) (a b : α)
    (hi : l[i]? = some a) (hj : l[j]? = some b) (e : g a = g b) : i = j :=
  (List.getElem?_inj (by rw [List.length_map]; exact (List.getElem?_eq_some_iff.mp hi).1) hn).mp
    (by rw [List.getElem?_map, List.getElem?_map, hi, hj]; exact congrArg some e)

theorem countP_removeAt {α : Type} (l : List α) (i : Nat) (x : α) (p : α → Bool) (h : l[i]? = some x) :
    (removeAt l i).countP p + (if p x then 1 else 0) = l.countP p :=
  removeAt_eq_eraseIdx l i ▸ List.countP_eraseIdx_add h

theorem count_filter_ne {α : Type} [DecidableEq α] (l : List α) (f g : α) :
    (l.filter (fun x => x ≠ f)).count g = if g = f then 0 else l.count g := by
  split <;> rename_i h
  · subst h; rw [List.count_eq_zero]; intro h; simpa using (List.mem_filter.mp h).2
  · exact List.count_filter (by simpa using h)

/-- What is left in `π` after a fold whose steps only remove from it: it was there, and no step removed it. -/
theorem mem_foldl_remove {α β γ : Type} {π : β → List γ} {f : β → α → β} {dead : α → γ → Prop}
    (hf : ∀ s a x, x ∈ π (f s a) → x ∈ π s ∧ ¬ dead a x) (l : List α) (s : β) (x : γ)
    (hx : x ∈ π (l.foldl f s)) : x ∈ π s ∧ ∀ a ∈ l, ¬ dead a x := by
  induction l generalizing s with
  | nil => exact ⟨hx, nofun⟩
  | cons a r ih =>
    obtain ⟨h1, h2⟩ := ih _ hx
    obtain ⟨h3, h4⟩ := hf s a x h1
    exact ⟨h3, List.forall_mem_cons.mpr ⟨h4, h2⟩⟩

theorem classify_reqLine (c : Cmd) (rt : RType) (name : Name) (hascii : ∀ b ∈ name, b < 128) :
    classify (reqLine c rt name) = .req c rt name :=
  classify_send cmdStr rfl rfl rfl c rt name hascii

theorem FolderKey.name_inj {d d' : FolderKey} (h : d.name = d'.name) : d = d' := by
  cases d with | mk m c => cases d' with | mk m' c' =>
  simp only [FolderKey.name, List.cons.injEq, true_and] at h
  obtain ⟨hm, hc⟩ := replicate_append_cons_inj (by decide) _ _ _ _ h
  have : c = c' := by simpa using congrArg List.length hc
  subst hm; subst this; rfl

theorem FileKey.name_inj {f f' : FileKey} (h : f.name = f'.name) : f = f' := by
  cases f with | mk m c a => cases f' with | mk m' c' a' =>
  simp only [FileKey.name, FileKey.folder, FolderKey.name, List.cons_append, List.append_assoc,
    List.cons.injEq, true_and] at h
  obtain ⟨hm, h2⟩ := replicate_append_cons_inj (by decide) _ _ _ _ h
  obtain ⟨hc, h3⟩ := replicate_append_cons_inj (by decide) _ _ _ _ h2
  have : a = a' := by simpa using congrArg List.length h3
  subst hm; subst hc; subst this; rfl

theorem FolderKey.name_ascii (d : FolderKey) : ∀ b ∈ d.name, b < 128 := by
  intro b hb
  simp only [FolderKey.name, List.mem_cons, List.mem_append, List.mem_replicate] at hb
  omega

theorem FileKey.name_ascii (f : FileKey) : ∀ b ∈ f.name, b < 128 := by
  intro b hb
  simp only [FileKey.name, List.mem_append, List.mem_cons, List.mem_replicate] at hb
  rcases hb with hb | hb | hb
  · exact FolderKey.name_ascii _ b hb
  · omega
  · omega

/-- The only action of `execActs` that `applyAction` does not ignore. -/
def cleanupOf (c : Cmd) (rt : RType) (name : Name) (old : Option Int) : Option Action :=
  match c, old with
  | .maybeUnlink, some n => if n - 1 = 0 then some (.cleanup rt name) else none
  | _, _ => none

theorem foldl_applyAction_execActs (s : State) (c : Cmd) (rt : RType) (name : Name) (old : Option Int) :
    (execActs c rt name old).foldl applyAction s =
      match cleanupOf c rt name old with
      | some a => applyAction s a
      | none => s := by
  cases c <;> cases old <;> try (simp [execActs, cleanupOf, applyAction]; done)
  rename_i n
  by_cases h : n - 1 = 0 <;> simp [execActs, cleanupOf, h]

theorem send_eq (s : State) (c : Cmd) (rt : RType) (name : Name) (hascii : ∀ b ∈ name, b < 128) :
    send s c rt name =
      match cleanupOf c rt name (lookup (s.reg.get rt) name) with
      | some a => applyAction { s with reg := (exec s.reg c rt name).1, sent := reqLine c rt name :: s.sent } a
      | none => { s with reg := (exec s.reg c rt name).1, sent := reqLine c rt name :: s.sent } := by
  unfold send
  simp only [step_req _ _ _ _ _ (classify_reqLine c rt name hascii), exec_acts, foldl_applyAction_execActs]

@[simp] theorem applyAction_toClient (s : State) (a : Action) : (applyAction s a).toClient = s.toClient := by
  cases a with
  | cleanup rt n => cases rt <;> rfl
  | report e => rfl
  | leakWarning rt n => rfl

@[simp] theorem applyAction_reg (s : State) (a : Action) : (applyAction s a).reg = s.reg := by
  cases a with
  | cleanup rt n => cases rt <;> rfl
  | report e => rfl
  | leakWarning rt n => rfl

@[simp] theorem applyAction_sent (s : State) (a : Action) : (applyAction s a).sent = s.sent := by
  cases a with
  | cleanup rt n => cases rt <;> rfl
  | report e => rfl
  | leakWarning rt n => rfl

@[simp] theorem foldl_applyAction_toClient (l : List Action) (s : State) :
    (l.foldl applyAction s).toClient = s.toClient := by
  induction l generalizing s with
  | nil => rfl
  | cons a r ih => simp [ih]

@[simp] theorem foldl_applyAction_reg (l : List Action) (s : State) : (l.foldl applyAction s).reg = s.reg := by
  induction l generalizing s with
  | nil => rfl
  | cons a r ih => simp [ih]

@[simp] theorem foldl_applyAction_sent (l : List Action) (s : State) : (l.foldl applyAction s).sent = s.sent := by
  induction l generalizing s with
  | nil => rfl
  | cons a r ih => simp [ih]

@[simp] theorem send_toClient (s : State) (c : Cmd) (rt : RType) (name : Name) :
    (send s c rt name).toClient = s.toClient := by simp [send]

@[simp] theorem send_sent (s : State) (c : Cmd) (rt : RType) (name : Name) :
    (send s c rt name).sent = reqLine c rt name :: s.sent := by simp [send]

theorem send_reg (s : State) (c : Cmd) (rt : RType) (name : Name) :
    (send s c rt name).reg = (step s.reg (reqLine c rt name)).1 := by simp [send]

theorem send_reg_exec (s : State) (c : Cmd) (rt : RType) (name : Name) (ha : ∀ b ∈ name, b < 128) :
    (send s c rt name).reg = (exec s.reg c rt name).1 := by
  rw [send_reg, step_req _ _ _ _ _ (classify_reqLine c rt name ha)]

theorem applyAction_setWorkers (s : State) (ws : List Workers) (a : Action) :
    applyAction { s with workers := ws } a = { applyAction s a with workers := ws } := by
  cases a with
  | cleanup rt n => cases rt <;> rfl
  | report e => rfl
  | leakWarning rt n => rfl

theorem foldl_applyAction_setWorkers (acts : List Action) (t : State) (ws : List Workers) :
    acts.foldl applyAction { t with workers := ws } = { acts.foldl applyAction t with workers := ws } := by
  induction acts generalizing t with
  | nil => rfl
  | cons a r ih => rw [List.foldl_cons, applyAction_setWorkers, ih]; rfl

theorem send_setWorkers (s : State) (ws : List Workers) (c : Cmd) (rt : RType) (name : Name) :
    send { s with workers := ws } c rt name = { send s c rt name with workers := ws } := by
  simp only [send]
  exact foldl_applyAction_setWorkers _
    { s with reg := (step s.reg (reqLine c rt name)).1, sent := reqLine c rt name :: s.sent } ws

/- From here on, and again in Ops.lean, `send` is not unfolded: a `rfl`, `exact` or `rw` that compares a state built by `send`
with a record update or a projection would otherwise evaluate the tracker's parser on the request line, which succeeds but is
slow (`registerExtra_setWorkers`, `pickleFor_proj` in Ops.lean; the `by rfl` of `wire_of_eq` in `wire_registerNewContext` below).
In its place: `send_eq` (one `exec`, at most one action) and the other `send_` lemmas above. -/
attribute [local irreducible] send

@[simp] theorem clientRmtree_toClient (s : State) (d : FolderKey) : (clientRmtree s d).toClient = s.toClient := rfl
@[simp] theorem clientRmtree_reg (s : State) (d : FolderKey) : (clientRmtree s d).reg = s.reg := rfl
@[simp] theorem clientRmtree_sent (s : State) (d : FolderKey) : (clientRmtree s d).sent = s.sent := rfl

theorem send_disk_of_ne_mu (s : State) (c : Cmd) (rt : RType) (name : Name) (ha : ∀ b ∈ name, b < 128)
    (hc : c ≠ .maybeUnlink) : (send s c rt name).disk = s.disk ∧ (send s c rt name).bad = s.bad := by
  rw [send_eq s c rt name ha]
  cases c <;> simp [cleanupOf] at hc ⊢

theorem send_mu_file (s : State) (name : Name) (ha : ∀ b ∈ name, b < 128) :
    ((send s .maybeUnlink .file name).disk =
        if lookup (s.reg.get .file) name = some 1 then s.disk.unlink name else s.disk) ∧
    ((send s .maybeUnlink .file name).bad =
        if lookup (s.reg.get .file) name = some 1 then
          s.bad ++ s.disk.files.filter (fun f => f.name = name ∧ 0 < liveUsers s.toClient f)
        else s.bad) := by
  rw [send_eq s _ _ name ha]
  cases h : lookup (s.reg.get .file) name with
  | none => simp [cleanupOf]
  | some n =>
    by_cases h1 : n = 1
    · subst h1; simp [cleanupOf, applyAction]
    · have : ¬ n - 1 = 0 := by omega
      simp [cleanupOf, this, h1]

theorem send_lookup_same (s : State) (c : Cmd) (rt : RType) (name : Name) (ha : ∀ b ∈ name, b < 128)
    (hd : s.reg.Distinct) :
    lookup ((send s c rt name).reg.get rt) name = execAt c (lookup (s.reg.get rt) name) := by
  rw [send_reg_exec _ _ _ _ ha]; exact exec_get_same _ _ _ _ hd

theorem send_lookup_other (s : State) (c : Cmd) (rt : RType) (name : Name) (ha : ∀ b ∈ name, b < 128)
    (t : RType) (m : Name) (h : ¬ (t = rt ∧ m = name)) :
    lookup ((send s c rt name).reg.get t) m = lookup (s.reg.get t) m := by
  rw [send_reg_exec _ _ _ _ ha]; exact exec_get_other _ _ _ _ _ _ h

/-- A line `_send` can have written for joblib: a known command, type "file" or "folder", an ASCII name. -/
def WfLine (l : Line) : Prop :=
  ∃ c rt name, l = reqLine c rt name ∧ (∀ b ∈ name, b < 128) ∧ (rt = .file ∨ rt = .folder)

structure Wire (s : State) : Prop where
  distinct : s.reg.Distinct
  isRun : s.reg = (run Registry.empty s.sent.reverse).1
  lines : ∀ l ∈ s.sent, WfLine l

theorem wire_init : Wire State.init :=
  ⟨empty_distinct, rfl, by simp [State.init]⟩

theorem wire_send {s : State} (h : Wire s) (c : Cmd) (rt : RType) (name : Name) (ha : ∀ b ∈ name, b < 128)
    (hrt : rt = .file ∨ rt = .folder) : Wire (send s c rt name) := by
  refine ⟨by rw [send_reg]; exact step_distinct _ _ h.distinct, ?_, ?_⟩
  · rw [send_reg, send_sent, List.reverse_cons, run_snoc, ← h.isRun]
  · intro l hl
    rw [send_sent] at hl
    rcases List.mem_cons.mp hl with rfl | hl
    · exact ⟨c, rt, name, rfl, ha, hrt⟩
    · exact h.lines l hl

theorem wire_sendFile {s : State} (h : Wire s) (c : Cmd) (f : FileKey) : Wire (send s c .file f.name) :=
  wire_send h c .file _ f.name_ascii (Or.inl rfl)

theorem wire_sendFolder {s : State} (h : Wire s) (c : Cmd) (d : FolderKey) : Wire (send s c .folder d.name) :=
  wire_send h c .folder _ d.name_ascii (Or.inr rfl)

theorem wire_of_eq {s t : State} (h : Wire s) (hr : t.reg = s.reg := by rfl) (hs : t.sent = s.sent := by rfl) : Wire t :=
  ⟨hr ▸ h.distinct, by rw [hr, hs]; exact h.isRun, by rw [hs]; exact h.lines⟩

/- `Wire` alone along six of the manager's functions. No `inv_` lemma uses them: each builds its `Wire` part from `wire_of_eq`,
`wire_sendFile` or `wire_sendFolder`, so a new operation needs no `wire_` lemma. -/
theorem wire_registerNewContext {s : State} (h : Wire s) (m ctx : Nat) : Wire (registerNewContext s m ctx) := by
  unfold registerNewContext
  split
  · exact h
  · exact wire_of_eq (wire_sendFolder h .register ⟨m, ctx⟩)

theorem wire_setCurrentContext {s : State} (h : Wire s) (m ctx : Nat) : Wire (setCurrentContext s m ctx) := by
  unfold setCurrentContext
  exact wire_registerNewContext (wire_of_eq h) m ctx

theorem wire_newManager {s : State} (h : Wire s) : Wire (newManager s) := by
  unfold newManager
  exact wire_setCurrentContext (wire_of_eq h) _ 0

theorem wire_releaseExtra (cfg : Cfg) {s : State} (h : Wire s) (m : Nat) (f : FileKey) :
    Wire (releaseExtra cfg s m f) := by
  unfold releaseExtra
  split
  · exact h
  · exact wire_sendFile (wire_of_eq h) _ f

theorem wire_forceUnregister {s : State} (h : Wire s) (f : FileKey) : Wire (forceUnregister s f) := by
  unfold forceUnregister
  exact wire_sendFile (wire_of_eq h) _ f

theorem wire_clientRmtree {s : State} (h : Wire s) (d : FolderKey) : Wire (clientRmtree s d) :=
  wire_of_eq h

end JoblibModel.TrackerClient
