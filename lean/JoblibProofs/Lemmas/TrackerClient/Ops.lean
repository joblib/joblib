import JoblibProofs.Lemmas.TrackerClient.Procs
/-! Preservation of the invariants by the operations of the client model; what is left on disk at the end.
`workerStep`, `parentStep` and `stepOp` have no equations: `inv_workerStep` and `inv_parentStep` take the operations one by
one and follow the branches of each in the model's order with `split`, `inv_stepOp` unfolds `stepOp`; outside this file only
`C20.eventually_deleted_at_exit` unfolds them. -/
namespace JoblibModel.TrackerClient
open JoblibModel.Tracker

attribute [local irreducible] send  -- as in Basic.lean

theorem inv_createWorkers {cfg : Cfg} {s : State} (h : Inv cfg s) (m : Nat) (pool : Bool) (limit : Option Nat)
    (hm : m < s.managers.length) (hfresh : ∀ W ∈ s.workers, W.mgr < m) :
    Inv cfg (createWorkers s m pool limit) := by
  unfold createWorkers
  refine ⟨wire_of_eq h.wire, fold_of_eq h.fold,
    ⟨h.users.held, ?_, forall_mem_snoc h.users.i4b hm, forall_mem_snoc h.users.x3 (by simp)⟩,
    fun hd => cnt_of_eq (h.cnt hd), fun hf => { h.fix hf with x2 := forall_mem_snoc (h.fix hf).x2 (by simp) }⟩
  show ((s.workers ++ [(⟨m, pool, false, limit, []⟩ : Workers)]).map (·.mgr)).Nodup
  rw [List.map_append, List.nodup_append]
  refine ⟨h.users.i4, by simp, fun a ha b hb => ?_⟩
  obtain ⟨W, hW, rfl⟩ := List.mem_map.mp ha
  rw [List.mem_singleton.mp hb]
  exact Nat.ne_of_lt (hfresh W hW)

theorem inv_setBackend {cfg : Cfg} {s : State} (h : Inv cfg s) (b : List (Nat × Nat)) : Inv cfg { s with backend := b } :=
  inv_congr h

theorem inv_setExecutor {cfg : Cfg} {s : State} (h : Inv cfg s) (e : Option Nat) : Inv cfg { s with executor := e } :=
  inv_congr h

theorem inv_createExecutor {cfg : Cfg} {s : State} (h : Inv cfg s) (m : Nat) (limit : Option Nat)
    (hm : m < s.managers.length) (hfresh : ∀ W ∈ s.workers, W.mgr < m) : Inv cfg (createExecutor s m limit) := by
  unfold createExecutor
  exact inv_setExecutor (inv_createWorkers h m false limit hm hfresh) _

theorem fresh_shutdownWorkers {s : State} {m : Nat} (hfresh : ∀ W ∈ s.workers, W.mgr < m) (w : Nat) (kill : Bool) :
    ∀ W ∈ (shutdownWorkers s w kill).workers, W.mgr < m := by
  rw [shutdownWorkers_eq]
  split
  · exact hfresh
  · rename_i W0 hW0
    intro W hW
    have hW' : W ∈ updAt s.workers w setShutdown := (wframe_endWorkers s W0.mgr kill).workers ▸ hW
    rcases mem_updAt hW' with hW' | ⟨y, hy, rfl⟩
    · exact hfresh W hW'
    · exact hfresh y (List.mem_of_getElem? hy)

theorem inv_reusableExecutor {cfg : Cfg} {s : State} (h : Inv cfg s) (reuse : Bool) (m : Nat) (limit : Option Nat)
    (hm : m < s.managers.length) (hfresh : ∀ W ∈ s.workers, W.mgr < m) :
    Inv cfg (reusableExecutor s reuse m limit) := by
  unfold reusableExecutor
  split
  · exact inv_createExecutor h m limit hm hfresh
  · split
    · apply inv_createExecutor (inv_shutdownWorkers h _ false) m limit
      · rw [shutdownWorkers_mlen]; exact hm
      · exact fresh_shutdownWorkers hfresh _ false
    · exact h

theorem inv_bindContext {cfg : Cfg} {s : State} (h : Inv cfg s) (k : Nat) : Inv cfg (bindContext s k) := by
  unfold bindContext
  split
  · exact h
  · split
    · exact h
    · exact inv_setBackend (inv_registerNewContext h _ _) _

theorem wframe_registerNewContext (s : State) (m ctx : Nat) : WFrame s (registerNewContext s m ctx) := by
  unfold registerNewContext
  split
  · exact WFrame.refl s
  · exact ⟨by simp, by simp [updAt_length], by simp⟩

theorem wframe_setCurrentContext (s : State) (m ctx : Nat) : WFrame s (setCurrentContext s m ctx) :=
  WFrame.trans (t := { s with managers := updAt s.managers m (fun M => { M with current := ctx }) })
    ⟨rfl, updAt_length .., rfl⟩ (wframe_registerNewContext _ m ctx)

theorem newManager_frame (s : State) :
    (newManager s).workers = s.workers ∧ (newManager s).managers.length = s.managers.length + 1 := by
  have := wframe_setCurrentContext { s with managers := s.managers ++ [⟨[], 0, []⟩] } s.managers.length 0
  exact ⟨this.workers, this.mlen.trans (by simp)⟩

theorem inv_getExecutor {cfg : Cfg} {s : State} (h : Inv cfg s) (args : Args) (limit : Option Nat) (k : Nat) :
    Inv cfg (getExecutor s args limit k) := by
  unfold getExecutor
  apply inv_bindContext
  have h0 : Inv cfg { s with executorArgs := some args } := inv_congr h
  obtain ⟨f1, f2⟩ := newManager_frame { s with executorArgs := some args }
  apply inv_reusableExecutor (inv_newManager h0)
  · rw [f2]; exact Nat.lt_succ_self _
  · rw [f1]; exact h.users.i4b

theorem inv_terminateExecutor {cfg : Cfg} {s : State} (h : Inv cfg s) (w : Nat) (kill : Bool) :
    Inv cfg (terminateExecutor cfg s w kill) := by
  unfold terminateExecutor
  split
  · exact h
  · rename_i W hW
    have hn := noUsers_shutdownWorkers h w kill W hW
    exact inv_cleanAll (inv_shutdownWorkers h w kill) W.mgr kill true
      (fun _ => ⟨hn, mgrDown_shutdownWorkers h w kill W hW⟩) (fun _ => hn)

theorem inv_mkdir {cfg : Cfg} {s : State} (h : Inv cfg s) (d : FolderKey) (hpa : s.parentAlive = true)
    (hc : d.c ∈ cachedOf s.toClient d.m) : Inv cfg (mkdir s d) := by
  unfold mkdir
  split
  · exact h
  -- a cached folder is registered and has its callback
  exact ⟨wire_of_eq h.wire,
    { h.fold with
      f2 := forall_mem_snoc h.fold.f2 (h.fold.f1 hpa d.m d.c hc)
      f3 := fun g hg => List.mem_append_left _ (h.fold.f3 g hg)
      f4 := fun hp => forall_mem_snoc (h.fold.f4 hp) (h.fold.f5 hpa d.m d.c hc) },
    h.users, fun hd => cnt_of_eq (h.cnt hd), fun hf => fix_mono (h.fix hf)⟩

theorem inv_addTemp {cfg : Cfg} {s : State} (h : Inv cfg s) (w : Nat) (f : FileKey) (W : Workers)
    (hW : s.workers[w]? = some W) (hfm : f.m = W.mgr)
    (hx : cfg.fix = true → f ∈ s.extra ∨ f ∈ releasedOf s.toClient f.m) :
    Inv cfg { s with workers := updAt s.workers w (fun W => { W with temporary := f :: W.temporary }) } := by
  refine ⟨wire_of_eq h.wire, fold_of_eq h.fold, users_updAt_workers h.users w _ (fun _ => rfl) fun W' hW' =>
      List.forall_mem_cons.mpr ⟨Option.some.inj (hW.symm.trans hW') ▸ hfm, h.users.x3 W' (List.mem_of_getElem? hW')⟩,
    fun hd => cnt_of_eq (h.cnt hd), fun hf => { h.fix hf with x2 := fun W' hW' hsd => ?_ }⟩
  rcases mem_updAt hW' with hW' | ⟨y, hy, rfl⟩
  · exact (h.fix hf).x2 W' hW' hsd
  · exact List.forall_mem_cons.mpr ⟨hx hf, (h.fix hf).x2 y (List.mem_of_getElem? hy) hsd⟩

theorem inv_registerExtra {cfg : Cfg} {s : State} (h : Inv cfg s) (f : FileKey) : Inv cfg (registerExtra s f) := by
  refine (invP_send_file (s := { s with extra := f :: s.extra }) .register f (trackedUsers s.toClient) []
    (wire_of_eq h.wire) (fold_of_eq h.fold) (users_of_eq h.users) (fun hd => ⟨(h.cnt hd).j1, fun g => ?_, (h.cnt hd).b⟩)
    (fun hx => fix_mono (h.fix hx) (h2 := fun g hg => List.mem_cons_of_mem _ hg))).toInv
  simp only [trackedUsers, trackedWorkerUsers, List.count_cons, absAt, List.count_nil]
  by_cases e : g = f
  · subst e; simp; omega
  · simp [e, Ne.symm e]

theorem inv_appendInflight {cfg : Cfg} {s : State} (f : FileKey) (tr : Bool)
    (h : InvP cfg s (if tr then [f] else [])) : Inv cfg { s with inflight := s.inflight ++ [⟨f, tr⟩] } := by
  refine ⟨wire_of_eq h.wire, fold_of_eq h.fold, users_of_eq h.users,
    fun hd => ⟨fun g => ((h.cnt hd).1 g).trans (congrArg enc ?_), (h.cnt hd).2⟩, fun hx => fix_mono (h.fix hx)⟩
  simp only [trackedUsers, trackedWorkerUsers, List.countP_append, List.countP_cons, List.countP_nil]
  cases tr <;> by_cases e : f = g <;> simp [e] <;> omega

theorem inv_pickleFor {cfg : Cfg} {s : State} (h : Inv cfg s) (f : FileKey) (tracked : Bool) :
    Inv cfg (pickleFor s f tracked) := by
  unfold pickleFor
  cases tracked with
  | false => exact inv_appendInflight f false h.toP
  | true =>
    -- between the request and the pickle the count is one ahead of the users
    refine inv_appendInflight f true (invP_send_file .register f (trackedUsers s.toClient) [f] h.wire h.fold h.users
      (fun hd => ⟨(h.cnt hd).j1, fun g => ?_, (h.cnt hd).b⟩) h.fix)
    by_cases e : g = f
    · subst e; simp [absAt]
    · simp [e, Ne.symm e]

theorem inv_dumpFile {cfg : Cfg} {s : State} (h : Inv cfg s) (f : FileKey) (hd : f.folder ∈ s.disk.dirs)
    (hx : cfg.fix = true → f ∈ s.extra ∨ f ∈ releasedOf s.toClient f.m) : Inv cfg (dumpFile s f) := by
  unfold dumpFile
  split
  · exact h
  exact ⟨wire_of_eq h.wire, { h.fold with f3 := forall_mem_snoc h.fold.f3 hd }, h.users,
    fun hd' => cnt_of_eq (h.cnt hd'),
    fun hf => { h.fix hf with x1 := forall_mem_snoc (h.fix hf).x1 (hx hf) }⟩

/- `pickleFor_proj`, `registerExtra_proj`, `mkdir_toClient`, `dumpFile_toClient`: what `inv_memmapArray` carries of `disk` and
`workers` across the reducer's steps (no frame of Leaves or Procs has both). -/
theorem pickleFor_proj (s : State) (f : FileKey) (tracked : Bool) :
    (pickleFor s f tracked).disk = s.disk ∧ (pickleFor s f tracked).workers = s.workers := by
  unfold pickleFor
  cases tracked with
  | false => exact ⟨rfl, rfl⟩
  | true => exact ⟨(send_disk_of_ne_mu s _ _ _ f.name_ascii (by simp)).1, by simp⟩

theorem registerExtra_proj (s : State) (f : FileKey) :
    (registerExtra s f).disk = s.disk ∧ (registerExtra s f).extra = f :: s.extra ∧
    (registerExtra s f).workers = s.workers := by
  unfold registerExtra
  exact ⟨(send_disk_of_ne_mu _ _ _ _ f.name_ascii (by simp)).1, by simp, by simp⟩

theorem mem_mkdir_dirs (s : State) (d : FolderKey) : d ∈ (mkdir s d).disk.dirs := by
  unfold mkdir; split
  · assumption
  · exact List.mem_append_right _ (List.mem_singleton.mpr rfl)

theorem mkdir_toClient (s : State) (d : FolderKey) : (mkdir s d).toClient = s.toClient := by
  unfold mkdir; split <;> rfl

theorem dumpFile_toClient (s : State) (f : FileKey) : (dumpFile s f).toClient = s.toClient := by
  unfold dumpFile; split <;> rfl

theorem pickleFor_setWorkers (s : State) (ws : List Workers) (f : FileKey) (tr : Bool) :
    pickleFor { s with workers := ws } f tr = { pickleFor s f tr with workers := ws } := by
  cases tr
  · rfl
  · simp only [pickleFor, if_true, send_setWorkers]

theorem registerExtra_setWorkers (s : State) (ws : List Workers) (f : FileKey) :
    registerExtra { s with workers := ws } f = { registerExtra s f with workers := ws } :=
  send_setWorkers { s with extra := f :: s.extra } ws _ _ _

theorem dumpFile_setWorkers (s : State) (ws : List Workers) (f : FileKey) :
    dumpFile { s with workers := ws } f = { dumpFile s f with workers := ws } := by
  unfold dumpFile; split <;> rfl

/-- `memmapArray` with its steps in an order in which each keeps `Inv`: the reducer's note of the file
(`W.temporary`), second in the model and in the code, comes last. In the code's order `Fix.x2` fails between noting
the file and registering the extra reference; the three `*_setWorkers` lemmas carry the note past the other steps. -/
theorem memmapArray_eq (s : State) (w : Nat) (f : FileKey) (pool known : Bool) :
    memmapArray s w f pool known =
      { dumpFile (if known then pickleFor (mkdir s f.folder) f (!pool)
          else registerExtra (pickleFor (mkdir s f.folder) f (!pool)) f) f with
        workers := updAt (mkdir s f.folder).workers w (fun W => { W with temporary := f :: W.temporary }) } := by
  unfold memmapArray
  cases known <;>
    simp only [pickleFor_setWorkers, registerExtra_setWorkers, dumpFile_setWorkers, if_true, if_false,
      Bool.false_eq_true]

theorem inv_memmapArray {cfg : Cfg} {s : State} (h : Inv cfg s) (w : Nat) (f : FileKey) (W : Workers)
    (hW : s.workers[w]? = some W) (hfm : f.m = W.mgr) (hpa : s.parentAlive = true)
    (hc : f.c ∈ cachedOf s.toClient f.m) (hlive : W.shutdown = false) :
    Inv cfg (memmapArray s w f W.pool (decide (f ∈ W.temporary))) := by
  rw [memmapArray_eq]
  have h1 := inv_mkdir h f.folder hpa hc
  have hd1 := mem_mkdir_dirs s f.folder
  have hW1 : (mkdir s f.folder).workers[w]? = some W := mkdir_toClient s f.folder ▸ hW
  generalize mkdir s f.folder = s1 at h1 hd1 hW1
  have h3 := inv_pickleFor h1 f (!W.pool)
  obtain ⟨p1, p2⟩ := pickleFor_proj s1 f (!W.pool)
  generalize pickleFor s1 f (!W.pool) = s3 at h3 p1 p2
  generalize hs4 : (if decide (f ∈ W.temporary) = true then s3 else registerExtra s3 f) = s4
  -- the extra reference is there before the reducer notes the file: found through what it knew, or taken now
  obtain ⟨h4, q1, q2, hx⟩ : Inv cfg s4 ∧ s4.disk = s3.disk ∧ s4.workers = s3.workers ∧
      (cfg.fix = true → f ∈ s4.extra ∨ f ∈ releasedOf s4.toClient f.m) := by
    subst hs4
    split
    · rename_i hk
      exact ⟨h3, rfl, rfl,
        fun hfx => (h3.fix hfx).x2 W (List.mem_of_getElem? (p2 ▸ hW1)) hlive f (by simpa using hk)⟩
    · obtain ⟨r1, r2, r3⟩ := registerExtra_proj s3 f
      exact ⟨inv_registerExtra h3 f, r1, r3, fun _ => Or.inl (r2 ▸ List.mem_cons_self ..)⟩
  have h5 := inv_dumpFile h4 f (by rw [q1, p1]; exact hd1) hx
  have e5 := dumpFile_toClient s4 f
  have hw5 : (dumpFile s4 f).workers = s1.workers := by
    rw [show (dumpFile s4 f).workers = s4.workers from congrArg Client.workers e5, q2, p2]
  rw [← hw5]
  exact inv_addTemp h5 w f W (hw5 ▸ hW1) hfm (e5 ▸ hx)

theorem inv_reduceArray {cfg : Cfg} {s : State} (h : Inv cfg s) (k w : Nat) (a : ArrayDesc)
    (hpa : s.parentAlive = true) (hlive : ∀ W, s.workers[w]? = some W → W.shutdown = false) :
    Inv cfg (reduceArray s k w a) := by
  unfold reduceArray
  split
  · exact h
  · rename_i W hW
    obtain ⟨h1, f1⟩ : Inv cfg (if W.pool = true then s else setCurrentContext s W.mgr (k + 1)) ∧
        WFrame s (if W.pool = true then s else setCurrentContext s W.mgr (k + 1)) := by
      split
      · exact ⟨h, WFrame.refl s⟩
      · exact ⟨inv_setCurrentContext h _ _, wframe_setCurrentContext s _ _⟩
    generalize (if W.pool = true then s else setCurrentContext s W.mgr (k + 1)) = s1 at h1 f1
    dsimp only
    generalize bigEnough W.limit a.nbytes = big
    by_cases hb : (a.memmapBacked || a.hasobject || !big) = true
    · rw [if_pos hb]; exact h1
    · rw [if_neg hb]
      generalize currentOf s1.toClient W.mgr = ctx
      by_cases hc : ctx ∉ cachedOf s1.toClient W.mgr
      · rw [if_pos hc]; exact h1
      · rw [if_neg hc]
        exact inv_memmapArray h1 w ⟨W.mgr, ctx, a.id⟩ W (by rw [f1.workers]; exact hW) rfl (by rw [f1.pa]; exact hpa)
          (Decidable.not_not.mp hc) (hlive W hW)

theorem inv_load_ok {cfg : Cfg} {s : State} (h : Inv cfg s) (c i : Nat) (ch : Child) (p : Pickle)
    (hch : s.children[c]? = some ch) (hp : s.inflight[i]? = some p) (halive : ch.alive = true)
    (hm : p.f.m = ch.mgr) :
    Inv cfg { s with inflight := removeAt s.inflight i, holdings := s.holdings ++ [⟨c, p.f, p.tracked⟩] } := by
  refine ⟨wire_of_eq h.wire, fold_of_eq h.fold, h.users.of_held fun x hx => ?_,
    fun hd => cnt_of_eq (h.cnt hd) (h2 := fun g => ?_), fun hf => fix_mono (h.fix hf)⟩
  · rcases List.mem_append.mp hx with hx | hx
    · exact h.users.held x hx
    · rw [List.mem_singleton.mp hx]; exact ⟨ch, hch, halive, hm.symm⟩
  · have := countP_removeAt s.inflight i p (fun q => decide (q.f = g) && q.tracked) hp
    simp only [trackedUsers, trackedWorkerUsers, List.countP_append, List.countP_cons, List.countP_nil]
    split at this <;> rename_i hq <;> simp [hq] <;> omega

theorem inv_load_fail {cfg : Cfg} {s : State} (h : Inv cfg s) (i : Nat) (p : Pickle)
    (hp : s.inflight[i]? = some p) :
    Inv cfg { s with inflight := removeAt s.inflight i,
                     leaked := if p.tracked then s.leaked ++ [p.f] else s.leaked } := by
  refine ⟨wire_of_eq h.wire, fold_of_eq h.fold, users_of_eq h.users,
    fun hd => cnt_of_eq (h.cnt hd) (h2 := fun g => ?_), fun hf => fix_mono (h.fix hf)⟩
  have := countP_removeAt s.inflight i p (fun q => decide (q.f = g) && q.tracked) hp
  simp only [trackedUsers, trackedWorkerUsers]
  cases ht : p.tracked <;> by_cases e : p.f = g <;> simp [ht, e, List.count_append] at this ⊢ <;> omega

theorem inv_drop {cfg : Cfg} {s : State} (h : Inv cfg s) (i : Nat) (x : Holding) (hx : s.holdings[i]? = some x) :
    Inv cfg (sendFinalizer { s with holdings := removeAt s.holdings i } x) := by
  refine invP_finalizers [x] _ ⟨wire_of_eq h.wire, fold_of_eq h.fold,
    h.users.of_held fun y hy => h.users.held y (mem_removeAt hy),
    fun hd => ⟨fun g => ((h.cnt hd).j1 g).trans (congrArg enc ?_), (h.cnt hd).b⟩, fun hf => fix_mono (h.fix hf)⟩
  have := countP_removeAt s.holdings i x (fun q => decide (q.f = g) && q.tracked) hx
  simp only [trackedUsers, trackedWorkerUsers, pendOf]
  cases ht : x.tracked <;> by_cases e : x.f = g <;> simp [ht, e] at this ⊢ <;> omega

theorem inv_workerStep {cfg : Cfg} {s : State} (h : Inv cfg s) (op : Op) : Inv cfg (workerStep s op).1 := by
  cases op with
  | load c i =>
    dsimp only [workerStep]
    split
    · rename_i ch p hch hp
      split
      · rename_i hg
        simp only [Bool.and_eq_true, decide_eq_true_eq] at hg
        split
        · exact inv_load_ok h _ _ ch p hch hp hg.1 hg.2
        · exact inv_load_fail h _ p hp   -- FileNotFoundError
      · exact h
    · exact h
  | drop i =>
    dsimp only [workerStep]
    split
    · rename_i x hx; exact inv_drop h _ x hx
    · exact h
  | childExit c =>
    dsimp only [workerStep]
    split
    · split
      · exact inv_exitChild h _
      · exact h
    · exact h
  | childKill c =>
    dsimp only [workerStep]
    split
    · split
      · exact inv_killChild h _
      · exact h
    · exact h
  | configure _ | spawn _ | reduce _ _ | terminate _ | abort _ _ | execTerminate _ | exitParent | killParent => exact h

theorem inv_parentDead {cfg : Cfg} {s : State} (h : Inv cfg s) : Inv cfg { s with parentAlive := false } :=
  ⟨wire_of_eq h.wire,
   { h.fold with f1 := fun hp => Bool.noConfusion hp, f4 := fun hp => Bool.noConfusion hp, f5 := fun hp => Bool.noConfusion hp },
   users_of_eq h.users, fun hd => cnt_of_eq (h.cnt hd), fun hf => fix_mono (h.fix hf)⟩

/-- Nobody is left on the worker side. -/
def AllGone (c : Client) : Prop := c.inflight = [] ∧ c.holdings = []

theorem inv_atexitCleanup {cfg : Cfg} {s : State} (h : Inv cfg s) (d : FolderKey) (hpa : s.parentAlive = false)
    (hg : AllGone s.toClient) : Inv cfg (atexitCleanup s d) := by
  unfold atexitCleanup
  have h1 : Inv cfg (if d ∈ s.disk.dirs then clientRmtree s d else s) ∧
      d ∉ (if d ∈ s.disk.dirs then clientRmtree s d else s).disk.dirs ∧
      (if d ∈ s.disk.dirs then clientRmtree s d else s).parentAlive = false := by
    split
    · exact ⟨inv_clientRmtree h d (fun g _ _ => by simp [workerUsers, hg.1, hg.2]),
        fun hx => (mem_rmtree_dirs.mp hx).2 rfl, hpa⟩
    · exact ⟨h, ‹_›, hpa⟩
  exact inv_unregisterFolder h1.1 d h1.2.1 (fun hp => by rw [h1.2.2] at hp; cases hp)

theorem atexitCleanup_toClient (s : State) (d : FolderKey) : (atexitCleanup s d).toClient = s.toClient := by
  unfold atexitCleanup; rw [send_toClient]; split <;> rfl

theorem inv_atexitLoop {cfg : Cfg} (l : List FolderKey) (s : State) (h : Inv cfg s) (hpa : s.parentAlive = false)
    (hg : AllGone s.toClient) :
    Inv cfg (l.foldl atexitCleanup s) ∧ (l.foldl atexitCleanup s).parentAlive = false ∧
      AllGone (l.foldl atexitCleanup s).toClient :=
  List.foldlRecOn (motive := fun s => Inv cfg s ∧ s.parentAlive = false ∧ AllGone s.toClient) l _ ⟨h, hpa, hg⟩
    fun s hs d _ => ⟨inv_atexitCleanup hs.1 d hs.2.1 hs.2.2, by rw [atexitCleanup_toClient]; exact hs.2⟩

/-- What both `exitParent` (`kill = false`: the interpreter exits, its workers have left normally) and `eof` (`kill = true`:
whoever still holds the pipe is killed) open with: every live worker process ends, the pickles still queued for workers are
never loaded, the main process is gone; then come the atexit callbacks, or the tracker's `finally:` clean-up. -/
def allLeave (s : State) (kill : Bool) : State :=
  { (dropInflight (endChildren s (liveChildren s.toClient (fun _ => true)) kill) (fun _ => true)) with
    parentAlive := false }

theorem exitParent_eq (s : State) :
    exitParent s = { ((allLeave s false).atexit.reverse.foldl atexitCleanup (allLeave s false)) with atexit := [] } := by
  unfold exitParent allLeave; rfl

theorem eof_eq (s : State) : eof s = (finish (allLeave s true).reg).foldl applyAction (allLeave s true) := rfl

/-- The third part is `Fold.f4` just before the main process is marked dead (afterwards `Fold` no longer says it). -/
theorem inv_allLeave {cfg : Cfg} {s : State} (h : Inv cfg s) (kill : Bool) :
    Inv cfg (allLeave s kill) ∧ AllGone (allLeave s kill).toClient ∧
      (s.parentAlive = true → ∀ d ∈ (allLeave s kill).disk.dirs, d ∈ (allLeave s kill).atexit) := by
  unfold allLeave
  have hh := held_after_endChildren h (fun _ => true) kill
  have h0 := inv_dropInflight (inv_endChildren h (liveChildren s.toClient (fun _ => true)) kill) (fun _ => true)
  have hpa' := (wframe_endChildren (liveChildren s.toClient (fun _ => true)) s kill).pa
  generalize endChildren s (liveChildren s.toClient (fun _ => true)) kill = t at hh h0 hpa'
  refine ⟨inv_parentDead h0, ⟨List.filter_eq_nil_iff.mpr fun _ _ => by simp, ?_⟩, fun hpa => h0.fold.f4 (hpa'.trans hpa)⟩
  rw [List.eq_nil_iff_forall_not_mem]
  intro x hx
  obtain ⟨_, _, _, hp⟩ := hh x hx
  cases hp

theorem inv_clearAtexit {cfg : Cfg} {s : State} (h : Inv cfg s) (hpa : s.parentAlive = false) :
    Inv cfg { s with atexit := [] } :=
  ⟨wire_of_eq h.wire,
   { h.fold with f4 := fun hp => Bool.noConfusion (hpa.symm.trans hp), f5 := fun hp => Bool.noConfusion (hpa.symm.trans hp) },
   users_of_eq h.users, fun hd => cnt_of_eq (h.cnt hd), fun hf => fix_mono (h.fix hf)⟩

theorem inv_exitParent {cfg : Cfg} {s : State} (h : Inv cfg s) : Inv cfg (exitParent s) := by
  rw [exitParent_eq]
  obtain ⟨h1, hg, _⟩ := inv_allLeave h false
  obtain ⟨h3, hpa3, _⟩ := inv_atexitLoop (allLeave s false).atexit.reverse _ h1 rfl hg
  exact inv_clearAtexit h3 hpa3

theorem liveWorkers_live {c : Client} {k w : Nat} (h : liveWorkers c k = some w) :
    ∀ W, c.workers[w]? = some W → W.shutdown = false := by
  unfold liveWorkers at h
  split at h
  · simp at h
  · rename_i w' _
    split at h
    · simp at h
    · rename_i W' hW'
      split at h
      · simp at h
      · rename_i hs
        simp only [Option.some.injEq] at h; subst h
        intro W hW; rw [hW'] at hW; simp only [Option.some.injEq] at hW; subst hW
        simpa using hs

theorem inv_spawn {cfg : Cfg} {s : State} (h : Inv cfg s) (ch : Child) :
    Inv cfg { s with children := s.children ++ [ch] } := by
  refine ⟨wire_of_eq h.wire, fold_of_eq h.fold, h.users.of_held fun x hx => ?_,
    fun hd => cnt_of_eq (h.cnt hd), fun hf => fix_mono (h.fix hf)⟩
  obtain ⟨c0, h1, h2, h3⟩ := h.users.held x hx
  exact ⟨c0, (List.getElem?_append_left (List.getElem?_eq_some_iff.mp h1).1).trans h1, h2, h3⟩

theorem inv_parentStep {cfg : Cfg} {s : State} (h : Inv cfg s) (hpa : s.parentAlive = true) (op : Op) :
    Inv cfg (parentStep cfg s op).1 := by
  cases op with
  | configure k =>
    dsimp only [parentStep]
    split
    · obtain ⟨f1, f2⟩ := newManager_frame s
      refine inv_setBackend (inv_createWorkers (inv_newManager h) s.managers.length true cfg.maxNbytes ?_ ?_) _
      · rw [f2]; exact Nat.lt_succ_self _
      · rw [f1]; exact h.users.i4b
    · exact inv_getExecutor h _ _ _
  | spawn k =>
    dsimp only [parentStep]
    split
    · exact h
    · split
      · exact h
      · exact inv_spawn h _
  | reduce k a =>
    dsimp only [parentStep]
    split
    · exact h
    · rename_i w hw
      exact inv_reduceArray h _ w _ hpa (liveWorkers_live hw)
  | terminate k =>
    dsimp only [parentStep]
    split
    · exact h
    · split
      · exact h
      · apply inv_setBackend
        split
        · exact inv_cleanAll (inv_endWorkers h _ true) _ false false (fun hf => by simp at hf) (fun hf => by simp at hf)
        · exact inv_cleanContext h _ _ false false (fun hf => by simp at hf) (fun hf => by simp at hf)
  | abort k ensureReady =>
    dsimp only [parentStep]
    split
    · exact h
    · split
      · exact h
      · split
        · exact h
        · split
          · exact inv_getExecutor (inv_setBackend (inv_terminateExecutor h _ true) _) _ _ _
          · exact inv_setBackend (inv_terminateExecutor h _ true) _
  | execTerminate kill =>
    dsimp only [parentStep]
    split
    · exact h
    · exact inv_terminateExecutor h _ _
  | exitParent => exact inv_exitParent h
  | killParent => exact inv_parentDead (inv_dropInflight h _)
  | load _ _ | drop _ | childExit _ | childKill _ => exact h

theorem inv_stepOp {cfg : Cfg} {s : State} (h : Inv cfg s) (op : Op) : Inv cfg (stepOp cfg s op).1 := by
  unfold stepOp
  split
  · exact inv_workerStep h op
  · split
    · rename_i hpa; exact inv_parentStep h hpa op
    · exact h

theorem inv_runOps {cfg : Cfg} (ops : List Op) : ∀ s : State, Inv cfg s → Inv cfg (runOps cfg s ops) := by
  induction ops with
  | nil => intro s h; exact h
  | cons op r ih => intro s h; exact ih _ (inv_stepOp h op)

theorem disk_eq_empty {d : Disk} (h1 : d.dirs = []) (h2 : d.files = []) : d = ⟨[], []⟩ := by
  cases d; simp_all

theorem atexitCleanup_dirs (s : State) (d x : FolderKey) (hx : x ∈ (atexitCleanup s d).disk.dirs) :
    x ∈ s.disk.dirs ∧ x ≠ d := by
  unfold atexitCleanup at hx
  rw [send_folder_disk _ _ d (by simp)] at hx
  split at hx
  · have := mem_rmtree_dirs.mp hx
    exact ⟨this.1, fun e => this.2 (by rw [e])⟩
  · rename_i hnd
    exact ⟨hx, fun e => hnd (e ▸ hx)⟩

theorem frame_dropInflight_disk (s : State) (p : Pickle → Bool) :
    (dropInflight s p).disk = s.disk ∧ (dropInflight s p).atexit = s.atexit ∧
    (dropInflight s p).parentAlive = s.parentAlive := ⟨rfl, rfl, rfl⟩

/-- After `exitParent` (the workers have left, the atexit callbacks have run) nothing is left under the temp root. -/
theorem exitParent_disk_empty {cfg : Cfg} {s : State} (h : Inv cfg s) (hpa : s.parentAlive = true) :
    (exitParent s).disk = ⟨[], []⟩ := by
  have hfin := inv_exitParent h
  rw [exitParent_eq] at hfin ⊢
  have hf4 := (inv_allLeave h false).2.2 hpa
  generalize allLeave s false = t at hfin hf4 ⊢
  have hd : (List.foldl atexitCleanup t t.atexit.reverse).disk.dirs = [] := by
    rw [List.eq_nil_iff_forall_not_mem]
    intro x hx
    obtain ⟨g1, g2⟩ := mem_foldl_remove (π := fun s : State => s.disk.dirs) (dead := fun d x => x = d)
      atexitCleanup_dirs _ _ x hx
    exact g2 x (List.mem_reverse.mpr (hf4 x g1)) rfl
  exact disk_eq_empty hd (hfin.fold.closed.files_nil hd)

theorem applyAction_dirs (s : State) (a : Action) (x : FolderKey) (hx : x ∈ (applyAction s a).disk.dirs) :
    x ∈ s.disk.dirs ∧ a ≠ .cleanup .folder x.name := by
  cases a with
  | cleanup rt n =>
    cases rt with
    | folder =>
      have := mem_rmtree_dirs.mp hx
      exact ⟨this.1, by simp; exact fun e => this.2 e.symm⟩
    | file => exact ⟨hx, by simp⟩
    | semlock => exact ⟨hx, by simp⟩
  | report e => exact ⟨hx, by simp⟩
  | leakWarning rt n => exact ⟨hx, by simp⟩

theorem closed_applyAction {s : State} (h : s.disk.Closed) (a : Action) : (applyAction s a).disk.Closed := by
  cases a with
  | cleanup rt n =>
    cases rt with
    | folder => exact h.rmtree n
    | file => exact h.unlink n
    | semlock => exact h
  | report e => exact h
  | leakWarning rt n => exact h

/-- After EOF (the last process is gone, the tracker ran its clean-up) nothing is left under the temp root. -/
theorem eof_disk_empty {cfg : Cfg} {s : State} (h : Inv cfg s) : (eof s).disk = ⟨[], []⟩ := by
  rw [eof_eq]
  have h1 := (inv_allLeave h true).1
  generalize allLeave s true = s1 at h1
  -- every folder on disk is registered, so the clean-up names it; the files go with their folders
  have hd : ((finish s1.reg).foldl applyAction s1).disk.dirs = [] := by
    rw [List.eq_nil_iff_forall_not_mem]
    intro x hx
    obtain ⟨g1, g2⟩ := mem_foldl_remove (π := fun s : State => s.disk.dirs)
      (dead := fun (a : Action) (x : FolderKey) => a = .cleanup .folder x.name) applyAction_dirs _ _ x hx
    exact g2 _ ((mem_finish_cleanup ..).mpr (h1.fold.f2 x g1)) rfl
  exact disk_eq_empty hd
    (Disk.Closed.files_nil (List.foldlRecOn (motive := fun s : State => s.disk.Closed) _ _ h1.fold.closed
      fun _ hs a _ => closed_applyAction hs a) hd)

end JoblibModel.TrackerClient
