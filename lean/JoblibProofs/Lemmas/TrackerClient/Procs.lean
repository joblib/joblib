import JoblibProofs.Lemmas.TrackerClient.Leaves
/-! Preservation of the invariants by what the worker processes do (finalizers, exit, kill, lost pickles) and by the
shutdown of an executor. -/
namespace JoblibModel.TrackerClient
open JoblibModel.Tracker

/-- The files whose `MAYBE_UNLINK` the finalizers of `l` will send. -/
def pendOf (l : List Holding) : List FileKey := (l.filter (·.tracked)).map (·.f)

theorem invP_send_mu {cfg : Cfg} {s : State} {pend : List FileKey} (f : FileKey) (h : InvP cfg s (f :: pend)) :
    InvP cfg (send s .maybeUnlink .file f.name) pend := by
  refine invP_send_file .maybeUnlink f (fun g => trackedUsers s.toClient g + (f :: pend).count g) pend h.wire h.fold
    h.users (fun hd => ⟨(h.cnt hd).1, fun g => ?_, (h.cnt hd).2⟩) h.fix
  by_cases hg : g = f
  · subst hg; simp [absAt]
  · simp [hg, Ne.symm hg]

theorem invP_finalizers {cfg : Cfg} (l : List Holding) :
    ∀ s : State, InvP cfg s (pendOf l) → Inv cfg (l.foldl sendFinalizer s) := by
  induction l with
  | nil => intro s h; exact h.toInv
  | cons a r ih =>
    intro s h
    apply ih
    unfold sendFinalizer
    by_cases ht : a.tracked = true
    · have : pendOf (a :: r) = a.f :: pendOf r := by simp [pendOf, ht]
      rw [if_pos ht]; exact invP_send_mu _ (this ▸ h)
    · have : pendOf (a :: r) = pendOf r := by simp [pendOf, ht]
      rw [if_neg ht]; exact this ▸ h

theorem frame_sendFinalizer (s : State) (a : Holding) : Frame s (sendFinalizer s a) := by
  unfold sendFinalizer
  split
  · exact frame_send_file (Frame.refl s) _ a.f
  · exact Frame.refl s

theorem frame_finalizers (l : List Holding) (s : State) : Frame s (l.foldl sendFinalizer s) :=
  List.foldlRecOn (motive := Frame s) l _ (Frame.refl s) fun t h a _ => h.trans (frame_sendFinalizer t a)

/-- The tracked users of `f` in a list split into those that stay (not `q`) and those that leave (`q`), the latter as the
list of references they hold. `stay` and `leave` are the two filters as the model spells them. -/
theorem tracked_split {α : Type} (l : List α) (fk : α → FileKey) (tr q : α → Bool) {stay leave : α → Bool} (f : FileKey)
    (hs : ∀ h, stay h = !q h := by simp) (hl : ∀ h, leave h = (q h && tr h) := by simp) :
    (l.filter stay).countP (fun h => decide (fk h = f) && tr h) + ((l.filter leave).map fk).count f
      = l.countP (fun h => decide (fk h = f) && tr h) := by
  rw [funext hs, funext hl, List.countP_eq_countP_filter_add l _ q, Nat.add_comm]
  congr 1
  rw [List.count_eq_countP, List.countP_map, List.countP_filter, List.countP_filter]
  apply List.countP_congr
  intro h _
  simp only [Function.comp, beq_iff_eq, Bool.and_eq_true, decide_eq_true_eq]
  exact ⟨fun ⟨a, b, c⟩ => ⟨⟨a, c⟩, b⟩, fun ⟨⟨a, c⟩, b⟩ => ⟨a, b, c⟩⟩

theorem held_after_leave {c : Client} (h : Users c) (k : Nat) :
    ∀ x ∈ c.holdings.filter (fun h => h.child ≠ k), ∃ ch,
      (updAt c.children k (fun ch => { ch with alive := false }))[x.child]? = some ch ∧ ch.alive = true ∧
        ch.mgr = x.f.m := by
  intro x hx
  rw [List.mem_filter] at hx
  obtain ⟨ch, h1, h2, h3⟩ := h.held x hx.1
  refine ⟨ch, ?_, h2, h3⟩
  rw [getElem?_updAt, if_neg (by simpa using hx.2)]
  exact h1

/-- The state of `exitChild` before the finalizers run. -/
def preExit (s : State) (c : Nat) : State :=
  { s with holdings := s.holdings.filter (fun h => h.child ≠ c),
           children := updAt s.children c (fun ch => { ch with alive := false }) }

theorem exitChild_eq (s : State) (c : Nat) :
    exitChild s c = (s.holdings.filter (fun h => h.child = c)).foldl sendFinalizer (preExit s c) := rfl

theorem inv_exitChild {cfg : Cfg} {s : State} (h : Inv cfg s) (c : Nat) : Inv cfg (exitChild s c) := by
  rw [exitChild_eq]
  refine invP_finalizers _ _ ⟨wire_of_eq h.wire, fold_of_eq h.fold,
    h.users.of_held (held_after_leave h.users c), fun hd => ⟨fun f => ?_, (h.cnt hd).b⟩,
    fun hf => fix_mono (h.fix hf)⟩
  refine ((h.cnt hd).j1 f).trans (congrArg enc ?_)
  have := tracked_split s.holdings (·.f) (·.tracked) (fun h => decide (h.child = c))
    (stay := fun h => decide (h.child ≠ c)) (leave := fun h => h.tracked && decide (h.child = c))
    f (hl := by simp [Bool.and_comm])
  simp only [trackedUsers, trackedWorkerUsers, preExit, pendOf, List.filter_filter]
  omega

theorem inv_killChild {cfg : Cfg} {s : State} (h : Inv cfg s) (c : Nat) : Inv cfg (killChild s c) := by
  unfold killChild
  refine ⟨wire_of_eq h.wire, fold_of_eq h.fold, h.users.of_held (held_after_leave h.users c),
    fun hd => cnt_of_eq (h.cnt hd) (h2 := fun f => ?_), fun hf => fix_mono (h.fix hf)⟩
  have := tracked_split s.holdings (·.f) (·.tracked) (fun h => decide (h.child = c))
    (stay := fun h => decide (h.child ≠ c)) (leave := fun h => decide (h.child = c ∧ h.tracked = true)) f
  simp only [trackedUsers, trackedWorkerUsers, List.count_append]
  omega

theorem inv_endChild {cfg : Cfg} {s : State} (h : Inv cfg s) (c : Nat) (kill : Bool) :
    Inv cfg (endChild s c kill) := by
  unfold endChild
  split
  · exact inv_killChild h c
  · exact inv_exitChild h c

theorem inv_endChildren {cfg : Cfg} {s : State} (h : Inv cfg s) (cs : List Nat) (kill : Bool) :
    Inv cfg (endChildren s cs kill) :=
  List.foldlRecOn (motive := Inv cfg) _ _ h fun _ hs c _ => inv_endChild hs c kill

theorem inv_dropInflight {cfg : Cfg} {s : State} (h : Inv cfg s) (p : Pickle → Bool) :
    Inv cfg (dropInflight s p) := by
  unfold dropInflight
  refine ⟨wire_of_eq h.wire, fold_of_eq h.fold, users_of_eq h.users,
    fun hd => cnt_of_eq (h.cnt hd) (h2 := fun f => ?_), fun hf => fix_mono (h.fix hf)⟩
  have := tracked_split s.inflight (·.f) (·.tracked) p
    (stay := fun q => !p q) (leave := fun q => decide (p q = true ∧ q.tracked = true)) f
  simp only [trackedUsers, trackedWorkerUsers, List.count_append]
  omega

/-- What the worker processes leave alone in the main process. -/
structure WFrame (s t : State) : Prop where
  workers : t.workers = s.workers
  mlen : t.managers.length = s.managers.length
  pa : t.parentAlive = s.parentAlive

theorem WFrame.refl (s : State) : WFrame s s := ⟨rfl, rfl, rfl⟩

theorem WFrame.trans {s t u : State} (h1 : WFrame s t) (h2 : WFrame t u) : WFrame s u :=
  ⟨h2.workers.trans h1.workers, h2.mlen.trans h1.mlen, h2.pa.trans h1.pa⟩

def markDead (ch : Child) : Child := { ch with alive := false }

theorem wframe_endChild (s : State) (c : Nat) (kill : Bool) :
    WFrame s (endChild s c kill) ∧ (endChild s c kill).children = updAt s.children c markDead := by
  unfold endChild
  split
  · exact ⟨⟨rfl, rfl, rfl⟩, rfl⟩
  · have hf := frame_finalizers (s.holdings.filter (fun h => h.child = c)) (preExit s c)
    exact ⟨⟨hf.workers, hf.mlen, hf.pa⟩, hf.children⟩

theorem wframe_endChildren (cs : List Nat) (s : State) (kill : Bool) : WFrame s (endChildren s cs kill) :=
  List.foldlRecOn (motive := WFrame s) cs _ (WFrame.refl s) fun t h c _ => h.trans (wframe_endChild t c kill).1

theorem wframe_dropInflight (s : State) (p : Pickle → Bool) : WFrame s (dropInflight s p) := ⟨rfl, rfl, rfl⟩

theorem wframe_endWorkers (s : State) (m : Nat) (kill : Bool) : WFrame s (endWorkers s m kill) :=
  (wframe_endChildren _ s kill).trans (wframe_dropInflight _ _)

theorem endChildren_children (cs : List Nat) (s : State) (kill : Bool) :
    (endChildren s cs kill).children = cs.foldl (fun l c => updAt l c markDead) s.children := by
  unfold endChildren
  induction cs generalizing s with
  | nil => rfl
  | cons a r ih => simp only [List.foldl_cons]; rw [ih, (wframe_endChild s a kill).2]

/-- Marking the children `cs` dead: those are dead afterwards, and every child keeps its manager and is not revived. -/
theorem children_after (cs : List Nat) (l : List Child) (j : Nat) (ch : Child)
    (h : (cs.foldl (fun l c => updAt l c markDead) l)[j]? = some ch) :
    (j ∈ cs → ch.alive = false) ∧ ∃ ch0, l[j]? = some ch0 ∧ ch0.mgr = ch.mgr ∧ (ch.alive = true → ch0.alive = true) := by
  induction cs generalizing l with
  | nil => exact ⟨by simp, ch, h, rfl, id⟩
  | cons a r ih =>
    simp only [List.foldl_cons] at h
    obtain ⟨h1, ch1, h2, h3, h4⟩ := ih _ h
    rw [getElem?_updAt] at h2
    by_cases e : j = a
    · subst e
      simp only [if_true] at h2
      cases hl : l[j]? with
      | none => simp [hl] at h2
      | some c0 =>
        simp only [hl, Option.map_some, Option.some.injEq] at h2
        subst h2
        refine ⟨fun _ => ?_, c0, rfl, h3, fun ha => ?_⟩
        · cases hb : ch.alive with
          | false => rfl
          | true => have := h4 hb; simp [markDead] at this
        · have := h4 ha; simp [markDead] at this
    · simp only [e, if_false] at h2
      refine ⟨fun hm => ?_, ch1, h2, h3, h4⟩
      rcases List.mem_cons.mp hm with hm | hm
      · exact absurd hm e
      · exact h1 hm

theorem mem_liveChildren {c : Client} {p : Child → Bool} {j : Nat} :
    j ∈ liveChildren c p ↔ ∃ ch, c.children[j]? = some ch ∧ ch.alive = true ∧ p ch = true := by
  unfold liveChildren
  rw [List.mem_filter, List.mem_range]
  constructor
  · rintro ⟨hj, hm⟩
    cases hc : c.children[j]? with
    | none => simp [hc] at hm
    | some ch => simp only [hc, Bool.and_eq_true] at hm; exact ⟨ch, rfl, hm.1, hm.2⟩
  · rintro ⟨ch, hc, ha, hp⟩
    refine ⟨(List.getElem?_eq_some_iff.mp hc).1, ?_⟩
    simp [hc, ha, hp]

/-- After all live children with `p` have ended, what is still held belongs to a child without `p`. -/
theorem held_after_endChildren {cfg : Cfg} {s : State} (h : Inv cfg s) (p : Child → Bool) (kill : Bool) :
    ∀ x ∈ (endChildren s (liveChildren s.toClient p) kill).holdings,
      ∃ ch0, s.children[x.child]? = some ch0 ∧ ch0.mgr = x.f.m ∧ p ch0 = false := by
  generalize hcs : liveChildren s.toClient p = cs
  have hinv := inv_endChildren h cs kill
  have hch := endChildren_children cs s kill
  generalize endChildren s cs kill = t at hinv hch
  intro x hx
  obtain ⟨ch, h1, h2, h3⟩ := hinv.users.held x hx
  rw [hch] at h1
  obtain ⟨g1, ch0, g2, g3, g4⟩ := children_after cs s.children x.child ch h1
  refine ⟨ch0, g2, g3.trans h3, ?_⟩
  cases hp : p ch0 with
  | false => rfl
  | true =>
    have : x.child ∈ cs := by rw [← hcs, mem_liveChildren]; exact ⟨ch0, g2, g4 h2, hp⟩
    rw [g1 this] at h2; cases h2

theorem inv_endWorkers {cfg : Cfg} {s : State} (h : Inv cfg s) (m : Nat) (kill : Bool) :
    Inv cfg (endWorkers s m kill) := inv_dropInflight (inv_endChildren h _ kill) _

theorem noUsers_endWorkers {cfg : Cfg} {s : State} (h : Inv cfg s) (m : Nat) (kill : Bool) :
    NoUsers (endWorkers s m kill).toClient m := by
  unfold endWorkers
  have hh := held_after_endChildren h (fun ch => decide (ch.mgr = m)) kill
  generalize endChildren s _ kill = t at hh ⊢
  refine ⟨fun p hp => by simpa using (List.mem_filter.mp hp).2, fun x hx e => ?_⟩
  obtain ⟨ch0, _, g3, hp⟩ := hh x hx
  simp [g3, e] at hp

theorem users_updAt_workers {c : Client} (h : Users c) (w : Nat) (g : Workers → Workers) (hm : ∀ W, (g W).mgr = W.mgr)
    (ht : ∀ W, c.workers[w]? = some W → ∀ f ∈ (g W).temporary, f.m = W.mgr) :
    Users { c with workers := updAt c.workers w g } := by
  refine ⟨h.held, ?_, fun W hW => ?_, fun W hW f hf => ?_⟩
  · show ((updAt c.workers w g).map (·.mgr)).Nodup
    rw [map_updAt_preserve c.workers w g (·.mgr) hm]; exact h.i4
  · rcases mem_updAt hW with hW | ⟨y, hy, rfl⟩
    · exact h.i4b W hW
    · rw [hm]; exact h.i4b y (List.mem_of_getElem? hy)
  · rcases mem_updAt hW with hW | ⟨y, hy, rfl⟩
    · exact h.x3 W hW f hf
    · rw [hm]; exact ht y hy f hf

def setShutdown (W : Workers) : Workers := { W with shutdown := true }

theorem inv_setShutdown {cfg : Cfg} {s : State} (h : Inv cfg s) (w : Nat) :
    Inv cfg { s with workers := updAt s.workers w setShutdown } := by
  refine ⟨wire_of_eq h.wire, fold_of_eq h.fold,
    users_updAt_workers h.users w setShutdown (fun _ => rfl) (fun W hW => h.users.x3 W (List.mem_of_getElem? hW)),
    fun hd => cnt_of_eq (h.cnt hd), fun hf => { h.fix hf with x2 := fun W hW hsd f hf' => ?_ }⟩
  rcases mem_updAt hW with hW | ⟨y, hy, rfl⟩
  · exact (h.fix hf).x2 W hW hsd f hf'
  · cases hsd

theorem shutdownWorkers_eq (s : State) (w : Nat) (kill : Bool) :
    shutdownWorkers s w kill =
      match s.workers[w]? with
      | none => s
      | some W => { (endWorkers s W.mgr kill) with workers := updAt (endWorkers s W.mgr kill).workers w setShutdown } :=
  rfl

theorem inv_shutdownWorkers {cfg : Cfg} {s : State} (h : Inv cfg s) (w : Nat) (kill : Bool) :
    Inv cfg (shutdownWorkers s w kill) := by
  rw [shutdownWorkers_eq]
  split
  · exact h
  · exact inv_setShutdown (inv_endWorkers h _ kill) w

theorem noUsers_shutdownWorkers {cfg : Cfg} {s : State} (h : Inv cfg s) (w : Nat) (kill : Bool) (W : Workers)
    (hW : s.workers[w]? = some W) : NoUsers (shutdownWorkers s w kill).toClient W.mgr := by
  simp only [shutdownWorkers_eq, hW]
  have := noUsers_endWorkers h W.mgr kill
  -- the state is made a variable first: comparing `{ t with workers := _ }` with a defined `t` unfolds `t`
  generalize endWorkers s W.mgr kill = t at this ⊢
  exact this

theorem mgrDown_shutdownWorkers {cfg : Cfg} {s : State} (h : Inv cfg s) (w : Nat) (kill : Bool) (W : Workers)
    (hW : s.workers[w]? = some W) : MgrDown (shutdownWorkers s w kill).toClient W.mgr := by
  rw [shutdownWorkers_eq, hW]
  intro W' hW' hm
  have hW'' : W' ∈ updAt s.workers w setShutdown := (wframe_endWorkers s W.mgr kill).workers ▸ hW'
  obtain ⟨j, hj⟩ := List.getElem?_of_mem hW''
  rw [getElem?_updAt] at hj
  by_cases e : j = w
  · subst e; simp [hW] at hj; subst hj; rfl
  · simp only [e, if_false] at hj
    exact absurd (nodup_map_index s.workers (·.mgr) h.users.i4 j w W' W hj hW hm) e

theorem shutdownWorkers_mlen (s : State) (w : Nat) (kill : Bool) :
    (shutdownWorkers s w kill).managers.length = s.managers.length := by
  rw [shutdownWorkers_eq]
  split
  · rfl
  · rename_i W _
    have := (wframe_endWorkers s W.mgr kill).mlen
    generalize endWorkers s W.mgr kill = t at this ⊢
    exact this

end JoblibModel.TrackerClient
