import JoblibModel.StoreLimits
import JoblibProofs.Lemmas.Lru
/-! The store part of C18, in this order. `rmtree` is a filter on the walk: `walkDir_rm` (the entries below the removed location go).
What `itemOf` makes of a walked entry (`itemOf_some`, `getItems_ids`), hence `rmtree` is a filter on the inventory (`getItems_removed`,
`getItems_clearAll`). `reduce_size` clears the selection (`enforceLoop_eq`, `enforceStoreLimits_eq`, `reduceSize_eq`). What clearing a
part `D` of the inventory leaves (`getItems_clearAll_split`): under `Separated` exactly the rest (`getItems_clearAll_perm`). `Separated`
from the layout (`separated_of_noNesting`, through `hp`/`flat`). The size strings (`memstrChars_signed`).
`isHashName_ofList`, `memstrToBytes_ofList`, `resolveBytes_none`, `resolveBytes_str` serve the evaluation of C18's concrete stores and
size strings. -/
namespace JoblibModel.StoreLimits
open JoblibModel.Lru

mutual
theorem walkDir_prefix : ∀ (d : Dir) (dp : Path) (e : WalkEntry), e ∈ walkDir dp d → dp <+: e.path
  | .mk name atime files subs, dp, e, h => by
    simp only [walkDir, List.mem_cons] at h
    rcases h with rfl | h
    · exact List.prefix_refl _
    · obtain ⟨d', _, hpre⟩ := walkSubs_prefix subs dp e h
      exact List.IsPrefix.trans (List.prefix_append _ _) hpre
theorem walkSubs_prefix : ∀ (ds : List Dir) (dp : Path) (e : WalkEntry), e ∈ walkSubs dp ds →
    ∃ d ∈ ds, (dp ++ [d.name]) <+: e.path
  | [], _, _, h => by simp [walkSubs] at h
  | d :: r, dp, e, h => by
    simp only [walkSubs, List.mem_append] at h
    rcases h with h | h
    · exact ⟨d, by simp, walkDir_prefix d _ e h⟩
    · obtain ⟨d', hd', hpre⟩ := walkSubs_prefix r dp e h
      exact ⟨d', by simp [hd'], hpre⟩
end

/-- `p` is not a prefix of the walked path: the entry survives `rmtree p`. -/
def keeps (p : Path) (q : Path) : Bool := !(p.isPrefixOf q)

theorem keeps_eq_false {p q : Path} : keeps p q = false ↔ p <+: q := by
  simp [keeps]

theorem keeps_eq_true {p q : Path} : keeps p q = true ↔ ¬ p <+: q := by
  rw [← keeps_eq_false]; simp

theorem rmBelow_name (p : Path) (d : Dir) : (rmBelow p d).name = d.name := by
  cases d; simp [rmBelow, Dir.name]

theorem prefix_clash {dp q rest : Path} {a b : String} (hab : a ≠ b)
    (h1 : (dp ++ [a]) <+: q) (h2 : (dp ++ b :: rest) <+: q) : False := by
  obtain ⟨r1, rfl⟩ := h1
  obtain ⟨r2, h2⟩ := h2
  simp only [List.append_assoc, List.cons_append, List.nil_append] at h2
  have := List.append_cancel_left h2
  simp at this
  exact hab this.1.symm

mutual
theorem walkDir_rm : ∀ (d : Dir) (p : Path) (dp : Path), p ≠ [] →
    walkDir dp (rmBelow p d) = (walkDir dp d).filter (fun e => keeps (dp ++ p) e.path)
  | .mk name atime files subs, p, dp, hne => by
    have hroot : keeps (dp ++ p) dp = true :=
      keeps_eq_true.mpr fun h => hne (List.append_right_eq_self.mp (h.eq_of_length_le (by simp)))
    simp only [rmBelow, walkDir, List.filter_cons, hroot, if_true]
    rw [walkSubs_rm subs p dp hne]
theorem walkSubs_rm : ∀ (ds : List Dir) (p : Path) (dp : Path), p ≠ [] →
    walkSubs dp (rmSubs p ds) = (walkSubs dp ds).filter (fun e => keeps (dp ++ p) e.path)
  | [], p, dp, _ => by simp [rmSubs, walkSubs]
  | d :: r, [], dp, hne => absurd rfl hne
  | d :: r, n :: rest, dp, hne => by
    have ih := walkSubs_rm r (n :: rest) dp hne
    have hpre := walkDir_prefix d (dp ++ [d.name])
    simp only [rmSubs, walkSubs, List.filter_append]
    by_cases hn : d.name = n
    · subst hn
      by_cases hr : rest = []
      · subst hr
        have hgone : (walkDir (dp ++ [d.name]) d).filter (fun e => keeps (dp ++ [d.name]) e.path) = [] :=
          List.filter_eq_nil_iff.mpr fun e he => by simp [keeps_eq_false.mpr (hpre e he)]
        simp only [List.isEmpty_nil, if_true]
        rw [ih, hgone, List.nil_append]
      · have hre : rest.isEmpty = false := by simpa using hr
        simp only [hre, Bool.false_eq_true, if_false, if_true, walkSubs, rmBelow_name]
        rw [ih, walkDir_rm d rest _ hr, List.append_assoc]
        rfl
    · have hkept : (walkDir (dp ++ [d.name]) d).filter (fun e => keeps (dp ++ n :: rest) e.path)
          = walkDir (dp ++ [d.name]) d :=
        List.filter_eq_self.mpr fun e he => keeps_eq_true.mpr (prefix_clash hn (hpre e he))
      simp only [hn, if_false, walkSubs]
      rw [ih, hkept]
end

theorem osWalk_removed (t : Dir) (p : Path) (hne : p ≠ []) :
    osWalk (removed p t) = (osWalk t).filter (fun e => keeps p e.path) := by
  have : removed p t = rmBelow p t := by
    cases p with
    | nil => exact absurd rfl hne
    | cons a r => cases t; rfl
  rw [this, osWalk, osWalk, walkDir_rm t p [] hne]; simp

theorem isHashName_ofList (l : List Char) :
    isHashName (String.ofList l) = (decide (32 ≤ l.length) && (l.take 32).all isHexLower) := by
  rw [isHashName, String.toList_ofList]

theorem isHashName_append {s : String} (t : String) (h : isHashName s = true) : isHashName (s ++ t) = true := by
  simp only [isHashName, String.toList_append, Bool.and_eq_true, decide_eq_true_eq] at h ⊢
  refine ⟨by rw [List.length_append]; omega, ?_⟩
  rw [List.take_append_of_le_length h.1]; exact h.2

theorem itemOf_some {e : WalkEntry} {it : Item Path} (h : itemOf e = some it) :
    isHashName e.name = true ∧ lastAccess e = some it.access ∧ dirSize e.files = some it.size ∧ it.id = e.path := by
  unfold itemOf at h
  split at h
  · rename_i hh
    split at h
    · simp at h
    · rename_i a ha
      split at h
      · simp at h
      · rename_i sz hs
        simp at h
        subst h
        exact ⟨hh, ha, hs, rfl⟩
  · simp at h

theorem itemOf_id {e : WalkEntry} {it : Item Path} (h : itemOf e = some it) : it.id = e.path :=
  (itemOf_some h).2.2.2

theorem itemOf_isSome (e : WalkEntry) :
    (itemOf e).isSome = (isHashName e.name && (lastAccess e).isSome && (dirSize e.files).isSome) := by
  unfold itemOf
  cases isHashName e.name <;> cases lastAccess e <;> cases dirSize e.files <;> simp

theorem map_id_filterMap_itemOf (l : List WalkEntry) :
    (l.filterMap itemOf).map (·.id) = (l.filter (fun e => (itemOf e).isSome)).map (·.path) := by
  induction l with
  | nil => simp
  | cons e r ih =>
    simp only [List.filterMap_cons, List.filter_cons]
    cases hi : itemOf e with
    | none => simp [ih]
    | some it => simp [ih, itemOf_id hi]

theorem getItems_ids (t : Dir) :
    (getItems t).map (·.id) =
      ((osWalk t).filter (fun e =>
        isHashName e.name && (lastAccess e).isSome && (dirSize e.files).isSome)).map (·.path) := by
  unfold getItems
  rw [map_id_filterMap_itemOf]
  congr 1
  exact List.filter_congr fun e _ => itemOf_isSome e

theorem itemIds_sublist_hashPaths (t : Dir) : ((getItems t).map (·.id)).Sublist (hashPaths t) := by
  rw [getItems_ids]
  refine List.Sublist.map _ ?_
  simp only [Bool.and_assoc]
  rw [← List.filter_filter]
  exact List.filter_sublist.filter _

theorem dirSize_eq (fs : List File) :
    dirSize fs = if fs.all (fun f => f.size.isSome) then some (fs.map (fun f => f.size.getD 0)).sum else none := by
  induction fs with
  | nil => rfl
  | cons f r ih =>
    simp only [dirSize, ih, List.all_cons, List.map_cons, List.sum_cons]
    cases f.size with
    | none => rfl
    | some a => cases r.all (fun f => f.size.isSome) <;> rfl

theorem lastAccess_isSome (e : WalkEntry) (h : e.atime.isSome = true) : (lastAccess e).isSome = true := by
  unfold lastAccess
  split
  · split
    · simp
    · exact h
  · exact h

theorem filterMap_filter_itemOf (l : List WalkEntry) (q : Path → Bool) :
    (l.filter (fun e => q e.path)).filterMap itemOf = (l.filterMap itemOf).filter (fun it => q it.id) := by
  rw [List.filterMap_filter, List.filter_filterMap]
  congr 1; funext e
  cases hi : itemOf e with
  | none => simp
  | some it => rw [Option.filter_some, itemOf_id hi]

theorem getItems_removed (t : Dir) (p : Path) (hne : p ≠ []) :
    getItems (removed p t) = (getItems t).filter (fun it => keeps p it.id) := by
  unfold getItems
  rw [osWalk_removed t p hne, filterMap_filter_itemOf _ (keeps p)]

/-- What the loop leaves: every selected location cleared, in order. -/
def clearAll (sel : List (Item Path)) (t : Dir) : Dir := sel.foldl (fun t it => removed it.id t) t

theorem enforceLoop_eq (raises : Path → Bool) (sel : List (Item Path)) (t : Dir) (calls : List Path) :
    enforceLoop raises sel t calls = (clearAll sel t, calls ++ sel.map (·.id)) := by
  induction sel generalizing t calls with
  | nil => simp [enforceLoop, clearAll]
  | cons it r ih =>
    simp only [enforceLoop, clearLocation]
    cases raises it.id <;> simp [ih, clearAll]

theorem getItems_clearAll (sel : List (Item Path)) (t : Dir) (hne : ∀ s ∈ sel, s.id ≠ []) :
    getItems (clearAll sel t) = (getItems t).filter (fun it => sel.all (fun s => keeps s.id it.id)) := by
  induction sel generalizing t with
  | nil =>
    simp only [clearAll, List.foldl_nil, List.all_nil]
    exact (List.filter_eq_self.mpr (fun _ _ => rfl)).symm
  | cons s r ih =>
    have h1 : s.id ≠ [] := hne s (by simp)
    have := ih (removed s.id t) (fun x hx => hne x (by simp [hx]))
    simp only [clearAll, List.foldl_cons] at this ⊢
    rw [this, getItems_removed t s.id h1, List.filter_filter]
    congr 1
    funext it
    simp [Bool.and_comm]

theorem resolveBytes_none : resolveBytes none = .ok none := rfl

theorem memstrToBytes_ofList (l : List Char) : memstrToBytes (String.ofList l) = memstrChars l := by
  rw [memstrToBytes, String.toList_ofList]

theorem resolveBytes_str {s : String} {b : Int} (h : memstrToBytes s = .ok b) :
    resolveBytes (some (.str s)) = .ok (some b) := by
  simp only [resolveBytes, h]

theorem itemsToDelete_of_earlyReturn {bytes : Option BytesArg} {b items deadline : Option Int} (t : Dir)
    (hb : resolveBytes bytes = .ok b) (h : (bytes.isNone && items.isNone && deadline.isNone) = true) :
    itemsToDelete (getItems t) ⟨b, items, deadline⟩ = [] := by
  simp only [Bool.and_eq_true, Option.isNone_iff_eq_none] at h
  obtain ⟨⟨rfl, rfl⟩, rfl⟩ := h
  obtain rfl : b = none := by simpa [resolveBytes] using hb.symm
  exact itemsToDelete_no_limits _

theorem enforceStoreLimits_eq {bytes : Option BytesArg} {b items deadline : Option Int} {raises : Path → Bool} {t : Dir}
    (hb : resolveBytes bytes = .ok b) :
    enforceStoreLimits bytes items deadline raises t =
      .returned (clearAll (itemsToDelete (getItems t) ⟨b, items, deadline⟩) t)
        ((itemsToDelete (getItems t) ⟨b, items, deadline⟩).map (·.id)) := by
  simp only [enforceStoreLimits, hb, enforceLoop_eq, List.nil_append]

/-- `Memory.reduce_size` once the size string is parsed. The early return for "no limit at all" needs no case of its
own: the selection is then empty. -/
theorem reduceSize_eq {bytes : Option BytesArg} {b items deadline : Option Int} {raises : Path → Bool} {t : Dir}
    (hb : resolveBytes bytes = .ok b) :
    reduceSize true bytes items deadline raises t =
      .returned (clearAll (itemsToDelete (getItems t) ⟨b, items, deadline⟩) t)
        ((itemsToDelete (getItems t) ⟨b, items, deadline⟩).map (·.id)) := by
  unfold reduceSize
  simp only [Bool.not_true, Bool.false_eq_true, if_false]
  split
  · rename_i h
    rw [itemsToDelete_of_earlyReturn t hb h]; rfl
  · exact enforceStoreLimits_eq hb

theorem getItems_clearAll_split (t : Dir) (D R : List (Item Path)) (hperm : (D ++ R).Perm (getItems t))
    (hroot : ∀ it ∈ getItems t, it.id ≠ []) :
    (getItems (clearAll D t)).Perm (R.filter (fun it => D.all (fun s => keeps s.id it.id))) := by
  have hD : D.filter (fun it => D.all (fun s => keeps s.id it.id)) = [] := by
    rw [List.filter_eq_nil_iff]
    intro it hit h
    have := List.all_eq_true.mp h it hit
    simp [keeps_eq_false.mpr (List.prefix_refl it.id)] at this
  rw [getItems_clearAll D t fun s hs => hroot s (hperm.mem_iff.mp (List.mem_append_left R hs))]
  refine (hperm.symm.filter _).trans ?_
  rw [List.filter_append, hD, List.nil_append]

/-- Nested hash directories or not: nesting only removes more. -/
theorem sat_getItems_clearAll (t : Dir) (D R : List (Item Path)) (l : Limits)
    (hperm : (D ++ R).Perm (getItems t)) (hroot : ∀ it ∈ getItems t, it.id ≠ []) (hs : Sat R l) :
    Sat (getItems (clearAll D t)) l :=
  sat_perm (getItems_clearAll_split t D R hperm hroot) l (sat_sublist List.filter_sublist l hs)

theorem separated_items {t : Dir} (hsep : Separated t) :
    (∀ it ∈ getItems t, it.id ≠ []) ∧
    ((getItems t).map (·.id)).Pairwise (fun a b => ¬ a <+: b ∧ ¬ b <+: a) := by
  have hsub := itemIds_sublist_hashPaths t
  refine ⟨fun it hit h => hsep.1 ?_, hsep.2.sublist hsub⟩
  exact hsub.subset (h ▸ List.mem_map_of_mem hit)

/-- Under `Separated` no entry of `R` lies below one of `D`. -/
theorem getItems_clearAll_perm (t : Dir) (D R : List (Item Path)) (hperm : (D ++ R).Perm (getItems t))
    (hsep : Separated t) : (getItems (clearAll D t)).Perm R := by
  obtain ⟨hroot, hpw⟩ := separated_items hsep
  have hcross : ∀ s ∈ D, ∀ it ∈ R, ¬ s.id <+: it.id := by
    have := (hperm.map (·.id)).symm.pairwise hpw (fun h => ⟨h.2, h.1⟩)
    rw [List.map_append, List.pairwise_append] at this
    exact fun s hs it hit => (this.2.2 s.id (List.mem_map_of_mem hs) it.id (List.mem_map_of_mem hit)).1
  refine (getItems_clearAll_split t D R hperm hroot).trans (List.Perm.of_eq (List.filter_eq_self.mpr ?_))
  intro it hit
  exact List.all_eq_true.mpr fun s hs => keeps_eq_true.mpr (hcross s hs it hit)

/-- The model's `hashPaths`, of any list of walk entries instead of a whole tree, so that it splits along `walkDir`/`walkSubs`
(`hp_append`, `hp_walkDir`); `separated_iff` restates `Separated` with it. -/
def hp (l : List WalkEntry) : List Path := (l.filter (fun e => isHashName e.name)).map (·.path)

theorem hp_append (a b : List WalkEntry) : hp (a ++ b) = hp a ++ hp b := by simp [hp]

theorem mem_hp {l : List WalkEntry} {a : Path} (h : a ∈ hp l) : ∃ e ∈ l, e.path = a := by
  simp only [hp, List.mem_map, List.mem_filter] at h
  obtain ⟨e, ⟨he, _⟩, rfl⟩ := h
  exact ⟨e, he, rfl⟩

theorem hp_walkDir (dp : Path) (name : String) (atime : Option Int) (files : List File) (subs : List Dir) :
    hp (walkDir dp (.mk name atime files subs)) = (if isHashName name then [dp] else []) ++ hp (walkSubs dp subs) := by
  simp only [walkDir, hp, List.filter_cons]
  split <;> rfl

mutual
theorem hp_hashFree : ∀ (d : Dir) (dp : Path), hashFree d = true → hp (walkDir dp d) = []
  | .mk name atime files subs, dp, h => by
    simp only [hashFree, Bool.and_eq_true, Bool.not_eq_eq_eq_not, Bool.not_true] at h
    rw [hp_walkDir, h.1, hp_hashFreeSubs subs dp h.2]
    rfl
theorem hp_hashFreeSubs : ∀ (ds : List Dir) (dp : Path), hashFreeSubs ds = true → hp (walkSubs dp ds) = []
  | [], _, _ => by simp [walkSubs, hp]
  | d :: r, dp, h => by
    simp only [hashFreeSubs, Bool.and_eq_true] at h
    rw [walkSubs, hp_append, hp_hashFree d _ h.1, hp_hashFreeSubs r dp h.2]; rfl
end

/-- The relation inside the model's `Separated`. -/
def Sep (a b : Path) : Prop := ¬ a <+: b ∧ ¬ b <+: a

theorem separated_iff (t : Dir) : Separated t ↔ [] ∉ hp (osWalk t) ∧ (hp (osWalk t)).Pairwise Sep := Iff.rfl

mutual
theorem hp_flat : ∀ (d : Dir) (dp : Path), flat d = true → (hp (walkDir dp d)).Pairwise Sep
  | .mk name atime files subs, dp, h => by
    simp only [flat, Bool.and_eq_true, decide_eq_true_eq] at h
    obtain ⟨⟨h1, h2⟩, h3⟩ := h
    rw [hp_walkDir]
    by_cases hn : isHashName name = true
    · simp only [hn, if_true] at h1 ⊢
      rw [hp_hashFreeSubs subs dp h1]; simp
    · simp only [hn, Bool.false_eq_true, if_false, List.nil_append]
      exact hp_flatSubs subs dp h3 h2
theorem hp_flatSubs : ∀ (ds : List Dir) (dp : Path), flatSubs ds = true → (ds.map Dir.name).Nodup →
    (hp (walkSubs dp ds)).Pairwise Sep
  | [], _, _, _ => by simp [walkSubs, hp]
  | d :: r, dp, h, hnd => by
    simp only [flatSubs, Bool.and_eq_true] at h
    simp only [List.map_cons, List.nodup_cons] at hnd
    rw [walkSubs, hp_append, List.pairwise_append]
    refine ⟨hp_flat d _ h.1, hp_flatSubs r dp h.2 hnd.2, ?_⟩
    intro a ha b hb
    obtain ⟨ea, hea, rfl⟩ := mem_hp ha
    obtain ⟨eb, heb, rfl⟩ := mem_hp hb
    have pa := walkDir_prefix d _ ea hea
    obtain ⟨d', hd', pb⟩ := walkSubs_prefix r dp eb heb
    have hne : d.name ≠ d'.name := by
      intro he
      exact hnd.1 (he ▸ List.mem_map_of_mem hd')
    constructor
    · intro hab
      exact prefix_clash (rest := []) hne (pa.trans hab) pb
    · intro hba
      exact prefix_clash (rest := []) hne.symm (pb.trans hba) pa
end

theorem separated_of_noNesting (t : Dir) (h : NoNesting t) : Separated t := by
  obtain ⟨hf, hr⟩ := h
  refine (separated_iff t).mpr ⟨?_, hp_flat t [] hf⟩
  cases t with
  | mk name atime files subs =>
    simp only [Dir.name] at hr
    intro hmem
    rw [osWalk, hp_walkDir, hr] at hmem
    obtain ⟨e, he, hpath⟩ := mem_hp hmem
    obtain ⟨d', _, hpre⟩ := walkSubs_prefix subs [] e he
    rw [hpath] at hpre
    have := hpre.length_le
    simp at this

theorem memstrChars_concat (m : List Char) (u : Char) :
    memstrChars (m ++ [u]) =
      match unitExp u with
      | none => .valueError
      | some k =>
        if m.all inAlphabet then
          match parseMantissa m with
          | none => .valueError
          | some (neg, n, f) => .ok (scaled neg n f k)
        else .outside := by
  simp only [memstrChars, List.getLast?_concat, List.dropLast_concat]
  rfl

theorem isDigit_inAlphabet {c : Char} (h : isDigit c = true) : inAlphabet c = true := by
  simp [inAlphabet, h]

theorem natOfDigits_append (acc : Nat) (a b : List Char) :
    natOfDigits acc (a ++ b) = natOfDigits (natOfDigits acc a) b := by
  induction a generalizing acc with
  | nil => rfl
  | cons c r ih =>
    simp only [List.cons_append, natOfDigits]
    exact ih _

theorem natOfDigits_acc (acc : Nat) (b : List Char) :
    natOfDigits acc b = acc * 10 ^ b.length + natOfDigits 0 b := by
  induction b generalizing acc with
  | nil => simp only [natOfDigits, List.length_nil, Nat.pow_zero, Nat.mul_one, Nat.add_zero]
  | cons c r ih =>
    simp only [natOfDigits, List.length_cons]
    rw [ih, ih (0 * 10 + digitVal c)]
    generalize digitVal c = dv
    generalize natOfDigits 0 r = x
    rw [Nat.pow_succ, Nat.add_mul, Nat.zero_mul, Nat.zero_add, Nat.mul_assoc, Nat.mul_comm (10 ^ r.length) 10,
      Nat.add_assoc]

theorem natOfDigits_split (ip fp : List Char) :
    natOfDigits 0 (ip ++ fp) = natOfDigits 0 ip * 10 ^ fp.length + natOfDigits 0 fp := by
  rw [natOfDigits_append, natOfDigits_acc]

theorem parseUnsigned_point (ip fp : List Char) (hip : ∀ c ∈ ip, isDigit c = true)
    (hfp : ∀ c ∈ fp, isDigit c = true) (hne : ¬ (ip = [] ∧ fp = [])) :
    parseUnsigned (ip ++ '.' :: fp) =
      some (natOfDigits 0 ip * 10 ^ fp.length + natOfDigits 0 fp, fp.length) := by
  have hdot : isDigit '.' = false := by decide
  unfold parseUnsigned
  simp only [List.takeWhile_append_of_pos hip, List.dropWhile_append_of_pos hip, List.takeWhile_cons,
    List.dropWhile_cons, hdot, Bool.false_eq_true, if_false, List.append_nil]
  have hall : fp.all isDigit = true := by simpa using hfp
  simp [hall, hne, natOfDigits_split]

theorem parseUnsigned_int (ip : List Char) (hip : ∀ c ∈ ip, isDigit c = true) (hne : ip ≠ []) :
    parseUnsigned ip = some (natOfDigits 0 ip, 0) := by
  unfold parseUnsigned
  have h1 : ip.takeWhile isDigit = ip := by
    have := List.takeWhile_append_of_pos (l₂ := []) hip
    simpa using this
  have h2 : ip.dropWhile isDigit = [] := by
    have := List.dropWhile_append_of_pos (l₂ := []) hip
    simpa using this
  simp [h1, h2, hne]

theorem parseUnsigned_alphabet {r : List Char} {nf : Nat × Nat} (h : parseUnsigned r = some nf) :
    r.all inAlphabet = true := by
  have hip : (r.takeWhile isDigit).all inAlphabet = true :=
    List.all_eq_true.mpr fun c hc => isDigit_inAlphabet (List.all_eq_true.mp List.all_takeWhile c hc)
  rw [← List.takeWhile_append_dropWhile (p := isDigit) (l := r), List.all_append, hip]
  unfold parseUnsigned at h
  split at h
  · rename_i hd; rw [hd]; rfl
  · rename_i c fp hd
    simp only at h
    split at h
    · rename_i hc
      rw [hd, hc.1, List.all_cons,
        List.all_eq_true.mpr fun c hc' => isDigit_inAlphabet (List.all_eq_true.mp hc.2.1 c hc')]
      rfl
    · cases h

theorem parseMantissa_unsigned {r : List Char} {nf : Nat × Nat} (h : parseUnsigned r = some nf) :
    parseMantissa r = some (false, nf) := by
  have hm : isDigit '-' = false := by decide
  have hplus : isDigit '+' = false := by decide
  unfold parseMantissa
  split
  · simp [parseUnsigned, hm] at h
  · simp [parseUnsigned, hplus] at h
  · rw [h]; rfl

theorem memstrChars_signed (sign : List Char) (neg : Bool) (body : List Char) (u : Char) (k n f : Nat)
    (hsign : (sign = [] ∧ neg = false) ∨ (sign = ['+'] ∧ neg = false) ∨ (sign = ['-'] ∧ neg = true))
    (hpu : parseUnsigned body = some (n, f)) (hu : unitExp u = some k) :
    memstrChars (sign ++ body ++ [u]) = .ok (scaled neg n f k) := by
  rw [memstrChars_concat, hu]
  have hall : (sign ++ body).all inAlphabet = true := by
    rw [List.all_append, parseUnsigned_alphabet hpu]
    rcases hsign with ⟨rfl, _⟩ | ⟨rfl, _⟩ | ⟨rfl, _⟩ <;> rfl
  have hpm : parseMantissa (sign ++ body) = some (neg, n, f) := by
    rcases hsign with ⟨rfl, rfl⟩ | ⟨rfl, rfl⟩ | ⟨rfl, rfl⟩
    · exact parseMantissa_unsigned hpu
    · simp [parseMantissa, hpu]
    · simp [parseMantissa, hpu]
  simp only [hall, if_true, hpm]

/-- Truncation is robust: `P/q` within `1/T` of the non-integer `V/T` has the same integer part. -/
theorem trunc_robust (V T P q : Nat) (hT : 0 < T) (hnonint : V % T ≠ 0)
    (h1 : P * T < V * q + q) (h2 : V * q < P * T + q) : P / q = V / T := by
  have hdm := Nat.div_add_mod V T
  have hr : V % T < T := Nat.mod_lt _ hT
  generalize V / T = a at *
  generalize V % T = r at *
  subst hdm
  -- with `V = T * a + r`, `0 < r < T`: the negations of `a * q ≤ P` and `P < (a + 1) * q`, multiplied by `T`,
  -- contradict `h2` and `h1`
  rw [Nat.add_mul, Nat.mul_comm P T] at h1 h2
  have hq : q ≤ r * q := Nat.le_mul_of_pos_left q (Nat.pos_of_ne_zero hnonint)
  have hrq : (r + 1) * q ≤ T * q := Nat.mul_le_mul_right q hr
  rw [Nat.add_mul, Nat.one_mul] at hrq
  apply Nat.div_eq_of_lt_le
  · apply Nat.le_of_not_lt
    intro hlt
    have := Nat.mul_le_mul_left T hlt
    rw [Nat.mul_add_one, ← Nat.mul_assoc] at this
    omega
  · apply Nat.lt_of_not_le
    intro hge
    have := Nat.mul_le_mul_left T hge
    rw [Nat.add_mul, Nat.one_mul, Nat.mul_add, ← Nat.mul_assoc] at this
    omega

end JoblibModel.StoreLimits
