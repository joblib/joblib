import JoblibProofs.Lemmas.StoreFS
/-! Invariants of the store directory and the rely/guarantee vocabulary (C05, C11):
`WF` (inode bookkeeping) and `Up` (tree shape), preserved by every call; `Allowed` (what a participant may do at a level);
`Touch` (what an allowed call can do to one name); `Inv` (typing + complete final names, preserved by every allowed call). -/
namespace JoblibModel.Store

variable {fs fs' : FS} {p q : Path} {o : Op} {i j : Nat} {c d : Bytes} {n : Option Node}

/-- Inode bookkeeping: an inode is linked at one name at most, every inode in use (linked or orphaned) is below the
counter `next`, and a linked inode has no orphan record. -/
structure WF (fs : FS) : Prop where
  distinct : ∀ p q i c c', fs.get p = some (.file i c) → fs.get q = some (.file i c') → p = q
  fresh : ∀ p i c, fs.get p = some (.file i c) → i < fs.next
  orphFresh : ∀ q i c, (q, i, c) ∈ fs.orphans → i < fs.next
  sep : ∀ p i c q c', fs.get p = some (.file i c) → (q, i, c') ∈ fs.orphans → False

/-- `WF` after a change of the one name `p` to `n`. `ho`: the file that was at `p` may be recorded as an orphan, unless its inode stays;
`hi`: a file put there has the inode that was there, a fresh one, or one in use nowhere (the second half of a `rename`). -/
theorem WF.upd (h : WF fs)
    (hg : ∀ q, fs'.get q = getUpd fs p n q) (hn : fs.next ≤ fs'.next)
    (ho : fs'.orphans = fs.orphans ∨
      ∃ i c, fs.get p = some (.file i c) ∧ (∀ c', n ≠ some (.file i c')) ∧ fs'.orphans = (p, i, c) :: fs.orphans)
    (hi : ∀ i c, n = some (.file i c) → (∃ c0, fs.get p = some (.file i c0)) ∨ (i = fs.next ∧ fs.next < fs'.next) ∨
      (i < fs.next ∧ (∀ q c', fs.get q ≠ some (.file i c')) ∧ ∀ q c', (q, i, c') ∉ fs.orphans)) :
    WF fs' := by
  have old : ∀ {q i c}, (q, i, c) ∈ fs'.orphans →
      (q, i, c) ∈ fs.orphans ∨ ((∀ c', n ≠ some (.file i c')) ∧ fs.get q = some (.file i c) ∧ q = p) := by
    intro q i c hq
    rcases ho with ho | ⟨i0, c0, hp, hn0, ho⟩ <;> rw [ho] at hq
    · exact Or.inl hq
    · rcases List.mem_cons.mp hq with e | hq
      · cases e; exact Or.inr ⟨hn0, hp, rfl⟩
      · exact Or.inl hq
  -- the inode of a file put at `p` is at no other name and in no orphan record of `fs`
  have new : ∀ {i c}, n = some (.file i c) →
      (∀ q c', fs.get q = some (.file i c') → q = p) ∧ ∀ q c', (q, i, c') ∉ fs.orphans := by
    intro i c e
    rcases hi i c e with ⟨c0, h0⟩ | ⟨rfl, _⟩ | ⟨_, h1, h2⟩
    · exact ⟨fun q c' hq => h.distinct _ _ _ _ _ hq h0, fun q c' hq => h.sep _ _ _ _ _ h0 hq⟩
    · exact ⟨fun q c' hq => absurd (h.fresh _ _ _ hq) (Nat.lt_irrefl _),
        fun q c' hq => absurd (h.orphFresh _ _ _ hq) (Nat.lt_irrefl _)⟩
    · exact ⟨fun q c' hq => absurd hq (h1 q c'), h2⟩
  refine ⟨?_, ?_, ?_, ?_⟩
  · intro p1 q1 i c c' h1 h2
    rw [hg] at h1 h2
    rcases getUpd_file h1 with ⟨e1, n1⟩ | ⟨e1, h1⟩ <;> rcases getUpd_file h2 with ⟨e2, n2⟩ | ⟨e2, h2⟩
    · rw [e1, e2]
    · exact absurd ((new n1).1 _ _ h2) e2
    · exact absurd ((new n2).1 _ _ h1) e1
    · exact h.distinct _ _ _ _ _ h1 h2
  · intro q i c hq
    rw [hg] at hq
    rcases getUpd_file hq with ⟨_, e⟩ | ⟨_, hq⟩
    · rcases hi i c e with ⟨c0, h0⟩ | ⟨rfl, hlt⟩ | ⟨hlt, _⟩
      · exact Nat.lt_of_lt_of_le (h.fresh _ _ _ h0) hn
      · exact hlt
      · exact Nat.lt_of_lt_of_le hlt hn
    · exact Nat.lt_of_lt_of_le (h.fresh _ _ _ hq) hn
  · intro q i c hq
    rcases old hq with hq | ⟨_, hq, _⟩
    · exact Nat.lt_of_lt_of_le (h.orphFresh _ _ _ hq) hn
    · exact Nat.lt_of_lt_of_le (h.fresh _ _ _ hq) hn
  · intro p1 i c q c' h1 h2
    rw [hg] at h1
    rcases getUpd_file h1 with ⟨_, n1⟩ | ⟨e1, f1⟩ <;> rcases old h2 with o2 | ⟨n0, f2, e2⟩
    · exact (new n1).2 _ _ o2
    · exact n0 c n1
    · exact h.sep _ _ _ _ _ f1 o2
    · exact e1 ((h.distinct _ _ _ _ _ f1 f2).trans e2)

theorem wf_apply (o : Op) (fs : FS) (h : WF fs) : WF (apply o fs).2 := by
  rcases apply_cases o fs with e | ⟨p, rfl⟩ | ⟨p, rfl⟩ | ⟨p, i, d, rfl⟩ | ⟨p, q, rfl⟩ | ⟨p, g, rfl⟩ | ⟨p, g, rfl⟩
  · rw [e]; exact h
  · rcases mkdir_spec p fs with ⟨e, _⟩ | ⟨_, _, _, hn, ho, hg⟩
    · rw [e]; exact h
    · exact h.upd hg (by omega) (Or.inl ho) (fun _ _ e => by cases e)
  · rcases creat_spec p fs with ⟨e, _⟩ | ⟨i0, c0, hp, _, hn, ho, hg⟩ | ⟨hp, _, _, hn, ho, hg⟩
    · rw [e]; exact h
    · exact h.upd hg (by omega) (Or.inl ho) (fun _ _ e => by cases e; exact Or.inl ⟨c0, hp⟩)
    · exact h.upd hg (by omega) (Or.inl ho) (fun _ _ e => by cases e; exact Or.inr (Or.inl ⟨rfl, by omega⟩))
  · -- a write changes contents only
    obtain ⟨_, hn, ho, hg⟩ := write_spec p i d fs
    have old : ∀ {q j c}, (apply (.write p i d) fs).2.get q = some (.file j c) → ∃ c0, fs.get q = some (.file j c0) :=
      fun hq => by rw [hg] at hq; obtain ⟨c0, h0, _⟩ := wr_file hq; exact ⟨c0, h0⟩
    have oldO : ∀ {q j c}, (q, j, c) ∈ (apply (.write p i d) fs).2.orphans → ∃ c0, (q, j, c0) ∈ fs.orphans :=
      fun hq => by rw [ho] at hq; exact mem_writeOrphans hq
    refine ⟨fun _ _ _ _ _ h1 h2 => ?_, fun _ _ _ h1 => ?_, fun _ _ _ h1 => ?_, fun _ _ _ _ _ h1 h2 => ?_⟩
    · obtain ⟨_, h1⟩ := old h1; obtain ⟨_, h2⟩ := old h2; exact h.distinct _ _ _ _ _ h1 h2
    · obtain ⟨_, h1⟩ := old h1; rw [hn]; exact h.fresh _ _ _ h1
    · obtain ⟨_, h1⟩ := oldO h1; rw [hn]; exact h.orphFresh _ _ _ h1
    · obtain ⟨_, h1⟩ := old h1; obtain ⟨_, h2⟩ := oldO h2; exact h.sep _ _ _ _ _ h1 h2
  · rcases rename_spec p q fs with e | ⟨i0, c0, hp, hne, _, _, hn, hor, hg⟩
    · rw [e]; exact h
    · -- between the two changes the moved inode is in use nowhere
      have h1 : WF (fs.erase p) := h.upd (get_erase fs p) (Nat.le_refl _) (Or.inl rfl) (fun _ _ e => by cases e)
      refine h1.upd hg (Nat.le_of_eq hn.symm) ?_ fun i c e => ?_
      · rcases hor with ⟨_, ho⟩ | ⟨j, c', hq, ho⟩
        · exact Or.inl ho
        · refine Or.inr ⟨j, c', (get_erase_ne hne).trans hq, fun c2 e => ?_, ho⟩
          cases e; exact hne (h.distinct _ _ _ _ _ hq hp)
      · cases e
        refine Or.inr (Or.inr ⟨h.fresh _ _ _ hp, fun x c' hx => ?_, fun x c' hx => h.sep _ _ _ _ _ hp hx⟩)
        by_cases hxp : x = p
        · rw [hxp, get_erase] at hx
          rcases getUpd_file hx with ⟨_, e⟩ | ⟨ne, _⟩
          · cases e
          · exact ne rfl
        · rw [get_erase_ne hxp] at hx; exact hxp (h.distinct _ _ _ _ _ hx hp)
  · rcases unlink_spec p g fs with ⟨e, _⟩ | ⟨i0, c0, hp, _, _, hn, ho, hg⟩
    · rw [e]; exact h
    · exact h.upd hg (by omega) (Or.inr ⟨i0, c0, hp, nofun, ho⟩) (fun _ _ e => by cases e)
  · rcases rmdir_spec p g fs with ⟨e, _⟩ | ⟨_, _, _, _, _, hn, ho, hg⟩
    · rw [e]; exact h
    · exact h.upd hg (by omega) (Or.inl ho) (fun _ _ e => by cases e)

/-- the names form a tree: whatever exists lies in a directory -/
def Up (fs : FS) : Prop := ∀ p, p ≠ [] → (fs.get p).isSome = true → ∃ j, fs.get (parent p) = some (.dir j)

def NotDir (fs : FS) (q : Path) : Prop := ∀ j, fs.get q ≠ some (.dir j)

theorem notDir_none (h : fs.get q = none) : NotDir fs q := fun j hj => by rw [h] at hj; cases hj

theorem notDir_file (h : fs.get q = some (.file i c)) : NotDir fs q :=
  fun j hj => by rw [h] at hj; cases hj

theorem NotDir.ne_nil (h : NotDir fs q) : q ≠ [] := by rintro rfl; exact h 0 (get_nil fs)

theorem parent_ne {p : Path} (h : p ≠ []) : parent p ≠ p := by
  intro e
  have := congrArg List.length e
  simp [parent] at this
  have : 0 < p.length := List.length_pos_iff.mpr h
  omega

theorem up_add {n : Node} (hup : Up fs)
    (hg : ∀ q, fs'.get q = getUpd fs p (some n) q) (hp : p ≠ [])
    (hpar : ∃ j, fs.get (parent p) = some (.dir j)) (hkind : NotDir fs p ∨ ∃ j, n = .dir j) : Up fs' := by
  intro q hq hs
  have par : ∀ x, (∃ j, fs.get x = some (.dir j)) → ∃ j, fs'.get x = some (.dir j) := by
    rintro x ⟨j, hj⟩
    by_cases h0 : x = []
    · subst h0; exact ⟨0, get_nil fs'⟩
    · rcases getUpd_cases hg h0 with ⟨rfl, e⟩ | e
      · rcases hkind with hk | ⟨j', rfl⟩
        · exact absurd hj (hk j)
        · exact ⟨j', e⟩
      · exact ⟨j, e ▸ hj⟩
  rcases getUpd_cases hg hq with ⟨rfl, _⟩ | e
  · exact par _ hpar
  · exact par _ (hup q hq (e ▸ hs))

theorem up_remove (hup : Up fs)
    (hg : ∀ q, fs'.get q = getUpd fs p none q)
    (hno : ∀ q, q ≠ [] → parent q = p → fs.get q = none) : Up fs' := by
  intro q hq hs
  rcases getUpd_cases hg hq with ⟨_, e⟩ | e
  · rw [e] at hs; cases hs
  · rw [e] at hs
    obtain ⟨j, hj⟩ := hup q hq hs
    by_cases h0 : parent q = []
    · rw [h0]; exact ⟨0, get_nil fs'⟩
    · rcases getUpd_cases hg h0 with ⟨hx, _⟩ | e'
      · rw [hno q hq hx] at hs; cases hs
      · exact ⟨j, e' ▸ hj⟩

theorem file_no_child (hup : Up fs)
    (hp : fs.get p = some (.file i c)) : ∀ q, q ≠ [] → parent q = p → fs.get q = none := by
  intro q hq hpq
  cases hg : fs.get q with
  | none => rfl
  | some n =>
    obtain ⟨j, hj⟩ := hup q hq (by rw [hg]; rfl)
    rw [hpq, hp] at hj; cases hj

theorem up_apply (o : Op) (fs : FS) (h : Up fs) : Up (apply o fs).2 := by
  rcases apply_cases o fs with e | ⟨p, rfl⟩ | ⟨p, rfl⟩ | ⟨p, i, d, rfl⟩ | ⟨p, q, rfl⟩ | ⟨p, g, rfl⟩ | ⟨p, g, rfl⟩
  · rw [e]; exact h
  · rcases mkdir_spec p fs with ⟨e, _⟩ | ⟨_, hpn, hpar, _, _, hg⟩
    · rw [e]; exact h
    · exact up_add h hg (notDir_none hpn).ne_nil hpar (Or.inr ⟨_, rfl⟩)
  · rcases creat_spec p fs with ⟨e, _⟩ | ⟨i0, c0, hpe, _, _, _, hg⟩ | ⟨hpn, hpar, _, _, _, hg⟩
    · rw [e]; exact h
    · have hnd := notDir_file hpe
      exact up_add h hg hnd.ne_nil (h p hnd.ne_nil (by rw [hpe]; rfl)) (Or.inl hnd)
    · have hnd := notDir_none hpn
      exact up_add h hg hnd.ne_nil hpar (Or.inl hnd)
  · have hg := (write_spec p i d fs).2.2.2
    intro q hq hs
    rw [hg] at hs
    obtain ⟨j, hj⟩ := h q hq (by cases hq0 : fs.get q <;> simp [hq0] at hs ⊢)
    exact ⟨j, by rw [hg, hj]; rfl⟩
  · rcases rename_spec p q fs with e | ⟨i0, c0, hp, hne, hpar, _, _, hor, hg⟩
    · rw [e]; exact h
    · have hnd : NotDir fs q := by
        rcases hor with ⟨h1, _⟩ | ⟨_, _, h1, _⟩
        · exact notDir_none h1
        · exact notDir_file h1
      have hpp : parent q ≠ p := by rintro e; obtain ⟨j, hj⟩ := hpar; rw [e, hp] at hj; cases hj
      exact up_add (up_remove h (get_erase fs p) (file_no_child h hp)) hg hnd.ne_nil
        (by rw [get_erase_ne hpp]; exact hpar) (Or.inl fun j => by rw [get_erase_ne hne]; exact hnd j)
  · rcases unlink_spec p g fs with ⟨e, _⟩ | ⟨_, _, hp, _, _, _, _, hg⟩
    · rw [e]; exact h
    · exact up_remove h hg (file_no_child h hp)
  · rcases rmdir_spec p g fs with ⟨e, _⟩ | ⟨_, _, _, hc, _, _, _, hg⟩
    · rw [e]; exact h
    · exact up_remove h hg (fun q hq hpq => children_empty hc hq hpq)

/-- What the participants of a setting may do besides calling cached functions: nothing (`calls`), also evict entries
(`Memory.reduce_size`, a rejecting `cache_validation_callback`: `evict`), also clear the cache (`Memory.clear()`, a call that
finds another source in `func_code.py`: `clear`). Each level allows what the one before allows (`Allowed.mono_level`). -/
inductive Level
  | calls | evict | clear
deriving DecidableEq, Repr

/-- a private temporary of a participant whose id satisfies `who` -/
def IsTmp (who : Nat → Prop) (p : Path) : Prop := ∃ a o, who o ∧ (p = pTmpOut a o ∨ p = pTmpMeta a o)

def DirShaped (p : Path) : Prop := p = pCache ∨ p = pLoc ∨ p = pMod ∨ p = pFunc ∨ ∃ a, p = pEntry a

def FileShaped (p : Path) : Prop :=
  p = pGit ∨ p = pCode ∨ ∃ a, p = pOut a ∨ p = pMeta a ∨ ∃ o, p = pTmpOut a o ∨ p = pTmpMeta a o

theorem DirShaped.loc : DirShaped pLoc := Or.inr (Or.inl rfl)
theorem DirShaped.func : DirShaped pFunc := Or.inr (Or.inr (Or.inr (Or.inl rfl)))
theorem DirShaped.entry (a : Nat) : DirShaped (pEntry a) := Or.inr (Or.inr (Or.inr (Or.inr ⟨a, rfl⟩)))
theorem FileShaped.git : FileShaped pGit := Or.inl rfl
theorem FileShaped.code : FileShaped pCode := Or.inr (Or.inl rfl)

def Below (p q : Path) : Prop := p <+: q ∧ q ≠ p

/-- a location of inode `i`: a name it is linked at, or the name an open-but-removed file had -/
def Loc (fs : FS) (i : Nat) (q : Path) : Prop :=
  (∃ c, fs.get q = some (.file i c)) ∨ (∃ c, (q, i, c) ∈ fs.orphans)

/-- What all participants of a setting share: the codec and the version of the live source. The configuration `Cfg` of a
participant is tied to it by `CfgOK π me c` / `CfgBase π me c` (StoreWalk). -/
structure Par where
  cd : Codec
  ver : Nat

variable {π : Par} {lvl : Level} {who : Nat → Prop} {s : Bool}

/-- names a participant may write to in place: its own temporaries, `.gitignore`, and `func_code.py` with (a prefix of)
the text of the live source -/
def Writable (π : Par) (who : Nat → Prop) (d : Bytes) (q : Path) : Prop :=
  IsTmp who q ∨ q = pGit ∨ (q = pCode ∧ d <+: π.cd.codeText π.ver)

/-- names a participant may create or truncate: its own temporaries, `.gitignore`, `func_code.py` -/
abbrev Creatable (who : Nat → Prop) (p : Path) : Prop := IsTmp who p ∨ p = pGit ∨ p = pCode

/-- What a participant (with an id satisfying `who`) may do to the shared directory in state `fs`.
`calls`: create directories; create / write its own temporaries; rename a complete temporary onto its final name;
(re)write `func_code.py` and `.gitignore` in place. `evict`: additionally remove anything inside entry directories and
the entry directories. `clear`: additionally remove anything below `<location>/joblib`. -/
inductive Allowed (π : Par) (lvl : Level) (who : Nat → Prop) (fs : FS) : Op → Prop
  | noop (o : Op) : (∀ p i d, o ≠ .write p i d) → (apply o fs).2 = fs → Allowed π lvl who fs o
  | mkdir (p : Path) : DirShaped p → Allowed π lvl who fs (.mkdir p)
  | creat (p : Path) : (IsTmp who p ∨ p = pGit ∨ p = pCode) → Allowed π lvl who fs (.creat p)
  | write (p : Path) (i : Nat) (d : Bytes) : (∀ q, Loc fs i q → Writable π who d q) → Allowed π lvl who fs (.write p i d)
  | renameOut (a o g : Nat) : who o → fs.dataAt (pTmpOut a o) = some (π.cd.pickle ⟨π.ver, a, g⟩) →
      Allowed π lvl who fs (.rename (pTmpOut a o) (pOut a))
  | renameMeta (a o g : Nat) : who o → fs.dataAt (pTmpMeta a o) = some (π.cd.metaText g) →
      Allowed π lvl who fs (.rename (pTmpMeta a o) (pMeta a))
  | unlinkE (a : Nat) (p : Path) (g : Option Nat) : lvl ≠ .calls → Below (pEntry a) p → Allowed π lvl who fs (.unlink p g)
  | rmdirE (a : Nat) (p : Path) (g : Option Nat) : lvl ≠ .calls → pEntry a <+: p → Allowed π lvl who fs (.rmdir p g)
  | unlinkC (p : Path) (g : Option Nat) : lvl = .clear → Below pLoc p → Allowed π lvl who fs (.unlink p g)
  | rmdirC (p : Path) (g : Option Nat) : lvl = .clear → Below pLoc p → Allowed π lvl who fs (.rmdir p g)

theorem Allowed.mono_level {lvl lvl' : Level}
    (h : Allowed π lvl who fs o) (hl : lvl = .calls ∨ (lvl = .evict ∧ lvl' ≠ .calls) ∨ lvl' = .clear) :
    Allowed π lvl' who fs o := by
  have hE : lvl ≠ .calls → lvl' ≠ .calls := by
    rcases hl with e | ⟨_, e⟩ | e
    · exact fun h => absurd e h
    · exact fun _ => e
    · exact fun _ => by rw [e]; decide
  have hC : lvl = .clear → lvl' = .clear := by
    rcases hl with e | ⟨e, _⟩ | e
    · rw [e]; exact fun h => nomatch h
    · rw [e]; exact fun h => nomatch h
    · exact fun _ => e
  cases h with
  | noop o hw e => exact .noop o hw e
  | mkdir p hp => exact .mkdir p hp
  | creat p hp => exact .creat p hp
  | write p i d hw => exact .write p i d hw
  | renameOut a o g hw hd => exact .renameOut a o g hw hd
  | renameMeta a o g hw hd => exact .renameMeta a o g hw hd
  | unlinkE a p g hl' hb => exact .unlinkE a p g (hE hl') hb
  | rmdirE a p g hl' hb => exact .rmdirE a p g (hE hl') hb
  | unlinkC p g hl' hb => exact .unlinkC p g (hC hl') hb
  | rmdirC p g hl' hb => exact .rmdirC p g (hC hl') hb

theorem Allowed.tear (n : Nat)
    (h : Allowed π lvl who fs o) : Allowed π lvl who fs (tear n o) := by
  rcases tear_eq n o with e | ⟨p, i, d, rfl, e⟩
  · rw [e]; exact h
  · rw [e]
    cases h with
    | noop _ hno _ => exact absurd rfl (hno p i d)
    | write _ _ _ hw =>
      refine .write p i _ fun q hq => ?_
      rcases hw q hq with h1 | h1 | ⟨h1, h2⟩
      · exact Or.inl h1
      · exact Or.inr (Or.inl h1)
      · exact Or.inr (Or.inr ⟨h1, (List.take_prefix n d).trans h2⟩)

/-- the last name of a path says whether a file belongs there -/
def Name.isFile : Name → Bool
  | .gitignore | .funcCode | .output | .metadata | .tmpOut _ | .tmpMeta _ => true
  | _ => false

theorem fileShaped_last (h : FileShaped p) : p.getLast?.map Name.isFile = some true := by
  rcases h with rfl | rfl | ⟨b, rfl | rfl | ⟨o, rfl | rfl⟩⟩ <;> rfl

theorem dir_not_file (h : DirShaped p) : ¬ FileShaped p := fun hf => by
  have := fileShaped_last hf
  rcases h with rfl | rfl | rfl | rfl | ⟨a, rfl⟩ <;> cases this

theorem nil_not_file : ¬ FileShaped ([] : Path) := fun hf => by cases fileShaped_last hf

theorem isTmp_file (h : IsTmp who p) : FileShaped p := by
  obtain ⟨a, o, _, e | e⟩ := h
  · exact Or.inr (Or.inr ⟨a, Or.inr (Or.inr ⟨o, Or.inl e⟩)⟩)
  · exact Or.inr (Or.inr ⟨a, Or.inr (Or.inr ⟨o, Or.inr e⟩)⟩)

theorem creatable_file (h : Creatable who p) : FileShaped p := by
  rcases h with h | h | h
  · exact isTmp_file h
  · exact Or.inl h
  · exact Or.inr (Or.inl h)

theorem writable_creatable (h : Writable π who d p) :
    Creatable who p := by
  rcases h with h | h | ⟨h, _⟩
  · exact Or.inl h
  · exact Or.inr (Or.inl h)
  · exact Or.inr (Or.inr h)

/-- the final names `output.pkl`, `metadata.json` of an entry: never created or written in place -/
def Sealed (q : Path) : Prop := ∃ a, q = pOut a ∨ q = pMeta a

theorem sealed_file (h : Sealed q) : FileShaped q := by
  obtain ⟨a, h⟩ := h
  exact Or.inr (Or.inr ⟨a, h.imp_right Or.inl⟩)

theorem sealed_not_creatable (h : Sealed p) : ¬ Creatable who p := by
  obtain ⟨a, rfl | rfl⟩ := h <;> rintro (⟨b, o, _, e | e⟩ | e | e) <;>
    simp [pOut, pMeta, pTmpOut, pTmpMeta, pGit, pCode] at e

theorem sealed_not_tmp (h : Sealed p) : ¬ IsTmp who p :=
  fun ht => sealed_not_creatable h (Or.inl ht)

theorem sealed_not_writable (h : Sealed q) : ¬ Writable π who d q :=
  fun hw => sealed_not_creatable h (writable_creatable hw)

/-- names the environment never removes at a level -/
def Protected : Level → Path → Prop
  | .calls, _ => True
  | .evict, p => ∀ a, ¬ pEntry a <+: p
  | .clear, p => ¬ Below pLoc p ∧ ∀ a, ¬ pEntry a <+: p

theorem not_protected_entry {a : Nat} (hl : lvl ≠ .calls) (h : pEntry a <+: p) :
    ¬ Protected lvl p := by
  cases lvl with
  | calls => exact absurd rfl hl
  | evict => exact fun hp => hp a h
  | clear => exact fun hp => hp.2 a h

theorem dataAt_eq (h : fs.dataAt p = some d) : ∃ i, fs.get p = some (.file i d) := by
  unfold FS.dataAt at h
  split at h
  · rename_i i c hg; cases h; exact ⟨i, hg⟩
  · cases h

/-- a final name together with a complete value of the live source for it -/
def Final (π : Par) (q : Path) (c : Bytes) : Prop :=
  (∃ a g, q = pOut a ∧ c = π.cd.pickle ⟨π.ver, a, g⟩) ∨ (∃ a g, q = pMeta a ∧ c = π.cd.metaText g)

theorem Final.sealed (h : Final π q c) : Sealed q := by
  rcases h with ⟨a, _, e, _⟩ | ⟨a, _, e, _⟩
  · exact ⟨a, Or.inl e⟩
  · exact ⟨a, Or.inr e⟩

/-- Everything the call `o`, allowed to a participant in `who` at level `lvl`, can do to the single name `q`, with what
`Allowed` says about the name in each case. -/
inductive Touch (π : Par) (lvl : Level) (who : Nat → Prop) (fs : FS) (o : Op) (q : Path) : Prop
  | same : (apply o fs).2.get q = fs.get q → Touch π lvl who fs o q
  | mkdir : DirShaped q → fs.get q = none → (apply o fs).2.get q = some (.dir fs.next) → Touch π lvl who fs o q
  | creat (i : Nat) : Creatable who q →
      ((fs.get q = none ∧ i = fs.next) ∨ ∃ c, fs.get q = some (.file i c)) →
      (apply o fs).2.get q = some (.file i []) → Touch π lvl who fs o q
  | write (p : Path) (i : Nat) (c d : Bytes) : o = .write p i d → fs.get q = some (.file i c) → Writable π who d q →
      (apply o fs).2.get q = some (.file i (overwrite c d)) → Touch π lvl who fs o q
  | movedAway (i : Nat) (c : Bytes) : IsTmp who q → fs.get q = some (.file i c) → (apply o fs).2.get q = none →
      Touch π lvl who fs o q
  | movedOnto (t : Path) (i : Nat) (c : Bytes) : o = .rename t q → IsTmp who t → fs.get t = some (.file i c) → Final π q c →
      ((fs.get q = none ∧ (apply o fs).2.orphans = fs.orphans) ∨
        ∃ j c', fs.get q = some (.file j c') ∧ (apply o fs).2.orphans = (q, j, c') :: fs.orphans) →
      (apply o fs).2.next = fs.next → (apply o fs).2.get q = some (.file i c) → Touch π lvl who fs o q
  | unlink (i : Nat) (c : Bytes) : o.moves = true → ¬ Protected lvl q → fs.get q = some (.file i c) →
      (apply o fs).2.orphans = (q, i, c) :: fs.orphans → (apply o fs).2.next = fs.next → (apply o fs).2.get q = none →
      Touch π lvl who fs o q
  | rmdir (j : Nat) : o.moves = true → ¬ Protected lvl q → fs.get q = some (.dir j) → (apply o fs).2.get q = none →
      Touch π lvl who fs o q

private theorem touch_rename {t f : Path} (ht : IsTmp who t) (hi : fs.get t = some (.file i c))
    (hf : Final π f c) (h0 : q ≠ []) : Touch π lvl who fs (.rename t f) q := by
  rcases rename_spec t f fs with e | ⟨i0, c0, hp, hne, _, _, hn, hor, hg⟩
  · exact .same (by rw [e])
  · rw [hi] at hp; cases hp
    rcases getUpd_cases hg h0 with ⟨rfl, e⟩ | e
    · exact .movedOnto t i c rfl ht hi hf hor hn e
    · by_cases hqt : q = t
      · subst hqt
        exact .movedAway i c ht hi (by rw [e, get_erase, getUpd_self h0])
      · exact .same (by rw [e, get_erase_ne hqt])

private theorem touch_unlink {g : Option Nat} (hp : ¬ Protected lvl p) (h0 : q ≠ []) :
    Touch π lvl who fs (.unlink p g) q := by
  rcases unlink_spec p g fs with ⟨e, _⟩ | ⟨i, c, hpf, _, _, hn, ho, hg⟩
  · exact .same (by rw [e])
  · rcases getUpd_cases hg h0 with ⟨rfl, e⟩ | e
    · exact .unlink i c rfl hp hpf ho hn e
    · exact .same e

private theorem touch_rmdir {g : Option Nat} (hp : ¬ Protected lvl p) (h0 : q ≠ []) :
    Touch π lvl who fs (.rmdir p g) q := by
  rcases rmdir_spec p g fs with ⟨e, _⟩ | ⟨j, hpd, _, _, _, _, _, hg⟩
  · exact .same (by rw [e])
  · rcases getUpd_cases hg h0 with ⟨rfl, e⟩ | e
    · exact .rmdir j rfl hp hpd e
    · exact .same e

theorem Allowed.touch (ha : Allowed π lvl who fs o) (q : Path) : Touch π lvl who fs o q := by
  by_cases h0 : q = []
  · subst h0; exact .same (by rw [get_nil, get_nil])
  cases ha with
  | noop o _ e => exact .same (by rw [e])
  | mkdir p hp =>
    rcases mkdir_spec p fs with ⟨e, _⟩ | ⟨_, hpn, _, _, _, hg⟩
    · exact .same (by rw [e])
    · rcases getUpd_cases hg h0 with ⟨rfl, e⟩ | e
      · exact .mkdir hp hpn e
      · exact .same e
  | creat p hp =>
    rcases creat_spec p fs with ⟨e, _⟩ | ⟨i, c, hpe, _, _, _, hg⟩ | ⟨hpn, _, _, _, _, hg⟩
    · exact .same (by rw [e])
    · rcases getUpd_cases hg h0 with ⟨rfl, e⟩ | e
      · exact .creat i hp (Or.inr ⟨c, hpe⟩) e
      · exact .same e
    · rcases getUpd_cases hg h0 with ⟨rfl, e⟩ | e
      · exact .creat _ hp (Or.inl ⟨hpn, rfl⟩) e
      · exact .same e
  | write p i d hw =>
    have hg := (write_spec p i d fs).2.2.2 q
    cases hq : fs.get q with
    | none => exact .same (by rw [hg, hq]; rfl)
    | some nd =>
      cases nd with
      | dir j => exact .same (by rw [hg, hq]; rfl)
      | file j c =>
        by_cases hji : j = i
        · subst hji
          exact .write p j c d rfl hq (hw q (Or.inl ⟨c, hq⟩)) (by rw [hg, hq]; simp [wr])
        · exact .same (by rw [hg, hq]; simp [wr, hji])
  | renameOut a o g ho hd =>
    obtain ⟨i, hi⟩ := dataAt_eq hd
    exact touch_rename ⟨a, o, ho, Or.inl rfl⟩ hi (Or.inl ⟨a, g, rfl, rfl⟩) h0
  | renameMeta a o g ho hd =>
    obtain ⟨i, hi⟩ := dataAt_eq hd
    exact touch_rename ⟨a, o, ho, Or.inr rfl⟩ hi (Or.inr ⟨a, g, rfl, rfl⟩) h0
  | unlinkE a p g hl hb => exact touch_unlink (not_protected_entry hl hb.1) h0
  | rmdirE a p g hl hb => exact touch_rmdir (not_protected_entry hl hb) h0
  | unlinkC p g hl hb => subst hl; exact touch_unlink (fun hp => hp.1 hb) h0
  | rmdirC p g hl hb => subst hl; exact touch_rmdir (fun hp => hp.1 hb) h0

/-- `strict = true`: every result file holds the value of the live source version (all users run the same source);
`strict = false`: it holds the value of *some* version for the right argument (the cache may have been filled by an
older source). -/
structure Inv (π : Par) (strict : Bool) (fs : FS) : Prop where
  wf : WF fs
  /-- what a name holds fits the shape of the name -/
  typD : ∀ p j, fs.get p = some (.dir j) → ¬ FileShaped p
  typF : ∀ p i c, fs.get p = some (.file i c) → ¬ DirShaped p
  /-- final names hold complete values (they are only ever renamed onto) -/
  out : ∀ a i d, fs.get (pOut a) = some (.file i d) → ∃ v g, d = π.cd.pickle ⟨v, a, g⟩ ∧ (strict = true → v = π.ver)
  metaOk : ∀ a i d, fs.get (pMeta a) = some (.file i d) → ∃ g, d = π.cd.metaText g
  /-- the names form a tree: whatever exists lies in a directory -/
  up : ∀ p, p ≠ [] → (fs.get p).isSome = true → ∃ j, fs.get (parent p) = some (.dir j)

/-- the clauses of `Inv` that speak about a single name `q`, as a condition on what `q` holds -/
def NameOK (π : Par) (s : Bool) (q : Path) : Option Node → Prop
  | none => True
  | some (.dir _) => ¬ FileShaped q
  | some (.file _ d) => ¬ DirShaped q ∧
      (∀ a, q = pOut a → ∃ v g, d = π.cd.pickle ⟨v, a, g⟩ ∧ (s = true → v = π.ver)) ∧
      (∀ a, q = pMeta a → ∃ g, d = π.cd.metaText g)

theorem Inv.nameOK (h : Inv π s fs) (q : Path) : NameOK π s q (fs.get q) := by
  cases hq : fs.get q with
  | none => trivial
  | some nd =>
    cases nd with
    | dir j => exact h.typD _ _ hq
    | file i d =>
      exact ⟨h.typF _ _ _ hq, fun a e => h.out a i d (by rw [← e, hq]), fun a e => h.metaOk a i d (by rw [← e, hq])⟩

theorem inv_of_nameOK (hwf : WF fs) (hn : ∀ q, NameOK π s q (fs.get q)) (hup : Up fs) : Inv π s fs :=
  ⟨hwf, fun p j hp => by have := hn p; rw [hp] at this; exact this,
   fun p i c hp => by have := hn p; rw [hp] at this; exact this.1,
   fun a i d hp => by have := hn (pOut a); rw [hp] at this; exact this.2.1 a rfl,
   fun a i d hp => by have := hn (pMeta a); rw [hp] at this; exact this.2.2 a rfl, hup⟩

theorem Final.nameOK (h : Final π q c) (i : Nat) : NameOK π s q (some (.file i c)) := by
  refine ⟨fun hd => dir_not_file hd (sealed_file h.sealed), fun a e => ?_, fun a e => ?_⟩
  · rcases h with ⟨a', g, e', rfl⟩ | ⟨a', _, e', _⟩ <;> rw [e] at e'
    · have : a = a' := by simpa [pOut] using e'
      exact ⟨π.ver, g, by rw [this], fun _ => rfl⟩
    · simp [pOut, pMeta] at e'
  · rcases h with ⟨a', _, e', _⟩ | ⟨a', g, e', rfl⟩ <;> rw [e] at e'
    · simp [pOut, pMeta] at e'
    · exact ⟨g, rfl⟩

theorem inv_apply (h : Inv π s fs) (ha : Allowed π lvl who fs o) : Inv π s (apply o fs).2 := by
  refine inv_of_nameOK (wf_apply o fs h.wf) (fun q => ?_) (up_apply o fs h.up)
  have hq := h.nameOK q
  cases ha.touch q with
  | same e => rw [e]; exact hq
  | mkdir hd _ e => rw [e]; exact dir_not_file hd
  | creat i hc _ e =>
    rw [e]
    exact ⟨fun hd => dir_not_file hd (creatable_file hc), fun a ea => absurd hc (sealed_not_creatable ⟨a, Or.inl ea⟩),
      fun a ea => absurd hc (sealed_not_creatable ⟨a, Or.inr ea⟩)⟩
  | write _ i c d _ hb hw e =>
    rw [e]; rw [hb] at hq
    exact ⟨hq.1, fun a ea => absurd hw (sealed_not_writable ⟨a, Or.inl ea⟩),
      fun a ea => absurd hw (sealed_not_writable ⟨a, Or.inr ea⟩)⟩
  | movedAway _ _ _ _ e => rw [e]; trivial
  | movedOnto t i c _ _ _ hf _ _ e => rw [e]; exact hf.nameOK i
  | unlink _ _ _ _ _ _ _ e => rw [e]; trivial
  | rmdir _ _ _ _ e => rw [e]; trivial

theorem Allowed.sealed_data (ha : Allowed π lvl who fs o) (hq : Sealed q) :
    (apply o fs).2.dataAt q = fs.dataAt q ∨ (o.moves = true ∧ ((apply o fs).2.dataAt q = none ∨
      ∃ t, o = .rename t q ∧ (apply o fs).2.dataAt q = fs.dataAt t)) := by
  unfold FS.dataAt
  cases ha.touch q with
  | same e => rw [e]; exact Or.inl rfl
  | mkdir hd _ _ => exact absurd (sealed_file hq) (dir_not_file hd)
  | creat _ hc _ _ => exact absurd hc (sealed_not_creatable hq)
  | write _ _ _ _ _ _ hw _ => exact absurd hw (sealed_not_writable hq)
  | movedAway _ _ ht _ _ => exact absurd ht (sealed_not_tmp hq)
  | movedOnto t _ _ ho _ hb _ _ _ e => exact Or.inr ⟨by rw [ho]; rfl, Or.inr ⟨t, ho, by rw [e, hb]⟩⟩
  | unlink _ _ hm _ _ _ _ e => exact Or.inr ⟨hm, Or.inl (by rw [e])⟩
  | rmdir _ hm _ _ e => exact Or.inr ⟨hm, Or.inl (by rw [e])⟩

theorem builds_keeps_final (ha : Allowed π lvl who fs o) (hb : Builds o) {p : Path} (hp : Sealed p) :
    (apply o fs).2.dataAt p = fs.dataAt p :=
  (ha.sealed_data hp).resolve_right fun h => by rw [hb] at h; cases h.1

end JoblibModel.Store
