import JoblibModel.DumpLoad
import JoblibModel.ZlibFile
import JoblibProofs.Lemmas.Common
/-! Sniffing: list-prefix facts that lift the finite table checks (`decide` over `Generated.Tables`) to every payload.
`dump`: the extension loop; the acceptance specification `ArgOK` / `MethodOK` / `LevelOK`; `resolve` by form of the argument
and what `finish` and `writer` can answer. `lookup_some_of_registered`, `extMethod_registered` (through `extLoop_mem`),
`extLoop_none` say what the table functions answer and have no user; nor has the check `zlibFile_prefixes_eq`. -/
namespace JoblibModel.DumpLoad
open JoblibModel.Generated

/-- Two byte strings are comparable when one is a prefix of the other: exactly when some file starts with both. -/
def comparable (p q : Bytes) : Bool := p.isPrefixOf q || q.isPrefixOf p

theorem isPrefixOf_take (p b : Bytes) (n : Nat) (h : p.length ≤ n) :
    p.isPrefixOf (b.take n) = p.isPrefixOf b := by
  induction p generalizing b n with
  | nil => simp
  | cons x xs ih =>
    cases b with
    | nil => simp
    | cons y ys =>
      cases n with
      | zero => simp at h
      | succ n =>
        simp only [List.take_succ_cons, List.isPrefixOf]
        rw [ih ys n (by simpa using h)]

theorem comparable_of_common {p q b : Bytes} (hp : p.isPrefixOf b = true) (hq : q.isPrefixOf b = true) :
    comparable p q = true := by
  rw [List.isPrefixOf_iff_prefix] at hp hq
  unfold comparable
  rcases List.prefix_or_prefix_of_prefix hp hq with h | h
  · simp [List.isPrefixOf_iff_prefix.mpr h]
  · simp [List.isPrefixOf_iff_prefix.mpr h]

theorem detectIn_unique (L : List CompressorEntry) (b : Bytes) (c : CompressorEntry) (hc : c ∈ L)
    (hstart : startsWith b c.pfx = true)
    (honly : ∀ c' ∈ L, startsWith b c'.pfx = true → c'.name = c.name) :
    detectIn b L = .method c.name := by
  induction L with
  | nil => simp at hc
  | cons d ds ih =>
    unfold detectIn
    by_cases hd : startsWith b d.pfx = true
    · simp [hd, honly d (by simp) hd]
    · simp only [hd]
      rcases List.mem_cons.mp hc with rfl | hc'
      · exact absurd hstart hd
      · exact ih hc' (fun c' hc'' h => honly c' (List.mem_cons_of_mem _ hc'') h)

theorem detectIn_none (L : List CompressorEntry) (b : Bytes)
    (hno : ∀ c' ∈ L, startsWith b c'.pfx = false) : detectIn b L = .notCompressed := by
  induction L with
  | nil => rfl
  | cons d ds ih =>
    unfold detectIn
    simp only [hno d (by simp)]
    exact ih (fun c' hc' => hno c' (List.mem_cons_of_mem _ hc'))

theorem mayStart_of_prefix (p b : Bytes) (hb : isPickleStart b = true) (hp : p.isPrefixOf b = true) :
    prefixMayStartPickle p = true := by
  cases p with
  | nil => rfl
  | cons p0 ps =>
    cases b with
    | nil => simp at hp
    | cons b0 bs =>
      simp only [List.isPrefixOf, Bool.and_eq_true, beq_iff_eq] at hp
      obtain ⟨h0, hps⟩ := hp
      subst h0
      cases ps with
      | nil =>
        cases bs with
        | nil => simp [isPickleStart] at hb; simp [prefixMayStartPickle, hb]
        | cons b1 bs' =>
          simp only [isPickleStart, Bool.or_eq_true, Bool.and_eq_true] at hb
          simp only [prefixMayStartPickle, Bool.or_eq_true, Bool.and_eq_true, and_true]
          rcases hb with (h | h) | h
          · exact Or.inl (Or.inl h.1)
          · exact Or.inl (Or.inr h)
          · exact Or.inr h.1
      | cons p1 ps' =>
        cases bs with
        | nil => simp at hps
        | cons b1 bs' =>
          simp only [List.isPrefixOf, Bool.and_eq_true, beq_iff_eq] at hps
          obtain ⟨h1, _⟩ := hps
          subst h1
          simpa [isPickleStart, prefixMayStartPickle] using hb

theorem le_foldl_max (l : List Nat) (a x : Nat) (h : x ∈ l ∨ x ≤ a) : x ≤ l.foldl max a := by
  induction l generalizing a with
  | nil => simpa using h
  | cons y ys ih =>
    simp only [List.foldl_cons]
    apply ih
    rcases h with h | h
    · rcases List.mem_cons.mp h with rfl | h'
      · exact Or.inr (Nat.le_max_right _ _)
      · exact Or.inl h'
    · exact Or.inr (Nat.le_trans h (Nat.le_max_left _ _))

theorem pfx_le_max (c : CompressorEntry) (hc : c ∈ compressors) : c.pfx.length ≤ maxPrefixLen := by
  unfold maxPrefixLen
  apply le_foldl_max
  left
  simp only [List.mem_append, List.mem_map]
  exact Or.inl ⟨c, hc, rfl⟩

theorem zf_le_max : zfilePrefix.length ≤ maxPrefixLen := by
  unfold maxPrefixLen
  apply le_foldl_max
  left
  simp

theorem detectIn_take (L : List CompressorEntry) (b : Bytes) (n : Nat)
    (h : ∀ c ∈ L, c.pfx.length ≤ n) : detectIn (b.take n) L = detectIn b L := by
  induction L with
  | nil => rfl
  | cons d ds ih =>
    unfold detectIn startsWith
    rw [isPrefixOf_take d.pfx b n (h d (by simp)), ih (fun c hc => h c (List.mem_cons_of_mem _ hc))]

theorem detect_eq (file : Bytes) :
    detect file = if startsWith file zfilePrefix then .compat else detectIn file compressors := by
  unfold detect startsWith
  simp only []
  rw [isPrefixOf_take zfilePrefix file maxPrefixLen zf_le_max,
    detectIn_take compressors file maxPrefixLen pfx_le_max]

theorem lookup_some_of_registered (s : String) (h : registered s = true) :
    ∃ c, lookup s = some c ∧ c ∈ compressors ∧ c.name = s :=
  let ⟨c, h1, h2, h3⟩ := List.exists_find?_eq_some (List.any_eq_true.mp h)
  ⟨c, h1, h2, beq_iff_eq.mp h3⟩

/-- The hand copy of the magic numbers in `JoblibModel/ZlibFile.lean` (`prefixes`, bytes as `UInt8`) is the regenerated
table, entry by entry in registration order. Nothing else relates the two models of `_detect_compressor`. -/
theorem zlibFile_prefixes_eq :
    ZlibFile.prefixes.map (·.2.map UInt8.toNat) = compressors.map (·.pfx) := by decide +kernel

theorem lookup_name (hn : (compressors.map (·.name)).Nodup) (c : CompressorEntry) (hc : c ∈ compressors) :
    lookup c.name = some c := by
  unfold lookup
  generalize compressors = L at hn hc
  induction L with
  | nil => cases hc
  | cons d ds ih =>
    rw [List.map_cons, List.nodup_cons] at hn
    rw [List.find?_cons]
    by_cases hd : d.name = c.name
    · rw [beq_iff_eq.mpr hd]
      rcases List.mem_cons.mp hc with rfl | hc'
      · rfl
      · exact absurd (hd ▸ List.mem_map_of_mem hc') hn.1
    · rw [beq_false_of_ne hd]
      exact ih hn.2 ((List.mem_cons.mp hc).resolve_left fun h => hd (h ▸ rfl))

theorem lookup_mem (s : String) (c : CompressorEntry) (h : lookup s = some c) :
    c ∈ compressors ∧ c.name = s := by
  unfold lookup at h
  exact ⟨List.mem_of_find?_eq_some h, by simpa using List.find?_some h⟩

theorem extLoop_mem (fname : String) (L : List CompressorEntry) (acc : Option String) (m : String)
    (h : extLoop fname L acc = some m) : acc = some m ∨ ∃ c ∈ L, c.name = m ∧ endsWith fname c.ext = true := by
  induction L generalizing acc with
  | nil => left; simpa [extLoop] using h
  | cons d ds ih =>
    unfold extLoop at h
    rcases ih _ h with h' | ⟨c, hc, hn, he⟩
    · by_cases hd : endsWith fname d.ext = true
      · simp only [hd, if_true] at h'
        right; exact ⟨d, by simp, by simpa using h', hd⟩
      · simp only [hd] at h'
        left; simpa using h'
    · right; exact ⟨c, List.mem_cons_of_mem _ hc, hn, he⟩

theorem extMethod_registered (fname m : String) (h : extMethod fname = some m) : registered m = true := by
  unfold extMethod at h
  rcases extLoop_mem fname compressors none m h with h' | ⟨c, hc, hn, _⟩
  · simp at h'
  · exact List.any_eq_true.mpr ⟨c, hc, by rw [hn]; exact beq_self_eq_true m⟩

theorem extLoop_unique (fname : String) (L : List CompressorEntry) (acc : Option String) (n : String)
    (hex : (∃ c ∈ L, endsWith fname c.ext = true) ∨ acc = some n)
    (honly : ∀ c ∈ L, endsWith fname c.ext = true → c.name = n) :
    extLoop fname L acc = some n := by
  induction L generalizing acc with
  | nil =>
    rcases hex with ⟨c, hc, _⟩ | h
    · simp at hc
    · simpa [extLoop] using h
  | cons d ds ih =>
    unfold extLoop
    apply ih
    · by_cases hd : endsWith fname d.ext = true
      · right; simp [hd, honly d (by simp) hd]
      · rcases hex with ⟨c, hc, he⟩ | h
        · rcases List.mem_cons.mp hc with rfl | hc'
          · exact absurd he hd
          · left; exact ⟨c, hc', he⟩
        · right; simp [hd, h]
    · exact fun c hc he => honly c (List.mem_cons_of_mem _ hc) he

/-- In a table where no extension is a suffix of another entry's (`hfree`), "the last match wins" never has two
candidates: two extensions that both end `fname` are suffixes of one another. -/
theorem extLoop_of_suffix_free {L : List CompressorEntry}
    (hfree : ∀ a ∈ L, ∀ b ∈ L, a.ext.toList <:+ b.ext.toList → a.name = b.name)
    {fname : String} {c : CompressorEntry} (hc : c ∈ L) (hext : endsWith fname c.ext = true) :
    extLoop fname L none = some c.name := by
  apply extLoop_unique fname L none c.name (Or.inl ⟨c, hc, hext⟩)
  intro c' hc' he'
  have h1 : c'.ext.toList <:+ fname.toList := by simpa [endsWith] using he'
  have h2 : c.ext.toList <:+ fname.toList := by simpa [endsWith] using hext
  rcases List.suffix_or_suffix_of_suffix h1 h2 with hs | hs
  · exact hfree c' hc' c hc hs
  · exact (hfree c hc c' hc' hs).symm

theorem extLoop_none (fname : String) (L : List CompressorEntry)
    (hno : ∀ c ∈ L, endsWith fname c.ext = false) : extLoop fname L none = none := by
  induction L with
  | nil => rfl
  | cons d ds ih =>
    unfold extLoop
    simp only [hno d (by simp)]
    exact ih (fun c hc => hno c (List.mem_cons_of_mem _ hc))

theorem writer_codec_registered (r : Resolved) (n : String) (l : Option Nat)
    (h : writer r = .ok (.codec n l)) : ∃ c ∈ compressors, c.name = n ∧ c.available = true := by
  unfold writer at h
  split at h
  · cases h
  · simp only [] at h
    split at h
    · cases h
    · rename_i c hl
      obtain ⟨hmem, hname⟩ := lookup_mem _ c hl
      split at h
      · cases h
      · rename_i hav
        have hav' : c.available = true := by simpa using hav
        refine ⟨c, hmem, ?_, hav'⟩
        split at h
        · cases h; exact hname   -- level `None`
        · cases h; exact hname   -- a bool
        · cases h; exact hname   -- an int
        · split at h             -- a float: the codec's file object may raise
          · cases h
          · cases h; exact hname
        · cases h                -- anything else: `ValueError`

/-- Level values `dump` accepts: `None`, a bool, an integer 0…9 (an integral float 0.0…9.0 passes `dump`'s
own test too — `3.0 in range(10)` — and is rejected later by the codec's file object, see `writer_float`). -/
def LevelOK : PyLevel → Bool
  | .none => true
  | .bool _ => true
  | .int n => decide (0 ≤ n) && decide (n < 10)
  | .float n => decide (0 ≤ n) && decide (n < 10)
  | .other => false

/-- Method names `dump` accepts: registered, and not `"lz4"` while the lz4 package is missing. -/
def MethodOK (s : String) : Bool := registered s && !(s == "lz4" && !lz4Installed)

def ArgOK : CompressArg → Bool
  | .val l => LevelOK l
  | .str s => MethodOK s
  | .tuple2 (.str s) l => MethodOK s && LevelOK l
  | .tuple2 _ _ => false
  | .tupleN _ => false

theorem levelBad_eq (l : PyLevel) : levelBad l = !LevelOK l := by
  cases l with
  | bool b => cases b <;> rfl
  | _ => rfl

theorem finish_ok (name : String) (l : PyLevel) (t : Bool) (filename : Target) :
    (∃ r, finish name l t filename = .ok r) ↔ filename ≠ .other := by
  cases filename with
  | other => simp [finish]
  | fileobj => simp [finish]
  | path f =>
    simp only [finish, ne_eq, reduceCtorEq, not_false_eq_true, iff_true]
    split
    · exact ⟨_, rfl⟩
    · split <;> exact ⟨_, rfl⟩

theorem finish_error (name : String) (l : PyLevel) (t : Bool) (filename : Target) (e : Err)
    (hf : finish name l t filename = .error e) : e = .valueError := by
  cases filename with
  | other => cases hf; rfl
  | fileobj => cases hf
  | path f =>
    simp only [finish] at hf
    split at hf
    · cases hf
    · split at hf <;> cases hf

theorem finish_level {name : String} {l : PyLevel} {tgt : Target} {r : Resolved}
    (h : finish name l true tgt = .ok r) : r.level = l := by
  cases tgt <;> cases h <;> rfl

theorem resolveTail_tuple_path (m : PyMethod) (l : PyLevel) (fname : String) :
    resolveTail m l true (.path fname) = resolveTail m l true .fileobj := by
  unfold resolveTail
  cases checkMethod m <;> rfl

theorem str_beq (s : String) : (PyMethod.str s == PyMethod.str "lz4") = (s == "lz4") := by
  by_cases h : s = "lz4"
  · subst h; rfl
  · have h1 : (PyMethod.str s == PyMethod.str "lz4") = false := by
      rw [beq_eq_false_iff_ne]; intro hh; cases hh; exact h rfl
    have h2 : (s == "lz4") = false := by rw [beq_eq_false_iff_ne]; exact h
    rw [h1, h2]

/-- On a method NAME every check of `dump` raises `ValueError`, so their order does not show: the ladder either reaches
`finish` or raises it. -/
theorem resolveTail_str (s : String) (l : PyLevel) (t : Bool) (tgt : Target) :
    resolveTail (.str s) l t tgt =
      if MethodOK s = true ∧ LevelOK l = true then finish s l t tgt else .error .valueError := by
  simp only [resolveTail, checkMethod, str_beq, levelBad_eq]
  -- `delta`: `unfold`/`simp only` leave `MethodOK s` inside the `Decidable` instance of the `if`, and `generalize` fails
  delta MethodOK
  generalize (s == "lz4" && !lz4Installed) = a
  generalize LevelOK l = b
  generalize registered s = c
  cases a <;> cases b <;> cases c <;> rfl

theorem resolveTail_hashable (l : PyLevel) (t : Bool) (filename : Target) :
    resolveTail .hashable l t filename = .error .valueError := by
  unfold resolveTail
  rw [show (PyMethod.hashable == PyMethod.str "lz4") = false from rfl, Bool.false_and, if_neg Bool.false_ne_true]
  split <;> rfl

theorem resolveTail_unhashable (l : PyLevel) (t : Bool) (filename : Target) :
    resolveTail .unhashable l t filename = .error (if LevelOK l = true then .typeError else .valueError) := by
  unfold resolveTail
  rw [show (PyMethod.unhashable == PyMethod.str "lz4") = false from rfl, Bool.false_and, if_neg Bool.false_ne_true,
    levelBad_eq]
  cases LevelOK l <;> rfl

theorem resolve_val (l : PyLevel) (filename : Target) :
    resolve (.val l) filename
      = resolveTail (.str "zlib") (if l = .bool true then .none else l) false filename := by
  cases l with
  | bool b => cases b <;> rfl
  | _ => rfl

theorem loadAt_eq_load {Obj : Type} (E : Env Obj) {peekable : Bool} {peeked : Nat} (name : String) {file : Bytes}
    {pos : Nat} {seekable : Bool} {g : Bytes} {p : Nat}
    (hs : sniff peekable peeked file pos seekable = (detect g, p)) (hd : file.drop p = g) :
    loadAt E peekable peeked name file pos seekable = load E name g := by
  subst hd
  unfold loadAt load
  rw [hs]
  cases detect (file.drop p) <;> rfl

end JoblibModel.DumpLoad
