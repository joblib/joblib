import JoblibProofs.Lemmas.StoreWalk
import JoblibProofs.Lemmas.StoreRm
/-! Rely/guarantee derivations, continued: `rmtree`, `clearFunc`, `clearItem`, `checkPrevious`, `isInCacheAndValid`,
`loadItem`, `safeWrite`, `dumpItem`, `storeMetadata`, `computeAndStore`, `cachedCall`, `callProc`; and `reduceProc`,
`clearProc` (guarantee only).

Short names in their statements that are defined in other files (K = "known"):
* `DK lvl q` — the directory `q` is there, where the environment cannot remove it (StoreWalk);
* `ReadK p i D` — the file opened at `p` as inode `i` holds `D`, replaced or not (StoreFacts);
* `EL lvl` — an exception is excused only if the environment may clear the cache (StoreWalk). -/
namespace JoblibModel.Store

variable {α : Type} {fs : FS} {p q t : Path} {g : Option Nat} {P : FS → Prop} {E : Err → FS → Prop}

section
variable {π : Par} {s : Bool} {lvl : Level} {me : Nat} {R : FS → FS → Prop} {strong quiet : Prop} {τ : Nat}

/-- an assertion that survives the participant's own removals at and below `p0` -/
structure RmGood (G : FS → Op → Prop) (P : FS → Prop) (p0 : Path) : Prop where
  stable : Stable R P
  rm : ∀ fs t g, P fs → p0 <+: t → P (apply (.unlink t g) fs).2 ∧ P (apply (.rmdir t g) fs).2
  obs : ∀ fs o, (∀ p i d, o ≠ .write p i d) → (apply o fs).2 = fs → G fs o
  allowU : ∀ fs t g, P fs → p0 <+: t → G fs (.unlink t g)
  allowR : ∀ fs t g, P fs → p0 <+: t → G fs (.rmdir t g)

theorem below_trans {p0 t : Path} (h : Below pLoc p0) (ht : p0 <+: t) : Below pLoc t := by
  refine ⟨h.1.trans ht, ?_⟩
  rintro rfl
  have l1 := h.1.length_le
  have l2 := ht.length_le
  exact h.2 (ht.eq_of_length (by omega))

theorem own_unlink {p0 t : Path} (h : Below pLoc p0) (ht : p0 <+: t) :
    OwnG π me strong quiet τ fs (.unlink t g) :=
  ⟨.unlinkC t g rfl (below_trans h ht), fun _ => codeSafe_nw nofun, fun _ _ _ e => nomatch e⟩

theorem own_rmdir {p0 t : Path} (h : Below pLoc p0) (ht : p0 <+: t) :
    OwnG π me strong quiet τ fs (.rmdir t g) :=
  ⟨.rmdirC t g rfl (below_trans h ht), fun _ => codeSafe_nw nofun, fun _ _ _ e => nomatch e⟩

/-- `shutil.rmtree(p0, ignore_errors = !strict)` -/
theorem rmtree_sat {G : FS → Op → Prop} {p0 : Path} (hP : RmGood (R := R) G P p0)
    (rank : Name → Nat) (strict : Bool) :
    Sat R G P (rmtree rank strict p0) (fun _ fs => P fs) (fun _ fs => strict = true ∧ P fs) :=
  (rmtree_rmOnly (S := (p0 <+: ·)) (fun _ n h => h.trans (List.prefix_append _ [n])) strict id rank p0
      (List.prefix_refl _)).sat hP.stable
    (fun fs o ho => hP.obs fs o (reads_not_write ho) (reads_noop ho fs))
    (fun fs t g h ht => ⟨hP.allowU fs t g h ht, (hP.rm fs t g h ht).1⟩)
    (fun fs t g h ht => ⟨hP.allowR fs t g h ht, (hP.rm fs t g h ht).2⟩)

theorem func_below : Below pLoc pFunc := ⟨⟨[.mod, .func], rfl⟩, by simp [pLoc, pFunc]⟩
theorem entry_below (a : Nat) : Below pLoc (pEntry a) := ⟨⟨[.mod, .func, .entry a], rfl⟩, by simp [pLoc, pEntry]⟩

theorem inv_rm (g : Option Nat) (h : Inv π s fs) (hb : Below pLoc t) :
    Inv π s (apply (.unlink t g) fs).2 ∧ Inv π s (apply (.rmdir t g) fs).2 :=
  ⟨inv_apply h (Allowed.unlinkC (π := π) (who := fun _ => True) t g rfl hb),
   inv_apply h (Allowed.rmdirC (π := π) (who := fun _ => True) t g rfl hb)⟩

/-- on the entry directory itself, never a file, `unlink` changes nothing -/
theorem evict_unlink {who : Nat → Prop} {a : Nat} (h : Inv π s fs) (ht : pEntry a <+: t) : Allowed π .evict who fs (.unlink t g) := by
  by_cases hte : t = pEntry a
  · subst hte
    refine .noop _ nofun ?_
    rcases unlink_spec (pEntry a) g fs with ⟨e, _⟩ | ⟨i, c, hf, _⟩
    · exact e
    · exact absurd (DirShaped.entry a) (h.typF _ _ _ hf)
  · exact .unlinkE a t g (by decide) ⟨ht, hte⟩

theorem rmGood_own {p0 : Path} (hb : Below pLoc p0) (hst : Stable R P)
    (hrm : ∀ fs t g, P fs → p0 <+: t → P (apply (.unlink t g) fs).2 ∧ P (apply (.rmdir t g) fs).2) :
    RmGood (R := R) (OwnG π me strong quiet τ) P p0 :=
  ⟨hst, hrm, fun _ _ hw e => own_obs hw e, fun _ _ _ _ ht => own_unlink hb ht, fun _ _ _ _ ht => own_rmdir hb ht⟩

theorem rmGood_inv (hW : World π s lvl me R quiet) {p0 : Path} (hb : Below pLoc p0) :
    RmGood (R := R) (OwnG π me strong quiet τ) (Inv π s) p0 :=
  rmGood_own hb (good_inv hW).stable fun _ _ g h ht => inv_rm g h (below_trans hb ht)

/-- the standing assertion of a call once the function directory is known -/
def Sf (π : Par) (s : Bool) (lvl : Level) (fs : FS) : Prop := Inv π s fs ∧ DK lvl pFunc fs

theorem good_sf (hW : World π s lvl me R quiet) : Good π s me R (Sf π s lvl) := (good_inv hW).and_dk hW pFunc

theorem ownFull_sf : OwnFull π me (Sf π s lvl) := ownFull_inv.and_dk pFunc

theorem rmGood_sf_entry (hW : World π s lvl me R quiet) (a : Nat) :
    RmGood (R := R) (OwnG π me strong quiet τ) (Sf π s lvl) (pEntry a) := by
  refine rmGood_own (entry_below a) (good_sf hW).stable fun fs t g h ht => ?_
  have hi := inv_rm g h.1 (below_trans (entry_below a) ht)
  -- an evicting participant never removes the function directory
  have hp : Protected .evict pFunc := core_protected Core.func (by decide)
  exact ⟨⟨hi.1, fun hpr => dir_stable (h.2 hpr) (evict_unlink (who := fun _ => True) h.1 ht) hp⟩,
    ⟨hi.2, fun hpr => dir_stable (h.2 hpr) (Allowed.rmdirE (π := π) (who := fun _ => True) a t g (by decide) ht) hp⟩⟩

theorem liveOut_of_inv_true (h : Inv π true fs) : LiveOut π fs := by
  intro a i d hg
  obtain ⟨v, g, hv, hs⟩ := h.out a i d hg
  exact ⟨g, by rw [hv, hs rfl]⟩

/-- what a participant that is alone with a possibly stale cache (`s = false`) additionally knows, under a condition `C`
(`C = strong`: knowledge carried into the branch that writes `func_code.py` because it was missing) -/
def Lvs (π : Par) (s : Bool) (C : Prop) (fs : FS) : Prop := C → s = false → Inv π true fs

theorem Good.and_lvs (hW : World π s lvl me R quiet) (hP : Good π s me R P) (C : Prop) :
    Good π s me R (fun fs => P fs ∧ Lvs π s C fs) :=
  ⟨hP.stable.and fun _ _ _ hR _ hs => (hW.alone hs _ _ hR).elim,
   fun fs o h ha hc => ⟨hP.own fs o h.1 ha hc, fun h1 h2 => inv_apply (h.2 h1 h2) ha⟩, fun fs h => hP.inv fs h.1⟩

theorem OwnFull.and_lvs (hP : OwnFull π me P) (C : Prop) :
    OwnFull π me (fun fs => P fs ∧ Lvs π s C fs) :=
  fun fs o h ha => ⟨hP fs o h.1 ha, fun h1 h2 => inv_apply (h.2 h1 h2) ha⟩

theorem live_of_lvs {C : Prop} (hi : Inv π s fs) (hl : Lvs π s C fs) (hc : C) : LiveOut π fs := by
  cases hs : s with
  | true => subst hs; exact liveOut_of_inv_true hi
  | false => exact liveOut_of_inv_true (hl hc hs)

theorem run_rmtree_absent (rank : Name → Nat) (fs : FS) (h : fs.get pFunc = none) :
    run (rmtree rank false pFunc) fs = (.ok (), fs) := by
  simp [rmtree, run, apply, h]

/-- `clear_path` of `MemorizedFunc.clear()` -/
def clearPath (rank : Name → Nat) : Prog Unit :=
  (exists_ pFunc).bind fun e => if e then rmtree rank false pFunc else Prog.ret ()

theorem clearPath_noOut (rank : Name → Nat) (fs : FS) (hi : Inv π s fs) : NoOut (run (clearPath rank) fs).2 := by
  have h0 := rmtree_func_noOut rank fs hi
  unfold clearPath exists_
  simp only [Prog.bind, run]
  cases hf : fs.get pFunc with
  | none =>
    rw [run_rmtree_absent rank fs hf] at h0
    simp [apply, hf, run]
    exact h0
  | some nd =>
    simp [apply, hf]
    exact h0

theorem clearPath_sat (hW : World π s lvl me R quiet) (rank : Name → Nat) :
    Sat R (OwnG π me strong quiet τ) (Inv π s) (clearPath rank) (fun _ fs => Inv π s fs ∧ Lvs π s True fs) (EL lvl) := by
  have first : Sat R (OwnG π me strong quiet τ) (Inv π s) (clearPath rank) (fun _ fs => Inv π s fs) (EL lvl) := by
    refine Sat.bind (exists_sat own_up (good_inv hW).stable pFunc) fun e => ?_
    cases e with
    | true => exact (rmtree_sat (rmGood_inv hW func_below) rank false).post (fun _ _ h => h) (fun _ _ h => by simp at h)
    | false => exact .ret fun fs h => h
  cases hs : s with
  | true => subst hs; exact first.post (fun _ _ h => ⟨h, fun _ e => by cases e⟩) (fun _ _ h => h)
  | false =>
    have := Sat.solo_post (F := fun _ fs => NoOut fs) (hW.alone hs) first (fun _ h => h) (clearPath_noOut rank)
    subst hs
    exact this.post (fun _ fs h => ⟨h.1, fun _ _ => inv_true_of_live h.1 fun a i d hg => by rw [h.2 a] at hg; cases hg⟩) (fun _ _ h => h.1)

/-- `MemorizedFunc.clear()`: when alone (`s = false`), afterwards no result of another source is left -/
theorem clearFunc_sat (hW : World π s lvl me R quiet) (c : Cfg) (hc : CfgBase π me c) :
    Sat R (OwnG π me strong quiet τ) (Inv π s) (clearFunc c) (fun _ fs => Sf π s lvl fs ∧ Lvs π s True fs) (EL lvl) := by
  have e : clearFunc c = (clearPath c.rank).bind fun _ => writeFuncCode c := by rw [clearPath, Prog.bind_assoc]; rfl
  rw [e]
  refine Sat.bind (clearPath_sat hW c.rank) fun _ => ?_
  exact (writeFuncCode_sat hW ((good_inv hW).and_lvs hW True) (ownFull_inv.and_lvs True) c hc
    (fun _ fs h => live_of_lvs h.1 h.2 trivial)).post (fun _ fs h => ⟨⟨h.1.1, h.2⟩, h.1.2⟩) (fun _ _ h => h.2)

/-- `clear_item(call_id)` -/
theorem clearItem_sat (hW : World π s lvl me R quiet) (c : Cfg) (a : Nat) :
    Sat R (OwnG π me strong quiet τ) (Sf π s lvl) (clearItem c a) (fun _ fs => Sf π s lvl fs) (EL lvl) := by
  unfold clearItem
  refine Sat.bind (exists_sat own_up (good_sf hW).stable (pEntry a)) fun e => ?_
  cases e with
  | true => exact (rmtree_sat (rmGood_sf_entry hW a) c.rank false).post (fun _ _ h => h) (fun _ _ h => by simp at h)
  | false => exact .ret fun fs h => h

theorem inv_weaken (h : Inv π true fs) : Inv π s fs :=
  ⟨h.wf, h.typD, h.typF, fun a i d hg => by
    obtain ⟨v, g, hv, hs⟩ := h.out a i d hg
    exact ⟨v, g, hv, fun _ => hs rfl⟩, h.metaOk, h.up⟩

/-- trust: when `func_code.py` compares equal to the live source, every result file is of the live version -/
def TrustK (π : Par) (s : Bool) (fs : FS) : Prop :=
  s = false → ∀ i d, fs.get pCode = some (.file i d) → π.cd.checkCode π.ver d = .same → Inv π true fs

/-- absence of `func_code.py` in a possibly stale cache (`s = false`): then no result of another source is present
(the state of a cache nobody was killed in: F36 is the failure of this for crash states) -/
def AbsK (π : Par) (s : Bool) (fs : FS) : Prop := s = false → fs.get pCode = none → Inv π true fs

def Trusts (π : Par) (s : Bool) (strong : Prop) (fs : FS) : Prop := TrustK π s fs ∧ (strong → AbsK π s fs)

/-- What a call starts from. At `s = false` its instances are `StartOK π false True` = `C05.CacheOK` (a directory nobody was
killed in, `C05.cacheOK_iff`) and `StartOK π false False` = `CrashOK` (any crash state, `crashOK_iff`); a weaker `strong` asks less, so
`CacheOK ⊂ CrashOK ⊂ Inv`. At `s = true` it is `Inv π true` (`pre_true`). -/
def StartOK (π : Par) (s : Bool) (strong : Prop) (fs : FS) : Prop := Inv π s fs ∧ Trusts π s strong fs

theorem trust_abs_stable (hW : World π s lvl me R quiet) : Stable R (Trusts π s strong) :=
  fun _ _ _ hR => ⟨fun hs => (hW.alone hs _ _ hR).elim, fun _ hs => (hW.alone hs _ _ hR).elim⟩

/-- `_check_previous_func_code`: answers `true` only when every result file is of the live version -/
theorem checkPrevious_sat (hW : World π s lvl me R quiet) (c : Cfg) (hc : CfgBase π me c) :
    Sat R (OwnG π me strong quiet τ) (fun fs => Sf π s lvl fs ∧ Trusts π s strong fs) (checkPrevious c)
      (fun b fs => Sf π s lvl fs ∧ (b = true → Inv π true fs) ∧ (b = false → Lvs π s strong fs)) (EL lvl) := by
  unfold checkPrevious
  have hS : Stable R (fun fs => Sf π s lvl fs ∧ Trusts π s strong fs) :=
    (good_sf hW).stable.and (trust_abs_stable hW)
  have clr : Sat R (OwnG π me strong quiet τ) (fun fs => Sf π s lvl fs) ((clearFunc c).bind fun _ => Prog.ret false)
      (fun b fs => Sf π s lvl fs ∧ (b = true → Inv π true fs) ∧ (b = false → Lvs π s strong fs)) (EL lvl) := by
    refine Sat.bind ((clearFunc_sat hW c hc).pre fun fs h => h.1) fun _ => ?_
    exact .ret fun fs h => ⟨h.1, fun e => absurd e (by decide), fun _ _ hs => h.2 trivial hs⟩
  have wfc : Sat R (OwnG π me strong quiet τ) (fun fs => Sf π s lvl fs ∧ Lvs π s strong fs)
      ((writeFuncCode c).bind fun _ => Prog.ret false)
      (fun b fs => Sf π s lvl fs ∧ (b = true → Inv π true fs) ∧ (b = false → Lvs π s strong fs)) (EL lvl) := by
    refine Sat.bind ((writeFuncCode_sat hW ((good_sf hW).and_lvs hW strong) (ownFull_sf.and_lvs strong) c hc
      fun hst fs h => live_of_lvs h.1.1 h.2 hst).post (fun _ _ h => h.1)
      (E' := EL lvl) (fun _ _ h => h.2)) fun _ => ?_
    exact .ret fun fs h => ⟨h.1, fun e => absurd e (by decide), fun _ => h.2⟩
  have hK : ∀ r : Res, Stable R fun fs => (∀ i, r = .fd i → s = false →
      π.cd.checkCode π.ver (fs.readData pCode i) = .same → Inv π true fs) ∧ ((∀ i, r ≠ .fd i) → Lvs π s strong fs) :=
    fun r fs fs' _ hR => ⟨fun i _ hs => (hW.alone hs _ _ hR).elim, fun hno _ hs => (hW.alone hs _ _ hR).elim⟩
  refine Sat.obs _ (fun _ _ => own_look rfl) rfl ?_ hS hK ?_
  · rintro fs ⟨hsf, htr, habs⟩
    refine ⟨?_, ?_⟩
    · intro i hr hs hsame
      obtain ⟨c0, hg⟩ := openr_fd hr
      have : fs.readData pCode i = c0 := by unfold FS.readData; rw [hg]; simp
      rw [this] at hsame
      exact htr hs i _ hg hsame
    · intro hno hst hs
      cases hg : fs.get pCode with
      | none => exact habs hst hs hg
      | some nd =>
        cases nd with
        | dir j => exact absurd FileShaped.code (hsf.1.typD _ _ hg)
        | file i c0 => exact absurd (openr_file hg) (hno i)
  · intro r
    cases r with
    | fd i =>
      refine Sat.obs (fun r fs => (∃ d, r = .data d) ∧
          ∀ d, r = .data d → π.cd.checkCode π.ver d = .same → Inv π true fs)
        (fun _ _ => own_look rfl) rfl ?_ (hS.and (hK _)) ?_ ?_
      · rintro fs ⟨⟨hsf, _⟩, hk, _⟩
        refine ⟨⟨_, rfl⟩, fun d hr hsame => ?_⟩
        simp only [apply] at hr
        cases hr
        cases hs : s with
        | true => subst hs; exact hsf.1
        | false => exact hk i rfl hs hsame
      · intro r fs fs' h hR
        exact ⟨h.1, fun d hr hsame => inv_stable_env _ _ (h.2 d hr hsame) (hW.sub _ _ hR)⟩
      · intro r
        cases r with
        | data d =>
          simp only
          rw [hc.cd, hc.ver]
          cases hcc : π.cd.checkCode π.ver d with
          | same => exact .ret fun fs h => ⟨h.1.1.1, fun _ => h.2.2 d rfl hcc, fun e => absurd e (by decide)⟩
          | differs => exact clr.pre fun fs h => h.1.1.1
          | valueError => rw [hc.legacy]; exact clr.pre fun fs h => h.1.1.1
        | _ => exact .raise fun fs h => by obtain ⟨d, hd⟩ := h.2.1; cases hd
    | _ => exact wfc.pre fun fs h => ⟨h.1.1, h.2.2 (by simp)⟩

/-- `get_metadata`: two observing calls; whatever it answers, nothing changed -/
theorem getMetadata_sat (hP : Stable R P) (c : Cfg) (a : Nat) :
    Sat R (OwnG π me strong quiet τ) P (getMetadata c a) (fun _ fs => P fs) E := by
  unfold getMetadata
  refine Sat.look (fun _ _ => own_look rfl) rfl hP fun r => ?_
  cases r with
  | fd i =>
    refine Sat.look (fun _ _ => own_look rfl) rfl hP fun r => ?_
    cases r <;> exact .ret fun fs h => h
  | _ => exact .ret fun fs h => h

/-- `numpy_pickle.load(numpy_pickle.dump(v)) = v`: all that the correctness of a call needs of the codec
(`C05.CodecOK`, `C11.CodecOK`; `CodecStamp` adds the time stamp) -/
abbrev Codec.RoundTrip (cd : Codec) : Prop := ∀ v, cd.unpickle (cd.pickle v) = some v

/-- `load_item`: in a directory whose result files are all of the live version, a successful load returns `f(a)`;
a failure leaves everything as it was (the caller recomputes). -/
theorem loadItem_sat (hW : World π true lvl me R quiet) (c : Cfg) (hc : CfgBase π me c) (a : Nat)
    (hU : π.cd.RoundTrip) :
    Sat R (OwnG π me strong quiet τ) (Sf π true lvl) (loadItem c a)
      (fun v fs => Sf π true lvl fs ∧ ∃ g, v = ⟨π.ver, a, g⟩) (fun _ fs => Sf π true lvl fs) := by
  unfold loadItem
  have hS : Stable R (Sf π true lvl) := (good_sf hW).stable
  refine Sat.bind (exists_sat own_up hS (pOut a)) fun e => ?_
  cases e with
  | false => exact .raise fun fs h => h
  | true =>
    simp only [Bool.not_true, Bool.false_eq_true, if_false]
    have hK : ∀ r : Res, Stable R fun fs => ∀ i, r = .fd i → ∃ g, WF fs ∧ ReadK (pOut a) i (π.cd.pickle ⟨π.ver, a, g⟩) fs := by
      intro r fs fs' h hR i hr
      obtain ⟨g, hg⟩ := h i hr
      exact ⟨g, readK_stable ⟨a, Or.inl rfl⟩ _ _ hg (hW.sub _ _ hR)⟩
    refine Sat.obs _ (fun _ _ => own_look rfl) rfl ?_ hS hK ?_
    · intro fs hsf i hr
      obtain ⟨d, hg⟩ := openr_fd hr
      obtain ⟨v, g, hv, hs⟩ := hsf.1.out a _ d hg
      have := hs rfl
      subst this
      exact ⟨g, hsf.1.wf, Or.inl (by rw [hg, hv])⟩
    · intro r
      cases r with
      | fd i =>
        refine Sat.obs (fun r fs => ∃ g, r = .data (π.cd.pickle ⟨π.ver, a, g⟩))
          (fun _ _ => own_look rfl) rfl ?_ (hS.and (hK _)) (fun _ _ _ h _ => h) ?_
        · intro fs h
          simp only [apply]
          obtain ⟨g, hg⟩ := h.2 i rfl
          exact ⟨g, by rw [readK_read hg.2]⟩
        · intro r
          cases r with
          | data d =>
            simp only
            rw [hc.cd]
            cases hu : π.cd.unpickle d with
            | some v =>
              refine .ret fun fs h => ⟨h.1.1, ?_⟩
              obtain ⟨g, hg⟩ := h.2
              have hd : d = π.cd.pickle ⟨π.ver, a, g⟩ := by
                simpa using hg
              rw [hd, hU] at hu; cases hu; exact ⟨g, rfl⟩
            | none => exact .raise fun fs h => h.1.1
          | _ => exact .raise fun fs h => h.1.1
      | _ => exact .raise fun fs h => h.1

/-- `_concurrency_safe_write`: the temporary is private, so the rename installs exactly what was written — or fails -/
theorem safeWrite_sat (hW : World π s lvl me R quiet)
    (a : Nat) (tmp final : Path) (d : Bytes)
    (hk : (tmp = pTmpOut a me ∧ final = pOut a ∧ d = π.cd.pickle ⟨π.ver, a, τ⟩) ∨
          (tmp = pTmpMeta a me ∧ final = pMeta a ∧ d = π.cd.metaText τ)) :
    Sat R (OwnG π me strong quiet τ)
      (fun fs => Sf π s lvl fs ∧ DK lvl (pEntry a) fs ∧ (quiet → final = pMeta a → OutFresh π τ a fs)) (safeWrite tmp final d)
      (fun _ fs => Sf π s lvl fs ∧ (quiet → fs.dataAt final = some d)) (fun _ fs => Sf π s lvl fs ∧ ¬ quiet) := by
  obtain ⟨htmp, hnc, hpt, hpf, hne, hsl⟩ : IsTmp (fun x => x = me) tmp ∧ tmp ≠ pCode ∧ parent tmp = pEntry a ∧
      parent final = pEntry a ∧ final ≠ tmp ∧ Sealed final := by
    rcases hk with ⟨rfl, rfl, _⟩ | ⟨rfl, rfl, _⟩
    · exact ⟨⟨a, me, rfl, Or.inl rfl⟩, by simp [pTmpOut, pCode], rfl, rfl, by simp [pTmpOut, pOut], a, Or.inl rfl⟩
    · exact ⟨⟨a, me, rfl, Or.inr rfl⟩, by simp [pTmpMeta, pCode], rfl, rfl, by simp [pTmpMeta, pMeta], a, Or.inr rfl⟩
  have hmine : Mine me tmp := Or.inl htmp
  have qst : ∀ {A : Prop} {fs fs' : FS}, R fs fs' → quiet → A := fun hR hq => ((hW.quietW hq).1 _ _ hR).elim
  -- stands throughout: `creat` and `write` on the temporary leave `output.pkl` alone
  let S : FS → Prop := fun fs => Sf π s lvl fs ∧ DK lvl (pEntry a) fs ∧ (quiet → final = pMeta a → OutFresh π τ a fs)
  have stS : Stable R S := fun fs fs' h hR => ⟨(good_sf hW).stable _ _ h.1 hR, dk_stable hW _ _ _ h.2.1 hR, qst hR⟩
  have keep : ∀ fs o, S fs → Allowed π .calls (fun x => x = me) fs o → Builds o → S (apply o fs).2 := fun fs o h ha hb =>
    ⟨ownFull_sf _ _ h.1 ha, fun hp => dir_stable (h.2.1 hp) ha trivial, fun hq hf d' hd' =>
      h.2.2 hq hf d' (by rwa [builds_keeps_final ha hb ⟨a, Or.inl rfl⟩] at hd')⟩
  unfold safeWrite
  refine .op (fun r fs => S fs ∧ (∀ i, r = .fd i → LocOnly i tmp fs ∧ TmpData tmp i [] fs) ∧
      (quiet → ∃ i, r = .fd i ∧ fs.get tmp = some (.file i []))) ?_ ?_ ?_
  · intro fs h
    have ha : Allowed π .calls (fun x => x = me) fs (.creat tmp) := .creat tmp (Or.inl htmp)
    refine ⟨own_up.1 _ _ rfl nofun ha, keep _ _ h ha rfl, fun i hr => ?_, fun hq => ?_⟩
    · obtain ⟨h1, h2⟩ := own_creat h.1.1.wf hr
      exact ⟨h1, Or.inr h2⟩
    · obtain ⟨j, hj⟩ := hW.qdir hq h.2.1
      obtain ⟨i, hi⟩ := creat_ok (p := tmp) (hpt ▸ hj) (fun j hj => h.1.1.typD _ _ hj (isTmp_file htmp))
      exact ⟨i, hi, (own_creat h.1.1.wf hi).2⟩
  · rintro r fs fs' ⟨h1, h2, h3⟩ hR
    refine ⟨stS _ _ h1 hR, fun i hr => ?_, qst hR⟩
    exact ⟨locOnly_stable hmine _ _ (h2 i hr).1 (hW.sub _ _ hR), tmpData_stable htmp _ _ (h2 i hr).2 (hW.sub _ _ hR)⟩
  · intro r
    cases r with
    | fd i =>
      refine .op (fun _ fs => S fs ∧ TmpData tmp i d fs ∧ (quiet → fs.get tmp = some (.file i d))) ?_ ?_ ?_
      · intro fs ⟨h1, h2, h3⟩
        have ha : Allowed π .calls (fun x => x = me) fs (.write tmp i d) :=
          own_write_allowed hmine (h2 i rfl).1 (fun e => absurd e hnc)
        refine ⟨own_write_other (h2 i rfl).1 hnc ha, keep _ _ h1 ha rfl, ?_, fun hq => ?_⟩
        · have := tmpData_write (p' := tmp) (d := d) (h2 i rfl).2
          rwa [overwrite_nil] at this
        · obtain ⟨i', hi', hg⟩ := h3 hq
          cases hi'
          rw [(write_spec tmp i d fs).2.2.2, hg]; simp [wr, overwrite_nil]
      · rintro _ fs fs' ⟨h1, h2, h3⟩ hR
        exact ⟨stS _ _ h1 hR, tmpData_stable htmp _ _ h2 (hW.sub _ _ hR), qst hR⟩
      · intro _
        refine .op (fun r fs => Sf π s lvl fs ∧ (quiet → r = .ok ∧ fs.dataAt final = some d)) ?_
          (fun _ _ _ h hR => ⟨(good_sf hW).stable _ _ h.1 hR, qst hR⟩) ?_
        · intro fs ⟨⟨h1, hdk, hko⟩, h2, h3⟩
          have ha : Allowed π .calls (fun x => x = me) fs (.rename tmp final) := by
            rcases h2 with h2 | h2
            · exact .noop _ nofun (by simp [apply, h2])
            · have hdat : fs.dataAt tmp = some d := by unfold FS.dataAt; rw [h2]
              rcases hk with ⟨rfl, rfl, rfl⟩ | ⟨rfl, rfl, rfl⟩
              · exact .renameOut a me τ rfl hdat
              · exact .renameMeta a me τ rfl hdat
          refine ⟨⟨ha.mono_level (Or.inl rfl), fun _ => codeSafe_nw nofun, fun hq t f e _ => ?_⟩,
            ownFull_sf _ _ h1 ha, fun hq => ?_⟩
          · -- what is moved is what was written; the stamp is moved next to the value stored just before
            cases e
            have hd : ∀ d', fs.dataAt tmp = some d' → d' = d := fun d' h => by
              unfold FS.dataAt at h; rw [h3 hq] at h; cases h; rfl
            rcases hk with ⟨_, rfl, rfl⟩ | ⟨_, rfl, rfl⟩
            · exact stampSafe_out hd
            · exact stampSafe_meta hd (hko hq rfl)
          · obtain ⟨j, hj⟩ := hW.qdir hq hdk
            exact rename_ok (h3 hq) (hpf ▸ hj) (fun j hj => h1.1.typD _ _ hj (sealed_file hsl)) hne
        · intro r
          cases r with
          | ok => exact .ret fun fs h => ⟨h.1, fun hq => (h.2 hq).2⟩
          | _ => exact .raise fun fs h => ⟨h.1, fun hq => by cases (h.2 hq).1⟩
    | _ => exact .raise fun fs h => ⟨h.1.1, fun hq => by obtain ⟨i, hi, _⟩ := h.2.2 hq; cases hi⟩

theorem mkdirp_entry_sat {G : FS → Op → Prop}
    (hG : Admits π me G)
    (hW : World π s lvl me R quiet) (a : Nat) :
    Sat R G (Sf π s lvl) (mkdirp (pEntry a)) (fun _ fs => Sf π s lvl fs ∧ DK lvl (pEntry a) fs)
      (fun _ fs => Sf π s lvl fs ∧ lvl = .clear) :=
  mkdirp_sat hG hW (good_sf hW) (pEntry a) (.entry a) Core.func

/-- `dump_item`: never raises -/
theorem dumpItem_sat (hW : World π s lvl me R quiet) (c : Cfg) (hc : CfgBase π me c) (a : Nat) :
    Sat R (OwnG π me strong quiet c.gen) (Sf π s lvl) (dumpItem c a ⟨c.ver, a, c.gen⟩)
      (fun _ fs => Sf π s lvl fs ∧ (quiet → OutFresh π c.gen a fs)) E := by
  unfold dumpItem
  refine Sat.tryCatch (E1 := fun _ fs => Sf π s lvl fs ∧ ¬ quiet) ?_ (fun _ => .ret fun fs h => ⟨h.1, fun hq => absurd hq h.2⟩)
  refine Sat.bind (exists_dir_sat own_up hW (good_sf hW).stable (good_sf hW).inv (pEntry a) (.entry a)) fun e => ?_
  refine Sat.bind (Q' := fun _ fs => Sf π s lvl fs ∧ DK lvl (pEntry a) fs) ?_ fun _ => ?_
  · cases e with
    | true => exact .ret fun fs h => ⟨h.1, h.2 rfl⟩
    | false => exact ((mkdirp_entry_sat own_up hW a).pre fun fs h => h.1).post (fun _ _ h => h) fun _ _ h => ⟨h.1, hW.not_clear h.2⟩
  · rw [hc.me, hc.cd, hc.ver]
    refine ((safeWrite_sat hW a _ _ _ (Or.inl ⟨rfl, rfl, rfl⟩)).pre
      fun fs h => ⟨h.1, h.2, fun _ e => by simp [pOut, pMeta] at e⟩).post (fun _ fs h => ⟨h.1, fun hq d hd => ?_⟩) (fun _ _ h => h)
    rw [h.2 hq] at hd; cases hd; rfl

/-- `store_metadata`: never raises -/
theorem storeMetadata_sat (hW : World π s lvl me R quiet) (c : Cfg) (hc : CfgBase π me c) (a : Nat) :
    Sat R (OwnG π me strong quiet c.gen) (fun fs => Sf π s lvl fs ∧ (quiet → OutFresh π c.gen a fs)) (storeMetadata c a)
      (fun _ fs => Sf π s lvl fs) E := by
  unfold storeMetadata
  refine Sat.tryCatch (E1 := fun _ fs => Sf π s lvl fs) ?_ (fun _ => .ret fun fs h => h)
  refine Sat.bind (Q' := fun _ fs => (Sf π s lvl fs ∧ DK lvl (pEntry a) fs) ∧ (quiet → OutFresh π c.gen a fs)) ?_ fun _ => ?_
  · -- creating the entry directory leaves `output.pkl` alone
    exact ((Sat.frame (hW.qstable (OutFresh π c.gen a))
      (fun fs o hg h hq d hd => h hq d (by rwa [builds_keeps_final hg.1.allowed hg.2 ⟨a, Or.inl rfl⟩] at hd))
      (mkdirp_entry_sat ownB_up hW a)).mono_G fun _ _ h => h.1).post (fun _ _ h => h) (fun _ _ h => h.1.1)
  · rw [hc.me, hc.cd]
    exact ((safeWrite_sat hW a _ _ _ (Or.inr ⟨rfl, rfl, rfl⟩)).pre
      fun fs h => ⟨h.1.1, h.1.2, fun hq _ => h.2 hq⟩).post (fun _ _ h => h.1) (fun _ _ h => h.1)

theorem world_true (hW : World π s lvl me R quiet) : World π true lvl me R quiet :=
  ⟨hW.sub, nofun, hW.quietW⟩

theorem good_init (hW : World π s lvl me R quiet) :
    Good π s me R (StartOK π s strong) :=
  ⟨(good_inv hW).stable.and (trust_abs_stable hW),
   fun fs o h ha hcode => ⟨inv_apply h.1 ha, fun hs i d hg hsame => by
      rw [hcode] at hg
      exact inv_apply (h.2.1 hs i d hg hsame) ha, fun hst hs hg => by
      rw [hcode] at hg
      exact inv_apply (h.2.2 hst hs hg) ha⟩,
   fun fs h => h.1⟩

/-- `_is_in_cache_and_valid`: answers `true` only when every result file is of the live version -/
theorem isInCacheAndValid_sat (hW : World π s lvl me R quiet) (c : Cfg) (hc : CfgBase π me c) (a : Nat) :
    Sat R (OwnG π me strong quiet τ) (fun fs => Sf π s lvl fs ∧ Trusts π s strong fs) (isInCacheAndValid c a)
      (fun b fs => Sf π s lvl fs ∧ Lvs π s strong fs ∧ (b = true → Sf π true lvl fs)) (EL lvl) := by
  unfold isInCacheAndValid
  refine Sat.bind (checkPrevious_sat hW c hc) fun okc => ?_
  cases okc with
  | false => exact .ret fun fs h => ⟨h.1, h.2.2 rfl, fun e => by cases e⟩
  | true =>
    simp only [Bool.not_true, Bool.false_eq_true, if_false]
    -- `func_code.py` matched, so every result is of the live source: the rest is derived under the strict invariant
    -- (`s = true`, entered by `toT`), and weakened back at each exit (`fromT`)
    have hW' := world_true hW
    have hS : Stable R (Sf π true lvl) := (good_sf hW').stable
    have toT : ∀ fs, Sf π s lvl fs ∧ (True → Inv π true fs) ∧ (true = false → Lvs π s strong fs) → Sf π true lvl fs :=
      fun fs h => ⟨h.2.1 trivial, h.1.2⟩
    have fromT : ∀ fs, Sf π true lvl fs → Sf π s lvl fs ∧ Lvs π s strong fs :=
      fun fs h => ⟨⟨inv_weaken h.1, h.2⟩, fun _ _ => h.1⟩
    have no : Sat R (OwnG π me strong quiet τ) (Sf π true lvl) (Prog.ret false)
        (fun b fs => Sf π s lvl fs ∧ Lvs π s strong fs ∧ (b = true → Sf π true lvl fs)) (EL lvl) :=
      .ret fun fs h => ⟨(fromT fs h).1, (fromT fs h).2, fun e => by cases e⟩
    have clr : Sat R (OwnG π me strong quiet τ) (Sf π true lvl)
        (if c.keepRejected = true then Prog.ret false else (clearItem c a).bind fun _ => Prog.ret false)
        (fun b fs => Sf π s lvl fs ∧ Lvs π s strong fs ∧ (b = true → Sf π true lvl fs)) (EL lvl) := by
      split
      · exact no
      · exact Sat.bind (clearItem_sat hW' c a) fun _ => no
    refine (Sat.bind (exists_sat own_up hS (pOut a)) fun e => ?_).pre toT
    cases e with
    | false => exact no
    | true =>
      simp only [Bool.not_true, Bool.false_eq_true, if_false]
      simp only [hc.skipcb, hc.legacy, Bool.false_and, Bool.false_eq_true, if_false]
      refine Sat.bind (getMetadata_sat hS c a) fun stamp => ?_
      have acc : Sat R (OwnG π me strong quiet τ) (Sf π true lvl) (Prog.ret true)
          (fun b fs => Sf π s lvl fs ∧ Lvs π s strong fs ∧ (b = true → Sf π true lvl fs)) (EL lvl) :=
        .ret fun fs h => ⟨(fromT fs h).1, (fromT fs h).2, fun _ => h⟩
      cases hcb : c.callback with
      | none => exact acc
      | _ =>
        cases stamp with
        | none => exact clr
        | some t =>
          simp only
          split
          · exact acc
          · exact clr

theorem obsOnly_loadItem (c : Cfg) (a : Nat) : ObsOnly (loadItem c a) := by
  unfold loadItem exists_
  refine .look _ _ rfl fun r => ?_
  simp only [Prog.bind]
  by_cases h : (!(r == Res.yes)) = true
  · rw [if_pos h]; exact .raise _ trivial
  · rw [if_neg h]
    refine .look _ _ rfl fun r => ?_
    cases r with
    | fd i =>
      refine .look _ _ rfl fun r => ?_
      cases r with
      | data d =>
        simp only
        cases c.codec.unpickle d with
        | some v => exact .ret _
        | none => exact .raise _ trivial
      | _ => exact .raise _ trivial
    | _ => exact .raise _ trivial

theorem obsOnly_resultGet (c : Cfg) (a : Nat) : ObsOnly (resultGet c a) := by
  unfold resultGet
  refine (obsOnly_loadItem c a).tryCatch fun e => ?_
  by_cases h : e = .valueError
  · rw [if_pos h]; exact .raise _ trivial
  · rw [if_neg h]; exact .raise _ trivial

/-- exceptions excused for a cached call: the environment may clear the cache, or the call is `call_and_shelve(...).get()`
(whose `get` is documented to raise `KeyError` for a vanished entry) -/
def EC (lvl : Level) (c : Cfg) : Err → FS → Prop := fun _ _ => lvl = .clear ∨ c.shelve = true

/-- `_call` + `_after_call` + `_persist_input`: stores and returns `f(a)`; storing never raises -/
theorem computeAndStore_sat (hW : World π s lvl me R quiet) (c : Cfg) (hc : CfgBase π me c)
    (hmf : quiet → c.metadataFirst = false) (a : Nat) :
    Sat R (OwnG π me strong quiet c.gen) (Sf π s lvl) (computeAndStore c a)
      (fun v fs => Sf π s lvl fs ∧ (c.shelve = false → ∃ g, v = ⟨π.ver, a, g⟩)) (EC lvl c) := by
  unfold computeAndStore
  have dump := dumpItem_sat (strong := strong) (E := EC lvl c) hW c hc a
  have stamp := storeMetadata_sat (strong := strong) (E := EC lvl c) hW c hc a
  refine Sat.bind (Q' := fun _ fs => Sf π s lvl fs) ?_ fun _ => ?_
  · split
    · next h =>
      exact Sat.bind (stamp.pre fun fs hs => ⟨hs, fun hq => by rw [hmf hq] at h; cases h⟩) fun _ =>
        dump.post (fun _ _ h => h.1) (fun _ _ h => h)
    · exact Sat.bind dump fun _ => stamp
  by_cases hsh : c.shelve = true
  · rw [if_pos hsh]
    exact (obsOnly_sat (fun fs o hw e => own_obs hw e) (good_sf hW).stable (obsOnly_resultGet c a)).post
      (fun _ fs h => ⟨h, fun e => by rw [hsh] at e; cases e⟩) (fun _ _ _ => Or.inr hsh)
  · rw [if_neg hsh]
    exact .ret fun fs h => ⟨h, fun _ => ⟨c.gen, by rw [hc.ver]⟩⟩

abbrev CallPost (π : Par) (s : Bool) (strong : Prop) (c : Cfg) (a : Nat) (v : Val) (fs : FS) : Prop :=
  Inv π s fs ∧ Lvs π s strong fs ∧ (c.shelve = false → ∃ g, v = ⟨π.ver, a, g⟩)

theorem computeAndStore_sat_live (hW : World π s lvl me R quiet) (c : Cfg) (hc : CfgBase π me c)
    (hmf : quiet → c.metadataFirst = false) (a : Nat) :
    Sat R (OwnG π me strong quiet c.gen) (Sf π true lvl) (computeAndStore c a) (CallPost π s strong c a) (EC lvl c) :=
  (computeAndStore_sat (strong := strong) (world_true hW) c hc hmf a).post
    (fun v fs h => ⟨inv_weaken h.1.1, fun _ _ => h.1.1, h.2⟩) (fun _ _ h => h)

theorem computeAndStore_sat_lvs (hW : World π s lvl me R quiet) (c : Cfg) (hc : CfgBase π me c)
    (hmf : quiet → c.metadataFirst = false) (a : Nat) :
    Sat R (OwnG π me strong quiet c.gen) (fun fs => Sf π s lvl fs ∧ Lvs π s strong fs) (computeAndStore c a)
      (CallPost π s strong c a) (EC lvl c) := by
  by_cases hk : strong ∧ s = false
  · exact (computeAndStore_sat_live hW c hc hmf a).pre fun fs h => ⟨h.2 hk.1 hk.2, h.1.2⟩
  · exact ((computeAndStore_sat (strong := strong) hW c hc hmf a).pre fun fs h => h.1).post
      (fun v fs h => ⟨h.1.1, fun h1 h2 => absurd ⟨h1, h2⟩ hk, h.2⟩) (fun _ _ h => h)

/-- `MemorizedFunc._cached_call` -/
theorem cachedCall_sat (hW : World π s lvl me R quiet) (c : Cfg) (hc : CfgBase π me c)
    (hmf : quiet → c.metadataFirst = false) (a : Nat) (hU : π.cd.RoundTrip) :
    Sat R (OwnG π me strong quiet c.gen) (fun fs => Sf π s lvl fs ∧ Trusts π s strong fs) (cachedCall c a)
      (CallPost π s strong c a) (EC lvl c) := by
  unfold cachedCall
  refine Sat.bind ((isInCacheAndValid_sat hW c hc a).post (fun _ _ h => h) (fun _ _ h => Or.inl h)) fun valid => ?_
  have cs := computeAndStore_sat_lvs (strong := strong) hW c hc hmf a
  -- after a positive answer the strict invariant (`s = true`) holds; its results are weakened back by `inv_weaken`
  have hW' := world_true hW
  have csT := computeAndStore_sat_live (strong := strong) hW c hc hmf a
  cases valid with
  | false => exact cs.pre fun fs h => ⟨h.1, h.2.1⟩
  | true =>
    simp only [if_true]
    have hST : Stable R (Sf π true lvl) := (good_sf hW').stable
    by_cases hsh : c.shelve = true
    · rw [if_pos hsh]
      refine (Sat.bind (getMetadata_sat hST c a) fun _ => ?_).pre fun fs h => h.2.2 (by simp)
      exact (obsOnly_sat (fun fs o hw e => own_obs hw e) hST (obsOnly_resultGet c a)).post
        (fun _ fs h => ⟨inv_weaken h.1, fun _ _ => h.1, fun e => by rw [hsh] at e; cases e⟩)
        (fun _ _ _ => Or.inr hsh)
    · rw [if_neg hsh]
      refine Sat.bind (Q' := fun r fs => Sf π true lvl fs ∧ ∀ v, r = some v → ∃ g, v = ⟨π.ver, a, g⟩) ?_ fun r => ?_
      · refine Sat.tryCatch (E1 := fun _ fs => Sf π true lvl fs) ?_ (fun _ => .ret fun fs h => ⟨h, fun v e => by cases e⟩)
        refine (Sat.bind (loadItem_sat hW' c hc a hU) fun v => ?_).pre fun fs h => h.2.2 (by simp)
        exact .ret fun fs h => ⟨h.1, fun v' e => by cases e; exact h.2⟩
      · cases r with
        | some v => exact .ret fun fs h => ⟨inv_weaken h.1.1, fun _ _ => h.1.1, fun _ => h.2 v rfl⟩
        | none => exact csT.pre fun fs h => h.1

/-- `Memory(location)`, `memory.cache(f)`: what a fresh process does before its call -/
theorem enter_sat {G : FS → Op → Prop}
    (hG : Admits π me G)
    (hW : World π s lvl me R quiet) (c : Cfg) :
    Sat R G (StartOK π s strong) ((configure c).bind fun _ => ensureFuncDir)
      (fun _ fs => StartOK π s strong fs ∧ DK lvl pFunc fs) (EC lvl c) :=
  Sat.bind ((configure_sat hG hW (good_init hW) c).post (fun _ _ h => h.1) (fun _ _ h => Or.inl h.2)) fun _ =>
    (ensureFuncDir_sat hG hW (good_init hW)).post (fun _ _ h => h) (fun _ _ h => Or.inl h.2)

theorem callProc_eq (c : Cfg) (a : Nat) :
    callProc c a = ((configure c).bind fun _ => ensureFuncDir).bind fun _ => cachedCall c a := by
  unfold callProc; rw [Prog.bind_assoc]

/-- A fresh process: `Memory(location)`, `memory.cache(f)`, one call (`f(a)` or `f.call_and_shelve(a).get()`). -/
theorem callProc_sat (hW : World π s lvl me R quiet) (c : Cfg) (hc : CfgBase π me c)
    (hmf : quiet → c.metadataFirst = false) (a : Nat) (hU : π.cd.RoundTrip) :
    Sat R (OwnG π me strong quiet c.gen) (StartOK π s strong) (callProc c a)
      (CallPost π s strong c a) (EC lvl c) := by
  rw [callProc_eq]
  exact Sat.bind (enter_sat own_up hW c) fun _ => (cachedCall_sat hW c hc hmf a hU).pre fun fs h => ⟨⟨h.1.1, h.2⟩, h.1.2⟩

/-- what an evicting participant (`Memory.reduce_size`) guarantees -/
abbrev EvictG (π : Par) (me : Nat) (strong quiet : Prop) (τ : Nat) : FS → Op → Prop :=
  fun fs o => Allowed π .evict (fun x => x = me) fs o ∧ OwnG π me strong quiet τ fs o

theorem evict_up : Admits π me (EvictG π me strong quiet τ) :=
  ⟨fun _ _ hb hnw ha => ⟨ha.mono_level (Or.inl rfl), own_up.1 _ _ hb hnw ha⟩,
   fun _ _ _ hl ha => ⟨ha.mono_level (Or.inl rfl), own_up.2 _ _ _ hl ha⟩⟩

theorem rmGood_inv_entry_evict (hW : World π s lvl me R quiet) (a : Nat) :
    RmGood (R := R) (EvictG π me strong quiet τ) (Inv π s) (pEntry a) :=
  ⟨(good_inv hW).stable, fun fs t g h ht => inv_rm g h (below_trans (entry_below a) ht),
    fun fs o hw e => ⟨.noop o hw e, own_obs hw e⟩,
    fun fs t g h ht => ⟨evict_unlink h ht, own_unlink (entry_below a) ht⟩,
    fun fs t g _ ht => ⟨.rmdirE a t g (by decide) ht, own_rmdir (entry_below a) ht⟩⟩

/-- `Memory.reduce_size`: every call it makes is one an evicting participant may make; the invariant is kept -/
theorem reduceProc_sat (hW : World π s lvl me R quiet) (c : Cfg) (victims : List Nat) :
    Sat R (EvictG π me strong quiet τ) (Inv π s) (reduceProc c victims) (fun _ fs => Inv π s fs) (fun _ fs => Inv π s fs) := by
  unfold reduceProc
  have hst := (good_inv hW).stable
  refine Sat.bind ((configure_sat evict_up hW (good_inv hW) c).post (fun _ _ h => h.1) (fun _ _ h => h.1)) fun _ => ?_
  refine Sat.bind (obsOnly_sat (fun fs o hw e => ⟨.noop o hw e, own_obs hw e⟩) hst (obsOnly_walk c.rank 6 pLoc)) fun found => ?_
  generalize (victims.filter fun x => found.contains x) = vs
  induction vs with
  | nil => exact .ret fun fs h => h
  | cons a rest ih =>
    refine Sat.bind (Q' := fun _ fs => Inv π s fs) ?_ fun _ => ih
    refine Sat.tryCatch (E1 := fun _ fs => Inv π s fs)
      ((rmtree_sat (rmGood_inv_entry_evict hW a) c.rank false).post (fun _ _ h => h) (fun _ _ h => h.2)) fun e => ?_
    by_cases he : e.isOSError = true
    · rw [if_pos he]; exact .ret fun fs h => h
    · rw [if_neg he]; exact .raise fun fs h => h

/-- `disk.delete_folder` -/
theorem deleteFolder_sat (hW : World π s lvl me R quiet) (c : Cfg) (p0 : Path) (hb : Below pLoc p0) :
    ∀ fuel, Sat R (OwnG π me strong quiet τ) (Inv π s) (deleteFolder c p0 fuel) (fun _ fs => Inv π s fs) (fun _ fs => Inv π s fs) := by
  have hst := (good_inv hW).stable
  intro fuel
  induction fuel with
  | zero => exact .raise fun fs h => h
  | succ fuel ih =>
    unfold deleteFolder
    refine Sat.look (fun _ _ => own_look rfl) rfl hst fun r => ?_
    cases r with
    | fd i =>
      refine Sat.scan (fun _ _ => own_look rfl) hst fun _ => ?_
      refine Sat.tryCatch (E1 := fun _ fs => Inv π s fs)
        ((rmtree_sat (rmGood_inv hW hb) c.rank true).post (fun _ _ h => h) (fun _ _ h => h.2)) fun e => ?_
      by_cases he : e.isOSError = true
      · rw [if_pos he]
        by_cases hf : fuel = 0
        · rw [if_pos hf]; exact .raise fun fs h => h
        · rw [if_neg hf]; exact ih
      · rw [if_neg he]; exact .raise fun fs h => h
    | _ => exact .raise fun fs h => h

theorem below_loc_snoc (n : Name) : Below pLoc (pLoc ++ [n]) :=
  ⟨List.prefix_append _ _, by simp [pLoc]⟩

/-- `Memory.clear()`: every call it makes is one a clearing participant may make; the invariant is kept -/
theorem clearProc_sat (hW : World π s lvl me R quiet) (c : Cfg) :
    Sat R (OwnG π me strong quiet τ) (Inv π s) (clearProc c) (fun _ fs => Inv π s fs) (fun _ fs => Inv π s fs) := by
  unfold clearProc
  have hst := (good_inv hW).stable
  refine Sat.bind ((configure_sat (G := OwnG π me strong quiet τ) own_up hW (good_inv hW) c).post (fun _ _ h => h.1)
    (fun _ _ h => h.1)) fun _ => ?_
  refine Sat.look (fun _ _ => own_look rfl) rfl hst fun r => ?_
  cases r with
  | fd i =>
    refine Sat.scan (fun _ _ => own_look rfl) hst fun l => ?_
    induction l with
    | nil => exact .ret fun fs h => h
    | cons n rest ihl =>
      refine Sat.look (fun _ _ => own_look rfl) rfl hst fun r => ?_
      refine Sat.bind (Q' := fun _ fs => Inv π s fs) ?_ fun _ => ihl
      by_cases hc : (r == Res.yes && n.2) = true
      · rw [if_pos hc]
        exact deleteFolder_sat hW c _ (below_loc_snoc n.1) 11
      · rw [if_neg hc]; exact .ret fun fs h => h
  | _ => exact .raise fun fs h => h

end
end JoblibModel.Store
