import JoblibModel.ZlibFile
/-! `BinaryZlibFile` refines a byte stream, over any block source (C13, C14).

A source is known by the chunks it will deliver (`Yields`, `Regular`); `InvAt` ties a state of the file object to a
position of the payload; every loop and every method built on one gets a `_spec` lemma of the shape
`InvAt … s o cs → ∃ s' o' cs', op s = .ok (s', <reference answer>) ∧ InvAt … s' o' cs' ∧ s'.pos = …`, bottom-up from
`fillLoop_spec` to `seek_spec`, collected in `applyOp_refines` and `runOps_refines`. A state changes in four ways: more of `_buffer` counts as consumed (`InvAt.advance`), a chunk is fetched
(`InvAt.fetch`), the end is marked (mode and `_size`; inline in `fillLoop_spec`, the one place), `_rewind` (`rewind_inv`, also
how an opened file gets its `InvAt`). Then the clients of `read` (`loadZ_spec`, `readBytes_spec`), the write side
(`writeAll_spec`, on its own), source 1, source 2. Two sources are `Regular`: the chunk list
(`chunk_regular`, C13) and the raw 8192-byte blocks under the codec law `StreamLaw` (`raw_regular`, C14); `ValidFile` gives
a `StreamLaw` for every truncation and every extension of a valid file. What a freshly opened file answers: `raw_runOps`,
`raw_read_all` here, `C13.zfile_refines_stream_chunks` for the chunk list.

Termination for EVERY codec, one that raises included, is proved of the inner loop only (`fillLoop_terminates`, measure
`blocksLeft`; instantiated at `C14.fill_terminates`, as `fillLoop_diverges` is at `C14.old_fill_diverges`). The outer loops are
handled under `Regular`, and `Yields` has no error case: only for files on which the codec does not raise.
-/
namespace JoblibModel.ZlibFile

theorem pyIndex_of_nonneg (len : Nat) {i : Int} (h : 0 ≤ i) : pyIndex len i = min i.toNat len :=
  if_neg (Int.not_lt.mpr h)

theorem pySliceFrom_nat (b : Bytes) (o : Nat) (h : o ≤ b.length) : pySliceFrom b (o : Int) = b.drop o := by
  unfold pySliceFrom
  rw [pyIndex_of_nonneg _ (Int.natCast_nonneg o), Int.toNat_natCast, Nat.min_eq_left h]

theorem pySlice_of_nonneg (b : Bytes) {lo hi : Int} (h0 : 0 ≤ lo) (h : lo ≤ hi) (he : hi ≤ b.length) :
    pySlice b lo hi = (b.drop lo.toNat).take (hi.toNat - lo.toNat) := by
  unfold pySlice
  rw [pyIndex_of_nonneg _ h0, pyIndex_of_nonneg _ (Int.le_trans h0 h), Nat.min_eq_left (by omega),
    Nat.min_eq_left (by omega)]

/-- C14 states its bounds with the literal. -/
theorem BUFFER_SIZE_eq : BUFFER_SIZE = 8192 := rfl

/-- One block of `B` less to go: the decrease of `blocksLeft` (`blocksLeft_read`) and of the rounds of `loadZ_spec`. -/
theorem ceil_step {B x l : Nat} (hB : 0 < B) (hl : l = min B x) (h0 : 0 < l) :
    (x - l + (B - 1)) / B + 1 ≤ (x + (B - 1)) / B := by
  subst hl
  by_cases h : B ≤ x
  · rw [Nat.min_eq_left h, ← Nat.add_div_right _ hB, Nat.add_right_comm, Nat.sub_add_cancel h]
    exact Nat.le_refl _
  · have hx : x ≤ B := Nat.le_of_not_le h
    rw [Nat.min_eq_right hx] at h0 ⊢
    rw [Nat.sub_self, Nat.zero_add, Nat.div_eq_of_lt (Nat.sub_lt hB Nat.one_pos)]
    exact (Nat.le_div_iff_mul_le hB).mpr (by omega)

theorem take_drop_length (p : Bytes) (pos m : Nat) : ((p.drop pos).take m).length = min m (p.length - pos) := by
  rw [List.length_take, List.length_drop]

/-- From source state `src` the loop body of `_fill_buffer` delivers exactly the chunks `cs` and then end of file, with
no codec error on the way. -/
inductive Yields {σ : Type} (S : Source σ) : σ → List Bytes → Prop
  | eof {src : σ} : S.step src = .eof → Yields S src []
  | chunk {src src' : σ} {b : Bytes} {cs : List Bytes} :
      S.step src = .chunk b src' → Yields S src' cs → Yields S src (b :: cs)

/-- `G` is an invariant of the source states under which a rewind makes the source deliver a chunking, of at most `N`
chunks, of `payload`. What a new source has to provide. -/
structure Regular {σ : Type} (S : Source σ) (payload : Bytes) (G : σ → Prop) (N : Nat) : Prop where
  rewind_yields : ∀ src, G src →
    G (S.rewind src) ∧ ∃ cs, Yields S (S.rewind src) cs ∧ cs.flatten = payload ∧ cs.length ≤ N
  step_good : ∀ src b src', G src → S.step src = .chunk b src' → G src'

/-- The file object `s`, with `o` bytes of `_buffer` consumed and the chunks `cs` still to come: `_pos` is the number of
bytes consumed, i.e. what is left of the payload is the unread part of `_buffer` followed by `cs` (`rem`). `len_le` is
there for the fuel (`N + 2` covers every `cs`); `size` is `-1` until the end has been seen; `eof` says what
`_MODE_READ_EOF` means: nothing left and the size known. -/
structure InvAt {σ : Type} (S : Source σ) (payload : Bytes) (G : σ → Prop) (N : Nat)
    (s : ZFile σ) (o : Nat) (cs : List Bytes) : Prop where
  mode : s.mode = .read ∨ s.mode = .readEof
  good : G s.src
  off : s.bufferOffset = (o : Int)
  off_le : o ≤ s.buffer.length
  yields : Yields S s.src cs
  len_le : cs.length ≤ N
  pos_le : s.pos ≤ payload.length
  rem : payload.drop s.pos = s.buffer.drop o ++ cs.flatten
  eof : s.mode = .readEof → o = s.buffer.length ∧ cs = [] ∧ s.size = (payload.length : Int)
  size : s.size = -1 ∨ s.size = (payload.length : Int)

section
variable {σ : Type} {S : Source σ} {payload : Bytes} {G : σ → Prop} {N : Nat}
  {s : ZFile σ} {o : Nat} {cs : List Bytes}

theorem Yields.step_nil {src : σ} (h : Yields S src []) : S.step src = .eof := by
  cases h with
  | eof h => exact h

theorem Yields.step_cons {src : σ} {c : Bytes} {cs : List Bytes} (h : Yields S src (c :: cs)) :
    ∃ src', S.step src = .chunk c src' ∧ Yields S src' cs := by
  cases h with
  | chunk h1 h2 => exact ⟨_, h1, h2⟩

theorem InvAt.rem_len (h : InvAt S payload G N s o cs) :
    payload.length - s.pos = (s.buffer.length - o) + cs.flatten.length := by
  have := congrArg List.length h.rem
  rwa [List.length_drop, List.length_append, List.length_drop] at this

theorem InvAt.pos_of_nil (h : InvAt S payload G N s o [])
    (ho : o = s.buffer.length) : s.pos = payload.length := by
  have h1 := h.rem_len
  have h2 := h.pos_le
  rw [List.flatten_nil, List.length_nil] at h1
  omega

theorem InvAt.rem_nil_of_eof (h : InvAt S payload G N s o cs)
    (hm : s.mode = .readEof) : payload.drop s.pos = [] := by
  obtain ⟨h1, h2, _⟩ := h.eof hm
  rw [h.rem, h1, h2, List.drop_length]; rfl

/-- Frame lemma: `s'` differs from `s` only in that `m` more of the buffered bytes count as consumed. The buffer may be
re-based (`hbuf`: only what is left of it has to agree), as `dropBuf` and `takeBuf` do. The last four hypotheses are `rfl` at
every use (`s'` is `{ s with … }`). -/
theorem InvAt.advance {s s' : ZFile σ} {o o' : Nat} {cs : List Bytes} (h : InvAt S payload G N s o cs) (m : Nat)
    (hm : o + m ≤ s.buffer.length) (hoff : s'.bufferOffset = (o' : Int))
    (ho' : o' ≤ s'.buffer.length) (hbuf : s'.buffer.drop o' = s.buffer.drop (o + m))
    (hmode : s'.mode = s.mode := by rfl) (hsrc : s'.src = s.src := by rfl) (hsize : s'.size = s.size := by rfl)
    (hpos : s'.pos = s.pos + m := by rfl) :
    InvAt S payload G N s' o' cs where
  mode := hmode ▸ h.mode
  good := hsrc ▸ h.good
  off := hoff
  off_le := ho'
  yields := hsrc ▸ h.yields
  len_le := h.len_le
  pos_le := hpos ▸ Nat.add_le_of_le_sub' h.pos_le
    (h.rem_len ▸ Nat.le_trans (Nat.le_sub_of_add_le' hm) (Nat.le_add_right _ _))
  rem := by
    rw [hpos, hbuf, ← List.drop_drop, h.rem,
      List.drop_append_of_le_length (List.length_drop ▸ Nat.le_sub_of_add_le' hm), List.drop_drop]
  eof := fun hm' => by
    obtain ⟨e1, e2, e3⟩ := h.eof (hmode ▸ hm')
    have := congrArg List.length hbuf
    rw [List.length_drop, List.length_drop, e1, Nat.sub_eq_zero_of_le (Nat.le_add_right _ _)] at this
    exact ⟨Nat.le_antisymm ho' (Nat.le_of_sub_eq_zero this), e2, hsize ▸ e3⟩
  size := hsize ▸ h.size

theorem InvAt.dropBuf (h : InvAt S payload G N s o cs) :
    InvAt S payload G N { s with buffer := pySliceFrom s.buffer s.bufferOffset, bufferOffset := 0 } 0 cs := by
  have e : pySliceFrom s.buffer s.bufferOffset = s.buffer.drop o := by rw [h.off, pySliceFrom_nat _ _ h.off_le]
  rw [e]
  exact h.advance 0 h.off_le rfl (Nat.zero_le _) rfl

theorem InvAt.takeBuf (h : InvAt S payload G N s 0 cs) :
    InvAt S payload G N { s with pos := s.pos + s.buffer.length, buffer := [] } 0 cs :=
  h.advance s.buffer.length (by omega) h.off (Nat.zero_le _)
    (by rw [Nat.zero_add, List.drop_length]; rfl)

theorem InvAt.fetch (hR : Regular S payload G N)  {c : Bytes} {cs : List Bytes} {src' : σ}
    (h : InvAt S payload G N s o (c :: cs)) (ho : o = s.buffer.length)
    (hstep : S.step s.src = .chunk c src') (hy : Yields S src' cs) :
    InvAt S payload G N { s with buffer := c, bufferOffset := 0, src := src' } 0 cs where
  mode := h.mode
  good := hR.step_good _ _ _ h.good hstep
  off := rfl
  off_le := Nat.zero_le _
  yields := hy
  len_le := Nat.le_trans (Nat.le_succ _) h.len_le
  pos_le := h.pos_le
  rem := by rw [h.rem, ho, List.drop_length, List.flatten_cons]; rfl
  eof := fun h' => nomatch (h.eof h').2.1
  size := h.size

theorem fillLoop_of_ne (fuel : Nat) {s : ZFile σ} (h : s.bufferOffset ≠ (s.buffer.length : Int)) :
    fillLoop S fuel s = .ok (s, true) := by
  rw [fillLoop.eq_def]; exact if_neg h

theorem fillLoop_zero {s : ZFile σ} (h : s.bufferOffset = (s.buffer.length : Int)) :
    fillLoop S 0 s = .error .outOfFuel := by
  rw [fillLoop.eq_def]; exact if_pos h

theorem fillLoop_succ (fuel : Nat) {s : ZFile σ} (h : s.bufferOffset = (s.buffer.length : Int)) :
    fillLoop S (fuel + 1) s =
      match S.step s.src with
      | .eof => .ok ({ s with mode := .readEof, size := s.pos }, false)
      | .err e => .error (.exc e)
      | .chunk b src' => fillLoop S fuel { s with buffer := b, bufferOffset := 0, src := src' } := by
  rw [fillLoop.eq_def]; exact if_pos h

/-- `μ` counts what the source still has to read (for the zlib source: the raw blocks left in `_fp`); `W` is what
holds of every source state the file object can be in. -/
theorem fillLoop_terminates (W : σ → Prop) (μ : σ → Nat)
    (hstep : ∀ r b r', W r → S.step r = .chunk b r' → μ r' + 1 ≤ μ r ∧ W r') :
    ∀ (fuel : Nat) (s : ZFile σ), W s.src → μ s.src + 1 ≤ fuel → fillLoop S fuel s ≠ .error .outOfFuel := by
  intro fuel
  induction fuel with
  | zero => intro s _ h; exact absurd h (Nat.not_succ_le_zero _)
  | succ fuel ih =>
    intro s hw hf
    by_cases hoff : s.bufferOffset = (s.buffer.length : Int)
    · rw [fillLoop_succ fuel hoff]
      cases hs : S.step s.src with
      | eof => nofun
      | err e => nofun
      | chunk b r' =>
        obtain ⟨h1, h2⟩ := hstep _ b r' hw hs
        exact ih _ h2 (Nat.le_of_succ_le_succ (Nat.le_trans (Nat.succ_le_succ h1) hf))
    · rw [fillLoop_of_ne _ hoff]; nofun

/-- `T`: source states in which the loop body makes no progress (finding F7: the end of the stream seen, `unused_data`
not empty). -/
theorem fillLoop_diverges (T : σ → Prop) (hT : ∀ r, T r → ∃ r', S.step r = .chunk [] r' ∧ T r') :
    ∀ (fuel : Nat) (s : ZFile σ), s.bufferOffset = (s.buffer.length : Int) → T s.src →
      fillLoop S fuel s = .error .outOfFuel := by
  intro fuel
  induction fuel with
  | zero => intro s h _; exact fillLoop_zero h
  | succ fuel ih =>
    intro s hoff ht
    obtain ⟨r', hstep, ht'⟩ := hT _ ht
    rw [fillLoop_succ fuel hoff, hstep]
    exact ih _ rfl ht'

theorem readAllLoop_diverges (T : σ → Prop) (hT : ∀ r, T r → ∃ r', S.step r = .chunk [] r' ∧ T r') (fuel : Nat) :
    ∀ (k : Nat) (s : ZFile σ) (acc : Bytes), s.mode = .read → s.bufferOffset = 0 → T s.src →
      readAllLoop S fuel k s acc = .error .outOfFuel := by
  intro k
  induction k with
  | zero => intros; rfl
  | succ k ih =>
    intro s acc hm ho ht
    rw [readAllLoop, fillBuffer, hm, if_neg (by decide)]
    by_cases hb : s.buffer = []
    · rw [fillLoop_diverges T hT fuel s (by rw [ho, hb]; rfl) ht]
    · rw [fillLoop_of_ne fuel (by
        rw [ho]; exact fun h => hb (List.eq_nil_of_length_eq_zero (Int.ofNat_inj.mp h.symm)))]
      exact ih _ _ hm ho ht

/-- The last conjunct: a `true` from an empty buffer has used up a chunk. That is what the budget of the outer loops
counts (`fill_budget_step`). -/
theorem fillLoop_spec (hR : Regular S payload G N) :
    ∀ (cs : List Bytes) (fuel : Nat) (s : ZFile σ),
      InvAt S payload G N s 0 cs → cs.length + 1 ≤ fuel →
      ∃ s' o' cs' b, fillLoop S fuel s = .ok (s', b) ∧ InvAt S payload G N s' o' cs' ∧ s'.pos = s.pos ∧
        (b = false → s'.mode = .readEof) ∧
        (b = true → o' = 0 ∧ cs'.length ≤ cs.length ∧ (0 = s.buffer.length → cs'.length < cs.length)) := by
  intro cs
  induction cs with
  | nil =>
    intro fuel s hI hf
    by_cases ho : 0 = s.buffer.length
    · obtain ⟨fuel, rfl⟩ : ∃ k, fuel = k + 1 := ⟨fuel - 1, (Nat.sub_add_cancel hf).symm⟩
      have hp := congrArg Int.ofNat (hI.pos_of_nil ho)
      rw [fillLoop_succ fuel (by rw [hI.off, ho]), hI.yields.step_nil]
      exact ⟨_, 0, [], false, rfl,
        { hI with mode := Or.inr rfl, eof := fun _ => ⟨ho, rfl, hp⟩, size := Or.inr hp }, rfl, fun _ => rfl, nofun⟩
    · rw [fillLoop_of_ne fuel (by rw [hI.off]; exact fun h => ho (Int.ofNat_inj.mp h))]
      exact ⟨s, 0, [], true, rfl, hI, rfl, nofun, fun _ => ⟨rfl, Nat.le_refl _, fun h => absurd h ho⟩⟩
  | cons c cs ih =>
    intro fuel s hI hf
    by_cases ho : 0 = s.buffer.length
    · obtain ⟨fuel, rfl⟩ : ∃ k, fuel = k + 1 := ⟨fuel - 1, (Nat.sub_add_cancel (Nat.le_of_add_left_le hf)).symm⟩
      obtain ⟨src', hstep, hy⟩ := hI.yields.step_cons
      rw [fillLoop_succ fuel (by rw [hI.off, ho]), hstep]
      obtain ⟨s', o', cs', b, h1, h2, h3, h4, h5⟩ :=
        ih fuel _ (hI.fetch hR ho hstep hy) (Nat.le_of_succ_le_succ hf)
      exact ⟨s', o', cs', b, h1, h2, h3, h4, fun hb => by
        obtain ⟨g1, g2, _⟩ := h5 hb
        exact ⟨g1, Nat.le_succ_of_le g2, fun _ => Nat.lt_succ_of_le g2⟩⟩
    · rw [fillLoop_of_ne fuel (by rw [hI.off]; exact fun h => ho (Int.ofNat_inj.mp h))]
      exact ⟨s, 0, c :: cs, true, rfl, hI, rfl, nofun, fun _ => ⟨rfl, Nat.le_refl _, fun h => absurd h ho⟩⟩

theorem fillBuffer_spec (hR : Regular S payload G N) {fuel : Nat}
    (hI : InvAt S payload G N s 0 cs) (hf : N + 1 ≤ fuel) :
    ∃ s' o' cs' b, fillBuffer S fuel s = .ok (s', b) ∧ InvAt S payload G N s' o' cs' ∧ s'.pos = s.pos ∧
      (b = false → s'.mode = .readEof) ∧
      (b = true → o' = 0 ∧ cs'.length ≤ cs.length ∧ (0 = s.buffer.length → cs'.length < cs.length)) := by
  unfold fillBuffer
  by_cases hm : s.mode = .readEof
  · rw [if_pos hm]
    exact ⟨s, 0, cs, false, rfl, hI, rfl, fun _ => hm, nofun⟩
  · rw [if_neg hm]
    exact fillLoop_spec hR cs fuel s hI (Nat.le_trans (Nat.succ_le_succ hI.len_le) hf)

theorem InvAt.rem_buffer (h : InvAt S payload G N s 0 cs) :
    payload.drop s.pos = s.buffer ++ payload.drop (s.pos + s.buffer.length) := by
  have := h.rem
  rw [List.drop_zero] at this
  rw [← List.drop_drop, this, List.drop_left]

/-- After a `true` from `_fill_buffer` the read loops take the whole buffer: one iteration of their budget
`cs.length + min 1 buffer.length + 1` is used up (`b` the buffer length before, `a'`, `a` the chunks to come after and before). -/
theorem fill_budget_step {a a' b k : Nat} (g1 : a' ≤ a) (g2 : 0 = b → a' < a) (hk : a + min 1 b + 1 ≤ k + 1) :
    a' + 1 ≤ k := by
  omega

theorem readAllLoop_spec (hR : Regular S payload G N) {fuel : Nat} (hf : N + 1 ≤ fuel) :
    ∀ (k : Nat) (s : ZFile σ) (cs : List Bytes) (acc : Bytes),
      InvAt S payload G N s 0 cs → cs.length + min 1 s.buffer.length + 1 ≤ k →
      ∃ s' o', readAllLoop S fuel k s acc = .ok (s', acc ++ payload.drop s.pos) ∧
        InvAt S payload G N s' o' [] ∧ s'.mode = .readEof ∧ s'.pos = payload.length := by
  intro k
  induction k with
  | zero => intro s cs acc _ hk; omega
  | succ k ih =>
    intro s cs acc hI hk
    obtain ⟨s1, o1, cs1, b, h1, hI1, hp, hF, hT⟩ := fillBuffer_spec hR hI hf
    rw [readAllLoop, h1]
    cases b with
    | false =>
      have hm := hF rfl
      obtain ⟨e1, e2, _⟩ := hI1.eof hm
      subst e2
      refine ⟨s1, o1, ?_, hI1, hm, hI1.pos_of_nil e1⟩
      rw [← hp, hI1.rem_nil_of_eof hm, List.append_nil]
    | true =>
      obtain ⟨rfl, g3, g4⟩ := hT rfl
      obtain ⟨s', o', h3, h4⟩ := ih _ cs1 (acc ++ s1.buffer) hI1.takeBuf (fill_budget_step g3 g4 hk)
      refine ⟨s', o', ?_, h4⟩
      show readAllLoop S fuel k _ (acc ++ s1.buffer) = _
      rw [h3, ← hp, hI1.rem_buffer, List.append_assoc]

theorem readAll_spec (hR : Regular S payload G N) {fuel : Nat}
    (hI : InvAt S payload G N s o cs) (hf : N + 2 ≤ fuel) :
    ∃ s' o', readAll S fuel s = .ok (s', payload.drop s.pos) ∧
      InvAt S payload G N s' o' [] ∧ s'.mode = .readEof ∧ s'.pos = payload.length := by
  exact readAllLoop_spec hR (Nat.le_of_succ_le hf) fuel _ cs [] hI.dropBuf
    (Nat.le_trans (Nat.add_le_add_right (Nat.add_le_add (hI.len_le) (Nat.min_le_left 1 _)) 1) hf)

theorem readBlockLoop_done (fuel k : Nat) (n : Int) (s : ZFile σ) (acc : Bytes) (hn : n ≤ 0) :
    readBlockLoop S fuel k n s acc = .ok (s, acc) := by
  rw [readBlockLoop.eq_def]; exact if_neg (by omega)

theorem readBlockLoop_succ (fuel k : Nat) {n : Int} (s : ZFile σ) (acc : Bytes) (hn : 0 < n) :
    readBlockLoop S fuel (k + 1) n s acc =
      match fillBuffer S fuel s with
      | .error f => .error f
      | .ok (s, false) => .ok (s, acc)
      | .ok (s, true) =>
        if n < (s.buffer.length : Int) then
          readBlockLoop S fuel k (n - (pySlice s.buffer 0 n).length)
            { s with bufferOffset := n, pos := s.pos + (pySlice s.buffer 0 n).length } (acc ++ pySlice s.buffer 0 n)
        else
          readBlockLoop S fuel k (n - s.buffer.length)
            { s with buffer := [], pos := s.pos + s.buffer.length } (acc ++ s.buffer) := by
  rw [readBlockLoop.eq_def]; exact if_pos hn

theorem readBlockLoop_spec (hR : Regular S payload G N) {fuel : Nat} (hf : N + 1 ≤ fuel) :
    ∀ (k n : Nat) (s : ZFile σ) (cs : List Bytes) (acc : Bytes),
      InvAt S payload G N s 0 cs → cs.length + min 1 s.buffer.length + 1 ≤ k →
      ∃ s' o' cs', readBlockLoop S fuel k n s acc = .ok (s', acc ++ (payload.drop s.pos).take n) ∧
        InvAt S payload G N s' o' cs' ∧ s'.pos = s.pos + ((payload.drop s.pos).take n).length := by
  intro k
  induction k with
  | zero => intro n s cs acc _ hk; omega
  | succ k ih =>
    intro n s cs acc hI hk
    by_cases hn0 : n = 0
    · subst hn0
      rw [readBlockLoop_done fuel _ ((0 : Nat) : Int) s acc (Int.le_refl 0)]
      exact ⟨s, 0, cs, by rw [List.take_zero, List.append_nil], hI, rfl⟩
    · obtain ⟨s1, o1, cs1, b, h1, hI1, hp, hF, hT⟩ := fillBuffer_spec hR hI hf
      rw [readBlockLoop_succ fuel k s acc (Int.ofNat_lt.mpr (Nat.pos_of_ne_zero hn0)), h1]
      cases b with
      | false =>
        have hnil := hI1.rem_nil_of_eof (hF rfl)
        rw [hp] at hnil
        exact ⟨s1, o1, cs1, by rw [hnil, List.take_nil, List.append_nil], hI1, by rw [hnil, hp, List.take_nil]; rfl⟩
      | true =>
        obtain ⟨rfl, g3, g4⟩ := hT rfl
        have hrem := hI1.rem_buffer
        rw [hp] at hrem
        simp only
        by_cases hlt : n < s1.buffer.length
        · -- the buffer holds more than is asked for
          have hsl : pySlice s1.buffer 0 n = s1.buffer.take n :=
            pySlice_of_nonneg s1.buffer (Int.le_refl 0) (Int.natCast_nonneg n) (Int.ofNat_le.mpr (Nat.le_of_lt hlt))
          have hlen : (s1.buffer.take n).length = n := List.length_take_of_le (Nat.le_of_lt hlt)
          have htake : (payload.drop s.pos).take n = s1.buffer.take n := by
            rw [hrem, List.take_append_of_le_length (Nat.le_of_lt hlt)]
          rw [if_pos (Int.ofNat_lt.mpr hlt), hsl, hlen, readBlockLoop_done _ _ _ _ _ (Int.le_of_eq (Int.sub_self _)),
            htake, hlen, ← hp]
          exact ⟨_, n, cs1, rfl,
            hI1.advance n ((Nat.zero_add n).symm ▸ Nat.le_of_lt hlt) rfl (Nat.le_of_lt hlt)
              (by rw [Nat.zero_add]), rfl⟩
        · -- the whole buffer is consumed
          have hge : s1.buffer.length ≤ n := Nat.le_of_not_lt hlt
          obtain ⟨s', o', cs', h3, h4, h5⟩ :=
            ih (n - s1.buffer.length) _ cs1 (acc ++ s1.buffer) hI1.takeBuf (fill_budget_step g3 g4 hk)
          have hsplit : (payload.drop s.pos).take n
              = s1.buffer ++ (payload.drop (s1.pos + s1.buffer.length)).take (n - s1.buffer.length) := by
            rw [hrem, List.take_append, List.take_of_length_le hge, hp]
          rw [if_neg (fun h => hlt (Int.ofNat_lt.mp h)), ← Int.ofNat_sub hge, h3, hsplit, List.append_assoc]
          refine ⟨s', o', cs', rfl, h4, ?_⟩
          rw [h5, List.length_append, ← hp]
          exact Nat.add_assoc _ _ _

theorem readBlock_spec (hR : Regular S payload G N) {fuel : Nat}
    (hI : InvAt S payload G N s o cs) (hf : N + 2 ≤ fuel) (n : Nat) :
    ∃ s' o' cs', readBlock S fuel n s = .ok (s', (payload.drop s.pos).take n) ∧
      InvAt S payload G N s' o' cs' ∧ s'.pos = s.pos + ((payload.drop s.pos).take n).length := by
  unfold readBlock
  simp only
  by_cases hfast : o + n ≤ s.buffer.length
  · rw [if_pos (by rw [hI.off]; exact Int.ofNat_le.mpr hfast), hI.off]
    have hsl : pySlice s.buffer (o : Int) ((o : Int) + n) = (s.buffer.drop o).take n := by
      rw [pySlice_of_nonneg s.buffer (Int.natCast_nonneg o) (Int.le_add_of_nonneg_right (Int.natCast_nonneg n))
        (Int.ofNat_le.mpr hfast), Int.toNat_natCast, ← Int.natCast_add, Int.toNat_natCast, Nat.add_sub_cancel_left]
    have hlen : ((s.buffer.drop o).take n).length = n := by
      rw [take_drop_length]; exact Nat.min_eq_left (Nat.le_sub_of_add_le' hfast)
    have htake : (payload.drop s.pos).take n = (s.buffer.drop o).take n := by
      rw [hI.rem, List.take_append_of_le_length (by rw [List.length_drop]; exact Nat.le_sub_of_add_le' hfast)]
    rw [hsl, htake, hlen]
    exact ⟨_, o + n, cs, rfl, hI.advance n hfast (Int.natCast_add o n).symm hfast rfl, rfl⟩
  · rw [if_neg (by rw [hI.off]; exact fun h => hfast (Int.ofNat_le.mp h))]
    exact readBlockLoop_spec hR (Nat.le_of_succ_le hf) fuel n _ cs [] hI.dropBuf
      (Nat.le_trans (Nat.add_le_add_right (Nat.add_le_add (hI.len_le) (Nat.min_le_left 1 _)) 1) hf)

theorem checkCanRead_ok (hI : InvAt S payload G N s o cs) :
    checkCanRead s = .ok () := by
  unfold checkCanRead
  rcases hI.mode with h | h <;> rw [h]

/-- The reference answer of `read(size)` at `pos`, so that `read_spec` is stated once for every `size`. -/
def specRead (payload : Bytes) (pos : Nat) (size : Int) : Bytes :=
  if size < 0 then payload.drop pos else (payload.drop pos).take size.toNat

theorem specRead_nat (payload : Bytes) (pos n : Nat) : specRead payload pos (n : Int) = (payload.drop pos).take n :=
  if_neg (Int.not_lt.mpr (Int.natCast_nonneg n))

theorem Spec.applyOp_read (p : Bytes) (pos : Nat) (n : Int) :
    Spec.applyOp p pos (.read n) = some (pos + (specRead p pos n).length, .bytes (specRead p pos n)) := by
  simp only [Spec.applyOp, specRead]
  split <;> rfl

theorem read_spec (hR : Regular S payload G N) {fuel : Nat}
    (hI : InvAt S payload G N s o cs) (hf : N + 2 ≤ fuel) (size : Int) :
    ∃ s' o' cs', read S fuel size s = .ok (s', specRead payload s.pos size) ∧
      InvAt S payload G N s' o' cs' ∧
      s'.pos = s.pos + (specRead payload s.pos size).length := by
  unfold read specRead
  rw [checkCanRead_ok hI]
  simp only
  by_cases h0 : size = 0
  · subst h0
    exact ⟨s, o, cs, rfl, hI, rfl⟩
  · rw [if_neg h0]
    by_cases hneg : size < 0
    · rw [if_pos hneg, if_pos hneg]
      obtain ⟨s', o', h1, h2, h3, h4⟩ := readAll_spec hR hI hf
      refine ⟨s', o', [], h1, h2, ?_⟩
      have := hI.pos_le
      rw [h4, List.length_drop]; omega
    · obtain ⟨n, rfl⟩ := Int.eq_ofNat_of_zero_le (Int.not_lt.mp hneg)
      rw [if_neg hneg, if_neg hneg, Int.toNat_natCast]
      exact readBlock_spec hR hI hf n

theorem read_nat_spec (hR : Regular S payload G N) {fuel : Nat}
    (hI : InvAt S payload G N s o cs) (hf : N + 2 ≤ fuel) (n : Nat) :
    ∃ s' o' cs', read S fuel n s = .ok (s', (payload.drop s.pos).take n) ∧
      InvAt S payload G N s' o' cs' ∧ s'.pos = s.pos + min n (payload.length - s.pos) := by
  have := read_spec hR hI hf n
  rwa [specRead_nat, take_drop_length] at this

theorem readlineLoop_spec (hR : Regular S payload G N) {fuel : Nat} (hf : N + 2 ≤ fuel) :
    ∀ (k : Nat) (s : ZFile σ) (o : Nat) (cs : List Bytes) (res : Bytes),
      InvAt S payload G N s o cs → payload.length - s.pos + 1 ≤ k →
      ∃ s' o' cs', readlineLoop S fuel k res s = .ok (s', res ++ Spec.takeLine (payload.drop s.pos)) ∧
        InvAt S payload G N s' o' cs' ∧
        s'.pos = s.pos + (Spec.takeLine (payload.drop s.pos)).length := by
  intro k
  induction k with
  | zero => intro s o cs res _ hk; omega
  | succ k ih =>
    intro s o cs res hI hk
    obtain ⟨s1, o1, cs1, h1, hI1, hp⟩ := read_nat_spec hR hI hf 1
    have h1' : read S fuel 1 s = .ok (s1, (payload.drop s.pos).take 1) := h1
    rw [← List.length_drop] at hp hk
    rw [readlineLoop, h1']
    cases hd : payload.drop s.pos with
    | nil =>
      rw [hd] at hp
      exact ⟨s1, o1, cs1, by rw [Spec.takeLine, List.append_nil]; rfl, hI1, hp⟩
    | cons b r =>
      rw [hd, List.length_cons] at hp hk
      rw [Nat.min_eq_left (Nat.le_add_left 1 _)] at hp
      by_cases hb : b = 10
      · subst hb
        exact ⟨s1, o1, cs1, rfl, hI1, hp⟩
      · have hdrop : payload.drop s1.pos = r := by
          rw [hp, ← List.drop_drop, hd]; rfl
        obtain ⟨s', o', cs', g1, g2, g4⟩ := ih s1 o1 cs1 (res ++ [b]) hI1 (by
          rw [← List.length_drop, hdrop]; exact Nat.le_of_succ_le_succ hk)
        have htl : Spec.takeLine (b :: r) = b :: Spec.takeLine r := if_neg hb
        refine ⟨s', o', cs', ?_, g2, ?_⟩
        · simp [hb, g1, hdrop, htl]
        · rw [g4, hdrop, hp, htl, List.length_cons, Nat.add_assoc, Nat.add_comm 1]

theorem rewind_inv (hR : Regular S payload G N) {s : ZFile σ} (hg : G s.src)
    (hsz : s.size = -1 ∨ s.size = (payload.length : Int)) : ∃ cs0, InvAt S payload G N (rewind S s) 0 cs0 := by
  obtain ⟨hg, cs0, hy, hfl, hlen⟩ := hR.rewind_yields s.src hg
  exact ⟨cs0,
    { mode := Or.inl rfl
      good := hg
      off := rfl
      off_le := Nat.zero_le _
      yields := hy
      len_le := hlen
      pos_le := Nat.zero_le _
      rem := hfl.symm
      eof := nofun
      size := hsz }⟩

theorem seekAbs_spec (hR : Regular S payload G N) {fuel : Nat}
    (hI : InvAt S payload G N s o cs) (hf : N + 2 ≤ fuel) (t : Int) (h0 : 0 ≤ t) :
    ∃ s' o' cs', seekAbs S fuel t s = .ok (s', min t.toNat payload.length) ∧
      InvAt S payload G N s' o' cs' ∧ s'.pos = min t.toNat payload.length := by
  obtain ⟨t, rfl⟩ := Int.eq_ofNat_of_zero_le h0
  rw [Int.toNat_natCast]
  unfold seekAbs
  by_cases hlt : t < s.pos
  · -- behind the position: rewind, then skip `t` bytes
    obtain ⟨cs0, hI0⟩ := rewind_inv hR hI.good hI.size
    obtain ⟨s', o', cs', h1, h2, h4⟩ := readBlock_spec hR hI0 hf t
    have hp : s'.pos = min t payload.length := by
      rw [h4, take_drop_length]; exact Nat.zero_add _
    simp only [if_pos (Int.ofNat_lt.mpr hlt), h1, hp]
    exact ⟨s', o', cs', rfl, h2, hp⟩
  · have hle : s.pos ≤ t := Nat.le_of_not_lt hlt
    obtain ⟨s', o', cs', h1, h2, h4⟩ := readBlock_spec hR hI hf (t - s.pos)
    have hp : s'.pos = min t payload.length := by
      rw [h4, take_drop_length, ← Nat.add_min_add_left, Nat.add_sub_of_le hle, Nat.add_sub_of_le hI.pos_le]
    simp only [if_neg (fun h => hlt (Int.ofNat_lt.mp h)), ← Int.ofNat_sub hle, h1, hp]
    exact ⟨s', o', cs', rfl, h2, hp⟩

/-- The absolute target of `seek(off, w)` on the reference stream (`w` one of 0, 1, 2). -/
def specTarget (payload : Bytes) (pos : Nat) (off w : Int) : Int :=
  if w = 0 then off else if w = 1 then (pos : Int) + off else (payload.length : Int) + off

theorem Spec.applyOp_seek (p : Bytes) (pos : Nat) (off w : Int) :
    Spec.applyOp p pos (.seek off w) =
      if w = 0 ∨ w = 1 ∨ w = 2 then
        if specTarget p pos off w < 0 then none
        else some (min (specTarget p pos off w).toNat p.length, .num (min (specTarget p pos off w).toNat p.length))
      else some (pos, .exc .valueError) := rfl

theorem seek_spec (hR : Regular S payload G N) {fuel : Nat}
    (hI : InvAt S payload G N s o cs) (hf : N + 2 ≤ fuel) (off w : Int) (hw : w = 0 ∨ w = 1 ∨ w = 2)
    (h0 : 0 ≤ specTarget payload s.pos off w) :
    ∃ s' o' cs', seek S fuel off w s =
        .ok (s', min (specTarget payload s.pos off w).toNat payload.length) ∧
      InvAt S payload G N s' o' cs' ∧ s'.pos = min (specTarget payload s.pos off w).toNat payload.length := by
  unfold seek
  rw [checkCanRead_ok hI]
  simp only
  rcases hw with rfl | rfl | rfl
  · exact seekAbs_spec hR hI hf _ h0
  · exact seekAbs_spec hR hI hf _ h0
  · have h12 : ((2 : Int) = 0) = False ∧ ((2 : Int) = 1) = False := by decide
    simp only [specTarget, h12.1, h12.2, if_false, if_true] at h0 ⊢
    by_cases hs : s.size < 0
    · -- the size is not known yet: `_read_all` first
      obtain ⟨s1, o1, h1, hI1, hm, hp⟩ := readAll_spec hR hI hf
      rw [if_pos hs, h1]
      simp only [(hI1.eof hm).2.2]
      exact seekAbs_spec hR hI1 hf _ h0
    · rw [if_neg hs, hI.size.resolve_left (fun h => hs (by rw [h]; decide))]
      exact seekAbs_spec hR hI hf _ h0

/-- The model uses `fuel` twice: as the fuel of `fillLoop` (`N + 1` suffices) and as the bound of every outer loop
(`readAllLoop S fuel fuel`, …: `N + 2`). The `+ payload.length` is `readline`, whose loop does one `read(1)` per byte.
`read`: `read_spec`, and `readinto n` is `read n`; `readline`: `readlineLoop_spec`; `seek`: `seek_spec`, an invalid `whence`
inline (both sides raise `ValueError`); `tell` inline. `close`, like a seek to a negative target, is outside the reference
stream (`Spec.applyOp … = none`): nothing to prove. -/
theorem applyOp_refines (hR : Regular S payload G N) {fuel : Nat}
    (hI : InvAt S payload G N s o cs) (hf : N + payload.length + 2 ≤ fuel)
    (op : Op) (pos' : Nat) (out : Out) (hspec : Spec.applyOp payload s.pos op = some (pos', out)) :
    ∃ s' o' cs', applyOp S fuel s op = (s', out) ∧ InvAt S payload G N s' o' cs' ∧ s'.pos = pos' := by
  have hf2 : N + 2 ≤ fuel := by omega
  cases op with
  | read n =>
    obtain ⟨s', o', cs', h1, h2, h4⟩ := read_spec hR hI hf2 n
    rw [Spec.applyOp_read] at hspec
    cases hspec
    exact ⟨s', o', cs', by simp only [applyOp, h1, outOf], h2, h4⟩
  | readinto n =>
    obtain ⟨s', o', cs', h1, h2, h4⟩ := read_spec hR hI hf2 n
    rw [specRead_nat] at h1 h4
    cases hspec
    exact ⟨s', o', cs', by simp only [applyOp, readinto, h1, outOf], h2, h4⟩
  | readline =>
    obtain ⟨s', o', cs', h1, h2, h4⟩ := readlineLoop_spec hR hf2 fuel s o cs [] hI (by omega)
    cases hspec
    exact ⟨s', o', cs', by simp only [applyOp, readline, h1, outOf]; rfl, h2, h4⟩
  | tell =>
    cases hspec
    exact ⟨s, o, cs, by unfold applyOp tell; rcases hI.mode with h | h <;> rw [h], hI, rfl⟩
  | seek off w =>
    rw [Spec.applyOp_seek] at hspec
    by_cases hw : w = 0 ∨ w = 1 ∨ w = 2
    · rw [if_pos hw] at hspec
      by_cases hneg : specTarget payload s.pos off w < 0
      · rw [if_pos hneg] at hspec; cases hspec
      · rw [if_neg hneg] at hspec
        cases hspec
        obtain ⟨s', o', cs', h1, h2, h3⟩ := seek_spec hR hI hf2 off w hw (by omega)
        exact ⟨s', o', cs', by simp only [applyOp, h1, outOf], h2, h3⟩
    · rw [if_neg hw] at hspec
      cases hspec
      refine ⟨s, o, cs, ?_, hI, rfl⟩
      simp only [applyOp, seek, checkCanRead_ok hI]
      rw [if_neg (fun h => hw (Or.inl h)), if_neg (fun h => hw (Or.inr (Or.inl h))),
        if_neg (fun h => hw (Or.inr (Or.inr h)))]
      rfl
  | close => cases hspec

theorem runOps_refines (hR : Regular S payload G N) {fuel : Nat} (hf : N + payload.length + 2 ≤ fuel) :
    ∀ (ops : List Op) (s : ZFile σ) (o : Nat) (cs : List Bytes) (pos' : Nat) (outs : List Out),
      InvAt S payload G N s o cs → Spec.run payload s.pos ops = some (pos', outs) →
      ∃ s' o' cs', runOps S fuel s ops = (s', outs) ∧ InvAt S payload G N s' o' cs' ∧ s'.pos = pos' := by
  intro ops
  induction ops with
  | nil =>
    intro s o cs pos' outs hI hs
    cases hs
    exact ⟨s, o, cs, rfl, hI, rfl⟩
  | cons op ops ih =>
    intro s o cs pos' outs hI hs
    simp only [Spec.run] at hs
    split at hs
    · cases hs
    · rename_i p1 o1 h1
      split at hs
      · cases hs
      · rename_i p2 os h2
        cases hs
        obtain ⟨s1, oo1, cs1, g1, g2, rfl⟩ := applyOp_refines hR hI hf op p1 o1 h1
        obtain ⟨s2, oo2, cs2, k1, k2, k3⟩ := ih s1 oo1 cs1 _ _ g2 h2
        exact ⟨s2, oo2, cs2, by simp only [runOps, g1, k1], k2, k3⟩

/-- The bound on `rounds` is `⌈remaining / IO_BUFFER_SIZE⌉ + 1`: every non-empty `readinto` takes `min IO_BUFFER_SIZE remaining`
bytes, one block off the measure (`ceil_step`); the `+ 1` is the round that gets `b''`. -/
theorem loadZ_spec (hR : Regular S payload G N) {fuel : Nat} (hf : N + 2 ≤ fuel) (need : Nat) :
    ∀ (rounds got : Nat) (s : ZFile σ) (o : Nat) (cs : List Bytes),
      InvAt S payload G N s o cs → got < need →
      (payload.length - s.pos + (IO_BUFFER_SIZE - 1)) / IO_BUFFER_SIZE + 1 ≤ rounds →
      loadZ S fuel need rounds got s =
        if need ≤ got + (payload.length - s.pos) then .returnsOriginal else .raises := by
  intro rounds
  induction rounds with
  | zero => intro got s o cs _ _ h; exact absurd h (Nat.not_succ_le_zero _)
  | succ rounds ih =>
    intro got s o cs hI hg hr
    obtain ⟨s1, o1, cs1, h1, hI1, hp⟩ := read_nat_spec hR hI hf IO_BUFFER_SIZE
    have hlen := take_drop_length payload s.pos IO_BUFFER_SIZE
    rw [loadZ, readinto, h1]
    generalize (payload.drop s.pos).take IO_BUFFER_SIZE = b at hlen
    rw [← hlen] at hp
    have ih' := ih (got + b.length) s1 o1 cs1 hI1
    rw [hp, Nat.sub_add_eq] at ih'
    generalize payload.length - s.pos = rem at hlen hr ih' ⊢
    have hle : b.length ≤ rem := hlen ▸ Nat.min_le_right _ _
    cases b with
    | nil =>
      have : rem = 0 := (Nat.min_eq_zero_iff.mp hlen.symm).resolve_left (by decide)
      subst this
      exact (if_neg (Nat.not_le_of_lt hg)).symm
    | cons x b =>
      simp only [List.isEmpty_cons, Bool.false_eq_true, if_false]
      by_cases hge : got + (x :: b).length ≥ need
      · rw [if_pos hge, if_pos (Nat.le_trans hge (Nat.add_le_add_left hle _))]
      · rw [if_neg hge, ih' (Nat.lt_of_not_le hge) (Nat.le_of_succ_le_succ
            (Nat.le_trans (Nat.succ_le_succ (ceil_step (by decide) hlen (Nat.succ_pos _))) hr)),
          Nat.add_assoc, Nat.add_sub_cancel' hle]

theorem readBytes_spec (hR : Regular S payload G N) {fuel : Nat} (hf : N + 2 ≤ fuel) (size : Nat)
    (hI : InvAt S payload G N s o cs) :
    (size ≤ payload.length - s.pos →
      ∃ s', readBytes S fuel size s = .ok (s', (payload.drop s.pos).take size)) ∧
    (payload.length - s.pos < size → readBytes S fuel size s = .error (.exc .valueError)) := by
  obtain ⟨s1, o1, cs1, h1, hI1, hp1⟩ := read_nat_spec hR hI hf size
  have hlen := take_drop_length payload s.pos size
  unfold readBytes
  rw [readBytesLoop]
  simp only [List.length_nil, Int.ofNat_zero, Int.sub_zero, h1, List.nil_append]
  generalize (payload.drop s.pos).take size = b at hlen
  rw [← hlen] at hp1
  constructor
  · intro hle
    have hfull : b.length = size := hlen.trans (Nat.min_eq_left hle)
    rw [if_pos (Or.inr hfull), if_neg (fun h => h hfull)]
    exact ⟨s1, rfl⟩
  · intro hlt
    have hshort : b.length = payload.length - s.pos := hlen.trans (Nat.min_eq_right (Nat.le_of_lt hlt))
    have hne : b.length ≠ size := by rw [hshort]; exact Nat.ne_of_lt hlt
    by_cases hz : b.length = 0
    · rw [if_pos (Or.inl hz), if_pos hne]
    · -- some bytes came, but fewer than asked for: the next read is at end of stream and returns b''
      obtain ⟨s2, o2, cs2, h2, _, _⟩ := read_spec hR hI1 hf ((size : Int) - (b.length : Int))
      rw [specRead, List.drop_eq_nil_of_le (by rw [hp1, hshort, Nat.add_sub_of_le hI.pos_le]; exact Nat.le_refl _),
        List.take_nil, ite_self] at h2
      obtain ⟨k, rfl⟩ : ∃ k, size = k + 1 :=
        ⟨size - 1, (Nat.sub_add_cancel (Nat.lt_of_le_of_lt (Nat.zero_le _) hlt)).symm⟩
      rw [if_neg (not_or.mpr ⟨hz, hne⟩), readBytesLoop, h2]
      simp only [List.length_nil, true_or, if_true, List.append_nil]
      exact if_pos hne

end

theorem writeAll_spec {γ : Type} (C : Compressor γ) :
    ∀ (ds : List Bytes) (w : WFile γ), w.mode = .write →
      ∃ w2, WFile.writeAll C w ds = .ok w2 ∧ w2.mode = .write ∧ w2.handed = w.handed ++ ds ∧
        w2.flushes = w.flushes ∧ w2.pos = w.pos + ds.flatten.length ∧
        w2.fp ++ C.flush w2.comp = w.fp ++ C.stream w.comp ds := by
  intro ds
  induction ds with
  | nil => intro w hm; exact ⟨w, rfl, hm, by simp, rfl, by simp, by simp [Compressor.stream]⟩
  | cons d ds ih =>
    intro w hm
    simp only [WFile.writeAll, WFile.write, hm]
    obtain ⟨w2, h1, h2, h3, h4, h5, h6⟩ := ih
      { w with comp := (C.compress w.comp d).1, fp := w.fp ++ (C.compress w.comp d).2,
               pos := w.pos + d.length, handed := w.handed ++ [d] } hm
    simp only [hm] at h1
    refine ⟨w2, h1, h2, by simp [h3], h4, by simp [h5]; omega, ?_⟩
    rw [h6]; simp [Compressor.stream]

/-! ## Source 1: the chunk list -/

theorem chunk_yields (all : List Bytes) : ∀ rest : List Bytes, Yields chunkSource ⟨all, rest⟩ rest
  | [] => Yields.eof rfl
  | _ :: r => Yields.chunk (src' := ⟨all, r⟩) rfl (chunk_yields all r)

theorem chunk_yields_unique {c : ChunkSrc} {l : List Bytes} (h : Yields chunkSource c l) : l = c.rest := by
  induction h with
  | @eof src h => cases hr : src.rest with
    | nil => rfl
    | cons b r => simp only [chunkSource, hr] at h; cases h
  | @chunk src src' b cs h _ ih => cases hr : src.rest with
    | nil => simp only [chunkSource, hr] at h; cases h
    | cons b' r => simp only [chunkSource, hr] at h; cases h; rw [ih]

theorem chunk_regular (chunks : List Bytes) :
    Regular chunkSource chunks.flatten (fun c => c.all = chunks) chunks.length where
  rewind_yields := by
    intro src h
    refine ⟨h, chunks, ?_, rfl, Nat.le_refl _⟩
    have := chunk_yields chunks chunks
    simpa [chunkSource, h] using this
  step_good := by
    intro src b src' h hs
    simp only [chunkSource] at hs
    split at hs
    · cases hs
    · cases hs; exact h

/-- A freshly opened file is what `_rewind` leaves. -/
theorem openChunks_inv (chunks : List Bytes) :
    ∃ cs, InvAt chunkSource chunks.flatten (fun c => c.all = chunks) chunks.length (openChunks chunks) 0 cs :=
  rewind_inv (chunk_regular chunks) (s := openChunks chunks) rfl (Or.inl rfl)

/-! ## Source 2: one loop body over raw blocks (`rawStep`, and `rawStepOld` before the repair) -/

theorem rawStepOld_of_no_unused (c : Codec) (r : RawSrc) (hu : r.dec.unused = []) :
    rawStepOld c r =
      if (r.file.drop r.fpos).take BUFFER_SIZE = [] then .eof
      else
        match r.dec.decompress c ((r.file.drop r.fpos).take BUFFER_SIZE) with
        | none => .err .zlibError
        | some (d', out) =>
          .chunk out { r with fpos := r.fpos + ((r.file.drop r.fpos).take BUFFER_SIZE).length, dec := d' } := by
  unfold rawStepOld
  rw [if_neg (fun h => h hu)]
  rfl

theorem rawStepOld_of_unused (c : Codec) (r : RawSrc) (hu : r.dec.unused ≠ []) :
    rawStepOld c r =
      match r.dec.decompress c r.dec.unused with
      | none => .err .zlibError
      | some (d', out) => .chunk out { r with dec := d' } := by
  unfold rawStepOld
  rw [if_pos hu]
  exact if_neg hu

theorem decompress_of_inflate (c : Codec) {d : Decomp} {x o : Bytes} {e : Option Nat} (he : d.eof = false)
    (hi : c.inflate (d.fed ++ x) = some (o, e)) :
    d.decompress c x =
      some (⟨d.fed ++ x, o.length, e.isSome, e.elim [] fun k => (d.fed ++ x).drop k⟩, o.drop d.outLen) := by
  unfold Decomp.decompress
  rw [he, if_neg Bool.false_ne_true, hi]
  cases e <;> rfl

theorem decompress_wf (c : Codec) (d d' : Decomp) (x out : Bytes)
    (h : d.decompress c x = some (d', out)) : d'.WF := by
  unfold Decomp.decompress at h
  intro he
  split at h
  · rename_i hd; cases h; rw [hd] at he; cases he
  · split at h
    · cases h
    · split at h <;> cases h
      · rfl
      · cases he

theorem blocksLeft_read (r : RawSrc) (d : Decomp) (h : (r.file.drop r.fpos).take BUFFER_SIZE ≠ []) :
    blocksLeft { r with fpos := r.fpos + ((r.file.drop r.fpos).take BUFFER_SIZE).length, dec := d } + 1
      ≤ blocksLeft r := by
  have hpos := List.length_pos_iff.mpr h
  rw [take_drop_length] at hpos ⊢
  show (r.file.length - (r.fpos + _) + (BUFFER_SIZE - 1)) / BUFFER_SIZE + 1 ≤ _
  rw [Nat.sub_add_eq]
  exact ceil_step (by decide) rfl hpos

theorem rawStep_of_not_eof (c : Codec) (r : RawSrc) (he : r.dec.eof = false) : rawStep c r = rawStepOld c r := by
  rw [rawStep, he, if_neg Bool.false_ne_true]

theorem rawStep_chunk_blocks (c : Codec) (r r' : RawSrc) (b : Bytes) (hwf : r.dec.WF)
    (h : rawStep c r = .chunk b r') : blocksLeft r' + 1 ≤ blocksLeft r ∧ r'.dec.WF := by
  cases he : r.dec.eof with
  | true => rw [rawStep, he, if_pos rfl] at h; cases h
  | false =>
    rw [rawStep_of_not_eof c r he, rawStepOld_of_no_unused c r (hwf he)] at h
    split at h
    · cases h
    · rename_i hne
      split at h
      · cases h
      · rename_i d' out hd
        cases h
        exact ⟨blocksLeft_read r d' hne, decompress_wf c _ _ _ _ hd⟩

/-- The loop body before the repair (finding F7) is caught once the decompressor has seen the end of the stream and holds
unused data: it feeds `unused_data` back, gets `b''`, and is in the same situation with `unused_data` doubled. -/
theorem rawStepOld_stuck (c : Codec) (r : RawSrc) (h : r.dec.eof = true ∧ r.dec.unused ≠ []) :
    ∃ r', (rawSourceOld c).step r = .chunk [] r' ∧ (r'.dec.eof = true ∧ r'.dec.unused ≠ []) :=
  ⟨⟨r.file, r.fpos, ⟨r.dec.fed, r.dec.outLen, true, r.dec.unused ++ r.dec.unused⟩⟩,
    by show rawStepOld c r = _; rw [rawStepOld_of_unused c _ h.2, Decomp.decompress, h.1, if_pos rfl],
    rfl, fun h' => h.2 (List.append_eq_nil_iff.mp h').1⟩

/-- The codec on the file `f` (explicit hypothesis, CPython's zlib is not verified): no prefix of `f` is
rejected; `out k` is everything decodable from the first `k` bytes, growing monotonically; `E` is the offset
just after the end-of-stream marker if `f` contains one, and nothing more comes out after it. -/
structure StreamLaw (c : Codec) (f : Bytes) (E : Option Nat) (out : Nat → Bytes) : Prop where
  inflate_eq : ∀ k, k ≤ f.length →
    c.inflate (f.take k) = some (out k, E.filter (fun e => decide (e ≤ k)))
  mono : ∀ k k', k ≤ k' → k' ≤ f.length → out k <+: out k'
  out_zero : out 0 = []
  stable : ∀ e k, E = some e → e ≤ k → k ≤ f.length → out k = out e
  eof_pos : ∀ e, E = some e → 0 < e ∧ e ≤ f.length

/-- The invariant of the raw-block source on the file `f` under `StreamLaw`: the decompressor has been fed the first
`fpos` bytes, and has seen the end of the stream exactly when `fpos` is past the marker. -/
structure RawGood (f : Bytes) (E : Option Nat) (out : Nat → Bytes) (r : RawSrc) : Prop where
  file : r.file = f
  fpos_le : r.fpos ≤ f.length
  fed : r.dec.fed = f.take r.fpos
  outLen : r.dec.outLen = (out r.fpos).length
  noeof : r.dec.eof = false → r.dec.unused = [] ∧ ∀ e, E = some e → r.fpos < e
  ateof : r.dec.eof = true → ∃ e, E = some e ∧ e ≤ r.fpos

section
variable {c : Codec} {f : Bytes} {E : Option Nat} {out : Nat → Bytes} {raw p : Bytes}

theorem RawGood.wf {r : RawSrc} (hg : RawGood f E out r) :
    r.dec.WF := fun he => (hg.noeof he).1

theorem eof_within (E : Option Nat) (n : Nat) :
    (E.filter (fun e => decide (e ≤ n)) = none ∧ ∀ e, E = some e → n < e) ∨
    (∃ e, E.filter (fun e => decide (e ≤ n)) = some e ∧ E = some e ∧ e ≤ n) := by
  cases E with
  | none => exact Or.inl ⟨rfl, nofun⟩
  | some e =>
    by_cases h : e ≤ n
    · exact Or.inr ⟨e, by rw [Option.filter_some, if_pos (decide_eq_true h)], rfl, h⟩
    · exact Or.inl ⟨by rw [Option.filter_some, if_neg (by rw [decide_eq_false h]; nofun)],
        fun e' he' => by cases he'; exact Nat.lt_of_not_le h⟩

theorem rawStep_good (law : StreamLaw c f E out) (r : RawSrc) (hg : RawGood f E out r) :
    (rawStep c r = .eof ∧ out r.fpos = out f.length) ∨
    (∃ b r', rawStep c r = .chunk b r' ∧ RawGood f E out r' ∧ out r.fpos ++ b = out r'.fpos) := by
  cases he : r.dec.eof with
  | true =>
    obtain ⟨e, h1, h2⟩ := hg.ateof he
    exact Or.inl ⟨by rw [rawStep, he, if_pos rfl],
      by rw [law.stable e r.fpos h1 h2 hg.fpos_le, law.stable e f.length h1 (law.eof_pos e h1).2 (Nat.le_refl _)]⟩
  | false =>
    rw [rawStep_of_not_eof c r he, rawStepOld_of_no_unused c r (hg.wf he), hg.file]
    have hlen := take_drop_length f r.fpos BUFFER_SIZE
    have hfp := hg.fpos_le
    by_cases hB : (f.drop r.fpos).take BUFFER_SIZE = []
    · rw [if_pos hB]
      rw [hB, List.length_nil, BUFFER_SIZE] at hlen
      exact Or.inl ⟨rfl, by rw [show r.fpos = f.length by omega]⟩
    · rw [if_neg hB]
      have hfed : r.dec.fed ++ (f.drop r.fpos).take BUFFER_SIZE
          = f.take (r.fpos + ((f.drop r.fpos).take BUFFER_SIZE).length) := by
        rw [hg.fed, List.take_add, List.length_take, ← List.take_take, List.take_length]
      generalize (f.drop r.fpos).take BUFFER_SIZE = x at hlen hfed
      have hfp' : r.fpos + x.length ≤ f.length := by rw [hlen]; omega
      have hinf := law.inflate_eq _ hfp'
      have happ := List.prefix_iff_eq_append.mp (law.mono r.fpos _ (Nat.le_add_right _ _) hfp')
      rw [← hg.outLen] at happ
      rw [← hfed] at hinf
      right
      rcases eof_within E (r.fpos + x.length) with ⟨hF, hlt⟩ | ⟨e, hF, hEe, hle⟩
      · rw [hF] at hinf
        rw [decompress_of_inflate c he hinf]
        exact ⟨_, _, rfl,
          { file := rfl, fpos_le := hfp', fed := hfed, outLen := rfl
            noeof := fun _ => ⟨rfl, hlt⟩, ateof := nofun }, happ⟩
      · rw [hF] at hinf
        rw [decompress_of_inflate c he hinf]
        exact ⟨_, _, rfl,
          { file := rfl, fpos_le := hfp', fed := hfed, outLen := rfl
            noeof := nofun, ateof := fun _ => ⟨e, hEe, hle⟩ }, happ⟩

theorem raw_yields (law : StreamLaw c f E out) (r : RawSrc) (hg : RawGood f E out r) :
    ∃ cs, Yields (rawSource c) r cs ∧ out r.fpos ++ cs.flatten = out f.length ∧ cs.length ≤ blocksLeft r := by
  induction hn : blocksLeft r using Nat.strongRecOn generalizing r with
  | _ n ih =>
    subst hn
    rcases rawStep_good law r hg with ⟨h1, h2⟩ | ⟨b, r', h1, h2, h3⟩
    · exact ⟨[], Yields.eof h1, by rw [List.flatten_nil, List.append_nil, h2], Nat.zero_le _⟩
    · have h4 := (rawStep_chunk_blocks c r r' b hg.wf h1).1
      obtain ⟨cs, g1, g2, g3⟩ := ih _ h4 r' h2 rfl
      refine ⟨b :: cs, Yields.chunk h1 g1, ?_, by rw [List.length_cons]; omega⟩
      rw [List.flatten_cons, ← List.append_assoc, h3, g2]

theorem rawGood_rewind (law : StreamLaw c f E out) (r : RawSrc) (hf : r.file = f) :
    RawGood f E out (rawRewind r) where
  file := hf
  fpos_le := Nat.zero_le _
  fed := rfl
  outLen := (congrArg List.length law.out_zero).symm
  noeof := fun _ => ⟨rfl, fun e h => (law.eof_pos e h).1⟩
  ateof := fun h => Bool.noConfusion h

/-- Chunks the file can be spread over: at most one per raw block. -/
def rawBound (f : Bytes) : Nat := f.length / BUFFER_SIZE + 1

theorem raw_regular (law : StreamLaw c f E out) :
    Regular (rawSource c) (out f.length) (RawGood f E out) (rawBound f) where
  rewind_yields := by
    intro src hg
    have hg' := rawGood_rewind law src hg.file
    obtain ⟨cs, h1, h2, h3⟩ := raw_yields law _ hg'
    have h2' : out 0 ++ cs.flatten = out f.length := h2
    rw [law.out_zero] at h2'
    refine ⟨hg', cs, h1, h2', Nat.le_trans h3 ?_⟩
    simp only [blocksLeft, rawRewind, rawBound, hg.file, BUFFER_SIZE]
    omega
  step_good := by
    intro src b src' hg hs
    have hs' : rawStep c src = .chunk b src' := hs
    rcases rawStep_good law src hg with ⟨h1, _⟩ | ⟨b0, r0, h1, h2, _⟩
    · rw [h1] at hs'; cases hs'
    · rw [h1] at hs'; cases hs'; exact h2

theorem openRaw_inv (law : StreamLaw c f E out) :
    ∃ cs, InvAt (rawSource c) (out f.length) (RawGood f E out) (rawBound f) (openRaw f) 0 cs :=
  rewind_inv (raw_regular law) (s := openRaw f) (rawGood_rewind law ⟨f, 0, .fresh⟩ rfl) (Or.inl rfl)

theorem raw_runOps (law : StreamLaw c f E out)
    {P : Bytes} (hP : out f.length = P) {fuel : Nat} (hf : rawBound f + P.length + 2 ≤ fuel)
    (ops : List Op) (pos' : Nat) (outs : List Out) (hspec : Spec.run P 0 ops = some (pos', outs)) :
    (runOps (rawSource c) fuel (openRaw f) ops).2 = outs ∧
    (runOps (rawSource c) fuel (openRaw f) ops).1.pos = pos' := by
  subst hP
  obtain ⟨cs, hI⟩ := openRaw_inv law
  obtain ⟨s', _, _, h1, _, h3⟩ := runOps_refines (raw_regular law) hf ops _ 0 cs pos' outs hI hspec
  rw [h1]; exact ⟨rfl, h3⟩

theorem raw_read_all (law : StreamLaw c f E out)
    {P : Bytes} (hP : out f.length = P) {fuel : Nat} (hf : rawBound f + 2 ≤ fuel) :
    ∃ s', read (rawSource c) fuel (-1) (openRaw f) = .ok (s', P) := by
  subst hP
  obtain ⟨cs, hI⟩ := openRaw_inv law
  obtain ⟨s', _, _, h1, _⟩ := read_spec (raw_regular law) hI hf (-1)
  exact ⟨s', h1⟩

/-- The codec law for a VALID file `raw` of payload `p` (explicit hypothesis): every strict prefix decodes
without error to `out k`, monotonically, without reporting end of stream; the whole file — also when followed
by arbitrary bytes `t` — decodes to `p` and reports the end of the stream at `|raw|`. -/
structure ValidFile (c : Codec) (raw p : Bytes) (out : Nat → Bytes) : Prop where
  prefix_ok : ∀ k, k < raw.length → c.inflate (raw.take k) = some (out k, none)
  whole : ∀ t, c.inflate (raw ++ t) = some (p, some raw.length)
  mono : ∀ k k', k ≤ k' → k' ≤ raw.length → out k <+: out k'
  out_zero : out 0 = []
  out_whole : out raw.length = p
  nonempty : 0 < raw.length

theorem trunc_law (hv : ValidFile c raw p out)
    (k : Nat) (hk : k < raw.length) : StreamLaw c (raw.take k) none out := by
  have hl : (raw.take k).length = k := List.length_take_of_le (Nat.le_of_lt hk)
  exact {
    inflate_eq := fun j hj => by
      rw [hl] at hj
      rw [List.take_take, Nat.min_eq_left hj, hv.prefix_ok j (Nat.lt_of_le_of_lt hj hk)]; rfl
    mono := fun a b hab hb => hv.mono a b hab (by rw [hl] at hb; exact Nat.le_trans hb (Nat.le_of_lt hk))
    out_zero := hv.out_zero
    stable := nofun
    eof_pos := nofun }

theorem trail_law (hv : ValidFile c raw p out)
    (t : Bytes) :
    StreamLaw c (raw ++ t) (some raw.length) (fun j => if j < raw.length then out j else p) where
  inflate_eq := by
    intro j hj
    rw [Option.filter_some]
    by_cases hlt : j < raw.length
    · rw [List.take_append_of_le_length (Nat.le_of_lt hlt), hv.prefix_ok j hlt, if_pos hlt,
        if_neg (by rw [decide_eq_false (Nat.not_le_of_lt hlt)]; nofun)]
    · rw [List.take_append, List.take_of_length_le (Nat.le_of_not_lt hlt), hv.whole, if_neg hlt,
        if_pos (decide_eq_true (Nat.le_of_not_lt hlt))]
  mono := by
    intro a b hab hb
    by_cases h1 : b < raw.length
    · rw [if_pos h1, if_pos (Nat.lt_of_le_of_lt hab h1)]
      exact hv.mono a b hab (Nat.le_of_lt h1)
    · rw [if_neg h1]
      split
      · exact hv.out_whole ▸ hv.mono a raw.length (Nat.le_of_lt ‹_›) (Nat.le_refl _)
      · exact List.prefix_refl _
  out_zero := by rw [if_pos hv.nonempty, hv.out_zero]
  stable := by
    intro e k he hk _
    cases he
    rw [if_neg (Nat.not_lt.mpr hk), if_neg (Nat.lt_irrefl _)]
  eof_pos := by
    intro e he
    cases he
    exact ⟨hv.nonempty, List.length_append ▸ Nat.le_add_right _ _⟩

theorem old_readAll_diverges (hv : ValidFile c raw p out)
    (t : Bytes) (ht : t ≠ []) (hlen : (raw ++ t).length ≤ BUFFER_SIZE) :
    ∀ fuel, readAll (rawSourceOld c) fuel (openRaw (raw ++ t)) = .error .outOfFuel := by
  intro fuel
  cases fuel with
  | zero => rfl
  | succ k =>
    -- the first `_fill_buffer` reads the whole file as one raw block
    have hstep : (rawSourceOld c).step ⟨raw ++ t, 0, .fresh⟩ =
        .chunk p ⟨raw ++ t, (raw ++ t).length, ⟨raw ++ t, p.length, true, t⟩⟩ := by
      show rawStepOld c ⟨raw ++ t, 0, .fresh⟩ = _
      rw [rawStepOld_of_no_unused c _ rfl, show ((raw ++ t).drop 0).take BUFFER_SIZE = raw ++ t from
        List.take_of_length_le hlen, if_neg (fun h => ht (List.append_eq_nil_iff.mp h).2),
        decompress_of_inflate c rfl (hv.whole t)]
      simp [Decomp.fresh]
    have h0 : readAll (rawSourceOld c) (k + 1) (openRaw (raw ++ t)) = readAllLoop (rawSourceOld c) (k + 1) (k + 1)
        ⟨.read, 0, -1, [], 0, ⟨raw ++ t, 0, .fresh⟩⟩ [] := rfl
    rw [h0, readAllLoop, fillBuffer, if_neg (show ¬ Mode.read = Mode.readEof by decide), fillLoop_succ k rfl, hstep]
    simp only
    by_cases hp : p = []
    · rw [fillLoop_diverges _ (rawStepOld_stuck c) k _ (by rw [hp]; rfl) ⟨rfl, ht⟩]
    · rw [fillLoop_of_ne k (fun h => hp (List.eq_nil_of_length_eq_zero (Int.ofNat_inj.mp h.symm)))]
      exact readAllLoop_diverges _ (rawStepOld_stuck c) _ k _ _ rfl rfl ⟨rfl, ht⟩

end

end JoblibModel.ZlibFile
