import JoblibProofs.Lemmas.ParallelProto.Inv
/-!
Preservation of `InvT` (trackers and queues) by the elementary updates of the protocol. `InvT_congr` says what `InvT`
reads of a state; the other lemmas only constrain those fields (or speak of the state with just that update), so they
apply whatever happens to the log, the clock, the schedule.
-/
namespace JoblibModel.ParallelProto

theorem mem_eraseIdx_of_nodup {l : List Nat} {k i : Nat} (hn : l.Nodup) (hk : l[k]? = some i) (j : Nat) :
    (j ∈ l ↔ (j ∈ l.eraseIdx k ∨ j = i)) ∧ i ∉ l.eraseIdx k := by
  have hlt : k < l.length := (List.getElem?_eq_some_iff.1 hk).1
  simp only [List.mem_eraseIdx_iff_getElem?]
  refine ⟨⟨fun hj => ?_, ?_⟩, ?_⟩
  · obtain ⟨m, hm⟩ := List.getElem?_of_mem hj
    by_cases e : m = k
    · subst e; exact .inr (Option.some.inj (hm.symm.trans hk))
    · exact .inl ⟨m, e, hm⟩
  · rintro (⟨m, _, hm⟩ | rfl)
    · exact List.mem_of_getElem? hm
    · exact List.mem_of_getElem? hk
  · rintro ⟨m, hne, hm⟩
    exact hne ((List.getElem?_inj hlt hn).1 (hk.trans hm.symm)).symm

/-- `InvT` reads the tracker table only through `callId`, `status`, `items`, `bsize` of each tracker, and through
`result` for the queued jobs. -/
theorem InvT_congr {c : Cfg} {t0 : Nat} {hole : Option Nat} {s s' : St} (h : InvT c t0 hole s)
    (hlen : s'.trk.length = s.trk.length)
    (hgc : ∀ j, (getTrk s' j).callId = (getTrk s j).callId)
    (hgs : ∀ j, (getTrk s' j).status = (getTrk s j).status)
    (hgi : ∀ j, (getTrk s' j).items = (getTrk s j).items)
    (hgb : ∀ j, (getTrk s' j).bsize = (getTrk s j).bsize)
    (hgr : ∀ j ∈ s.jobs, (getTrk s' j).result = (getTrk s j).result)
    (hjobs : s'.jobs = s.jobs) (hparked : s'.parked = s.parked)
    (hcid : s'.callId = s.callId) (hab : s'.aborting = s.aborting) (hexc : s'.exception = s.exception)
    (h1 : s'.failIds = s.failIds) (h2 : s'.base = s.base) (h3 : s'.spec = s.spec) :
    InvT c t0 hole s' := by
  refine {
    t0_le := hlen ▸ h.t0_le, callId_pos := hcid ▸ h.callId_pos
    stale := fun i hi => by rw [hgc, hcid]; exact h.stale i hi
    ownId := fun i hi hi' => by rw [hgc, hcid]; exact h.ownId i hi (hlen ▸ hi')
    parked_lt := by rw [hparked, hlen]; exact h.parked_lt
    parked_nodup := hparked ▸ h.parked_nodup, hole_notin := hparked ▸ h.hole_notin
    parked_pending := fun hab' i hi hi' => by rw [hgs, hparked]; exact h.parked_pending (hab ▸ hab') i hi (hlen ▸ hi')
    items_ok := fun i hi hi' => by rw [hgs, hgi, hgb]; exact h.items_ok i hi (hlen ▸ hi')
    no_error := fun hab' i hi hi' => by rw [hgs]; exact h.no_error (hab ▸ hab') i hi (hlen ▸ hi')
    abort_exc := by rw [hexc, hab]; exact h.abort_exc
    abort_err := fun hab' => by
      obtain ⟨i, hi, hs⟩ := h.abort_err (hab ▸ hab')
      exact ⟨i, hjobs ▸ hi, (hgs i).trans hs⟩
    tok := fun i hi => by
      have hi' : i ∈ s.jobs := hjobs ▸ hi
      have := h.tok i hi'
      simp only [TOK, hgs, hgi, hgr i hi', Legit_congr h1 h2 h3] at this ⊢
      exact this
    jobs_own := by rw [hjobs, hlen]; exact h.jobs_own
    ord_jobs := fun ho => by
      obtain ⟨p, p1, p2, p3, p4⟩ := h.ord_jobs ho
      exact ⟨p, p1, hlen ▸ p2, by rw [hjobs, hlen]; exact p3, fun i hi hi' => by rw [hgs]; exact p4 i hi hi'⟩ }

/-- The frame lemma of `InvT`: everything `InvT` reads is the same term in both states (`InvT_same h rfl`).  Likewise
`InvS_same`, `InvL_same`, `InvB_same`. -/
theorem InvT_same {c : Cfg} {t0 : Nat} {hole : Option Nat} {s s' : St} (h : InvT c t0 hole s)
    (e : (s'.trk, s'.jobs, s'.parked, s'.callId, s'.aborting, s'.exception, s'.failIds, s'.base, s'.spec) =
      (s.trk, s.jobs, s.parked, s.callId, s.aborting, s.exception, s.failIds, s.base, s.spec)) : InvT c t0 hole s' := by
  simp only [Prod.mk.injEq] at e
  obtain ⟨htrk, h2, h3, h4, h5, h6, h7, h8, h9⟩ := e
  have hg := getTrk_same htrk
  exact InvT_congr h (by rw [htrk]) (fun j => by rw [hg]) (fun j => by rw [hg]) (fun j => by rw [hg])
    (fun j => by rw [hg]) (fun j _ => by rw [hg]) h2 h3 h4 h5 h6 h7 h8 h9

theorem InvT_set_same {c : Cfg} {t0 : Nat} {hole : Option Nat} {s s' : St} {i : Nat} {t : Tracker}
    (h : InvT c t0 hole s)
    (ht : t.items = (getTrk s i).items ∧ t.bsize = (getTrk s i).bsize ∧ t.callId = (getTrk s i).callId ∧
          t.status = (getTrk s i).status)
    (hres : i ∈ s.jobs → t.result = (getTrk s i).result)
    (htrk : s'.trk = s.trk.set i t)
    (hjobs : s'.jobs = s.jobs) (hparked : s'.parked = s.parked)
    (hcid : s'.callId = s.callId) (hab : s'.aborting = s.aborting) (hexc : s'.exception = s.exception)
    (h1 : s'.failIds = s.failIds) (h2 : s'.base = s.base) (h3 : s'.spec = s.spec) :
    InvT c t0 hole s' :=
  InvT_congr h (by rw [htrk, List.length_set]) (getTrk_set_proj (·.callId) htrk ht.2.2.1)
    (getTrk_set_proj (·.status) htrk ht.2.2.2) (getTrk_set_proj (·.items) htrk ht.1)
    (getTrk_set_proj (·.bsize) htrk ht.2.1)
    (fun j hj => by
      by_cases hij : i = j
      · exact getTrk_set_proj (·.result) htrk (hres (hij ▸ hj)) j
      · rw [getTrk_set_ne htrk hij])
    hjobs hparked hcid hab hexc h1 h2 h3

/-- The backend takes parked batch number `k` (tracker `i`) to complete it. -/
theorem InvT_erase {c : Cfg} {t0 : Nat} {s : St} {k i : Nat} (h : InvT c t0 none s)
    (hk : s.parked[k]? = some i) : InvT c t0 (some i) { s with parked := s.parked.eraseIdx k } := by
  have hm := mem_eraseIdx_of_nodup h.parked_nodup hk
  refine { h with
    parked_lt := fun j hj => h.parked_lt j ((hm j).1.mpr (Or.inl hj)), parked_nodup := h.parked_nodup.eraseIdx k
    hole_notin := fun x hx => ?_, parked_pending := fun hab j hj hj' => ?_ }
  · cases hx; exact (hm 0).2
  · show (getTrk s j).status = .pending ↔ (j ∈ s.parked.eraseIdx k ∨ some i = some j)
    rw [h.parked_pending hab j hj hj', (hm j).1]; simp [eq_comm]

/-- A stale callback, or a callback arriving while the call is aborting, returns at its guard. -/
theorem InvT_hole_drop {c : Cfg} {t0 : Nat} {s : St} {i : Nat} (h : InvT c t0 (some i) s)
    (hs : s.aborting = true ∨ ¬ (t0 ≤ i ∧ i < s.trk.length)) : InvT c t0 none s := by
  refine { h with hole_notin := by simp, parked_pending := fun hab j hj hj' => ?_ }
  rw [h.parked_pending hab j hj hj']
  rcases hs with hs | hs
  · rw [hab] at hs; simp at hs
  · have : i ≠ j := by intro hij; subst hij; exact hs ⟨hj, hj'⟩
    simp [this]

theorem ord_jobs_push {t0 : Nat} {s s' : St} {t : Tracker} (htrk : s'.trk = s.trk ++ [t])
    (hjobs : s'.jobs = s.jobs ++ [s.trk.length])
    (h : ∃ p, t0 ≤ p ∧ p ≤ s.trk.length ∧ s.jobs = List.range' p (s.trk.length - p) ∧
      ∀ i, t0 ≤ i → i < p → (getTrk s i).status ≠ .pending) :
    ∃ p, t0 ≤ p ∧ p ≤ s'.trk.length ∧ s'.jobs = List.range' p (s'.trk.length - p) ∧
      ∀ i, t0 ≤ i → i < p → (getTrk s' i).status ≠ .pending := by
  obtain ⟨p, p1, p2, p3, p4⟩ := h
  have hlen : s'.trk.length = s.trk.length + 1 := by rw [htrk, List.length_append]; rfl
  refine ⟨p, p1, by omega, ?_, fun i hi hi' => by rw [getTrk_push_lt htrk (by omega)]; exact p4 i hi hi'⟩
  rw [hjobs, hlen, p3, show s.trk.length + 1 - p = (s.trk.length - p) + 1 by omega, List.range'_concat]
  congr 2; omega

/-- `_dispatch`: a new pending tracker is registered and parked. -/
theorem InvT_push {c : Cfg} {t0 : Nat} {s s' : St} (h : InvT c t0 none s) {b : List Nat} (hb : b ≠ [])
    (hna : s.aborting = false)
    (htrk : s'.trk = s.trk ++ [newTrk s b])
    (hjobs : s'.jobs = if ordered c then s.jobs ++ [s.trk.length] else s.jobs)
    (hparked : s'.parked = s.parked ++ [s.trk.length])
    (hcid : s'.callId = s.callId) (hab : s'.aborting = s.aborting) (hexc : s'.exception = s.exception)
    (h1 : s'.failIds = s.failIds) (h2 : s'.base = s.base) (h3 : s'.spec = s.spec) :
    InvT c t0 none s' := by
  have hlen : s'.trk.length = s.trk.length + 1 := by rw [htrk, List.length_append]; rfl
  have hold : ∀ {i}, i < s.trk.length → getTrk s' i = getTrk s i := getTrk_push_lt htrk
  have hnew : getTrk s' s.trk.length = newTrk s b := getTrk_push_self htrk
  have ht0 := h.t0_le
  have hjm : ∀ i ∈ s'.jobs, i ∈ s.jobs ∨ i = s.trk.length := by
    intro i hi; rw [hjobs] at hi; split at hi
    · exact (List.mem_append.mp hi).imp_right List.eq_of_mem_singleton
    · exact Or.inl hi
  have hcase : ∀ i, i < s'.trk.length → i < s.trk.length ∨ i = s.trk.length := fun i hi => by omega
  refine {
    t0_le := (by omega), callId_pos := hcid ▸ h.callId_pos, stale := fun i hi => ?_, ownId := fun i hi hi' => ?_
    parked_lt := fun i hi => ?_, parked_nodup := ?_, hole_notin := fun _ hx => (nomatch hx)
    parked_pending := fun _ i hi hi' => ?_, items_ok := fun i hi hi' _ => ?_, no_error := fun _ i hi hi' => ?_
    abort_exc := (by rw [hexc, hab]; exact h.abort_exc), abort_err := fun hab' => (by rw [hab, hna] at hab'; cases hab')
    tok := fun i hi => ?_, jobs_own := fun i hi => ?_
    ord_jobs := fun ho => ord_jobs_push htrk (by rw [hjobs, if_pos ho]) (h.ord_jobs ho) }
  · rw [hold (by omega), hcid]; exact h.stale i hi
  · rw [hcid]
    rcases hcase i hi' with hlt | rfl
    · rw [hold hlt]; exact h.ownId i hi hlt
    · rw [hnew]; rfl
  · rw [hparked] at hi
    rcases List.mem_append.mp hi with hi | hi
    · have := h.parked_lt i hi; omega
    · rw [List.eq_of_mem_singleton hi]; omega
  · rw [hparked, List.nodup_append]
    exact ⟨h.parked_nodup, by simp, fun a ha b hb => by
      rw [List.eq_of_mem_singleton hb]; exact Nat.ne_of_lt (h.parked_lt a ha)⟩
  · rw [hparked]
    rcases hcase i hi' with hlt | rfl
    · rw [hold hlt, h.parked_pending hna i hi hlt]; simp [Nat.ne_of_lt hlt]
    · rw [hnew]; simp [newTrk]
  · rcases hcase i hi' with hlt | rfl
    · rw [hold hlt]; exact h.items_ok i hi hlt (h.no_error hna i hi hlt)
    · rw [hnew]; exact ⟨hb, rfl⟩
  · rcases hcase i hi' with hlt | rfl
    · rw [hold hlt]; exact h.no_error hna i hi hlt
    · rw [hnew]; exact fun hh => nomatch hh
  · rcases hjm i hi with hi | rfl
    · rw [TOK_congr (hold (h.jobs_own i hi).2) h1 h2 h3]; exact h.tok i hi
    · simp [TOK, hnew, newTrk]
  · rcases hjm i hi with hi | rfl
    · have := h.jobs_own i hi; omega
    · omega

/-- The input iterable raised: a tracker carrying the error is registered (`items = []`), the call aborts. -/
theorem InvT_pushErr {c : Cfg} {t0 : Nat} {s s' : St} (h : InvT c t0 none s) {bs : Nat} {e : Exc}
    (he : Legit c s e)
    (htrk : s'.trk = s.trk ++ [{ errTrk s bs with status := .error, result := .exc e }])
    (hjobs : s'.jobs = s.jobs ++ [s.trk.length])
    (hparked : s'.parked = s.parked)
    (hcid : s'.callId = s.callId) (hab : s'.aborting = true) (hexc : s'.exception = true)
    (h1 : s'.failIds = s.failIds) (h2 : s'.base = s.base) (h3 : s'.spec = s.spec) :
    InvT c t0 none s' := by
  have hlen : s'.trk.length = s.trk.length + 1 := by rw [htrk, List.length_append]; rfl
  have hold : ∀ {i}, i < s.trk.length → getTrk s' i = getTrk s i := getTrk_push_lt htrk
  have hnew := getTrk_push_self htrk
  have ht0 := h.t0_le
  have hjm : ∀ i ∈ s'.jobs, i ∈ s.jobs ∨ i = s.trk.length := fun i hi =>
    (List.mem_append.mp (hjobs ▸ hi)).imp_right List.eq_of_mem_singleton
  have hcase : ∀ i, i < s'.trk.length → i < s.trk.length ∨ i = s.trk.length := fun i hi => by omega
  have habs : s'.aborting = false → False := fun hh => by rw [hab] at hh; cases hh
  refine {
    t0_le := (by omega), callId_pos := hcid ▸ h.callId_pos, stale := fun i hi => ?_, ownId := fun i hi hi' => ?_
    parked_lt := fun i hi => ?_, parked_nodup := hparked ▸ h.parked_nodup, hole_notin := fun _ hx => (nomatch hx)
    parked_pending := fun hh => (habs hh).elim, items_ok := fun i hi hi' hne => ?_
    no_error := fun hh => (habs hh).elim, abort_exc := by rw [hexc, hab]
    abort_err := fun _ => ⟨s.trk.length, (by rw [hjobs]; simp), (by rw [hnew])⟩, tok := fun i hi => ?_
    jobs_own := fun i hi => ?_, ord_jobs := fun _ => ord_jobs_push htrk hjobs (h.ord_jobs ‹_›) }
  · rw [hold (by omega), hcid]; exact h.stale i hi
  · rw [hcid]
    rcases hcase i hi' with hlt | rfl
    · rw [hold hlt]; exact h.ownId i hi hlt
    · rw [hnew]; rfl
  · have := h.parked_lt i (hparked ▸ hi); omega
  · rcases hcase i hi' with hlt | rfl
    · rw [hold hlt] at hne ⊢; exact h.items_ok i hi hlt hne
    · rw [hnew] at hne; exact absurd rfl hne
  · rcases hjm i hi with hi | rfl
    · rw [TOK_congr (hold (h.jobs_own i hi).2) h1 h2 h3]; exact h.tok i hi
    · rw [TOK, hnew]
      exact ⟨fun hh => (nomatch hh), fun _ => ⟨e, rfl, (Legit_congr h1 h2 h3 e).mpr he⟩⟩
  · rcases hjm i hi with hi | rfl
    · have := h.jobs_own i hi; omega
    · omega

theorem InvT_register {c : Cfg} {t0 : Nat} {hole : Option Nat} {s s' : St} {i : Nat} {st : Status} {r : Res}
    (h : InvT c t0 hole s) (hi0 : t0 ≤ i) (hi1 : i < s.trk.length) (hp : (getTrk s i).status = .pending)
    (hdone : st = .done → hole = some i ∧ s.aborting = false ∧ r = .vals (getTrk s i).items)
    (herr : st = .error → ∃ e, r = .exc e ∧ Legit c s e) (hst : st ≠ .pending)
    (htrk : s'.trk = s.trk.set i { getTrk s i with status := st, result := r })
    (hjobs : s'.jobs = if ordered c then s.jobs else s.jobs ++ [i])
    (hparked : s'.parked = s.parked) (hcid : s'.callId = s.callId)
    (hab : s'.aborting = if st = .error then true else s.aborting)
    (hexc : s'.exception = if st = .error then true else s.exception)
    (h1 : s'.failIds = s.failIds) (h2 : s'.base = s.base) (h3 : s'.spec = s.spec) :
    InvT c t0 none s' := by
  have hlen : s'.trk.length = s.trk.length := by rw [htrk, List.length_set]
  have hne : ∀ {j}, i ≠ j → getTrk s' j = getTrk s j := getTrk_set_ne htrk
  have hself := getTrk_set_self htrk hi1
  have hgc := getTrk_set_proj (·.callId) htrk rfl
  have hgi := getTrk_set_proj (·.items) htrk rfl
  have hgb := getTrk_set_proj (·.bsize) htrk rfl
  have hjm : ∀ j ∈ s'.jobs, j ∈ s.jobs ∨ j = i := by
    intro j hj; rw [hjobs] at hj; split at hj
    · exact Or.inl hj
    · exact (List.mem_append.mp hj).imp_right List.eq_of_mem_singleton
  -- the queue holds `i` afterwards: in ordered modes it has been there since `_dispatch`
  have hmem : i ∈ s'.jobs := by
    rw [hjobs]; split
    · next ho =>
      obtain ⟨p, _, _, p3, p4⟩ := h.ord_jobs ho
      rw [p3, List.mem_range'_1]
      have : ¬ i < p := fun hlt => p4 i hi0 hlt hp
      omega
    · simp
  refine {
    t0_le := hlen ▸ h.t0_le, callId_pos := hcid ▸ h.callId_pos
    stale := fun j hj => by rw [hgc, hcid]; exact h.stale j hj
    ownId := fun j hj hj' => by rw [hgc, hcid]; exact h.ownId j hj (hlen ▸ hj')
    parked_lt := by rw [hparked, hlen]; exact h.parked_lt
    parked_nodup := hparked ▸ h.parked_nodup, hole_notin := fun _ hx => (nomatch hx)
    parked_pending := fun hab' j hj hj' => ?_, items_ok := fun j hj hj' hne' => ?_, no_error := fun hab' j hj hj' => ?_
    abort_exc := ?_, abort_err := fun hab' => ?_, tok := fun j hj => ?_, jobs_own := fun j hj => ?_
    ord_jobs := fun ho => ?_ }
  · -- `parked_pending`: only in the non-aborting (successful) case
    cases st with
    | pending => exact absurd rfl hst
    | error => rw [hab] at hab'; cases hab'
    | done =>
      obtain ⟨rfl, hna, _⟩ := hdone rfl
      rw [hparked]
      by_cases hij : i = j
      · subst hij; rw [hself]; simp [h.hole_notin i rfl]
      · rw [hne hij, h.parked_pending hna j hj (hlen ▸ hj')]; simp [hij]
  · rw [hgi, hgb]
    by_cases hij : i = j
    · subst hij; exact h.items_ok i hj (hlen ▸ hj') (by rw [hp]; exact fun hh => nomatch hh)
    · rw [hne hij] at hne'; exact h.items_ok j hj (hlen ▸ hj') hne'
  · cases st with
    | pending => exact absurd rfl hst
    | error => rw [hab] at hab'; cases hab'
    | done =>
      by_cases hij : i = j
      · subst hij; rw [hself]; exact fun hh => nomatch hh
      · rw [hne hij]; exact h.no_error (hdone rfl).2.1 j hj (hlen ▸ hj')
  · rw [hexc, hab]; split
    · rfl
    · exact h.abort_exc
  · cases st with
    | pending => exact absurd rfl hst
    | error => exact ⟨i, hmem, by rw [hself]⟩
    | done => rw [hab] at hab'; simp [(hdone rfl).2.1] at hab'
  · by_cases hij : i = j
    · subst hij
      rw [TOK, hself]
      exact ⟨fun hh => (hdone hh).2.2, fun hh => (herr hh).imp fun e he => ⟨he.1, (Legit_congr h1 h2 h3 e).mpr he.2⟩⟩
    · rw [TOK_congr (hne hij) h1 h2 h3]
      exact h.tok j ((hjm j hj).resolve_right (fun e => hij e.symm))
  · rcases hjm j hj with hj | rfl
    · exact hlen ▸ h.jobs_own j hj
    · exact ⟨hi0, hlen ▸ hi1⟩
  · obtain ⟨p, p1, p2, p3, p4⟩ := h.ord_jobs ho
    refine ⟨p, p1, hlen ▸ p2, by rw [hjobs, if_pos ho, hlen]; exact p3, fun j hj hj' => ?_⟩
    by_cases hij : i = j
    · subst hij; rw [hself]; exact hst
    · rw [hne hij]; exact p4 j hj hj'

/-- `_jobs.popleft()` of a tracker that is no longer pending (the call is not aborting). -/
theorem InvT_pop {c : Cfg} {t0 : Nat} {s : St} {i : Nat} {rest : List Nat}
    (h : InvT c t0 none s) (hj : s.jobs = i :: rest) (hnp : (getTrk s i).status ≠ .pending)
    (hna : s.aborting = false) :
    InvT c t0 none { s with jobs := rest } ∧ (ordered c = true → i ∉ rest) := by
  have hsub : ∀ j ∈ rest, j ∈ s.jobs := fun j hj' => hj ▸ List.mem_cons_of_mem _ hj'
  -- in ordered modes the queue is `p, p+1, …`, so its head is `p`
  have hord : ordered c = true → ∃ p, t0 ≤ p ∧ p < s.trk.length ∧ i = p ∧
      rest = List.range' (p + 1) (s.trk.length - (p + 1)) ∧
      ∀ j, t0 ≤ j → j < p → (getTrk s j).status ≠ .pending := by
    intro ho
    obtain ⟨p, p1, p2, p3, p4⟩ := h.ord_jobs ho
    rw [hj] at p3
    have hpl : p < s.trk.length := by
      rcases Nat.lt_or_ge p s.trk.length with hlt | hge
      · exact hlt
      · rw [show s.trk.length - p = 0 by omega] at p3; cases p3
    rw [show s.trk.length - p = (s.trk.length - (p + 1)) + 1 by omega, List.range'_succ] at p3
    injection p3 with q1 q2
    exact ⟨p, p1, hpl, q1, q2, p4⟩
  refine ⟨{ h with
    abort_err := fun hab => (by rw [hna] at hab; cases hab), tok := fun j hj' => h.tok j (hsub j hj')
    jobs_own := fun j hj' => h.jobs_own j (hsub j hj'), ord_jobs := fun ho => ?_ }, fun ho => ?_⟩
  · obtain ⟨p, p1, hpl, rfl, q2, p4⟩ := hord ho
    refine ⟨i + 1, by omega, hpl, q2, fun j hj0 hj1 => ?_⟩
    rcases Nat.lt_succ_iff_lt_or_eq.mp hj1 with hlt | rfl
    · exact p4 j hj0 hlt
    · exact hnp
  · obtain ⟨p, _, _, rfl, q2, _⟩ := hord ho
    rw [q2, List.mem_range'_1]; omega

end JoblibModel.ParallelProto
