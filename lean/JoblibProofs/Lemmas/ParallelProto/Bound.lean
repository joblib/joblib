import JoblibProofs.Lemmas.ParallelProto.Gen

/-!
C09: the look-ahead bound. The number of tasks taken from the input but not completed is at most
`(ownParked + n_jobs) · bmax`, `ownParked` the parked batches of the running call (which no completion increases:
`deliver_spec`, `HookSpec.parked_le`).
-/

namespace JoblibModel.ParallelProto

theorem pendSum_le_mul {B : Nat} : ∀ (l : List Tracker),
    (∀ t ∈ l, t.status = .pending → t.bsize ≤ B) →
    pendSum l ≤ B * (l.filter (fun t => t.status == .pending)).length := by
  intro l
  induction l with
  | nil => intro _; simp [pendSum]
  | cons x xs ih =>
    intro h
    have h' := ih (fun t ht => h t (List.mem_cons_of_mem _ ht))
    rw [pendSum_cons, pendW, List.filter_cons]
    by_cases hx : x.status = .pending
    · have := h x (by simp) hx
      simp only [hx, beq_self_eq_true, if_true, List.length_cons, Nat.mul_add, Nat.mul_one]; omega
    · have : (x.status == Status.pending) = false := by simpa using hx
      simp only [hx, this, Bool.false_eq_true, if_false]; omega

/-- The pending batches of the call are parked: there are at most `ownParked` of them. -/
theorem pending_count_le_ownParked {c : Cfg} {t0 : Nat} {s : St} (h : InvT c t0 none s) (hna : s.aborting = false) :
    ((own t0 s).filter (fun t => t.status == .pending)).length ≤ ownParked t0 s := by
  rw [own_eq_map, List.filter_map, List.length_map]
  apply List.Nodup.length_le_of_subset
  · exact (List.nodup_range' (step := 1) (by omega)).sublist List.filter_sublist
  · intro i hi
    simp only [List.mem_filter, List.mem_range'_1, Function.comp, beq_iff_eq] at hi
    obtain ⟨⟨h0, h1⟩, hp⟩ := hi
    have hlt : i < s.trk.length := by omega
    have := (h.parked_pending hna i h0 hlt).mp hp
    simp only [reduceCtorEq, or_false] at this
    simp only [List.mem_filter, decide_eq_true_eq]
    exact ⟨this, h0⟩

/-- LOOK-AHEAD BOUND. In every state of a call that is not aborting, the number of items taken from the input
exceeds the number of completed tasks by at most `(P + n_jobs) · bmax`, where `P` is the number of parked batches
of the call and `bmax` the largest scripted batch size. -/
theorem lookahead_le {c : Cfg} {t0 : Nat} {s : St} (h : Inv c t0 s) (hB : InvB c t0 s)
    (hna : s.aborting = false) :
    s.srcPos ≤ s.nCompleted + (ownParked t0 s + c.nj) * bmax c := by
  have hcons := h.S.cons hna
  have hlen : (dispItems t0 s).length + s.ready.flatten.length = s.srcPos := by
    have := congrArg List.length hcons
    simpa using this
  have hnd := h.S.ndisp hna
  have hnc := h.S.ncomp hna
  have hps : pendSum (own t0 s) ≤ bmax c * ((own t0 s).filter (fun t => t.status == .pending)).length := by
    apply pendSum_le_mul
    intro t ht hp
    obtain ⟨i, h0, h1, rfl⟩ := mem_own_iff.mp ht
    rw [(h.T.items_ok i h0 h1 (by rw [hp]; simp)).2]
    exact hB.items_le i h0 h1
  have hpc := pending_count_le_ownParked h.T hna
  have hr := hB.ready_tot
  have hmul : bmax c * ((own t0 s).filter (fun t => t.status == .pending)).length ≤ bmax c * ownParked t0 s :=
    Nat.mul_le_mul_left _ hpc
  have e : (ownParked t0 s + c.nj) * bmax c = bmax c * ownParked t0 s + c.nj * bmax c := by
    rw [Nat.add_mul, Nat.mul_comm]
  rw [e]
  omega

/-- The number of parked batches of the call is at most the number of items taken from the input (every batch
is non-empty), hence at most `pre_dispatch + completed · n_jobs · bmax`. -/
theorem ownParked_le_pulled {c : Cfg} {t0 : Nat} {s : St} (h : Inv c t0 s) (hna : s.aborting = false) :
    ownParked t0 s ≤ s.srcPos := by
  -- parked own ⊆ own indices, all with non-empty items
  have h1 : ownParked t0 s ≤ (own t0 s).length := by
    have hl : (own t0 s).length = (List.range' t0 (s.trk.length - t0)).length := by simp [own]
    rw [hl]
    apply List.Nodup.length_le_of_subset
    · exact h.T.parked_nodup.sublist List.filter_sublist
    · intro i hi
      simp only [List.mem_filter, decide_eq_true_eq] at hi
      rw [List.mem_range'_1]
      have := h.T.parked_lt i hi.1
      omega
  have h2 : (own t0 s).length ≤ (dispItems t0 s).length := by
    have := length_le_flatten_length (L := (own t0 s).map (·.items)) (by
      intro b hb
      obtain ⟨t, ht, rfl⟩ := List.mem_map.mp hb
      obtain ⟨i, h0, h1, rfl⟩ := mem_own_iff.mp ht
      exact (h.T.items_ok i h0 h1 (h.T.no_error hna i h0 h1)).1)
    simpa [dispItems] using this
  have hcons := h.S.cons hna
  have hlen : (dispItems t0 s).length + s.ready.flatten.length = s.srcPos := by
    have := congrArg List.length hcons
    simpa using this
  omega

theorem getResult_nCompleted (s : St) (i : Nat) : (getResult s i).1.nCompleted = s.nCompleted := by
  unfold getResult
  simp only
  split
  · rfl
  · split <;> rfl
  · split <;> rfl

/-- The states reachable from `s` by the steps of the retrieval phase: hook points (the loop's `sleep`, pauses
of the consumer — the schedule delivers any completions), clock ticks, `get_status` of a tracker of the call,
popping a completed head (ordered modes), yielding a value. The caller does not dispatch in this phase. Specified, not
derived from `retrieveLoop`: no lemma says that the states `genNext` passes through are of this form, and the pop of
unordered mode is not among the steps (it would need `InvU` in `RetrievalReach.spec`). -/
inductive RetrievalReach (c : Cfg) (t0 : Nat) : St → St → Prop
  | refl (s : St) : RetrievalReach c t0 s s
  | hook {s s' : St} (sleep : Bool) : RetrievalReach c t0 s s' → RetrievalReach c t0 s (hook c sleep s')
  | tick {s s' : St} : RetrievalReach c t0 s s' → RetrievalReach c t0 s { s' with now := s'.now + 1 }
  | status {s s' : St} (i : Nat) : t0 ≤ i → i < s'.trk.length → RetrievalReach c t0 s s' →
      RetrievalReach c t0 s (getStatus c s' i).1
  | pop {s s' : St} {i : Nat} {rest : List Nat} : ordered c = true → s'.aborting = false → s'.jobs = i :: rest →
      (getTrk s' i).status = .done → RetrievalReach c t0 s s' →
      RetrievalReach c t0 s (getResult { s' with jobs := rest } i).1
  | yield {s s' : St} : RetrievalReach c t0 s s' →
      RetrievalReach c t0 s { s' with nbConsumed := s'.nbConsumed + 1 }

theorem RetrievalReach.spec {c : Cfg} (hc : CfgOK c) {t0 : Nat} {s₁ s : St} (hr : RetrievalReach c t0 s₁ s)
    (h : Inv c t0 s₁) (hB : InvB c t0 s₁) :
    Inv c t0 s ∧ InvB c t0 s ∧ ownParked t0 s ≤ ownParked t0 s₁ ∧ s₁.nCompleted ≤ s.nCompleted := by
  induction hr with
  | refl => exact ⟨h, hB, Nat.le_refl _, Nat.le_refl _⟩
  | hook sleep _ ih =>
    obtain ⟨i1, i2, i3, i4⟩ := ih
    have hk := hook_spec hc sleep i1
    exact ⟨hk.inv, hk.B i2, Nat.le_trans hk.parked_le i3, Nat.le_trans i4 hk.later.ncomp⟩
  | @tick s' _ ih =>
    obtain ⟨i1, i2, i3, i4⟩ := ih
    have e : EnvStep s' { s' with now := s'.now + 1 } := .intro
    exact ⟨e.inv i1, e.invB i2, i3, i4⟩
  | status i h0 h1 _ ih =>
    obtain ⟨i1, i2, i3, i4⟩ := ih
    have hs := getStatus_spec (c := c) i1 h0 h1
    exact ⟨hs.inv, getStatus_B i i2, by rw [getStatus_ownParked]; exact i3, Nat.le_trans i4 hs.later.ncomp⟩
  | @pop s' i rest ho hna hj hd _ ih =>
    obtain ⟨i1, i2, i3, i4⟩ := ih
    obtain ⟨s3, hres, hp⟩ := pop_done ho i1 hna hj hd
    have hnc := getResult_nCompleted { s' with jobs := rest } i
    rw [hres] at hnc ⊢
    refine ⟨hp.inv, hp.B i2, ?_, ?_⟩
    · simp only [ownParked, hp.parked]; exact i3
    · show s₁.nCompleted ≤ s3.nCompleted
      rw [hnc]; exact i4
  | @yield s' _ ih =>
    obtain ⟨i1, i2, i3, i4⟩ := ih
    have e : EnvStep s' { s' with nbConsumed := s'.nbConsumed + 1 } := .intro
    exact ⟨e.inv i1, e.invB i2, i3, i4⟩

end JoblibModel.ParallelProto
