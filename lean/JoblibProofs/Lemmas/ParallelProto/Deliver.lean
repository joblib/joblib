import JoblibProofs.Lemmas.ParallelProto.Dispatch

/-!
Completion callbacks (`callback`, `deliver`, `deliverAll`, `hook`) preserve the invariant. The per-operation statements
extend `StepI`, a `Step` that ends in `Inv`; `dispatchLocked` (`DLSpec`) enters through `Step.dispatch`.
-/

namespace JoblibModel.ParallelProto

/-- `s'` differs from `s` only in what no invariant reads: the log, the schedule, `idle`, `inCb`, the position in
the batch-size script, `hung`, the clock, the count of consumed results. -/
def EnvStep (s s' : St) : Prop :=
  ∃ lg sc id ib bi hu nw nb,
    s' = { s with log := lg, sched := sc, idle := id, inCb := ib, bsI := bi, hung := hu, now := nw, nbConsumed := nb }

theorem EnvStep.intro {s : St} {lg : List String} {sc : List (List Nat)} {id : Nat} {ib : Bool} {bi : Nat} {hu : Bool}
    {nw : Int} {nb : Nat} :
    EnvStep s { s with log := lg, sched := sc, idle := id, inCb := ib, bsI := bi, hung := hu, now := nw, nbConsumed := nb } :=
  ⟨_, _, _, _, _, _, _, _, rfl⟩

theorem EnvStep.invT {c : Cfg} {t0 : Nat} {hole : Option Nat} {s s' : St} (he : EnvStep s s')
    (h : InvT c t0 hole s) : InvT c t0 hole s' := by
  obtain ⟨_, _, _, _, _, _, _, _, rfl⟩ := he
  exact InvT_same h rfl

theorem EnvStep.invS {c : Cfg} {t0 : Nat} {s s' : St} (he : EnvStep s s') (h : InvS c t0 s) : InvS c t0 s' := by
  obtain ⟨_, _, _, _, _, _, _, _, rfl⟩ := he
  exact InvS_same h rfl

theorem EnvStep.invL {c : Cfg} {t0 : Nat} {s s' : St} (he : EnvStep s s') (h : InvL c t0 s) : InvL c t0 s' := by
  obtain ⟨_, _, _, _, _, _, _, _, rfl⟩ := he
  exact InvL_same h rfl

theorem EnvStep.inv {c : Cfg} {t0 : Nat} {s s' : St} (he : EnvStep s s') (h : Inv c t0 s) : Inv c t0 s' :=
  ⟨he.invT h.T, he.invS h.S, he.invL h.L, by obtain ⟨_, _, _, _, _, _, _, _, rfl⟩ := he; exact h.P⟩

theorem EnvStep.later {c : Cfg} {s s' : St} (he : EnvStep s s') : Later c s s' := by
  obtain ⟨_, _, _, _, _, _, _, _, rfl⟩ := he
  exact Later.of_table (Frame.of_eq rfl) rfl (fun _ => rfl) rfl (Nat.le_refl _) rfl rfl rfl rfl rfl
    (Nat.le_refl _)

theorem EnvStep.invB {c : Cfg} {t0 : Nat} {s s' : St} (he : EnvStep s s') (h : InvB c t0 s) : InvB c t0 s' := by
  obtain ⟨_, _, _, _, _, _, _, _, rfl⟩ := he
  exact InvB_same h rfl

theorem EnvStep.ostep {c : Cfg} {t0 : Nat} {s s' : St} (he : EnvStep s s') (h : ordered c = false → InvU t0 s) :
    OStep c t0 s s' := by
  obtain ⟨_, _, _, _, _, _, _, _, rfl⟩ := he
  exact .of_rest (fun ho => InvU_frame (h ho) rfl rfl rfl) rfl

/-- What every dispatch / completion step of a call guarantees, whichever thread takes it. `hole` is the batch the
backend has taken out of `parked` and not yet reported in the END state `s'`, if any. (`IterPend` is not part of it:
inside a completion callback it fails for a moment; `StepI` adds it.)
An invariant that only some properties need is threaded like `InvB`: `Step.B`, `DLSpec.B`, `Popped.B`, `EnvStep.invB`
through the steps, `Fresh.invB`, `Started.invB` at the start of a call, `RetrievalReach.spec` to the reachable states. -/
structure Step (c : Cfg) (t0 : Nat) (hole : Option Nat) (s s' : St) : Prop where
  T : InvT c t0 hole s'
  S : InvS c t0 s'
  L : InvL c t0 s'
  later : Later c s s'
  sched_le : s'.sched.length ≤ s.sched.length
  B : InvB c t0 s → InvB c t0 s'
  out : (ordered c = false → InvU t0 s) → OStep c t0 s s'

theorem Step.refl {c : Cfg} {t0 : Nat} {hole : Option Nat} {s : St} (hT : InvT c t0 hole s) (hS : InvS c t0 s)
    (hL : InvL c t0 s) : Step c t0 hole s s :=
  ⟨hT, hS, hL, .refl c s, Nat.le_refl _, id, .refl⟩

theorem Step.trans {c : Cfg} {t0 : Nat} {h1 h2 : Option Nat} {a b d : St} (hab : Step c t0 h1 a b)
    (hbd : Step c t0 h2 b d) : Step c t0 h2 a d :=
  ⟨hbd.T, hbd.S, hbd.L, hab.later.trans hbd.later, Nat.le_trans hbd.sched_le hab.sched_le, fun hB => hbd.B (hab.B hB),
   fun hq => (hab.out hq).trans (hbd.out (hab.out hq).inv) hbd.later.frame.abort_mono⟩

/-- A step followed by `dispatchLocked`. The slack for the budget of `InvB` may come from the state before the step. -/
theorem Step.dispatch {c : Cfg} {t0 : Nat} {h1 : Option Nat} {fo more : Bool} {bs : Nat} {s s2 s3 : St}
    (h : Step c t0 h1 s s2) (hd : DLSpec c t0 fo bs s2 s3 more) (hbs : bs ≤ bmax c)
    (hsl : InvB c t0 s → Slack c fo s2) : Step c t0 none s s3 :=
  { T := hd.T, S := hd.S, L := hd.L, later := h.later.trans hd.later,
    sched_le := Nat.le_trans (Nat.le_of_eq (congrArg _ hd.same.sched)) h.sched_le,
    B := fun hB => hd.B (h.B hB) hbs (hsl hB),
    out := fun hq => (h.out hq).trans (hd.out (h.out hq).inv) hd.later.frame.abort_mono }

structure StepI (c : Cfg) (t0 : Nat) (s s' : St) : Prop extends Step c t0 none s s' where
  P : IterPend t0 s'

theorem StepI.inv {c : Cfg} {t0 : Nat} {s s' : St} (h : StepI c t0 s s') : Inv c t0 s' := ⟨h.T, h.S, h.L, h.P⟩

theorem EnvStep.step {c : Cfg} {t0 : Nat} {hole : Option Nat} {s s' : St} (he : EnvStep s s') (hT : InvT c t0 hole s)
    (hS : InvS c t0 s) (hL : InvL c t0 s) (hs : s'.sched.length ≤ s.sched.length) : Step c t0 hole s s' :=
  ⟨he.invT hT, he.invS hS, he.invL hL, he.later, hs, he.invB, he.ostep⟩

theorem EnvStep.iterPend {t0 : Nat} {s s' : St} (he : EnvStep s s') (h : IterPend t0 s) : IterPend t0 s' := by
  obtain ⟨_, _, _, _, _, _, _, _, rfl⟩ := he; exact h

/-- The batch the backend holds counts as in flight if it belongs to the running call. -/
def ownHole (t0 : Nat) : Option Nat → Nat
  | some i => if t0 ≤ i then 1 else 0
  | none => 0

/-- What a completion step guarantees. `held` is what the backend holds in the START state `s`; in `s'` it holds
nothing. -/
structure CBSpec (c : Cfg) (t0 : Nat) (held : Option Nat) (s s' : St) : Prop extends StepI c t0 s s' where
  sched : s'.sched = s.sched
  hung : s'.hung = s.hung
  pre : s'.preLeft = s.preLeft
  parked_le : ownParked t0 s' ≤ ownParked t0 s + ownHole t0 held

theorem CBSpec.of_step {c : Cfg} {t0 : Nat} {held : Option Nat} {s s' : St} (h : Step c t0 none s s')
    (hP : IterPend t0 s') (hsched : s'.sched = s.sched) (hhung : s'.hung = s.hung) (hpre : s'.preLeft = s.preLeft)
    (hpk : ownParked t0 s' ≤ ownParked t0 s + ownHole t0 held) : CBSpec c t0 held s s' :=
  { h with P := hP, sched := hsched, hung := hhung, pre := hpre, parked_le := hpk }

theorem CBSpec.refl {c : Cfg} {t0 : Nat} {held : Option Nat} {s : St} (h : Inv c t0 s) : CBSpec c t0 held s s :=
  .of_step (.refl h.T h.S h.L) h.P rfl rfl rfl (Nat.le_add_right _ _)

theorem CBSpec.trans {c : Cfg} {t0 : Nat} {held : Option Nat} {a b d : St} (h1 : CBSpec c t0 held a b)
    (h2 : CBSpec c t0 none b d) : CBSpec c t0 held a d :=
  .of_step (h1.toStep.trans h2.toStep) h2.P (h2.sched.trans h1.sched) (h2.hung.trans h1.hung) (h2.pre.trans h1.pre)
    (Nat.le_trans h2.parked_le h1.parked_le)

theorem own_of_callId {c : Cfg} {t0 : Nat} {hole : Option Nat} {s : St} {i : Nat} (hT : InvT c t0 hole s)
    (h : (getTrk s i).callId = s.callId) : t0 ≤ i ∧ i < s.trk.length := by
  constructor
  · rcases Nat.lt_or_ge i t0 with hlt | hge
    · exact absurd h (Nat.ne_of_lt (hT.stale i hlt))
    · exact hge
  · rcases Nat.lt_or_ge i s.trk.length with hlt | hge
    · exact hlt
    · rw [getTrk_ge hge] at h
      have := hT.callId_pos
      simp at h; omega

/-- Trackers of other calls: the completion callback returns at its call-id guard. -/
theorem stale_callback_noop (c : Cfg) (s : St) (i : Nat) (failed : Option Nat)
    (h : (getTrk s i).callId ≠ s.callId) : callback c s i failed = s := by
  unfold callback
  simp only
  rw [if_pos (by simpa using fun e => h e.symm)]

/-- A callback arriving while the call is aborting returns at its abort guard. -/
theorem aborting_callback_noop (c : Cfg) (s : St) (i : Nat) (failed : Option Nat)
    (h : s.aborting = true) : callback c s i failed = s := by
  unfold callback
  simp only [h, if_true]
  split <;> rfl

theorem fail_spec {c : Cfg} {t0 : Nat} {hole : Option Nat} {s : St} {i : Nat} {e : Exc}
    (hT : InvT c t0 hole s) (hS : InvS c t0 s) (hL : InvL c t0 s)
    (hi0 : t0 ≤ i) (hi1 : i < s.trk.length) (hp : (getTrk s i).status = .pending) (he : Legit c s e) :
    CBSpec c t0 hole s (registerOutcome c s i .error (.exc e)) := by
  rw [registerOutcome_error hp]
  exact .of_step
    { T := InvT_register (st := .error) hT hi0 hi1 hp (fun hh => nomatch hh) (fun _ => ⟨e, rfl, he⟩)
        (fun hh => nomatch hh) rfl rfl rfl rfl rfl rfl rfl rfl rfl
      S := InvS_aborted hS rfl hS.src_le hS.src_iter
        (fun j _ hj' => Or.inl ⟨by simpa using hj', (getTrk_set_outcome rfl j).1⟩) rfl rfl rfl
      L := InvL_of hL id rfl id (fun _ _ h3 => by simp at h3)
      later := Later.of_table ⟨rfl, rfl, rfl, rfl, rfl, rfl, rfl, rfl, fun _ => rfl⟩ (by simp)
        (fun ho => if_pos ho) rfl (Nat.le_refl _) rfl rfl rfl rfl rfl (Nat.le_refl _)
      sched_le := Nat.le_refl _
      B := fun hB => InvB_mono hB (by simp) (fun j => (getTrk_set_outcome rfl j).1) rfl rfl rfl (Nat.le_refl _)
      out := fun hq => .of_same (fun ho => InvU_register (hq ho) hi0 hi1 hp (by simp) rfl (by simp [ho]) rfl)
        (fun j => (getTrk_set_outcome rfl j).1) (fun ho => if_pos ho) rfl rfl rfl rfl rfl }
    (fun h3 => by simp at h3) rfl rfl rfl (Nat.le_add_right _ _)

/-- The rest of a successful completion callback (`_dispatch_new`), from the state `s2` in which the outcome is
registered and counted. -/
theorem callback_tail {c : Cfg} (hc : CfgOK c) {t0 : Nat} {hole : Option Nat} {s s2 : St} (h2 : Step c t0 none s s2)
    (hpk2 : ownParked t0 s2 + 1 ≤ ownParked t0 s + ownHole t0 hole)
    (hna2 : s2.aborting = false) (hsched : s2.sched = s.sched) (hhung : s2.hung = s.hung)
    (hpre : s2.preLeft = s.preLeft) (horig : s2.origAlive = s.origAlive)
    (hslack : InvB c t0 s → Slack c true s2) :
    CBSpec c t0 hole s
      (if s.origAlive = true then
        match dispatchOneCb c s2 with
        | (s3, more) => if more = true then s3 else { s3 with iterating := false, origAlive := false }
       else s2) := by
  by_cases hor : s.origAlive = true
  · rw [if_pos hor, dispatchOneCb_eq, if_neg (by simp [hna2])]
    have e0 : EnvStep s2 { s2 with bsI := if c.bsAuto then s2.bsI + 1 else s2.bsI } := .intro
    have h2' := h2.trans (e0.step h2.T h2.S h2.L (Nat.le_refl _))
    have hd := dispatchLocked_dlspec hc (fo := true) (scriptedBs_pos hc s2) h2'.T h2'.S h2'.L hna2
    generalize dispatchLocked c true _ _ = res at hd
    obtain ⟨s3, more⟩ := res
    simp only at hd ⊢
    have h3 : Step c t0 none s s3 := h2'.dispatch hd (scriptedBs_le_bmax c s2) hslack
    have hsched3 := hd.same.sched.trans hsched
    have hhung3 := hd.same.hung.trans hhung
    have hpre3 := (hd.pre_orig rfl).trans hpre
    have hexh : more = false → s3.aborting = false → s3.ready = [] ∧ s3.srcDead = true := fun hm ha =>
      ⟨(hd.exh hm ha).1, (hd.exh hm ha).2.resolve_right (fun h => nomatch h.1)⟩
    cases more with
    | true =>
      exact .of_step h3 (fun ha _ => hd.pend rfl ha) hsched3 hhung3 hpre3 (Nat.le_trans hd.parked_le hpk2)
    | false =>
      -- `self._iterating = False; self._original_iterator = None`
      have hclear : Step c t0 none s3 { s3 with iterating := false, origAlive := false } :=
        { T := InvT_same hd.T rfl, S := InvS_same hd.S rfl,
          L := InvL_clear hd.L rfl rfl rfl (fun ha => hexh rfl ha),
          later := ⟨Frame.of_eq rfl, Nat.le_refl _, fun _ => Nat.le_refl _,
            fun _ ha _ => hexh rfl ha, Nat.le_refl _, Nat.le_refl _, fun _ => rfl, fun a b => ⟨a, b⟩⟩,
          sched_le := Nat.le_refl _,
          B := fun hB => InvB_same hB rfl,
          out := fun hq => .of_same (fun ho => InvU_frame (hq ho) rfl rfl rfl) (fun _ => rfl) (fun _ => rfl) rfl rfl rfl
            rfl rfl }
      exact .of_step (h3.trans hclear) (fun _ hit => by cases hit) hsched3 hhung3 hpre3
        (Nat.le_trans hd.parked_le hpk2)
  · rw [if_neg hor]
    exact .of_step h2 (fun _ hit => absurd (horig ▸ h2.L.iter_orig hit) hor) hsched hhung hpre (Nat.le_of_succ_le hpk2)

theorem callback_spec {c : Cfg} (hc : CfgOK c) {t0 : Nat} {s : St} {i : Nat} {failed : Option Nat}
    (hT : InvT c t0 (some i) s) (hS : InvS c t0 s) (hL : InvL c t0 s) (hP : IterPend t0 s)
    (hfail : ∀ id, failed = some id → id ∈ (getTrk s i).items ∧ id ∈ s.failIds) :
    CBSpec c t0 (some i) s (callback c s i failed) := by
  by_cases hst' : (getTrk s i).callId ≠ s.callId
  · rw [stale_callback_noop c s i failed hst']
    exact CBSpec.refl ⟨InvT_hole_drop hT (Or.inr fun h => hst' (hT.ownId i h.1 h.2)), hS, hL, hP⟩
  have hst : (getTrk s i).callId = s.callId := by simpa using hst'
  obtain ⟨hi0, hi1⟩ := own_of_callId hT hst
  by_cases hab : s.aborting = true
  · rw [aborting_callback_noop c s i failed hab]
    exact CBSpec.refl ⟨InvT_hole_drop hT (Or.inl hab), hS, hL, hP⟩
  have hna : s.aborting = false := by simpa using hab
  have hp : (getTrk s i).status = .pending := (hT.parked_pending hna i hi0 hi1).mpr (Or.inr rfl)
  unfold callback
  simp only
  rw [if_neg (by simp [hst]), if_neg hab]
  cases failed with
  | some id =>
    obtain ⟨hid1, hid2⟩ := hfail id rfl
    exact fail_spec hT hS hL hi0 hi1 hp ⟨hid2, hS.items_range i hi0 hi1 id hid1⟩
  | none =>
    simp only
    rw [registerOutcome_done hp]
    simp only
    have hbpos : 1 ≤ (getTrk s i).bsize := by
      have hok := hT.items_ok i hi0 hi1 (by rw [hp]; simp)
      rw [hok.2]; exact List.length_pos_iff.mpr hok.1
    refine callback_tail hc (hpk2 := by simp only [ownHole, hi0, if_true]; exact Nat.le_refl _)
      { T := InvT_register (st := .done) hT hi0 hi1 hp (fun _ => ⟨rfl, hna, rfl⟩) (fun hh => nomatch hh)
          (fun hh => nomatch hh) rfl rfl rfl rfl rfl rfl rfl rfl rfl
        S := InvS_complete (t := { getTrk s i with status := .done, result := .vals (getTrk s i).items }) hS hi0 hi1 hp
          rfl (by simp) rfl rfl rfl rfl rfl rfl rfl rfl rfl
        L := InvL_of hL id rfl id hL.orig_exh
        later := Later.of_table (Frame.of_eq rfl) (by simp)
          (fun ho => if_pos ho) rfl (Nat.le_refl _) rfl rfl rfl rfl rfl (Nat.le_add_right _ _)
        sched_le := Nat.le_refl _
        B := fun hB => InvB_mono hB (by simp) (fun j => (getTrk_set_outcome rfl j).1) rfl rfl rfl
          (Nat.le_add_right _ _)
        out := fun hq => .of_same (fun ho => InvU_register (hq ho) hi0 hi1 hp (by simp) rfl (by simp [ho]) rfl)
          (fun j => (getTrk_set_outcome rfl j).1) (fun ho => if_pos ho) rfl rfl rfl rfl rfl }
      hna rfl rfl rfl rfl (fun hB hm _ => ?_)
    -- one completed task pays for `n_jobs · bmax` further input items
    obtain ⟨r, h1, h2⟩ := hB.budget hm
    refine ⟨r, h1, ?_⟩
    show s.srcPos + r + c.nj * bmax c ≤ c.pd + (s.nCompleted + (getTrk s i).bsize) * (c.nj * bmax c)
    have : (s.nCompleted + 1) * (c.nj * bmax c) ≤ (s.nCompleted + (getTrk s i).bsize) * (c.nj * bmax c) :=
      Nat.mul_le_mul_right _ (by omega)
    rw [Nat.add_mul, Nat.one_mul] at this
    omega

theorem ownParked_erase (t0 : Nat) {s s' : St} {k i : Nat} (hk : s.parked[k]? = some i)
    (h : s'.parked = s.parked.eraseIdx k) :
    ownParked t0 s' + (if t0 ≤ i then 1 else 0) = ownParked t0 s := by
  simp only [ownParked, h]
  simpa [List.countP_eq_length_filter] using List.countP_eraseIdx_add (p := fun i => decide (t0 ≤ i)) hk

theorem deliver_spec {c : Cfg} (hc : CfgOK c) {t0 : Nat} {s : St} (k : Nat) (h : Inv c t0 s) :
    CBSpec c t0 none s (deliver c k s) ∧
    (k < s.parked.length → (deliver c k s).aborting = false → meas c (deliver c k s) + 1 ≤ meas c s) := by
  cases hk : s.parked[k]? with
  | none =>
    rw [deliver_none hk]
    refine ⟨CBSpec.refl h, fun hlt => ?_⟩
    rw [List.getElem?_eq_getElem hlt] at hk; cases hk
  | some i =>
    obtain ⟨lg, failed, he, hf1, _⟩ := deliver_some (c := c) hk
    rw [he]
    have hklt : k < s.parked.length := by
      rcases Nat.lt_or_ge k s.parked.length with hlt | hge
      · exact hlt
      · rw [List.getElem?_eq_none hge] at hk; cases hk
    -- the backend takes the batch out of `parked` …
    have hE : Step c t0 (some i) s { s with parked := s.parked.eraseIdx k } :=
      { T := InvT_erase h.T hk, S := InvS_same h.S rfl,
        L := InvL_same h.L rfl,
        later := Later.of_table (Frame.of_eq rfl) rfl (fun _ => rfl) rfl
          (by simp [List.length_eraseIdx, hklt]) rfl rfl rfl rfl rfl (Nat.le_refl _),
        sched_le := Nat.le_refl _, B := fun hB => InvB_same hB rfl,
        out := fun hq => .of_same (fun ho => InvU_frame (hq ho) rfl rfl rfl) (fun _ => rfl) (fun _ => rfl) rfl rfl rfl
          rfl rfl }
    have hmE : meas c { s with log := lg, parked := s.parked.eraseIdx k, inCb := true } + 1 = meas c s := by
      simp only [meas, unpopped, work, List.length_eraseIdx, hklt, if_true]; omega
    have eA : EnvStep { s with parked := s.parked.eraseIdx k }
        { s with log := lg, parked := s.parked.eraseIdx k, inCb := true } := .intro
    have hA := hE.trans (eA.step hE.T hE.S hE.L (Nat.le_refl _))
    -- … and its completion callback runs
    have hcb := callback_spec (failed := failed) hc hA.T hA.S hA.L h.P hf1
    have hpE := ownParked_erase t0 (s' := { s with log := lg, parked := s.parked.eraseIdx k, inCb := true }) hk rfl
    generalize callback c _ i failed = sB at hcb
    have eC : EnvStep sB { sB with inCb := false } := .intro
    refine ⟨.of_step ((hA.trans hcb.toStep).trans (eC.step hcb.T hcb.S hcb.L (Nat.le_refl _))) (eC.iterPend hcb.P)
      hcb.sched hcb.hung hcb.pre (Nat.le_trans hcb.parked_le (Nat.le_of_eq hpE)), fun _ ha => ?_⟩
    have := hcb.later.meas_le ha
    show meas c sB + 1 ≤ meas c s
    omega

theorem deliverAll_spec {c : Cfg} (hc : CfgOK c) {t0 : Nat} : ∀ (l : List Nat) (s : St), Inv c t0 s →
    CBSpec c t0 none s (deliverAll c s l) := by
  intro l
  induction l with
  | nil => intro s h; exact CBSpec.refl h
  | cons idx r ih =>
    intro s h
    unfold deliverAll
    simp only
    by_cases hp : s.parked.length = 0
    · rw [if_pos hp]; exact ih s h
    · rw [if_neg hp]
      have h1 := (deliver_spec hc (idx % s.parked.length) h).1
      exact h1.trans (ih _ h1.inv)

/-- What a hook point (a moment at which the backend may complete parked batches) guarantees. -/
structure HookSpec (c : Cfg) (t0 : Nat) (sleep : Bool) (s s' : St) : Prop extends StepI c t0 s s' where
  hung_nosleep : sleep = false → s'.hung = s.hung
  hung_busy : (s.parked ≠ [] ∨ s.sched ≠ []) → s'.hung = s.hung
  prog : sleep = true → (s.parked ≠ [] ∨ s.sched ≠ []) → s'.aborting = false →
    meas c s' + s'.sched.length + 1 ≤ meas c s + s.sched.length
  pre : s'.preLeft = s.preLeft
  parked_le : ownParked t0 s' ≤ ownParked t0 s

theorem hook_spec {c : Cfg} (hc : CfgOK c) {t0 : Nat} (sleep : Bool) {s : St} (h : Inv c t0 s) :
    HookSpec c t0 sleep s (hook c sleep s) := by
  unfold hook
  cases hs : s.sched with
  | cons entry rest =>
    simp only
    have e1 : EnvStep s { s with sched := rest } := .intro
    have h1 : Step c t0 none s { s with sched := rest } := e1.step h.T h.S h.L (by rw [hs]; simp)
    have hd := deliverAll_spec hc entry _ (e1.inv h)
    generalize deliverAll c { s with sched := rest } entry = s2 at hd
    have hpk : ownParked t0 s2 ≤ ownParked t0 s := hd.parked_le
    have hsch : s2.sched = rest := hd.sched
    cases sleep with
    | false =>
      exact { h1.trans hd.toStep with
        P := hd.P, hung_nosleep := fun _ => hd.hung, hung_busy := fun _ => hd.hung, prog := nofun, pre := hd.pre,
        parked_le := hpk }
    | true =>
      have e3 : EnvStep s2 { s2 with idle := 0 } := .intro
      refine { (h1.trans hd.toStep).trans (e3.step hd.T hd.S hd.L (Nat.le_refl _)) with
        P := e3.iterPend hd.P, hung_nosleep := fun _ => hd.hung, hung_busy := fun _ => hd.hung,
        prog := fun _ _ ha => ?_, pre := hd.pre, parked_le := hpk }
      have := hd.later.meas_le ha
      show meas c s2 + s2.sched.length + 1 ≤ _
      rw [hsch, hs]; simp only [List.length_cons]
      have : meas c { s with sched := rest } = meas c s := rfl
      omega
  | nil =>
    simp only
    cases sleep with
    | false =>
      exact { Step.refl h.T h.S h.L with
        P := h.P, hung_nosleep := fun _ => rfl, hung_busy := fun _ => rfl, prog := nofun, pre := rfl,
        parked_le := Nat.le_refl _ }
    | true =>
      simp only [if_true]
      by_cases hp : s.parked.length > 0
      · rw [if_pos hp]
        have e1 : EnvStep s { s with idle := 0, sched := [] } := ⟨_, _, _, _, _, _, _, _, by rw [← hs]⟩
        obtain ⟨hd, hm⟩ := deliver_spec hc 0 (e1.inv h)
        have hpk : ownParked t0 (deliver c 0 { s with idle := 0, sched := [] }) ≤ ownParked t0 s := hd.parked_le
        refine { (e1.step h.T h.S h.L (Nat.zero_le _)).trans hd.toStep with
          P := hd.P, hung_nosleep := fun _ => hd.hung, hung_busy := fun _ => hd.hung, prog := fun _ _ ha => ?_,
          pre := hd.pre, parked_le := hpk }
        have := hm hp ha
        have hm1 : meas c { s with idle := 0, sched := [] } = meas c s := rfl
        rw [hd.sched, hs]
        simp only [List.length_nil]
        omega
      · rw [if_neg hp]
        have hno : ¬ (s.parked ≠ [] ∨ s.sched ≠ []) := by
          rw [hs]
          rintro (hor | hor)
          · exact hp (List.length_pos_iff.mpr hor)
          · exact hor rfl
        -- an idle tick; the harness gives up (`hung`) after too many of them
        have key : ∀ hu, HookSpec c t0 true s { s with idle := s.idle + 1, sched := [], hung := hu } := fun hu =>
          have e1 : EnvStep s { s with idle := s.idle + 1, sched := [], hung := hu } := .intro
          { e1.step h.T h.S h.L (Nat.zero_le _) with
            P := e1.iterPend h.P, hung_nosleep := nofun, hung_busy := fun hor => absurd hor hno,
            prog := fun _ hor => absurd hor hno, pre := rfl, parked_le := Nat.le_refl _ }
        split
        · exact key true
        · have := key s.hung
          rw [← hs] at this ⊢
          exact this

end JoblibModel.ParallelProto
