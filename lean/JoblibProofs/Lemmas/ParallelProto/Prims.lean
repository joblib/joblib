import JoblibProofs.Lemmas.ParallelProto.Lists
import JoblibProofs.Lemmas.Common
/-!
Effect ("what exactly changes") lemmas for the primitive operations of the M1 model. The event log is irrelevant
to every invariant: the lemmas quantify it existentially.
-/
namespace JoblibModel.ParallelProto

theorem getTrk_lt {s : St} {i : Nat} (h : i < s.trk.length) : getTrk s i = s.trk[i] := by
  simp [getTrk, List.getD_eq_getElem?_getD, h]

theorem getTrk_ge {s : St} {i : Nat} (h : s.trk.length ≤ i) : getTrk s i = default :=
  List.getD_of_length_le _ _ _ h

theorem getTrk_setTrk (s : St) (i j : Nat) (t : Tracker) :
    getTrk (setTrk s i t) j = if i = j ∧ i < s.trk.length then t else getTrk s j := by
  simp only [getTrk, setTrk, List.getD_set_eq, eq_comm (a := j)]

theorem getTrk_append_lt {s : St} {l : List Tracker} {i : Nat} (h : i < s.trk.length) :
    ({ s with trk := s.trk ++ l } : St).trk.getD i default = getTrk s i :=
  List.getD_append_left_of_lt _ _ _ _ h

@[simp] theorem default_callId : (default : Tracker).callId = 0 := rfl
@[simp] theorem default_items : (default : Tracker).items = [] := rfl
@[simp] theorem default_status : (default : Tracker).status = .pending := rfl
@[simp] theorem default_result : (default : Tracker).result = .none := rfl
@[simp] theorem default_bsize : (default : Tracker).bsize = 0 := rfl

/-- What `pullUpTo fromOrig k s` does: `m` items were taken, `d` is the new `srcDead`, `pl` the new `preLeft`,
`r` whether the iterator raised. -/
structure PullSpec (fo : Bool) (k : Nat) (s : St) (m : Nat) (d : Bool) (pl : Option Nat) (r : Bool) : Prop where
  m_le : m ≤ k
  le_n : s.srcPos ≤ s.spec.n → s.srcPos + m ≤ s.spec.n
  le_iter : (s.srcPos : Int) ≤ s.spec.iterfail → ((s.srcPos + m : Nat) : Int) ≤ s.spec.iterfail
  dead_mono : s.srcDead = true → d = true ∧ m = 0 ∧ r = false
  raised : r = true → d = true ∧ ((s.srcPos + m : Nat) : Int) = s.spec.iterfail
  dead_new : r = false → d = true → s.srcDead = false →
    s.spec.n ≤ s.srcPos + m ∧ ((s.srcPos + m : Nat) : Int) ≠ s.spec.iterfail
  short : r = false → m < k → d = true ∨ (fo = false ∧ pl = some 0)
  pl_orig : fo = true → pl = s.preLeft
  pl_none : s.preLeft = none → pl = none
  pl_some : fo = false → ∀ q, s.preLeft = some q → m ≤ q ∧ pl = some (q - m)

theorem PullSpec.stop {fo : Bool} {k : Nat} {s : St} {d r : Bool}
    (hdead : s.srcDead = true → d = true ∧ r = false)
    (hr : r = true → d = true ∧ (s.srcPos : Int) = s.spec.iterfail)
    (hnew : r = false → d = true → s.srcDead = false →
      s.spec.n ≤ s.srcPos ∧ (s.srcPos : Int) ≠ s.spec.iterfail)
    (hshort : r = false → 0 < k → d = true ∨ (fo = false ∧ s.preLeft = some 0)) :
    PullSpec fo k s 0 d s.preLeft r :=
  ⟨Nat.zero_le _, id, id, fun h => ⟨(hdead h).1, rfl, (hdead h).2⟩, hr, hnew, hshort, fun _ => rfl, id,
    fun _ _ hq => ⟨Nat.zero_le _, hq⟩⟩

theorem PullSpec.step {fo : Bool} {k : Nat} {s s2 : St} {m : Nat} {d : Bool} {pl : Option Nat} {r : Bool}
    (h : PullSpec fo k s2 m d pl r) (h1 : ¬ (fo = false ∧ s.preLeft = some 0)) (h2 : s.srcDead = false)
    (h3 : (s.srcPos : Int) ≠ s.spec.iterfail) (h4 : s.srcPos < s.spec.n)
    (hpos : s2.srcPos = s.srcPos + 1) (hdead : s2.srcDead = s.srcDead) (hspec : s2.spec = s.spec)
    (hpl : s2.preLeft = if fo = true then s.preLeft else s.preLeft.map (· - 1)) : PullSpec fo (k + 1) s (m + 1) d pl r := by
  obtain ⟨a1, a2, a3, _, a5, a6, a7, a8, a9, a10⟩ := h
  rw [hpos, hspec] at a2 a3 a5
  rw [hpos, hdead, hspec] at a6
  rw [hpl] at a8 a9 a10
  have e1 : s.srcPos + (m + 1) = s.srcPos + 1 + m := by omega
  rw [← e1] at a2 a3 a5 a6
  refine ⟨by omega, fun _ => a2 (by omega), fun _ => a3 (by omega), fun h => (by rw [h2] at h; cases h), a5, a6,
    fun h h' => a7 h (by omega), fun h => (by rw [a8 h, if_pos h]), fun h => a9 (by rw [h]; split <;> rfl), ?_⟩
  intro h q hq
  rw [h, if_neg (by simp), hq] at a10
  obtain ⟨b1, b2⟩ := a10 rfl (q - 1) rfl
  have : q ≠ 0 := fun hq0 => h1 ⟨h, by rw [hq, hq0]⟩
  exact ⟨by omega, by rw [b2]; congr 1; omega⟩

theorem pullUpTo_spec (fo : Bool) : ∀ (k : Nat) (s : St), ∃ lg m d pl r,
    pullUpTo fo k s =
      ({ s with log := lg, srcPos := s.srcPos + m, srcDead := d, preLeft := pl },
       List.range' (s.base + s.srcPos) m, r) ∧ PullSpec fo k s m d pl r := by
  intro k
  induction k with
  | zero =>
    intro s
    exact ⟨s.log, 0, s.srcDead, s.preLeft, false, rfl,
      .stop (fun h => ⟨h, rfl⟩) (fun h => by cases h) (fun _ h h' => by rw [h] at h'; cases h')
        (fun _ h => by cases h)⟩
  | succ k ih =>
    intro s
    unfold pullUpTo
    by_cases h1 : ((!fo) && s.preLeft == some 0) = true
    · rw [if_pos h1]
      simp only [Bool.and_eq_true, Bool.not_eq_eq_eq_not, Bool.not_true, beq_iff_eq] at h1
      exact ⟨s.log, 0, s.srcDead, s.preLeft, false, rfl,
        .stop (fun h => ⟨h, rfl⟩) (fun h => by cases h) (fun _ h h' => by rw [h] at h'; cases h')
          (fun _ _ => Or.inr h1)⟩
    rw [if_neg h1]
    simp only [Bool.and_eq_true, Bool.not_eq_eq_eq_not, Bool.not_true, beq_iff_eq] at h1
    by_cases h2 : s.srcDead = true
    · rw [if_pos h2]
      exact ⟨s.log, 0, true, s.preLeft, false, by rw [← h2]; rfl,
        .stop (fun _ => ⟨rfl, rfl⟩) (fun h => by cases h) (fun _ _ h => by rw [h2] at h; cases h)
          (fun _ _ => Or.inl rfl)⟩
    rw [if_neg h2]
    by_cases h3 : (s.srcPos : Int) = s.spec.iterfail
    · rw [if_pos h3]
      exact ⟨_, 0, true, s.preLeft, true, rfl,
        .stop (fun h => absurd h h2) (fun _ => ⟨rfl, h3⟩) (fun h => by cases h) (fun h => by cases h)⟩
    rw [if_neg h3]
    by_cases h4 : s.srcPos ≥ s.spec.n
    · rw [if_pos h4]
      exact ⟨s.log, 0, true, s.preLeft, false, rfl,
        .stop (fun h => absurd h h2) (fun h => by cases h) (fun _ _ _ => ⟨h4, h3⟩) (fun _ _ => Or.inl rfl)⟩
    rw [if_neg h4]
    obtain ⟨lg, m, d, pl, r, he, hs⟩ := ih
      { ev s ("pull " ++ toString (s.base + s.srcPos) ++ cbTag s) with
          srcPos := s.srcPos + 1,
          preLeft := if fo = true then s.preLeft else s.preLeft.map (· - 1) }
    simp only [he]
    refine ⟨lg, m + 1, d, pl, r, ?_, hs.step h1 (by simpa using h2) h3 (by omega) rfl rfl rfl rfl⟩
    simp [ev, List.range'_succ, Nat.add_assoc, Nat.add_comm 1 m]

theorem execBatch_spec : ∀ (l : List Nat) (s : St), ∃ lg,
    (execBatch s l).1 = { s with log := lg } ∧
    (∀ id, (execBatch s l).2 = some id → id ∈ l ∧ id ∈ s.failIds) ∧
    ((execBatch s l).2 = none → ∀ id ∈ l, id ∉ s.failIds) := by
  intro l
  induction l with
  | nil => intro s; exact ⟨s.log, rfl, by simp [execBatch], by simp⟩
  | cons a t ih =>
    intro s
    unfold execBatch
    simp only
    by_cases h : (ev s ("exec " ++ toString a)).failIds.contains a = true
    · rw [if_pos h]
      refine ⟨_, rfl, ?_, by simp⟩
      intro id hid
      simp only [Option.some.injEq] at hid
      subst hid
      simp only [ev, List.contains_eq_mem, decide_eq_true_eq] at h
      simp [h]
    · rw [if_neg h]
      obtain ⟨lg, h1, h2, h3⟩ := ih (ev s ("exec " ++ toString a))
      refine ⟨lg, by rw [h1]; rfl, ?_, ?_⟩
      · intro id hid
        obtain ⟨x, y⟩ := h2 id hid
        exact ⟨List.mem_cons_of_mem _ x, y⟩
      · intro hn id hid
        simp only [List.mem_cons] at hid
        rcases hid with hid | hid
        · subst hid
          simpa [ev] using h
        · exact h3 hn id hid

theorem deliver_some {c : Cfg} {k : Nat} {s : St} {i : Nat} (hk : s.parked[k]? = some i) : ∃ lg failed,
    deliver c k s =
      { callback c { s with log := lg, parked := s.parked.eraseIdx k, inCb := true } i failed with inCb := false } ∧
    (∀ id, failed = some id → id ∈ (getTrk s i).items ∧ id ∈ s.failIds) ∧
    (failed = none → ∀ id ∈ (getTrk s i).items, id ∉ s.failIds) := by
  unfold deliver
  simp only [hk]
  obtain ⟨lg, hex, hf1, hf2⟩ := execBatch_spec (getTrk { s with parked := s.parked.eraseIdx k } i).items
    (ev { s with parked := s.parked.eraseIdx k }
      ("complete " ++ idsStr (getTrk { s with parked := s.parked.eraseIdx k } i).items))
  generalize execBatch _ _ = res at hex hf1 hf2
  obtain ⟨s3, failed⟩ := res
  simp only [ev] at hex
  subst hex
  exact ⟨lg, failed, rfl, hf1, hf2⟩

theorem deliver_none {c : Cfg} {k : Nat} {s : St} (hk : s.parked[k]? = none) : deliver c k s = s := by
  unfold deliver
  simp only [hk]

theorem registerOutcome_nonpending {c : Cfg} {s : St} {i : Nat} {st : Status} {r : Res}
    (h : (getTrk s i).status ≠ .pending) : registerOutcome c s i st r = s := by
  simp [registerOutcome, h]

theorem registerOutcome_done {c : Cfg} {s : St} {i : Nat} {r : Res}
    (h : (getTrk s i).status = .pending) :
    registerOutcome c s i .done r =
      { s with trk := s.trk.set i { getTrk s i with status := .done, result := r },
               jobs := if ordered c then s.jobs else s.jobs ++ [i] } := by
  simp only [registerOutcome, h, setTrk]
  by_cases ho : ordered c = true <;> simp [ho]

theorem registerOutcome_error {c : Cfg} {s : St} {i : Nat} {r : Res}
    (h : (getTrk s i).status = .pending) :
    registerOutcome c s i .error r =
      { s with trk := s.trk.set i { getTrk s i with status := .error, result := r },
               exception := true, aborting := true,
               jobs := if ordered c then s.jobs else s.jobs ++ [i] } := by
  simp only [registerOutcome, h, setTrk]
  by_cases ho : ordered c = true <;> simp [ho]

/-- The tracker `_dispatch` registers for a batch. -/
def newTrk (s : St) (b : List Nat) : Tracker := { items := b, bsize := b.length, callId := s.callId }

theorem dispatch_eq {c : Cfg} {s : St} (b : List Nat) (h : s.aborting = false) : ∃ lg,
    dispatch c s b =
      { s with log := lg, nDispTasks := s.nDispTasks + b.length, nDispBatches := s.nDispBatches + 1,
               trk := s.trk ++ [newTrk s b],
               jobs := if ordered c then s.jobs ++ [s.trk.length] else s.jobs,
               jobsSet := if ordered c then s.jobsSet else s.jobsSet ++ [s.trk.length],
               parked := s.parked ++ [s.trk.length] } := by
  simp only [dispatch, h, newTrk]
  by_cases ho : ordered c = true
  · exact ⟨_, by simp [ho, ev]; rfl⟩
  · exact ⟨_, by simp [ho, ev]; rfl⟩

/-- The abort guard, `compute_batch_size()` (which only moves the position in the script), the locked region. -/
theorem dispatchOneCb_eq (c : Cfg) (s : St) :
    dispatchOneCb c s =
      if s.aborting then (s, false)
      else dispatchLocked c true (scriptedBs c s) { s with bsI := if c.bsAuto then s.bsI + 1 else s.bsI } := by
  unfold dispatchOneCb
  split
  · rfl
  · cases c.bsAuto <;> rfl

theorem dispatchLocked_aborting (c : Cfg) (fo : Bool) (bs : Nat) {s : St} (h : s.aborting = true) :
    dispatchLocked c fo bs s = (s, false) := by
  unfold dispatchLocked; rw [if_pos h]

theorem dispatchOneCb_aborting (c : Cfg) {s : St} (h : s.aborting = true) : dispatchOneCb c s = (s, false) := by
  rw [dispatchOneCb_eq, if_pos h]

theorem dispatchOneMain_aborting (c : Cfg) {s : St} (h : s.aborting = true) :
    dispatchOneMain c s = (s, false) := by
  unfold dispatchOneMain; rw [if_pos h]

theorem dispatch_aborting (c : Cfg) (b : List Nat) {s : St} (h : s.aborting = true) : dispatch c s b = s := by
  unfold dispatch; rw [if_pos h]

/-- The tracker registered when the input iterable raises. -/
def errTrk (s : St) (bs : Nat) : Tracker := { items := [], bsize := bs, callId := s.callId }

/-- Case analysis of the locked region of `dispatch_one_batch` (not aborting, no empty batch queued). -/
theorem dispatchLocked_spec (c : Cfg) (fo : Bool) (bs : Nat) (s : St) (ha : s.aborting = false)
    (hr : ∀ b ∈ s.ready, b ≠ []) :
    (∃ tasks rest, s.ready = tasks :: rest ∧
        dispatchLocked c fo bs s = (dispatch c { s with ready := rest } tasks, true)) ∨
    (s.ready = [] ∧ ∃ lg m d pl r, PullSpec fo (bs * c.nj) s m d pl r ∧
      ((r = false ∧ m = 0 ∧
          dispatchLocked c fo bs s =
            ({ s with log := lg, srcPos := s.srcPos + m, srcDead := d, preLeft := pl }, false)) ∨
       (r = false ∧ 0 < m ∧ ∃ tasks rest, tasks ≠ [] ∧ (∀ b ∈ rest, b ≠ []) ∧
          tasks ++ rest.flatten = List.range' (s.base + s.srcPos) m ∧
          (∀ b ∈ tasks :: rest, b.length ≤ max 1 bs) ∧
          dispatchLocked c fo bs s =
            (dispatch c { s with log := lg, srcPos := s.srcPos + m, srcDead := d, preLeft := pl,
                                 ready := rest } tasks, true)) ∨
       (r = true ∧
          dispatchLocked c fo bs s =
            (registerOutcome c
              { s with log := lg, srcPos := s.srcPos + m, srcDead := d, preLeft := pl,
                       trk := s.trk ++ [errTrk s bs],
                       jobs := if ordered c then s.jobs ++ [s.trk.length] else s.jobs,
                       jobsSet := if ordered c then s.jobsSet else s.jobsSet ++ [s.trk.length] }
              s.trk.length .error (.exc (.iter (s.base + (s.srcPos + m)))), true)))) := by
  unfold dispatchLocked
  rw [if_neg (by simp [ha])]
  cases hrd : s.ready with
  | cons tasks rest =>
    left
    refine ⟨tasks, rest, rfl, ?_⟩
    have : tasks ≠ [] := hr tasks (by simp [hrd])
    have : tasks.length ≠ 0 := by simpa using this
    simp [this]
  | nil =>
    right
    refine ⟨rfl, ?_⟩
    obtain ⟨lg, m, d, pl, r, he, hs⟩ := pullUpTo_spec fo (bs * c.nj) s
    refine ⟨lg, m, d, pl, r, hs, ?_⟩
    simp only [he]
    cases r with
    | true =>
      right; right
      refine ⟨rfl, ?_⟩
      simp only [if_true, errTrk]
      by_cases ho : ordered c = true <;> simp [ho, hrd]
    | false =>
      simp only [Bool.false_eq_true, if_false, List.length_range']
      by_cases hm : m = 0
      · left; simp [hm, hrd]
      · right; left
        refine ⟨trivial, by omega, ?_⟩
        rw [if_neg hm]
        generalize hfin : (if (fo && decide (m < bs * c.nj)) = true then max 1 (m / (10 * c.nj))
          else max 1 (m / c.nj)) = final
        have hfin_le : final ≤ max 1 bs := by
          have hmk := hs.m_le
          have hnj : 0 < c.nj := by
            rcases Nat.eq_zero_or_pos c.nj with h0 | h0
            · rw [h0] at hmk; omega
            · exact h0
          have h1 : m / c.nj ≤ bs := by
            apply Nat.div_le_of_le_mul; rw [Nat.mul_comm]; exact hmk
          have h2 : m / (10 * c.nj) ≤ bs := by
            apply Nat.div_le_of_le_mul
            calc m ≤ bs * c.nj := hmk
              _ ≤ 10 * c.nj * bs := by rw [Nat.mul_comm bs]; apply Nat.mul_le_mul_right; omega
          rw [← hfin]; split <;> omega
        have hne : List.range' (s.base + s.srcPos) m ≠ [] := by simp [hm]
        cases hch : chunks final (List.range' (s.base + s.srcPos) m) with
        | nil => exact absurd ((chunks_eq_nil_iff _ _).mp hch) hne
        | cons tasks rest =>
          have hfl := chunks_flatten final (List.range' (s.base + s.srcPos) m)
          have hnn := chunks_ne_nil final (List.range' (s.base + s.srcPos) m)
          have hll := chunks_len_le final (List.range' (s.base + s.srcPos) m)
          rw [hch] at hfl hnn hll
          refine ⟨tasks, rest, hnn tasks (by simp), fun b hb => hnn b (by simp [hb]), by simpa using hfl,
            fun b hb => by have := hll b hb; omega, ?_⟩
          have : tasks.length ≠ 0 := by simpa using hnn tasks (by simp)
          simp [this]

end JoblibModel.ParallelProto
