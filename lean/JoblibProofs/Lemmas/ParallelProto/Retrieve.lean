import JoblibProofs.Lemmas.ParallelProto.CallStart

/-!
How a call ends (`Clean`; `finallyBlock`, `abort`, `handleException`; `idle_of_end`), and the steps the retrieving thread
takes on one batch: `get_status` (`GSSpec`) and the two ways of popping it (`Popped`). The loop itself is in Loop.lean.
-/

namespace JoblibModel.ParallelProto

/-- The `Parallel` object after `finally`: not running, no job queue, no `_calling`. -/
structure Clean (s : St) : Prop where
  running : s.running = false
  jobs : s.jobs = []
  jobsSet : s.jobsSet = []
  calling : s.calling = false

theorem terminateAndReset_eq (s : St) : ∃ lg, terminateAndReset s = { s with log := lg, calling := false } := by
  unfold terminateAndReset
  by_cases h1 : s.calling = true <;> by_cases h2 : s.managed = true <;> simp [h1, h2, ev] <;> exact ⟨_, rfl⟩

theorem finallyBlock_eq (s : St) : ∃ lg,
    finallyBlock s = ({ s with log := lg, jobs := [], jobsSet := [], running := false, calling := false },
      if s.exception then [] else s.jobs) := by
  unfold finallyBlock
  obtain ⟨lg, h⟩ := terminateAndReset_eq { s with jobs := [], jobsSet := [], running := false }
  exact ⟨lg, by simp only [h]⟩

/-- `_abort`: whatever completes while `backend.abort_everything` runs (a hook point) finds `_aborting` already
set and is a no-op: only the flags and the backend's bookkeeping change. -/
theorem abort_eq (c : Cfg) (s : St) : ∃ lg pk sc ib,
    abort c s = { s with log := lg, parked := pk, sched := sc, inCb := ib, aborting := true, aborted := true } ∧
    pk.Sublist s.parked ∧ sc.length ≤ s.sched.length := by
  unfold abort
  by_cases h1 : s.aborted = true
  · exact ⟨s.log, s.parked, s.sched, s.inCb, by simp only [h1, Bool.not_true, Bool.false_eq_true, if_false],
      List.Sublist.refl _, Nat.le_refl _⟩
  · have hq : Quiet (ev { s with aborting := true } ("abort " ++ (if s.managed then "1" else "0"))) := Or.inl rfl
    obtain ⟨lg, pk, sc, ib, e, hsub, hsc⟩ := hook_nosleep_quiet c hq
    dsimp only
    rw [if_pos (by simp [h1]), e]
    by_cases h2 : c.abortDrops = true
    · exact ⟨lg, [], sc, ib, by rw [if_pos h2]; rfl, List.nil_sublist _, hsc⟩
    · exact ⟨lg, pk, sc, ib, by rw [if_neg h2]; rfl, hsub, hsc⟩

theorem handleException_eq (c : Cfg) (s : St) : ∃ lg pk sc ib,
    handleException c s = { s with log := lg, parked := pk, sched := sc, inCb := ib, exception := true, aborting := true, aborted := true, jobs := [], jobsSet := [], running := false, calling := false } ∧ pk.Sublist s.parked ∧ sc.length ≤ s.sched.length := by
  show ∃ lg pk sc ib, (finallyBlock (abort c { s with exception := true })).1 = _ ∧ _
  obtain ⟨lg1, pk, sc, ib, h1, hpk, hsc⟩ := abort_eq c { s with exception := true }
  obtain ⟨lg2, h2⟩ := finallyBlock_eq (abort c { s with exception := true })
  rw [h2]
  simp only
  rw [h1]
  exact ⟨lg2, pk, sc, ib, rfl, hpk, hsc⟩

/-- Replacing tracker `i` by one the invariants cannot tell from it: same items, size, call id and status, and the same
result while the batch is queued (`get_status` and the retrieval loop write `toCounter`; `get_result` deletes the
`_result` of a batch that has just left the queue). -/
theorem setaux_spec {c : Cfg} {t0 : Nat} {s : St} {i : Nat} {t : Tracker} (h : Inv c t0 s)
    (ht : t.items = (getTrk s i).items ∧ t.bsize = (getTrk s i).bsize ∧ t.callId = (getTrk s i).callId ∧
          t.status = (getTrk s i).status) (hres : i ∈ s.jobs → t.result = (getTrk s i).result) :
    CBSpec c t0 none s (setTrk s i t) := by
  have hgi := getTrk_set_proj (·.items) (s' := setTrk s i t) rfl ht.1
  have hgs := getTrk_set_proj (·.status) (s' := setTrk s i t) rfl ht.2.2.2
  have hlen : (setTrk s i t).trk.length = s.trk.length := List.length_set ..
  exact .of_step
    { T := InvT_set_same h.T ht hres rfl rfl rfl rfl rfl rfl rfl rfl rfl
      S := InvS_set_same h.S ht.1 ht.2.2.2 ht.2.1 rfl rfl rfl rfl rfl rfl rfl rfl rfl
      L := InvL_same h.L rfl
      later := Later.of_table (Frame.of_eq rfl) hlen
        (fun _ => rfl) rfl (Nat.le_refl _) rfl rfl rfl rfl rfl (Nat.le_refl _)
      sched_le := Nat.le_refl _
      B := fun hB => InvB_mono hB hlen hgi rfl rfl rfl (Nat.le_refl _)
      out := fun hq => .of_same (fun ho => InvU_set_aux (hq ho) ht.2.2.2 rfl rfl rfl) hgi (fun _ => rfl) rfl rfl rfl
        rfl rfl }
    (IterPend_of h.P id id (Nat.le_of_eq hlen.symm) (fun _ j _ => hgs j)) rfl rfl rfl (Nat.le_refl _)

/-- What `tracker.get_status(timeout)` of a tracker of this call guarantees; a completion step, because it may register
the timeout as the tracker's outcome. -/
structure GSSpec (c : Cfg) (t0 : Nat) (s : St) (i : Nat) (r : St × Status) : Prop extends CBSpec c t0 none s r.1 where
  status : r.2 = (getTrk r.1 i).status
  parked : r.1.parked = s.parked
  jobs : ordered c = true → r.1.jobs = s.jobs
  done : r.2 = .done → r.1 = s
  settled : (getTrk s i).status ≠ .pending → r.1 = s

theorem getStatus_spec {c : Cfg} {t0 : Nat} {s : St} {i : Nat} (h : Inv c t0 s)
    (hi0 : t0 ≤ i) (hi1 : i < s.trk.length) : GSSpec c t0 s i (getStatus c s i) := by
  unfold getStatus
  simp only
  split
  · exact { CBSpec.refl h with status := rfl, parked := rfl, jobs := fun _ => rfl, done := fun _ => rfl,
                               settled := fun _ => rfl }
  · next hc1 =>
    simp only [Bool.or_eq_true, decide_eq_true_eq, bne_iff_ne, ne_eq, not_or, Decidable.not_not] at hc1
    -- the waiting time is counted from the first look at the tracker
    have h1 := setaux_spec (i := i) (t := { getTrk s i with toCounter := some ((getTrk s i).toCounter.getD s.now) })
      h ⟨rfl, rfl, rfl, rfl⟩ (fun _ => rfl)
    have hi1' : i < (setTrk s i { getTrk s i with toCounter := some ((getTrk s i).toCounter.getD s.now) }).trk.length := by
      simpa [setTrk] using hi1
    have hp1 : (getTrk (setTrk s i { getTrk s i with toCounter := some ((getTrk s i).toCounter.getD s.now) })
        i).status = .pending := by rw [getTrk_setTrk, if_pos ⟨rfl, hi1⟩]; exact hc1.2
    split
    · -- the timeout is registered as the tracker's outcome
      have hf := fail_spec h1.T h1.S h1.L hi0 hi1' hp1 (show Legit c _ .timeout by show 0 ≤ c.timeout; omega)
      have he : (getTrk (registerOutcome c (setTrk s i { getTrk s i with toCounter := some ((getTrk s i).toCounter.getD s.now) }) i
          .error (.exc .timeout)) i).status = .error := by
        rw [registerOutcome_error hp1, getTrk_set_self rfl hi1']
      rw [registerOutcome_error hp1] at hf he ⊢
      exact { h1.trans hf with
        status := rfl, parked := rfl, jobs := fun ho => if_pos ho, done := fun hd => (nomatch he.symm.trans hd),
        settled := fun hnp => absurd hc1.2 hnp }
    · exact { h1 with status := rfl, parked := rfl, jobs := fun _ => rfl, done := fun hd => (by rw [hp1] at hd; cases hd),
                      settled := fun hnp => absurd hc1.2 hnp }

/-- For EVERY `i`, also a tracker of another call or out of range: C09 `size_invariant` / `parked_bound` state it so. Under
`Inv`, for a tracker of the call, `getStatus_spec` says more. -/
theorem getStatus_core (c : Cfg) (s : St) (i : Nat) : RegSame s (getStatus c s i).1 := by
  unfold getStatus
  simp only
  split
  · exact ⟨rfl, fun _ => rfl, rfl, rfl, rfl, rfl, rfl, rfl⟩
  · have h0 : ∀ t, RegSame s (setTrk s i { getTrk s i with toCounter := t }) := fun t =>
      ⟨List.length_set .., getTrk_set_proj (·.items) rfl rfl, rfl, rfl, rfl, rfl, rfl, rfl⟩
    split
    · exact (h0 _).trans (registerOutcome_core c _ i .error (.exc .timeout))
    · exact h0 _

theorem getStatus_B {c : Cfg} {t0 : Nat} {s : St} (i : Nat) (h : InvB c t0 s) : InvB c t0 (getStatus c s i).1 :=
  (getStatus_core c s i).invB h

theorem getStatus_ownParked (c : Cfg) (t0 : Nat) (s : St) (i : Nat) :
    ownParked t0 (getStatus c s i).1 = ownParked t0 s := by
  simp only [ownParked, (getStatus_core c s i).parked]

theorem firstErrorJob_eq_find (s : St) : ∀ l, firstErrorJob s l = l.find? fun i => (getTrk s i).status == .error
  | [] => rfl
  | i :: r => by
    rw [firstErrorJob, List.find?_cons, firstErrorJob_eq_find s r]
    cases (getTrk s i).status == Status.error <;> rfl

theorem firstErrorJob_some {s : St} {l : List Nat} (h : ∃ i ∈ l, (getTrk s i).status = .error) :
    ∃ i, firstErrorJob s l = some i ∧ i ∈ l ∧ (getTrk s i).status = .error := by
  obtain ⟨j, hj, hs⟩ := h
  obtain ⟨i, h1, h2, h3⟩ := List.exists_find?_eq_some (p := fun i => (getTrk s i).status == .error)
    ⟨j, hj, beq_iff_eq.mpr hs⟩
  exact ⟨i, firstErrorJob_eq_find s l ▸ h1, h2, beq_iff_eq.mp h3⟩

/-- How the object is left when a call has ended. -/
theorem idle_of_end {c : Cfg} {t0 : Nat} {s s' : St} (hT : InvT c t0 none s) (hcid : s.callId = s.callCtr)
    (hg : ∀ j, (getTrk s' j).callId = (getTrk s j).callId) (hlen : s'.trk.length = s.trk.length)
    (hctr : s'.callCtr = s.callCtr) (hpk : s'.parked.Sublist s.parked) (hq : Quiet s')
    (hrun : s'.running = false) (hj : s'.jobs = []) (hjs : s'.jobsSet = []) : Idle s' := by
  refine ⟨hrun, hj, hjs, ?_, ?_, ?_, hq⟩
  · intro j
    rw [hg, hctr, ← hcid]
    rcases Nat.lt_or_ge j t0 with h0 | h0
    · exact Nat.le_of_lt (hT.stale j h0)
    · rcases Nat.lt_or_ge j s.trk.length with h1 | h1
      · exact Nat.le_of_eq (hT.ownId j h0 h1)
      · rw [getTrk_ge h1]; simp
  · intro j hj'
    rw [hlen]; exact hT.parked_lt j (hpk.subset hj')
  · exact hT.parked_nodup.sublist hpk

theorem getResult_vals {s : St} {i : Nat} {l : List Nat} (hr : (getTrk s i).result = .vals l)
    (hs : (getTrk s i).status ≠ .error) :
    getResult s i = (setTrk s i { getTrk s i with result := .none }, .ok l) := by
  unfold getResult
  have : ((getTrk s i).status == Status.error) = false := by simpa using hs
  simp only [hr, this, Bool.false_eq_true, if_false]

theorem getResult_exc {s : St} {i : Nat} {e : Exc} (hr : (getTrk s i).result = .exc e)
    (hs : (getTrk s i).status = .error) :
    getResult s i = (setTrk s i { getTrk s i with result := .none }, .error e) := by
  unfold getResult
  have : ((getTrk s i).status == Status.error) = true := by simpa using hs
  simp only [hr, this, if_true]

/-- What popping a completed batch (items `l`) off the queue of the retrieval loop leaves. -/
structure Popped (c : Cfg) (t0 : Nat) (s : St) (l : List Nat) (s3 : St) : Prop where
  inv : Inv c t0 s3
  invU : ordered c = false → InvU t0 s3
  post : Post s → Post s3
  out : OutRel c (rest c s) (l ++ rest c s3)
  meas_eq : meas c s3 + 1 = meas c s
  frame : Frame s s3
  sched : s3.sched = s.sched
  hung : s3.hung = s.hung
  now : s3.now = s.now
  parked : s3.parked = s.parked
  B : InvB c t0 s → InvB c t0 s3

/-- `Popped` from the state `s2` in which the batch has left the queue(s): `get_result` then deletes its `_result`. -/
theorem Popped.of_dequeued {c : Cfg} {t0 : Nat} {s s2 : St} {i : Nat} (h2 : Inv c t0 s2)
    (hq2 : ordered c = false → InvU t0 s2) (hni : i ∉ s2.jobs) (hpost : Post s → Post s2)
    (hout : OutRel c (rest c s) ((getTrk s2 i).items ++ rest c s2)) (hmeas : meas c s2 + 1 = meas c s)
    (hf : Frame s s2) (hsched : s2.sched = s.sched) (hhung : s2.hung = s.hung) (hnow : s2.now = s.now)
    (hpk : s2.parked = s.parked) (hB : InvB c t0 s → InvB c t0 s2) :
    Popped c t0 s (getTrk s2 i).items (setTrk s2 i { getTrk s2 i with result := .none }) :=
  have hcb := setaux_spec (i := i) (t := { getTrk s2 i with result := .none }) h2 ⟨rfl, rfl, rfl, rfl⟩
    (fun hm => absurd hm hni)
  { inv := hcb.inv, invU := (hcb.out hq2).inv, post := fun hp => hcb.later.post (hpost hp)
    out := by
      have hgi := getTrk_set_proj (·.items) (s' := setTrk s2 i { getTrk s2 i with result := .none }) rfl rfl
      have : rest c (setTrk s2 i { getTrk s2 i with result := .none }) = rest c s2 := by simp only [rest, hgi]; rfl
      rw [this]; exact hout
    meas_eq := hmeas
    frame := hf.trans hcb.later.frame, sched := hcb.sched.trans hsched, hung := hcb.hung.trans hhung
    now := hnow, parked := hpk, B := fun hb => hcb.B (hB hb) }

/-- `_jobs.popleft()` + `get_result()` of a completed head (ordered modes). -/
theorem pop_done {c : Cfg} {t0 : Nat} {s : St} {i : Nat} {rst : List Nat} (ho : ordered c = true)
    (h : Inv c t0 s) (hna : s.aborting = false) (hj : s.jobs = i :: rst)
    (hd : (getTrk s i).status = .done) :
    ∃ s3, getResult { s with jobs := rst } i = (s3, .ok (getTrk s i).items) ∧ Popped c t0 s (getTrk s i).items s3 := by
  have hmem : i ∈ s.jobs := by rw [hj]; simp
  rw [getResult_vals (s := { s with jobs := rst }) (l := (getTrk s i).items) ((h.T.tok i hmem).1 hd)
    (by show (getTrk s i).status ≠ _; rw [hd]; simp)]
  obtain ⟨hT2, hni⟩ := InvT_pop h.T hj (by rw [hd]; simp) hna
  refine ⟨_, rfl, .of_dequeued (s2 := { s with jobs := rst }) ⟨hT2, InvS_same h.S rfl,
    InvL_same h.L rfl, h.P⟩ (fun ho' => by rw [ho] at ho'; cases ho') (hni ho) id
    (.of_eq ?_) ?_ (Frame.of_eq rfl) rfl rfl rfl rfl (fun hB => InvB_same hB rfl)⟩
  · simp only [rest, unpopped, ho, if_true, hj, List.map_cons, List.flatten_cons, List.append_assoc]
    rfl
  · simp only [meas, unpopped, ho, if_true, hj, List.length_cons, work]
    omega

theorem perm_removeFirst_flatten (f : Nat → List Nat) (i : Nat) (l : List Nat) (h : i ∈ l) :
    (f i ++ ((removeFirst i l).map f).flatten).Perm ((l.map f).flatten) := by
  rw [removeFirst_eq_erase]; exact ((List.perm_cons_erase h).map f).flatten.symm

/-- `_jobs.popleft()`, `_jobs_set.remove(job)`, `get_result()` of a completed batch (unordered mode). -/
theorem pop_done_u {c : Cfg} {t0 : Nat} {s : St} {i : Nat} {rst : List Nat} (ho : ordered c = false)
    (h : Inv c t0 s) (hU : InvU t0 s) (hna : s.aborting = false) (hj : s.jobs = i :: rst)
    (hd : (getTrk s i).status = .done) :
    ∃ s3, getResult { s with jobs := rst, jobsSet := removeFirst i s.jobsSet } i = (s3, .ok (getTrk s i).items) ∧
      Popped c t0 s (getTrk s i).items s3 := by
  have hmem : i ∈ s.jobs := by rw [hj]; simp
  rw [getResult_vals (s := { s with jobs := rst, jobsSet := removeFirst i s.jobsSet }) (l := (getTrk s i).items)
    ((h.T.tok i hmem).1 hd) (by show (getTrk s i).status ≠ _; rw [hd]; simp)]
  obtain ⟨hU2, hni, hset⟩ :=
    InvU_pop (s' := { s with jobs := rst, jobsSet := removeFirst i s.jobsSet }) hU hj rfl rfl rfl
  refine ⟨_, rfl, .of_dequeued (s2 := { s with jobs := rst, jobsSet := removeFirst i s.jobsSet })
    ⟨InvT_same (InvT_pop h.T hj (by rw [hd]; simp) hna).1 rfl, InvS_same h.S rfl,
      InvL_same h.L rfl, h.P⟩ (fun _ => hU2) hni id
    (.of_perm ho (List.Perm.symm ?_)) ?_ (Frame.of_eq rfl) rfl rfl rfl rfl
    (fun hB => InvB_same hB rfl)⟩
  · -- the multiset of what remains
    simp only [rest, unpopped, ho, Bool.false_eq_true, if_false]
    show ((getTrk s i).items ++ ((List.map (fun j => (getTrk s j).items) (removeFirst i s.jobsSet)).flatten ++
      s.ready.flatten ++ List.range' (s.base + s.srcPos) (s.spec.n - s.srcPos))).Perm _
    have key := perm_removeFirst_flatten (fun j => (getTrk s j).items) i s.jobsSet hset
    simp only [← List.append_assoc]
    exact List.Perm.append_right _ (List.Perm.append_right _ key)
  · simp only [meas, unpopped, ho, Bool.false_eq_true, if_false, work]
    have := removeFirst_length hset
    show (removeFirst i s.jobsSet).length + s.parked.length + 2 * (s.ready.length + (s.spec.n - s.srcPos)) + 1 = _
    omega

end JoblibModel.ParallelProto
