import JoblibProofs.Lemmas.ParallelProto.Retrieve

/-!
The output generator (`_get_outputs`), one `next()` at a time, for all `return_as` modes at once (they differ only in the
branch that waits for the next batch). `NextPost` is the outcome of one `next()`: `Yielded`, or the call is `Over`
(`GenStopped` / `GenRaised`, the generator's view of `Stopped` / `Raised`).
-/

namespace JoblibModel.ParallelProto

/-- The generator is suspended in the tail loop (after `finally`). -/
structure GoodT (s : St) (g : Gen) : Prop where
  idle : Idle s
  clean : Clean s
  noexc : s.exception = false
  rem : ∀ i ∈ g.remaining, (getTrk s i).status = .done ∧ (getTrk s i).result = .vals (getTrk s i).items
  nodup : g.remaining.Nodup
  hung : s.hung = false
  noiter : ¬ (0 ≤ s.spec.iterfail ∧ s.spec.iterfail ≤ s.spec.n)
  stale : AllStale s

/-- What the tail loop is still going to yield. -/
def restT (s : St) (g : Gen) : List Nat := g.buf ++ (g.remaining.map (fun i => (getTrk s i).items)).flatten

/-- The generator is suspended inside the retrieval loop. -/
structure GoodR (c : Cfg) (t0 : Nat) (s : St) : Prop where
  inv : Inv c t0 s
  post : Post s
  hung : s.hung = false
  /-- The running call holds the newest call id, so when it ends no tracker has a newer one (`idle_of_end`). -/
  cid : s.callId = s.callCtr

/-- Fuel that suffices for one `next()` from a non-aborting state. -/
def boundR (c : Cfg) (s : St) : Nat := meas c s + s.sched.length + 2

/-- The generator's timeout control job (unordered mode) is a tracker of the running call. -/
def GOwn (t0 : Nat) (s : St) (g : Gen) : Prop := ∀ j, g.tcj = some j → t0 ≤ j ∧ j < s.trk.length

/-- `_wait_retrieval()` of a call that is not aborting. -/
def Waiting (s : St) : Prop := s.iterating = true ∨ s.nCompleted < s.nDispTasks

/-- `time.sleep(0.01)` in the retrieval loop (a hook point, one clock tick), then the loop again. -/
def loopSleep (c : Cfg) (fuel : Nat) (s : St) (g : Gen) : St × Gen × Out :=
  if (hook c true { s with now := s.now + 1 }).hung then (hook c true { s with now := s.now + 1 }, g, .hang)
  else retrieveLoop c fuel (hook c true { s with now := s.now + 1 }) g

/-- Ordered modes wait for the head of `_jobs`. -/
def waitOrdered (c : Cfg) (fuel : Nat) (s : St) (g : Gen) : St × Gen × Out :=
  match s.jobs with
  | [] => loopSleep c fuel s g
  | i :: rest =>
    if (getStatus c s i).2 == .pending then loopSleep c fuel (getStatus c s i).1 g
    else
      match getResult { (getStatus c s i).1 with jobs := rest } i with
      | (s, .error e) => (handleException c s, { g with phase := .done }, .raise e)
      | (s, .ok l) => retrieveLoop c fuel s { g with buf := l }

/-- `_jobs.popleft()` of the completed batch `i` in unordered mode (`rest` stays queued), from the state `s0` in which
the control job's timeout counter is cleared. -/
def popUnordered (c : Cfg) (fuel : Nat) (s0 : St) (g : Gen) (i : Nat) (rest : List Nat) : St × Gen × Out :=
  if !s0.jobsSet.contains i then
    (handleException c { s0 with jobs := rest }, { g with tcj := none, phase := .done }, .raise .key)
  else
    match getResult { s0 with jobs := rest, jobsSet := removeFirst i s0.jobsSet } i with
    | (s, .error e) => (handleException c s, { g with tcj := none, phase := .done }, .raise e)
    | (s, .ok l) => retrieveLoop c fuel s { g with tcj := none, buf := l }

/-- Unordered mode takes a completed batch from `_jobs` (and `_jobs_set`); with none there, the timeout control job is
polled before sleeping. -/
def waitUnordered (c : Cfg) (fuel : Nat) (s : St) (g : Gen) : St × Gen × Out :=
  match s.jobs with
  | [] =>
    let tcj := match g.tcj with
      | some j => some j
      | none => s.jobsSet.head?
    loopSleep c fuel (match tcj with | some j => (getStatus c s j).1 | none => s) { g with tcj := tcj }
  | i :: rest =>
    popUnordered c fuel (match g.tcj with
      | some j => setTrk s j { getTrk s j with toCounter := none }
      | none => s) g i rest

theorem retrieveLoop_yield (c : Cfg) (fuel : Nat) (s : St) {g : Gen} {v : Nat} {r : List Nat} (hb : g.buf = v :: r) :
    retrieveLoop c (fuel + 1) s g =
      ({ s with nbConsumed := s.nbConsumed + 1 }, { g with buf := r, phase := .retrieve }, .value v) := by
  unfold retrieveLoop; rw [hb]

theorem retrieveLoop_exit (c : Cfg) (fuel : Nat) {s : St} {g : Gen} (hb : g.buf = []) (hna : s.aborting = false)
    (hw : ¬ Waiting s) :
    retrieveLoop c (fuel + 1) s g =
      tailLoop (fuel + (finallyBlock s).2.length + 1) (finallyBlock s).1
        { g with phase := .tail, remaining := (finallyBlock s).2 } := by
  unfold retrieveLoop; rw [hb]
  simp only [Waiting, not_or, Bool.not_eq_true] at hw
  simp only [hna, hw.1, Bool.or_self, decide_eq_false hw.2, Bool.not_false, if_true]

theorem retrieveLoop_wait (c : Cfg) (fuel : Nat) {s : St} {g : Gen} (hb : g.buf = []) (hna : s.aborting = false)
    (hw : Waiting s) :
    retrieveLoop c (fuel + 1) s g = if ordered c then waitOrdered c fuel s g else waitUnordered c fuel s g := by
  have hw' : ¬ (!(s.aborting || s.iterating || decide (s.nCompleted < s.nDispTasks))) = true := by
    rcases hw with hw | hw <;> simp [hw]
  obtain ⟨gph, gbuf, grem, gtcj⟩ := g
  subst hb
  conv => lhs; unfold retrieveLoop
  simp only
  rw [if_neg hw', if_neg (by simp [hna])]
  rfl

def InvQ (c : Cfg) (t0 : Nat) (s : St) (g : Gen) : Prop := ordered c = false → InvU t0 s ∧ GOwn t0 s g

/-- The generator object between two `next()` calls (any `return_as`). -/
def GenOK (c : Cfg) (t0 : Nat) (s : St) (g : Gen) : Prop :=
  ((g.phase = .start ∨ g.phase = .retrieve) ∧ GoodR c t0 s ∧ InvQ c t0 s g) ∨ (g.phase = .tail ∧ GoodT s g)

/-- Fuel that suffices for one `next()`. -/
def need (c : Cfg) (s : St) (g : Gen) : Nat :=
  if g.phase = .tail then g.remaining.length + 1 else if s.aborting then 1 else boundR c s

theorem need_retrieve {c : Cfg} {s : St} {g : Gen} (hph : g.phase ≠ .tail) :
    need c s g = if s.aborting then 1 else boundR c s := by simp [need, hph]

theorem one_le_need (c : Cfg) (s : St) (g : Gen) : 1 ≤ need c s g := by
  unfold need boundR; split
  · omega
  · split <;> omega

/-- What the generator is still going to yield. -/
def restOut (c : Cfg) (s : St) (g : Gen) : List Nat := if g.phase = .tail then restT s g else g.buf ++ rest c s

/-- The generator can still deliver what was promised. -/
def Live (s : St) (g : Gen) : Prop := g.phase = .tail ∨ s.aborting = false

/-- An upper bound on the number of values the generator can still yield. -/
def yieldsMax (c : Cfg) (s : St) (g : Gen) : Nat :=
  if g.phase = .tail then (restT s g).length else g.buf.length + (rest c s).length

/-- What `Legit` reads of the state. -/
structure SameCall (s s' : St) : Prop where
  base : s'.base = s.base
  spec : s'.spec = s.spec
  failIds : s'.failIds = s.failIds

theorem SameCall.legit {c : Cfg} {s s' : St} (h : SameCall s s') {e : Exc} : Legit c s' e ↔ Legit c s e :=
  Legit_congr h.failIds h.base h.spec e

theorem SameCall.trans {a b d : St} (h1 : SameCall a b) (h2 : SameCall b d) : SameCall a d :=
  ⟨h2.base.trans h1.base, h2.spec.trans h1.spec, h2.failIds.trans h1.failIds⟩

theorem Frame.sameCall {s s' : St} (h : Frame s s') : SameCall s s' := ⟨h.base, h.spec, h.failIds⟩

/-- The call that was running in `s` is over in `s'`, with an exception or without. -/
structure Over (exc : Bool) (s s' : St) : Prop where
  idle : Idle s'
  clean : Clean s'
  exception : s'.exception = exc
  hung : s'.hung = false
  failIds : s'.failIds = s.failIds

/-- `got` has come out where `exp` was promised, and the input did not raise. -/
structure Stopped (c : Cfg) (s s' : St) (exp got : List Nat) : Prop extends Over false s s' where
  out : OutRel c exp got
  noiter : ¬ (0 ≤ s.spec.iterfail ∧ s.spec.iterfail ≤ s.spec.n)

/-- The exception `e` leaves the call; one of its own tasks, its input or the caller's timeout produced it. -/
structure Raised (c : Cfg) (s s' : St) (e : Exc) : Prop extends Over true s s' where
  legit : Legit c s e

structure GenStopped (c : Cfg) (s : St) (g : Gen) (s' : St) (g' : Gen) (exp got : List Nat) : Prop
    extends Stopped c s s' exp got where
  done : g'.phase = .done
  live : Live s g

structure GenRaised (c : Cfg) (s s' : St) (g' : Gen) (e : Exc) : Prop extends Raised c s s' e where
  done : g'.phase = .done

/-- A `next()` that yields `v`: it was promised, and what remains is what remained without it (`out`). -/
structure Yielded (c : Cfg) (t0 : Nat) (s : St) (g : Gen) (s' : St) (g' : Gen) (v : Nat) : Prop where
  ok : GenOK c t0 s' g'
  out : Live s' g' → Live s g ∧ OutRel c (restOut c s g) (v :: restOut c s' g')
  need_le : need c s' g' ≤ need c s g
  yields_lt : yieldsMax c s' g' + 1 ≤ yieldsMax c s g
  same : SameCall s s'

def NextPost (c : Cfg) (t0 : Nat) (s : St) (g : Gen) : St × Gen × Out → Prop
  | (s', g', .value v) => Yielded c t0 s g s' g' v
  | (s', g', .stop) => GenStopped c s g s' g' (restOut c s g) []
  | (s', g', .raise e) => GenRaised c s s' g' e
  | (_, _, .hang) => False

/-- Move the outcome statement from a later state of the loop back to the state the `next()` started from. -/
theorem NextPost.transfer {c : Cfg} {t0 : Nat} {s s1 : St} {g g1 : Gen} {res : St × Gen × Out}
    (h : NextPost c t0 s1 g1 res) (hsc : SameCall s s1)
    (hlive : Live s1 g1 → Live s g ∧ OutRel c (restOut c s g) (restOut c s1 g1))
    (hneed : need c s1 g1 ≤ need c s g) (hy : yieldsMax c s1 g1 ≤ yieldsMax c s g) :
    NextPost c t0 s g res := by
  obtain ⟨s', g', o⟩ := res
  cases o with
  | value v =>
    exact {
      ok := h.ok
      out := fun hl => ⟨(hlive (h.out hl).1).1, (hlive (h.out hl).1).2.trans (h.out hl).2⟩
      need_le := Nat.le_trans h.need_le hneed
      yields_lt := Nat.le_trans h.yields_lt hy
      same := hsc.trans h.same }
  | stop =>
    exact { h with
      failIds := h.failIds.trans hsc.failIds, out := (hlive h.live).2.trans h.out,
      noiter := by rw [← hsc.spec]; exact h.noiter, live := (hlive h.live).1 }
  | raise e =>
    exact { h with failIds := h.failIds.trans hsc.failIds, legit := hsc.legit.mp h.legit }
  | hang => exact h

theorem tailLoop_next {c : Cfg} {t0 : Nat} : ∀ (fuel : Nat) (s : St) (g : Gen), g.phase = .tail → GoodT s g →
    need c s g ≤ fuel → NextPost c t0 s g (tailLoop fuel s g) := by
  intro fuel
  induction fuel with
  | zero => intro s g _ _ hf; have := one_le_need c s g; omega
  | succ fuel ih =>
    intro s g hph hg hf
    have hro : ∀ (s : St) (g : Gen), g.phase = .tail → restOut c s g = restT s g := fun s g h => by simp [restOut, h]
    have hym : ∀ (s : St) (g : Gen), g.phase = .tail → yieldsMax c s g = (restT s g).length := fun s g h => by
      simp [yieldsMax, h]
    have hnd : ∀ (s : St) (g : Gen), g.phase = .tail → need c s g = g.remaining.length + 1 := fun s g h => by
      simp [need, h]
    unfold tailLoop
    cases hb : g.buf with
    | cons v r =>
      simp only
      refine ⟨Or.inr ⟨rfl, ⟨hg.idle, hg.clean, hg.noexc, hg.rem, hg.nodup, hg.hung, hg.noiter, hg.stale⟩⟩,
        fun _ => ⟨Or.inl hph, ?_⟩, ?_, ?_, ⟨rfl, rfl, rfl⟩⟩
      · rw [hro s g hph, hro s _ rfl]; simp only [restT, hb, List.cons_append]; exact .refl _
      · rw [hnd s g hph, hnd s _ rfl]; exact Nat.le_refl _
      · rw [hym s g hph, hym s _ rfl]; simp [restT, hb]
    | nil =>
      simp only
      cases hr : g.remaining with
      | nil =>
        simp only
        exact {
          idle := hg.idle, clean := hg.clean, exception := hg.noexc, hung := hg.hung, failIds := rfl
          out := .of_eq (by rw [hro s g hph]; simp [restT, hb, hr])
          noiter := hg.noiter, done := rfl, live := Or.inl hph }
      | cons i rest =>
        simp only
        obtain ⟨hd, hres⟩ := hg.rem i (by rw [hr]; simp)
        rw [getResult_vals hres (by rw [hd]; simp)]
        simp only
        have hnd' := hg.nodup
        rw [hr, List.nodup_cons] at hnd'
        have hgc := getTrk_set_proj (·.callId) (s' := setTrk s i { getTrk s i with result := .none }) rfl rfl
        have hstale : AllStale (setTrk s i { getTrk s i with result := .none }) := fun j hj => by
          rw [hgc]; exact hg.stale j hj
        have hg' : GoodT (setTrk s i { getTrk s i with result := .none })
            { g with buf := (getTrk s i).items, remaining := rest } := by
          refine ⟨⟨hg.idle.running, hg.idle.jobs, hg.idle.jobsSet, fun j => by rw [hgc]; exact hg.idle.callId_le j,
              fun j hj => by rw [show (setTrk s i _).trk.length = s.trk.length from List.length_set ..]
                             exact hg.idle.parked_lt j hj,
              hg.idle.parked_nodup, Or.inr hstale⟩,
            ⟨hg.clean.running, hg.clean.jobs, hg.clean.jobsSet, hg.clean.calling⟩, hg.noexc, fun j hj => ?_, hnd'.2,
            hg.hung, hg.noiter, hstale⟩
          have hji : i ≠ j := fun e => hnd'.1 (e ▸ hj)
          rw [getTrk_set_ne (s := s) (s' := setTrk s i { getTrk s i with result := .none }) rfl hji]
          exact hg.rem j (by rw [hr]; simp [hj])
        have hrt : restT s g = restT (setTrk s i { getTrk s i with result := .none })
            { g with buf := (getTrk s i).items, remaining := rest } := by
          simp only [restT, hb, hr, List.map_cons, List.flatten_cons, List.nil_append]
          congr 2
          exact List.map_congr_left fun j _ =>
            (getTrk_set_proj (·.items) (s' := setTrk s i { getTrk s i with result := .none }) rfl rfl j).symm
        rw [hnd s g hph, hr] at hf
        have hph2 : ({ g with buf := (getTrk s i).items, remaining := rest } : Gen).phase = .tail := hph
        refine (ih _ _ hph2 hg' (by rw [hnd _ _ hph2]; simp only [List.length_cons] at hf ⊢; omega)).transfer
          ⟨rfl, rfl, rfl⟩ (fun _ => ⟨Or.inl hph, by rw [hro s g hph, hro _ _ hph2, hrt]; exact .refl _⟩) ?_ ?_
        · rw [hnd s g hph, hnd _ _ hph2, hr]; simp
        · rw [hym s g hph, hym _ _ hph2, hrt]; exact Nat.le_refl _

/-- While the retrieval loop has to wait (and the call is not aborting) some batch of the call is parked. -/
theorem pending_exists {c : Cfg} {t0 : Nat} {s : St} (h : Inv c t0 s) (hna : s.aborting = false)
    (hw : s.iterating = true ∨ s.nCompleted < s.nDispTasks) :
    s.parked ≠ [] := by
  have key : ∃ i, t0 ≤ i ∧ i < s.trk.length ∧ (getTrk s i).status = .pending := by
    rcases hw with hw | hw
    · exact h.P hna hw
    · have := h.S.ncomp hna
      obtain ⟨i, i0, i1, hp, _⟩ := pendSum_own_pos.mp (show 0 < pendSum (own t0 s) by omega)
      exact ⟨i, i0, i1, hp⟩
  obtain ⟨i, i0, i1, i2⟩ := key
  have hi : i ∈ s.parked := by simpa using (h.T.parked_pending hna i i0 i1).mp i2
  intro hx; rw [hx] at hi; simp at hi

/-- At the loop's normal exit no batch of the call is pending any more. -/
theorem exit_no_pending {c : Cfg} {t0 : Nat} {s : St} (h : Inv c t0 s) (hna : s.aborting = false)
    (hw : ¬ s.nCompleted < s.nDispTasks) :
    ∀ i, t0 ≤ i → i < s.trk.length → (getTrk s i).status = .done := by
  intro i i0 i1
  have hne := h.T.no_error hna i i0 i1
  have hnp : (getTrk s i).status ≠ .pending := by
    intro hp
    have hok := h.T.items_ok i i0 i1 hne
    have hpos := pendSum_own_pos.mpr ⟨i, i0, i1, hp, by rw [hok.2]; exact List.length_pos_iff.mpr hok.1⟩
    have := h.S.ncomp hna
    omega
  cases hst : (getTrk s i).status with
  | pending => exact absurd hst hnp
  | done => rfl
  | error => exact absurd hst hne

/-- At the loop's normal exit every batch still queued has completed and its result is intact. -/
theorem exit_all_done {c : Cfg} {t0 : Nat} {s : St} (h : Inv c t0 s) (hna : s.aborting = false)
    (hw : ¬ s.nCompleted < s.nDispTasks) :
    ∀ i ∈ s.jobs, (getTrk s i).status = .done ∧ (getTrk s i).result = .vals (getTrk s i).items := fun i hi =>
  have hd := exit_no_pending h hna hw i (h.T.jobs_own i hi).1 (h.T.jobs_own i hi).2
  ⟨hd, (h.T.tok i hi).1 hd⟩

/-- The loop's normal exit: `finally` hands the queue to the tail loop; every batch of the call has completed, so
whatever is still parked is stale, and the input is used up. -/
theorem exit_state {c : Cfg} {t0 : Nat} {s : St} (h : GoodR c t0 s) (hna : s.aborting = false)
    (hit : s.iterating = false) (hw : ¬ s.nCompleted < s.nDispTasks) (hnd : s.jobs.Nodup) (g : Gen) :
    ∃ lg, finallyBlock s =
        ({ s with log := lg, jobs := [], jobsSet := [], running := false, calling := false }, s.jobs) ∧
      GoodT { s with log := lg, jobs := [], jobsSet := [], running := false, calling := false }
        { g with phase := .tail, remaining := s.jobs } ∧
      s.ready = [] ∧ s.srcPos = s.spec.n ∧ ¬ (0 ≤ s.spec.iterfail ∧ s.spec.iterfail ≤ s.spec.n) := by
  obtain ⟨lg, hfb⟩ := finallyBlock_eq s
  have hexc : s.exception = false := by rw [h.inv.T.abort_exc]; exact hna
  have hnp := exit_no_pending h.inv hna hw
  have hpost := h.post hna hit
  have hnoit : ¬ (0 ≤ s.spec.iterfail ∧ s.spec.iterfail ≤ s.spec.n) := by
    intro ⟨x, y⟩
    have h1 := h.inv.S.src_iter x
    have h2 := h.inv.S.dead hna hpost.2
    omega
  have hstale : AllStale { s with log := lg, jobs := [], jobsSet := [], running := false, calling := false } := by
    intro i hi hcid
    obtain ⟨i0, i1⟩ := own_of_callId h.inv.T (show (getTrk s i).callId = s.callId from hcid)
    have hpend : (getTrk s i).status = .pending := (h.inv.T.parked_pending hna i i0 i1).mpr (Or.inl hi)
    rw [hnp i i0 i1] at hpend; cases hpend
  exact ⟨lg, by rw [hfb, hexc]; rfl,
    ⟨idle_of_end h.inv.T h.cid (fun _ => rfl) rfl rfl (List.Sublist.refl _) (Or.inr hstale) rfl rfl rfl,
      ⟨rfl, rfl, rfl, rfl⟩, hexc, exit_all_done h.inv hna hw, hnd, h.hung, hnoit, hstale⟩,
    hpost.1, (h.inv.S.dead hna hpost.2).1, hnoit⟩

theorem Popped.good {c : Cfg} {t0 : Nat} {s s3 : St} {l : List Nat} (hp : Popped c t0 s l s3) (h : GoodR c t0 s) :
    GoodR c t0 s3 :=
  ⟨hp.inv, hp.post h.post, hp.hung.trans h.hung, by rw [hp.frame.callId, hp.frame.callCtr]; exact h.cid⟩

/-- The exception leaves the call: `except BaseException` + `finally`. -/
theorem raise_end {c : Cfg} {t0 : Nat} {s s3 : St} (h : GoodR c t0 s)
    (hg : ∀ j, (getTrk s3 j).callId = (getTrk s j).callId) (hlen : s3.trk.length = s.trk.length)
    (hctr : s3.callCtr = s.callCtr) (hpk : s3.parked = s.parked) (hhu : s3.hung = s.hung)
    (hfi : s3.failIds = s.failIds) :
    Over true s (handleException c s3) := by
  obtain ⟨lg, pk, sc, ib, he, hpk', _⟩ := handleException_eq c s3
  rw [he]
  refine ⟨idle_of_end h.inv.T h.cid hg hlen hctr ?_ (Or.inl rfl) rfl rfl rfl, ⟨rfl, rfl, rfl, rfl⟩, rfl,
    by show s3.hung = false; rw [hhu]; exact h.hung, hfi⟩
  show pk.Sublist s.parked
  rw [← hpk]; exact hpk'

/-- `_jobs.popleft()` + `get_result()` of a head that carries an error. -/
theorem pop_error {c : Cfg} {t0 : Nat} {s : St} {i : Nat} {rest : List Nat} (h : GoodR c t0 s) (hmem : i ∈ s.jobs)
    (hd : (getTrk s i).status = .error) :
    ∃ s3 e, getResult { s with jobs := rest } i = (s3, .error e) ∧ Raised c s (handleException c s3) e := by
  obtain ⟨e, hres, hleg⟩ := (h.inv.T.tok i hmem).2 hd
  have hgi : getTrk { s with jobs := rest } i = getTrk s i := rfl
  rw [getResult_exc (s := { s with jobs := rest }) hres hd, hgi]
  exact ⟨_, e, rfl, raise_end h (getTrk_set_proj (s := s) (·.callId) rfl rfl) (List.length_set ..) rfl rfl rfl rfl, hleg⟩

theorem exit_unpopped {c : Cfg} {t0 : Nat} {s : St} {g : Gen} (h : GoodR c t0 s) (hq : InvQ c t0 s g)
    (hna : s.aborting = false) (hw : ¬ s.nCompleted < s.nDispTasks) :
    s.jobs.Nodup ∧ (unpopped c s).Perm s.jobs := by
  cases ho : ordered c with
  | true =>
    obtain ⟨p, _, _, p3, _⟩ := h.inv.T.ord_jobs ho
    exact ⟨by rw [p3]; exact List.nodup_range' (step := 1) (by omega), by simp [unpopped, ho]⟩
  | false =>
    obtain ⟨hU, _⟩ := hq ho
    have hnp := exit_no_pending h.inv hna hw
    refine ⟨hU.jobs_nodup, ?_⟩
    simp only [unpopped, ho, Bool.false_eq_true, if_false]
    refine (List.perm_ext_iff_of_nodup hU.set_nodup hU.jobs_nodup).2 fun x => ?_
    exact ⟨fun hx => hU.set_done x hx (by rw [hnp x (hU.set_own x hx).1 (hU.set_own x hx).2]; simp),
      fun hx => (hU.jobs_set x hx).1⟩

/-- Normal exit of the retrieval loop: `finally`, then the tail loop over what is still queued. -/
theorem loop_exit {c : Cfg} {t0 : Nat} {s : St} {g : Gen} (fuel : Nat) (h : GoodR c t0 s) (hq : InvQ c t0 s g)
    (hph : g.phase ≠ .tail) (hb : g.buf = [])
    (hna : s.aborting = false) (hw : ¬ Waiting s) : NextPost c t0 s g (retrieveLoop c (fuel + 1) s g) := by
  rw [retrieveLoop_exit c fuel hb hna hw]
  simp only [Waiting, not_or, Bool.not_eq_true] at hw
  obtain ⟨hnd, hperm⟩ := exit_unpopped h hq hna hw.2
  obtain ⟨lg, hfb, hgt, hrd, hn, hnoit⟩ := exit_state h hna hw.1 hw.2 hnd g
  rw [hfb]
  refine (tailLoop_next (c := c) (t0 := t0) _ _ _ rfl hgt (by simp [need])).transfer ⟨rfl, rfl, rfl⟩ (fun _ => ⟨Or.inr hna, ?_⟩) ?_ ?_
  · simp only [restOut, hph, if_false, if_true, restT, rest, hb, hrd, hn, Nat.sub_self, List.range'_zero,
      List.flatten_nil, List.append_nil, List.nil_append]
    cases ho : ordered c with
    | true => simp only [unpopped, ho, if_true]; exact .of_eq rfl
    | false => exact .of_perm ho ((hperm.map _).flatten)
  · simp only [need, hph, if_false, if_true, hna, Bool.false_eq_true, boundR, meas]
    have := hperm.length_eq
    omega
  · simp only [yieldsMax, hph, if_false, if_true, restT, rest, hb, hrd, hn, Nat.sub_self, List.range'_zero,
      List.flatten_nil, List.append_nil, List.nil_append, List.length_nil, Nat.zero_add]
    exact Nat.le_of_eq ((hperm.map _).flatten.length_eq).symm

/-- `_raise_error_fast`: the loop finds the call aborting and raises the first error among the queued batches. -/
theorem loop_abort {c : Cfg} {t0 : Nat} {s : St} {g : Gen} (fuel : Nat) (h : GoodR c t0 s) (hb : g.buf = [])
    (hab : s.aborting = true) : NextPost c t0 s g (retrieveLoop c (fuel + 1) s g) := by
  obtain ⟨i, hfe, hmem, hst⟩ := firstErrorJob_some (h.inv.T.abort_err hab)
  obtain ⟨s3, e, hres, hr⟩ := pop_error (rest := s.jobs) h hmem hst
  have he : retrieveLoop c (fuel + 1) s g = (handleException c s3, { g with phase := .done }, .raise e) := by
    obtain ⟨gph, gbuf, grem, gtcj⟩ := g
    subst hb
    unfold retrieveLoop
    simp only
    rw [if_neg (by simp [hab]), if_pos hab, hfe]
    simp only
    rw [show getResult s i = (s3, .error e) from hres]
  rw [he]
  exact ⟨hr, rfl⟩

/-- What a dispatch / completion step of the call keeps for the generator suspended in the retrieval loop. -/
structure Keeps (c : Cfg) (t0 : Nat) (g : Gen) (s s' : St) : Prop where
  good : GoodR c t0 s'
  q : InvQ c t0 s' g
  frame : Frame s s'
  rest_eq : s'.aborting = false → rest c s' = rest c s
  rest_len : (rest c s').length ≤ (rest c s).length

theorem Keeps.of_step {c : Cfg} {t0 : Nat} {g : Gen} {s s' : St} (h : GoodR c t0 s) (hq : InvQ c t0 s g)
    (hst : Step c t0 none s s') (hP : IterPend t0 s') (hhung : s'.hung = s.hung) : Keeps c t0 g s s' :=
  have ho := hst.out fun ho => (hq ho).1
  have hf := hst.later.frame
  ⟨⟨⟨hst.T, hst.S, hst.L, hP⟩, hst.later.post h.post, hhung.trans h.hung, by rw [hf.callId, hf.callCtr]; exact h.cid⟩,
    fun hu => ⟨ho.inv hu, fun j hj => ⟨((hq hu).2 j hj).1, Nat.lt_of_lt_of_le ((hq hu).2 j hj).2 hst.later.len⟩⟩, hf,
    ho.rest_eq, ho.rest_len⟩

/-- `time.sleep` while a batch is parked: something completes (`HookSpec.prog`), so the bound drops. -/
theorem loop_wait {c : Cfg} (hc : CfgOK c) {t0 : Nat} {s : St} {g : Gen} (h : GoodR c t0 s) (hq : InvQ c t0 s g)
    (hpk : s.parked ≠ []) :
    Keeps c t0 g s (hook c true { s with now := s.now + 1 }) ∧
    ((hook c true { s with now := s.now + 1 }).aborting = false →
      boundR c (hook c true { s with now := s.now + 1 }) + 1 ≤ boundR c s) := by
  have e0 : EnvStep s { s with now := s.now + 1 } := .intro
  have hk := hook_spec hc true (e0.inv h.inv)
  refine ⟨.of_step h hq ((e0.step h.inv.T h.inv.S h.inv.L (Nat.le_refl _)).trans hk.toStep) hk.P
    (hk.hung_busy (Or.inl hpk)), fun ha => ?_⟩
  have := hk.prog rfl (Or.inl hpk) ha
  have e1 : meas c { s with now := s.now + 1 } = meas c s := rfl
  have e2 : ({ s with now := s.now + 1 } : St).sched = s.sched := rfl
  rw [e1, e2] at this
  simp only [boundR]
  omega

theorem getStatus_keeps {c : Cfg} {t0 : Nat} {s : St} {g : Gen} {j : Nat} (h : GoodR c t0 s) (hq : InvQ c t0 s g)
    (j0 : t0 ≤ j) (j1 : j < s.trk.length) :
    Keeps c t0 g s (getStatus c s j).1 ∧
    ((getStatus c s j).1.aborting = false → boundR c (getStatus c s j).1 ≤ boundR c s) := by
  have hcb := getStatus_spec (c := c) h.inv j0 j1
  refine ⟨.of_step h hq hcb.toStep hcb.P hcb.hung, fun ha => ?_⟩
  have := hcb.later.meas_le ha
  simp only [boundR, hcb.sched]
  omega

/-! ### the retrieval loop

`LoopOK c t0 fuel` is the statement of the loop theorem at one amount of fuel; the lemmas below prove the waiting
branches at `fuel + 1` from it. They share the situation `(hph) (hb) (h) (hq) (hna) (hfuel)`: the generator `g` is in
the retrieval loop with an empty buffer, the call in `s` is not aborting, and `fuel + 1` suffices. -/

def LoopOK (c : Cfg) (t0 fuel : Nat) : Prop :=
  ∀ (s : St) (g : Gen), g.phase ≠ .tail → GoodR c t0 s → InvQ c t0 s g → need c s g ≤ fuel →
    NextPost c t0 s g (retrieveLoop c fuel s g)

section wait

variable {c : Cfg} {t0 fuel : Nat} (ih : LoopOK c t0 fuel) {s : St} {g : Gen} (hph : g.phase ≠ .tail)
  (hb : g.buf = []) (hna : s.aborting = false) (hfuel : boundR c s ≤ fuel + 1)
include ih hph hb hna hfuel

/-- The loop continued, without a yield, from a later state `s0` that needs less fuel; `g0.buf` is what was popped on
the way. -/
theorem loop_cont {s0 : St} {g0 : Gen} (hp0 : g0.phase ≠ .tail) (hg0 : GoodR c t0 s0) (hq0 : InvQ c t0 s0 g0)
    (hsc : SameCall s s0) (hout : s0.aborting = false → OutRel c (rest c s) (g0.buf ++ rest c s0))
    (hlen : g0.buf.length + (rest c s0).length ≤ (rest c s).length)
    (hbd : s0.aborting = false → boundR c s0 + 1 ≤ boundR c s) :
    NextPost c t0 s g (retrieveLoop c fuel s0 g0) := by
  have hnd0 : need c s0 g0 ≤ fuel := by
    rw [need_retrieve hp0]; split
    · simp only [boundR] at hfuel; omega
    · next ha => have := hbd (by simpa using ha); omega
  refine (ih s0 g0 hp0 hg0 hq0 hnd0).transfer hsc (fun hl => ⟨Or.inr hna, ?_⟩) ?_ ?_
  · simp only [restOut, hph, hp0, if_false, hb, List.nil_append]; exact hout (hl.resolve_left hp0)
  · rw [need_retrieve hph, hna, need_retrieve hp0]; split
    · simp [boundR]
    · next ha => have := hbd (by simpa using ha); exact Nat.le_of_succ_le this
  · simp only [yieldsMax, hph, hp0, if_false, hb, List.length_nil, Nat.zero_add]; exact hlen

theorem loopSleep_next (hc : CfgOK c) {s0 : St} {g0 : Gen} (hp0 : g0.phase ≠ .tail) (hb0 : g0.buf = [])
    (hk : Keeps c t0 g0 s s0) (hpk0 : s0.parked ≠ []) (hbd : s0.aborting = false → boundR c s0 ≤ boundR c s) :
    NextPost c t0 s g (loopSleep c fuel s0 g0) := by
  obtain ⟨hk1, hb1⟩ := loop_wait hc hk.good hk.q hpk0
  unfold loopSleep
  rw [if_neg (by rw [hk1.good.hung]; simp)]
  have hna0 : (hook c true { s0 with now := s0.now + 1 }).aborting = false → s0.aborting = false :=
    false_of_imp_true hk1.frame.abort_mono
  refine loop_cont ih hph hb hna hfuel hp0 hk1.good hk1.q (hk.frame.trans hk1.frame).sameCall
    (fun ha => ?_) ?_ (fun ha => by have := hb1 ha; have := hbd (hna0 ha); omega)
  · rw [hb0, List.nil_append, hk1.rest_eq ha, hk.rest_eq (hna0 ha)]; exact .refl _
  · rw [hb0, List.length_nil, Nat.zero_add]; exact Nat.le_trans hk1.rest_len hk.rest_len

variable (h : GoodR c t0 s) (hq : InvQ c t0 s g) (hpk : s.parked ≠ [])
include h hq hpk

theorem waitOrdered_next (hc : CfgOK c) (ho : ordered c = true) : NextPost c t0 s g (waitOrdered c fuel s g) := by
  have hk0 : Keeps c t0 g s s := ⟨h, hq, Frame.refl s, fun _ => rfl, Nat.le_refl _⟩
  unfold waitOrdered
  cases hj : s.jobs with
  | nil => exact loopSleep_next ih hph hb hna hfuel hc hph hb hk0 hpk (fun _ => Nat.le_refl _)
  | cons i rst =>
    simp only
    have hmem : i ∈ s.jobs := by rw [hj]; simp
    obtain ⟨hi0, hi1⟩ := h.inv.T.jobs_own i hmem
    obtain ⟨hk1, hbd1⟩ := getStatus_keeps (g := g) h hq hi0 hi1
    have hgs := getStatus_spec (c := c) h.inv hi0 hi1
    generalize getStatus c s i = r at hk1 hbd1 hgs
    obtain ⟨s1, st⟩ := r
    have gs3 : st = (getTrk s1 i).status := hgs.status
    simp only at hk1 hbd1 ⊢
    cases st with
    | pending =>
      rw [if_pos (by simp)]
      exact loopSleep_next ih hph hb hna hfuel hc hph hb hk1 (by rw [show s1.parked = s.parked from hgs.parked]; exact hpk) hbd1
    | done =>
      have hs1 : s1 = s := hgs.done rfl
      subst hs1
      rw [if_neg (by simp)]
      obtain ⟨s3, hres, hp⟩ := pop_done ho h.inv hna hj gs3.symm
      rw [hres]
      simp only
      have := hp.meas_eq
      refine loop_cont ih hph hb hna hfuel (g0 := { g with buf := (getTrk s1 i).items }) hph (hp.good h)
        (fun ho' => by rw [ho] at ho'; cases ho') hp.frame.sameCall (fun _ => hp.out)
        (by have := hp.out.length_eq; rw [List.length_append] at this; exact Nat.le_of_eq this.symm)
        (fun _ => by simp only [boundR, hp.sched]; omega)
    | error =>
      rw [if_neg (by simp)]
      have hj1 : s1.jobs = i :: rst := by rw [show s1.jobs = s.jobs from hgs.jobs ho]; exact hj
      obtain ⟨s3, e, hres, hr⟩ := pop_error (rest := rst) hk1.good (by rw [hj1]; simp) gs3.symm
      rw [hres]
      simp only
      exact { hr with
        failIds := hr.failIds.trans hk1.frame.failIds, legit := hk1.frame.sameCall.legit.mp hr.legit, done := rfl }

theorem waitUnordered_next (hc : CfgOK c) (ho : ordered c = false) : NextPost c t0 s g (waitUnordered c fuel s g) := by
  have hk0 : Keeps c t0 g s s := ⟨h, hq, Frame.refl s, fun _ => rfl, Nat.le_refl _⟩
  obtain ⟨hU, hG⟩ := hq ho
  unfold waitUnordered
  cases hj : s.jobs with
  | nil =>
    simp only
    have hctl : ∀ j, t0 ≤ j → j < s.trk.length →
        NextPost c t0 s g (loopSleep c fuel (getStatus c s j).1 { g with tcj := some j }) := by
      intro j j0 j1
      have hq0 : InvQ c t0 s { g with tcj := some j } := fun _ =>
        ⟨hU, fun j' hj' => by simp only [Option.some.injEq] at hj'; subst hj'; exact ⟨j0, j1⟩⟩
      obtain ⟨hk1, hbd1⟩ := getStatus_keeps h hq0 j0 j1
      exact loopSleep_next ih hph hb hna hfuel hc (g0 := { g with tcj := some j }) hph hb hk1
        (by rw [(getStatus_spec (c := c) h.inv j0 j1).parked]; exact hpk) hbd1
    cases htc : g.tcj with
    | some j0 => exact hctl j0 (hG j0 htc).1 (hG j0 htc).2
    | none =>
      simp only
      cases hh : s.jobsSet.head? with
      | none =>
        simp only
        have hg0 : ({ g with tcj := none } : Gen) = g := by rw [← htc]
        rw [hg0]
        exact loopSleep_next ih hph hb hna hfuel hc hph hb hk0 hpk (fun _ => Nat.le_refl _)
      | some j => exact hctl j (hU.set_own j (List.mem_of_mem_head? hh)).1 (hU.set_own j (List.mem_of_mem_head? hh)).2
  | cons i rst =>
    simp only
    have hpop : ∀ s0 : St, Keeps c t0 g s s0 → boundR c s0 = boundR c s → s0.jobs = s.jobs →
        s0.aborting = s.aborting → NextPost c t0 s g (popUnordered c fuel s0 g i rst) := by
      intro s0 hk0' hb0 hj0 ha0
      have hg0 := hk0'.good
      have hU0 := (hk0'.q ho).1
      have hj0' : s0.jobs = i :: rst := by rw [hj0, hj]
      have hmem0 : i ∈ s0.jobs := by rw [hj0']; simp
      rw [popUnordered, if_neg (by simp [(hU0.jobs_set i hmem0).1])]
      have hna0 : s0.aborting = false := by rw [ha0]; exact hna
      obtain ⟨i0, i1⟩ := hg0.inv.T.jobs_own i hmem0
      have hd : (getTrk s0 i).status = .done := by
        cases hst : (getTrk s0 i).status with
        | pending => exact absurd hst (hU0.jobs_set i hmem0).2
        | done => rfl
        | error => exact absurd hst (hg0.inv.T.no_error hna0 i i0 i1)
      obtain ⟨s3, hres, hp⟩ := pop_done_u ho hg0.inv hU0 hna0 hj0' hd
      rw [hres]
      simp only
      have hr0 := hk0'.rest_eq hna0
      have := hp.meas_eq
      refine loop_cont ih hph hb hna hfuel (g0 := { g with tcj := none, buf := (getTrk s0 i).items }) hph
        (hp.good hg0) (fun ho' => ⟨hp.invU ho', nofun⟩) (hk0'.frame.trans hp.frame).sameCall
        (fun _ => by rw [← hr0]; exact hp.out)
        (by have := hp.out.length_eq; rw [List.length_append] at this; rw [← hr0]; exact Nat.le_of_eq this.symm)
        (fun _ => by rw [← hb0]; simp only [boundR, hp.sched]; omega)
    cases htc : g.tcj with
    | none => exact hpop s hk0 rfl rfl rfl
    | some j =>
      have hcb := setaux_spec (c := c) (i := j) (t := { getTrk s j with toCounter := none }) h.inv
        ⟨rfl, rfl, rfl, rfl⟩ (fun _ => rfl)
      exact hpop _ (.of_step h hq hcb.toStep hcb.P hcb.hung) rfl rfl rfl

end wait

theorem retrieveLoop_next {c : Cfg} (hc : CfgOK c) {t0 : Nat} : ∀ fuel, LoopOK c t0 fuel := by
  intro fuel
  induction fuel with
  | zero => intro s g _ _ _ hf; have := one_le_need c s g; omega
  | succ fuel ih =>
    intro s g hph h hq hfuel
    cases hb : g.buf with
    | cons v r =>
      rw [retrieveLoop_yield c fuel s hb]
      have e : EnvStep s { s with nbConsumed := s.nbConsumed + 1 } := .intro
      have hph' : ({ g with buf := r, phase := .retrieve } : Gen).phase ≠ .tail := by simp
      refine ⟨Or.inl ⟨Or.inr rfl, ⟨e.inv h.inv, h.post, h.hung, h.cid⟩,
        fun ho' => ⟨InvU_frame (hq ho').1 rfl rfl rfl, (hq ho').2⟩⟩, fun hl => ⟨Or.inr (hl.resolve_left hph'), ?_⟩, ?_, ?_,
        ⟨rfl, rfl, rfl⟩⟩
      · simp only [restOut, hph, hph', if_false, hb, List.cons_append]; exact .refl _
      · rw [need_retrieve hph, need_retrieve hph']; exact Nat.le_refl _
      · simp only [yieldsMax, hph, hph', if_false, hb, List.length_cons]
        show r.length + (rest c s).length + 1 ≤ _
        omega
    | nil =>
      by_cases hab : s.aborting = true
      · exact loop_abort fuel h hb hab
      have hna : s.aborting = false := by simpa using hab
      by_cases hwait : Waiting s
      case neg => exact loop_exit fuel h hq hph hb hna hwait
      rw [retrieveLoop_wait c fuel hb hna hwait]
      rw [need_retrieve hph, hna] at hfuel
      have hpk := pending_exists h.inv hna hwait
      cases ho : ordered c with
      | true => exact waitOrdered_next ih hph hb hna hfuel h hq hpk hc ho
      | false => exact waitUnordered_next ih hph hb hna hfuel h hq hpk hc ho

theorem genNext_retrieve (c : Cfg) (fuel : Nat) (s : St) {g : Gen} (hph : g.phase = .start ∨ g.phase = .retrieve) :
    genNext c fuel s g = retrieveLoop c fuel s { g with phase := .retrieve } := by
  obtain ⟨gph, gbuf, grem, gtcj⟩ := g
  rcases hph with h | h <;> cases h <;> rfl

theorem genNext_next {c : Cfg} (hc : CfgOK c) {t0 fuel : Nat} {s : St} {g : Gen} (hg : GenOK c t0 s g)
    (hf : need c s g ≤ fuel) : NextPost c t0 s g (genNext c fuel s g) := by
  rcases hg with ⟨hph, hgr, hq⟩ | ⟨hph, hgt⟩
  · have hnt : g.phase ≠ .tail := by rcases hph with h | h <;> rw [h] <;> simp
    have hnt' : ({ g with phase := .retrieve } : Gen).phase ≠ .tail := by simp
    rw [genNext_retrieve c fuel s hph]
    have hnd : need c s { g with phase := .retrieve } = need c s g := by rw [need_retrieve hnt, need_retrieve hnt']
    refine (retrieveLoop_next hc fuel s _ hnt' hgr hq (by rw [hnd]; exact hf)).transfer ⟨rfl, rfl, rfl⟩
      (fun hl => ⟨Or.inr (hl.resolve_left hnt'), ?_⟩) (Nat.le_of_eq hnd) ?_
    · simp only [restOut, hnt, hnt', if_false]; exact .refl _
    · simp only [yieldsMax, hnt, hnt', if_false]; exact Nat.le_refl _
  · have : genNext c fuel s g = tailLoop fuel s g := by unfold genNext; rw [hph]
    rw [this]
    exact tailLoop_next fuel s g hph hgt hf

end JoblibModel.ParallelProto
