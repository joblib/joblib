import JoblibProofs.Lemmas.ParallelProto.Deliver
/-!
The caller's pre-dispatch phase: `dispatchOneMain`, `startLoop`, `start` (`Parallel._start`).
-/
namespace JoblibModel.ParallelProto

/-- What one `dispatch_one_batch(iterator)` of the caller guarantees. -/
structure DMSpec (c : Cfg) (t0 : Nat) (s s' : St) (more : Bool) : Prop extends StepI c t0 s s' where
  hung : s'.hung = s.hung
  exh : more = false → s'.aborting = false → s'.hung = false →
    s'.ready = [] ∧ (s'.srcDead = true ∨ s'.preLeft = some 0)
  pend : more = true → s'.aborting = false →
    ∃ i, t0 ≤ i ∧ i < s'.trk.length ∧ (getTrk s' i).status = .pending
  work_lt : more = true → s'.aborting = false → work s' < work s
  pre_nomore : more = false → s'.preLeft = s.preLeft

theorem dispatchOneMain_spec {c : Cfg} (hc : CfgOK c) {t0 : Nat} {s : St} (h : Inv c t0 s) :
    DMSpec c t0 s (dispatchOneMain c s).1 (dispatchOneMain c s).2 := by
  -- nothing is dispatched from `s1`: the harness gave up, or the call is aborting
  have hstop : ∀ {s1 : St}, Step c t0 none s s1 → IterPend t0 s1 → s1.hung = s.hung → s1.preLeft = s.preLeft →
      (s1.hung = false → s1.aborting = true) → DMSpec c t0 s s1 false := fun hst hP hh hp hx =>
    { hst with
      P := hP
      hung := hh
      exh := fun _ ha hf => (by rw [hx hf] at ha; cases ha)
      pend := nofun
      work_lt := nofun
      pre_nomore := fun _ => hp }
  unfold dispatchOneMain
  by_cases hab : s.aborting = true
  · rw [if_pos hab]
    exact hstop (.refl h.T h.S h.L) h.P rfl rfl (fun _ => hab)
  rw [if_neg hab]
  simp only
  -- the hook point `compute_batch_size()`
  obtain ⟨s1, he, hst1, hP1, hh1, hp1⟩ :
      ∃ s1, (if c.bsAuto = true then hook c false { s with bsI := s.bsI + 1 } else s) = s1 ∧
        Step c t0 none s s1 ∧ IterPend t0 s1 ∧ s1.hung = s.hung ∧ s1.preLeft = s.preLeft := by
    split
    · have e0 : EnvStep s { s with bsI := s.bsI + 1 } := .intro
      have hk := hook_spec hc false (e0.inv h)
      exact ⟨_, rfl, (e0.step h.T h.S h.L (Nat.le_refl _)).trans hk.toStep, hk.P, hk.hung_nosleep rfl, hk.pre⟩
    · exact ⟨s, rfl, .refl h.T h.S h.L, h.P, rfl, rfl⟩
  rw [he]
  by_cases hh : s1.hung = true
  · rw [if_pos hh]
    exact hstop hst1 hP1 hh1 hp1 (fun hf => by rw [hh] at hf; cases hf)
  rw [if_neg hh]
  by_cases hab1 : s1.aborting = true
  · rw [dispatchLocked_aborting c false _ hab1]
    exact hstop hst1 hP1 hh1 hp1 (fun _ => hab1)
  have hna1 : s1.aborting = false := by simpa using hab1
  have hd := dispatchLocked_dlspec hc (fo := false) (scriptedBs_pos hc s) hst1.T hst1.S hst1.L hna1
  exact { hst1.dispatch hd (scriptedBs_le_bmax c s) (fun _ _ hf => nomatch hf) with
    P := hd.iterp hP1
    hung := hd.same.hung.trans hh1
    exh := fun hm ha _ => ⟨(hd.exh hm ha).1, (hd.exh hm ha).2.imp_right (·.2)⟩
    pend := hd.pend
    work_lt := fun hm ha => Nat.lt_of_lt_of_le (hd.work_lt hm ha) hst1.later.work_le
    pre_nomore := fun hm => (hd.pre_nomore hm).trans hp1 }

/-- What `while self.dispatch_one_batch(iterator): pass` guarantees. -/
structure SLSpec (c : Cfg) (t0 : Nat) (fuel : Nat) (s s' : St) : Prop extends StepI c t0 s s' where
  hung : s'.hung = s.hung
  exh : work s + 2 ≤ fuel → s'.aborting = false → s'.hung = false →
    s'.ready = [] ∧ (s'.srcDead = true ∨ s'.preLeft = some 0)

theorem startLoop_spec {c : Cfg} (hc : CfgOK c) {t0 : Nat} : ∀ (fuel : Nat) (s : St), Inv c t0 s →
    SLSpec c t0 fuel s (startLoop c fuel s) := by
  intro fuel
  induction fuel with
  | zero =>
    intro s h
    have e0 : EnvStep s (ev s "fuel!") := .intro
    exact { e0.step h.T h.S h.L (Nat.le_refl _) with P := e0.iterPend h.P, hung := rfl, exh := fun hf => (by omega) }
  | succ fuel ih =>
    intro s h
    unfold startLoop
    have hd := dispatchOneMain_spec hc h
    generalize dispatchOneMain c s = res at hd
    obtain ⟨s1, more⟩ := res
    simp only at hd ⊢
    by_cases hcont : (more && !s1.hung) = true
    · rw [if_pos hcont]
      simp only [Bool.and_eq_true, Bool.not_eq_eq_eq_not, Bool.not_true] at hcont
      have hi := ih s1 hd.inv
      exact { hd.toStep.trans hi.toStep with
        P := hi.P
        hung := hi.hung.trans hd.hung
        exh := fun hf ha hhu =>
          have ha1 : s1.aborting = false := false_of_imp_true hi.later.frame.abort_mono ha
          hi.exh (by have := hd.work_lt hcont.1 ha1; omega) ha hhu }
    · rw [if_neg hcont]
      refine { hd.toStep with P := hd.P, hung := hd.hung, exh := fun _ ha hhu => ?_ }
      cases more with
      | false => exact hd.exh rfl ha hhu
      | true => simp [hhu] at hcont

/-- What `Parallel._start` guarantees, from the state `{ s with iterating := false }` it begins with. -/
structure STSpec (c : Cfg) (t0 : Nat) (fuel : Nat) (s s' : St) : Prop
    extends StepI c t0 { s with iterating := false } s' where
  hung : s'.hung = s.hung
  post : work s + 2 ≤ fuel → s.hung = false →
    (c.pdMode = 1 ∨ (s.origAlive = true ∧ ∃ q, s.preLeft = some q ∧ 1 ≤ q)) → Post s'

/-- Writing `_iterating` without newly clearing it, and setting it only with a pending batch in sight. -/
theorem Step.set_iterating {c : Cfg} {t0 : Nat} {s : St} (h : Inv c t0 s) (b : Bool)
    (hb0 : b = false → s.iterating = false) (hb1 : b = true → s.origAlive = true)
    (hio : s.iterating = s.origAlive → b = s.origAlive) : Step c t0 none s { s with iterating := b } :=
  { T := InvT_same h.T rfl, S := InvS_same h.S rfl,
    L := ⟨hb1, h.L.orig_mode, h.L.pre_mode, h.L.orig_exh⟩,
    later := ⟨Frame.of_eq rfl, Nat.le_refl _, fun _ => Nat.le_refl _,
      fun hp ha hi => hp ha (hb0 hi), Nat.le_refl _, Nat.le_refl _, hio, fun a b => ⟨a, b⟩⟩,
    sched_le := Nat.le_refl _, B := fun hB => InvB_same hB rfl,
    out := fun hq => .of_same (fun ho => InvU_frame (hq ho) rfl rfl rfl) (fun _ => rfl) (fun _ => rfl) rfl rfl rfl rfl
      rfl }

theorem start_spec {c : Cfg} (hc : CfgOK c) {t0 : Nat} {fuel : Nat} {s : St}
    (h : Inv c t0 { s with iterating := false }) : STSpec c t0 fuel s (start c fuel s) := by
  unfold start
  simp only
  have hd := dispatchOneMain_spec hc h
  generalize dispatchOneMain c { s with iterating := false } = res at hd
  obtain ⟨s1, more⟩ := res
  simp only at hd ⊢
  by_cases hh1 : s1.hung = true
  · rw [if_pos hh1]
    exact { hd.toStep with
      P := hd.P, hung := hd.hung, post := fun _ hh _ => absurd (hd.hung.trans hh) (by rw [hh1]; simp) }
  rw [if_neg hh1]
  -- `self._iterating = self._original_iterator is not None`
  obtain ⟨s2, he2, hst2, hP2, hh2, hio2, hsame2⟩ :
      ∃ s2, (if more = true then { s1 with iterating := s1.origAlive } else s1) = s2 ∧ Step c t0 none s1 s2 ∧
        IterPend t0 s2 ∧ s2.hung = s1.hung ∧ (more = true → s2.iterating = s2.origAlive) ∧ (more = false → s2 = s1) := by
    cases more with
    | false => exact ⟨s1, rfl, .refl hd.T hd.S hd.L, hd.P, rfl, nofun, fun _ => rfl⟩
    | true =>
      refine ⟨_, rfl, .set_iterating hd.inv _ (fun hb => ?_) id (fun _ => rfl), fun ha _ => hd.pend rfl ha, rfl,
        fun _ => rfl, nofun⟩
      cases hx : s1.iterating with
      | false => rfl
      | true => rw [hd.L.iter_orig hx] at hb; cases hb
  rw [he2]
  have hl := startLoop_spec hc fuel s2 ⟨hst2.T, hst2.S, hst2.L, hP2⟩
  generalize startLoop c fuel s2 = s3 at hl
  have hst3 : Step c t0 none { s with iterating := false } s3 := (hd.toStep.trans hst2).trans hl.toStep
  have hhung3 : s3.hung = s.hung := by rw [hl.hung, hh2, hd.hung]
  -- the `Post` statement for `s3`
  have hpost3 : work s + 2 ≤ fuel → s.hung = false →
      (c.pdMode = 1 ∨ (s.origAlive = true ∧ ∃ q, s.preLeft = some q ∧ 1 ≤ q)) →
      s3.aborting = false → (c.pdMode = 1 ∨ s3.iterating = false) → s3.ready = [] ∧ s3.srcDead = true := by
    intro hf hhu hmode ha3 hit3
    have hh3 : s3.hung = false := hhung3.trans hhu
    have hwl : work s2 + 2 ≤ fuel := by
      have := (hd.toStep.trans hst2).later.work_le
      have hw0 : work { s with iterating := false } = work s := rfl
      omega
    by_cases hm1 : c.pdMode = 1
    · obtain ⟨x, y⟩ := hl.exh hwl ha3 hh3
      refine ⟨x, ?_⟩
      rcases y with y | y
      · exact y
      · rw [hl.L.pre_mode hm1] at y; simp at y
    · rcases hmode with hmode | ⟨hor, q, hq, hq1⟩
      · exact absurd hmode hm1
      rcases hit3 with hit3 | hit3
      · exact absurd hit3 hm1
      cases more with
      | true =>
        have hio3 := hl.later.io (hio2 rfl)
        exact hl.L.orig_exh hm1 (by rw [← hio3]; exact hit3) ha3
      | false =>
        have e21 := hsame2 rfl
        subst e21
        have ha1 : s2.aborting = false := false_of_imp_true hl.later.frame.abort_mono ha3
        have hh1' : s2.hung = false := by simpa using hh1
        obtain ⟨x, y⟩ := hd.exh rfl ha1 hh1'
        have hpl : s2.preLeft = some q := (hd.pre_nomore rfl).trans hq
        have yd : s2.srcDead = true := by
          rcases y with y | y
          · exact y
          · rw [hpl] at y; simp only [Option.some.injEq] at y; omega
        exact hl.later.exh x yd
  by_cases hh3 : s3.hung = true
  · rw [if_pos hh3]
    exact { hst3 with P := hl.P, hung := hhung3, post := fun _ hhu _ => absurd (hhung3.trans hhu) (by rw [hh3]; simp) }
  rw [if_neg hh3]
  by_cases hm1 : (c.pdMode == 1) = true
  · rw [if_pos hm1]
    have hm1' : c.pdMode = 1 := by simpa using hm1
    have hit3 : s3.iterating = false := by
      cases hx : s3.iterating with
      | false => rfl
      | true => exact absurd hm1' (hl.L.orig_mode (hl.L.iter_orig hx))
    have h4 := Step.set_iterating hl.inv false (fun _ => hit3) nofun
      (fun hio => by rw [← hio, hit3])
    exact { hst3.trans h4 with
      P := fun _ hit => (by cases hit), hung := hhung3, post := fun hf hhu hmode ha _ => hpost3 hf hhu hmode ha (Or.inl hm1') }
  · rw [if_neg hm1]
    exact { hst3 with P := hl.P, hung := hhung3, post := fun hf hhu hmode ha hit => hpost3 hf hhu hmode ha (Or.inr hit) }

end JoblibModel.ParallelProto
