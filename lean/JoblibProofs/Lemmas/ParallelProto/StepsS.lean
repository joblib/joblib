import JoblibProofs.Lemmas.ParallelProto.StepsT
/-!
Preservation of `InvS` (source / conservation / counters), `InvL` (liveness bookkeeping) and `IterPend` by the
elementary updates of the protocol.
-/
namespace JoblibModel.ParallelProto

/-- `InvS` reads the tracker table through the items of each tracker and through the pending total of the call. -/
theorem InvS_congr {c : Cfg} {t0 : Nat} {s s' : St} (h : InvS c t0 s)
    (hlen : s'.trk.length = s.trk.length) (hgi : ∀ j, (getTrk s' j).items = (getTrk s j).items)
    (hdi : dispItems t0 s' = dispItems t0 s)
    (hps : s'.nCompleted + pendSum (own t0 s') = s.nCompleted + pendSum (own t0 s))
    (hdead : s'.aborting = false → s'.srcDead = true → s.srcPos = s.spec.n ∧ (s.srcPos : Int) ≠ s.spec.iterfail)
    (hready : s'.ready = s.ready) (hpos : s'.srcPos = s.srcPos) (hab : s'.aborting = s.aborting)
    (hnd : s'.nDispTasks = s.nDispTasks) (h2 : s'.base = s.base) (h3 : s'.spec = s.spec) : InvS c t0 s' := by
  obtain ⟨a1, a2, _, a4, a5, a6, a7, a8, a9⟩ := h
  constructor
  · rw [hpos, h3]; exact a1
  · rw [hpos, h3]; exact a2
  · rw [hpos, h3]; exact hdead
  · rw [hab, hdi, hready, h2, hpos]; exact a4
  · rw [hready]; exact a5
  · rw [hready, h2, h3]; exact a6
  · intro i hi hi'; rw [hgi, h2, h3]; exact a7 i hi (hlen ▸ hi')
  · rw [hab, hnd, hdi]; exact a8
  · rw [hab, hps, hnd]; exact a9

/-- Only the source state moved, and no item was taken (the slice came back empty, or nothing was sliced). -/
theorem InvS_src {c : Cfg} {t0 : Nat} {s s' : St} (h : InvS c t0 s)
    (hdead : s'.aborting = false → s'.srcDead = true →
      s.srcPos = s.spec.n ∧ (s.srcPos : Int) ≠ s.spec.iterfail)
    (htrk : s'.trk = s.trk) (hready : s'.ready = s.ready) (hpos : s'.srcPos = s.srcPos)
    (hab : s'.aborting = s.aborting)
    (hnd : s'.nDispTasks = s.nDispTasks) (hnc : s'.nCompleted = s.nCompleted)
    (h2 : s'.base = s.base) (h3 : s'.spec = s.spec) : InvS c t0 s' :=
  have hown : own t0 s' = own t0 s := by simp [own, htrk]
  InvS_congr h (by rw [htrk]) (fun j => by rw [getTrk_same htrk]) (by simp [dispItems, hown]) (by rw [hnc, hown])
    hdead hready hpos hab hnd h2 h3

theorem InvS_same {c : Cfg} {t0 : Nat} {s s' : St} (h : InvS c t0 s)
    (e : (s'.trk, s'.ready, s'.srcPos, s'.srcDead, s'.aborting, s'.nDispTasks, s'.nCompleted, s'.base, s'.spec) =
      (s.trk, s.ready, s.srcPos, s.srcDead, s.aborting, s.nDispTasks, s.nCompleted, s.base, s.spec)) : InvS c t0 s' := by
  simp only [Prod.mk.injEq] at e
  obtain ⟨h1, h2, h3, h4, h5, h6, h7, h8, h9⟩ := e
  exact InvS_src h (by rw [h5, h4]; exact h.dead) h1 h2 h3 h5 h6 h7 h8 h9

/-- A batch is dispatched, either from the look-ahead queue (`m = 0`) or after slicing `m` new items. -/
theorem InvS_dispatch {c : Cfg} {t0 : Nat} {s s' : St} (h : InvS c t0 s) (ht0 : t0 ≤ s.trk.length)
    {tasks : List Nat} {rest : List (List Nat)} {m : Nat}
    (hna : s.aborting = false)
    (hsplit : tasks ++ rest.flatten = s.ready.flatten ++ List.range' (s.base + s.srcPos) m)
    (hrest : ∀ b ∈ rest, b ≠ [])
    (hle : s.srcPos + m ≤ s.spec.n)
    (hiter : 0 ≤ s.spec.iterfail → ((s.srcPos + m : Nat) : Int) ≤ s.spec.iterfail)
    (hdead : s'.srcDead = true → s.srcPos + m = s.spec.n ∧ ((s.srcPos + m : Nat) : Int) ≠ s.spec.iterfail)
    (htrk : s'.trk = s.trk ++ [newTrk s tasks]) (hready : s'.ready = rest)
    (hpos : s'.srcPos = s.srcPos + m)
    (hnd : s'.nDispTasks = s.nDispTasks + tasks.length) (hnc : s'.nCompleted = s.nCompleted)
    (h2 : s'.base = s.base) (h3 : s'.spec = s.spec) : InvS c t0 s' := by
  have hg := getTrk_push htrk
  have hown : own t0 s' = own t0 s ++ [newTrk s tasks] := own_push htrk ht0
  have hdi : dispItems t0 s' = dispItems t0 s ++ tasks := by
    rw [dispItems_push htrk ht0]; rfl
  have hall : ∀ id, id ∈ tasks ++ rest.flatten → s.base ≤ id ∧ id < s.base + s.spec.n := by
    intro id hid
    rw [hsplit, List.mem_append] at hid
    rcases hid with hid | hid
    · obtain ⟨b, hb, hidb⟩ := List.mem_flatten.mp hid
      exact h.ready_range b hb id hidb
    · rw [List.mem_range'_1] at hid; omega
  constructor
  · rw [hpos, h3]; exact hle
  · rw [hpos, h3]; exact hiter
  · intro _ hd; rw [hpos, h3]; exact hdead hd
  · intro _
    rw [hdi, hready, h2, hpos, List.append_assoc, hsplit, ← List.append_assoc, h.cons hna]
    rw [← List.range'_append]; simp
  · rw [hready]; exact hrest
  · intro b hb id hid; rw [h2, h3]; rw [hready] at hb
    exact hall id (List.mem_append_right _ (List.mem_flatten.mpr ⟨b, hb, hid⟩))
  · intro i hi hi'; rw [hg, h2, h3]
    by_cases hlt : i < s.trk.length
    · simp only [hlt, if_true]; exact h.items_range i hi hlt
    · have : i = s.trk.length := by simp [htrk] at hi'; omega
      subst this
      simp only [Nat.lt_irrefl, if_false, if_true, newTrk]
      intro id hid; exact hall id (List.mem_append_left _ hid)
  · intro _; rw [hnd, hdi, h.ndisp hna]; simp
  · intro _; rw [hnc, hnd, hown, pendSum_append, ← h.ncomp hna]
    simp [pendSum, newTrk]; omega

/-- The state after the step is aborting: only the unconditional part of `InvS` has to be re-established. -/
theorem InvS_aborted {c : Cfg} {t0 : Nat} {s s' : St} (h : InvS c t0 s)
    (hab : s'.aborting = true)
    (hle : s'.srcPos ≤ s.spec.n)
    (hiter : 0 ≤ s.spec.iterfail → (s'.srcPos : Int) ≤ s.spec.iterfail)
    (hitems : ∀ i, t0 ≤ i → i < s'.trk.length →
      (i < s.trk.length ∧ (getTrk s' i).items = (getTrk s i).items) ∨ (getTrk s' i).items = [])
    (hready : s'.ready = s.ready)
    (h2 : s'.base = s.base) (h3 : s'.spec = s.spec) : InvS c t0 s' := by
  constructor
  · rw [h3]; exact hle
  · rw [h3]; exact hiter
  · intro hab'; rw [hab] at hab'; simp at hab'
  · intro hab'; rw [hab] at hab'; simp at hab'
  · rw [hready]; exact h.ready_ne
  · rw [hready, h2, h3]; exact h.ready_range
  · intro i hi hi'; rw [h2, h3]
    rcases hitems i hi hi' with ⟨hlt, he⟩ | he
    · rw [he]; exact h.items_range i hi hlt
    · rw [he]; simp
  · intro hab'; rw [hab] at hab'; simp at hab'
  · intro hab'; rw [hab] at hab'; simp at hab'

/-- The completion callback of the pending tracker `i` registers success and counts its tasks. -/
theorem InvS_complete {c : Cfg} {t0 : Nat} {s s' : St} {i : Nat} {t : Tracker} (h : InvS c t0 s)
    (hi0 : t0 ≤ i) (hi1 : i < s.trk.length) (hp : (getTrk s i).status = .pending)
    (ht : t.items = (getTrk s i).items) (hts : t.status ≠ .pending)
    (htrk : s'.trk = s.trk.set i t) (hready : s'.ready = s.ready) (hpos : s'.srcPos = s.srcPos)
    (hdead : s'.srcDead = s.srcDead) (hab : s'.aborting = s.aborting)
    (hnd : s'.nDispTasks = s.nDispTasks) (hnc : s'.nCompleted = s.nCompleted + (getTrk s i).bsize)
    (h2 : s'.base = s.base) (h3 : s'.spec = s.spec) : InvS c t0 s' :=
  InvS_congr h (by rw [htrk, List.length_set]) (getTrk_set_proj (·.items) htrk ht) (dispItems_set htrk ht)
    (by rw [hnc, Nat.add_assoc, Nat.add_comm (getTrk s i).bsize, pendSum_own_set_complete htrk hi0 hi1 hp hts])
    (by rw [hab, hdead]; exact h.dead) hready hpos hab hnd h2 h3

/-- Tracker `i` is replaced by one with the same items, status and size. -/
theorem InvS_set_same {c : Cfg} {t0 : Nat} {s s' : St} {i : Nat} {t : Tracker} (h : InvS c t0 s)
    (ht : t.items = (getTrk s i).items) (hts : t.status = (getTrk s i).status)
    (htb : t.bsize = (getTrk s i).bsize)
    (htrk : s'.trk = s.trk.set i t) (hready : s'.ready = s.ready) (hpos : s'.srcPos = s.srcPos)
    (hdead : s'.srcDead = s.srcDead) (hab : s'.aborting = s.aborting)
    (hnd : s'.nDispTasks = s.nDispTasks) (hnc : s'.nCompleted = s.nCompleted)
    (h2 : s'.base = s.base) (h3 : s'.spec = s.spec) : InvS c t0 s' :=
  InvS_congr h (by rw [htrk, List.length_set]) (getTrk_set_proj (·.items) htrk ht) (dispItems_set htrk ht)
    (by rw [hnc, pendSum_own_set_same htrk hts htb]) (by rw [hab, hdead]; exact h.dead) hready hpos hab hnd h2 h3

theorem InvL_of {c : Cfg} {t0 : Nat} {s s' : St} (h : InvL c t0 s)
    (hit : s'.iterating = true → s.iterating = true)
    (hor : s'.origAlive = s.origAlive)
    (hpre : s.preLeft = none → s'.preLeft = none)
    (hexh : c.pdMode ≠ 1 → s'.origAlive = false → s'.aborting = false →
      s'.ready = [] ∧ s'.srcDead = true) : InvL c t0 s' := by
  obtain ⟨a1, a2, a3, a4⟩ := h
  constructor
  · intro hi; rw [hor]; exact a1 (hit hi)
  · rw [hor]; exact a2
  · intro hm; exact hpre (a3 hm)
  · exact hexh

theorem InvL_same {c : Cfg} {t0 : Nat} {s s' : St} (h : InvL c t0 s)
    (e : (s'.iterating, s'.origAlive, s'.preLeft, s'.aborting, s'.ready, s'.srcDead) =
      (s.iterating, s.origAlive, s.preLeft, s.aborting, s.ready, s.srcDead)) : InvL c t0 s' := by
  simp only [Prod.mk.injEq] at e
  obtain ⟨h1, h2, h3, h4, h5, h6⟩ := e
  exact ⟨by rw [h1, h2]; exact h.iter_orig, by rw [h2]; exact h.orig_mode, by rw [h3]; exact h.pre_mode,
    by rw [h2, h4, h5, h6]; exact h.orig_exh⟩

/-- A completion callback found nothing more to dispatch: `_iterating = False; _original_iterator = None`. -/
theorem InvL_clear {c : Cfg} {t0 : Nat} {s s' : St} (h : InvL c t0 s)
    (hit : s'.iterating = false) (hor : s'.origAlive = false) (hpre : s'.preLeft = s.preLeft)
    (hexh : s'.aborting = false → s'.ready = [] ∧ s'.srcDead = true) : InvL c t0 s' := by
  obtain ⟨a1, a2, a3, a4⟩ := h
  constructor
  · rw [hit]; simp
  · rw [hor]; simp
  · rw [hpre]; exact a3
  · intro _ _ hab; exact hexh hab

theorem IterPend_of {t0 : Nat} {s s' : St} (h : IterPend t0 s)
    (hab : s'.aborting = false → s.aborting = false)
    (hit : s'.iterating = true → s.iterating = true)
    (hlen : s.trk.length ≤ s'.trk.length)
    (hst : s'.aborting = false → ∀ i, i < s.trk.length → (getTrk s' i).status = (getTrk s i).status) :
    IterPend t0 s' := by
  intro ha hi
  obtain ⟨i, i0, i1, i2⟩ := h (hab ha) (hit hi)
  exact ⟨i, i0, by omega, by rw [hst ha i i1]; exact i2⟩

end JoblibModel.ParallelProto
