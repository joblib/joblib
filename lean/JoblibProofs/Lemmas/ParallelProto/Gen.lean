import JoblibProofs.Lemmas.ParallelProto.Call

/-!
The output generator seen by its consumer: pauses (`hook c false`), `genClose`; one-step facts used by
C04 / C09 / C16 (promptness, timeout, failing batch, abort makes dispatch a no-op).
-/

namespace JoblibModel.ParallelProto

/-- A pause of the consumer: a hook point at which completions may arrive. -/
theorem pause_next {c : Cfg} (hc : CfgOK c) {t0 : Nat} {s : St} {g : Gen} (hg : GenOK c t0 s g) :
    GenOK c t0 (hook c false s) g ∧ need c (hook c false s) g ≤ need c s g ∧
    (Live (hook c false s) g → restOut c (hook c false s) g = restOut c s g) := by
  rcases hg with ⟨hph, hgr, hq⟩ | ⟨hph, hgt⟩
  · have hnt : g.phase ≠ .tail := by rcases hph with h | h <;> rw [h] <;> simp
    have hk := hook_spec hc false hgr.inv
    have hf := hk.later.frame
    have hK : Keeps c t0 g s (hook c false s) := .of_step hgr hq hk.toStep hk.P (hk.hung_nosleep rfl)
    refine ⟨Or.inl ⟨hph, hK.good, hK.q⟩, ?_, fun hl => ?_⟩
    · rw [need_retrieve hnt (s := hook c false s)]
      cases ha : (hook c false s).aborting with
      | true => exact one_le_need c s g
      | false =>
        rw [need_retrieve hnt, false_of_imp_true hf.abort_mono ha]
        have := hk.later.meas_le ha
        have := hk.sched_le
        simp only [boundR, Bool.false_eq_true, if_false]; omega
    · simp only [restOut, hnt, if_false]; rw [hK.rest_eq (hl.resolve_left hnt)]
  · have ⟨h1, h2⟩ := hgt.pause c
    exact ⟨Or.inr ⟨hph, h1⟩, by simp [need, hph], fun _ => by simp only [restOut, hph, if_true]; exact h2⟩

/-- PROMPTNESS (ordered modes). If the generator's buffer is empty, the call is not aborting and the head of the
job queue has completed, `next()` yields the first result of that batch without consuming a schedule entry, i.e.
without waiting for any further completion (no hook point, no clock tick). -/
theorem promptness_step {c : Cfg} {t0 : Nat} (ho : ordered c = true) (fuel : Nat) {s : St} {g : Gen} {i : Nat}
    {rest : List Nat} (h : Inv c t0 s) (hph : g.phase = .start ∨ g.phase = .retrieve) (hb : g.buf = [])
    (hna : s.aborting = false) (hj : s.jobs = i :: rest) (hd : (getTrk s i).status = .done) :
    ∃ s' g' v r, genNext c (fuel + 2) s g = (s', g', .value v) ∧ (getTrk s i).items = v :: r ∧ g'.buf = r ∧
      s'.sched = s.sched ∧ s'.now = s.now ∧ s'.parked = s.parked ∧ s'.hung = s.hung := by
  have hmem : i ∈ s.jobs := by rw [hj]; simp
  obtain ⟨hi0, hi1⟩ := h.T.jobs_own i hmem
  have hne : (getTrk s i).status ≠ .error := by rw [hd]; simp
  obtain ⟨hitems, _⟩ := h.T.items_ok i hi0 hi1 hne
  obtain ⟨v, r, hvr⟩ : ∃ v r, (getTrk s i).items = v :: r := by
    cases hx : (getTrk s i).items with
    | nil => exact absurd hx hitems
    | cons v r => exact ⟨v, r, rfl⟩
  have htok := (h.T.tok i hmem).1 hd
  have hb0 : ({ g with phase := .retrieve } : Gen).buf = [] := hb
  rw [genNext_retrieve c (fuel + 2) s hph]
  by_cases hw : Waiting s
  · -- the head is popped and its first value yielded
    have hgs : getStatus c s i = (s, .done) := by
      have hgs := getStatus_spec (c := c) h hi0 hi1
      have hs1 := hgs.settled (by rw [hd]; simp)
      exact Prod.ext hs1 (by rw [hgs.status, hs1]; exact hd)
    obtain ⟨s3, hres, hp⟩ := pop_done ho h hna hj hd
    rw [retrieveLoop_wait c (fuel + 1) hb0 hna hw, if_pos ho]
    simp only [waitOrdered, hj, hgs]
    rw [if_neg (by simp), hres]
    simp only
    rw [retrieveLoop_yield c fuel s3 (g := { g with phase := .retrieve, buf := (getTrk s i).items }) hvr]
    exact ⟨_, _, v, r, rfl, hvr, rfl, hp.sched, hp.now, hp.parked, hp.hung⟩
  · -- the loop exits: `finally`, then the tail loop starts with the head batch
    obtain ⟨lg, hfb⟩ := finallyBlock_eq s
    have hexc : s.exception = false := by rw [h.T.abort_exc]; exact hna
    rw [retrieveLoop_exit c (fuel + 1) hb0 hna hw, hfb]
    simp only [hexc, Bool.false_eq_true, if_false, hj]
    unfold tailLoop
    simp only [hb]
    rw [getResult_vals (i := i) (l := (getTrk s i).items)]
    rotate_left
    · exact htok
    · exact hne
    simp only
    rw [show fuel + 1 + (i :: rest).length = (fuel + 1 + rest.length) + 1 by simp only [List.length_cons]; omega]
    unfold tailLoop
    simp only
    show ∃ s' g' v' r', (match (getTrk s i).items with
      | v :: r => _
      | [] => _) = (s', g', Out.value v') ∧ _
    rw [hvr]
    exact ⟨_, _, v, r, rfl, rfl, rfl, rfl, rfl, rfl, rfl⟩

/-- TIMEOUT. If the awaited tracker (the head of the job queue, ordered modes) is still pending and more than
`timeout` ticks have passed since the caller started waiting for it, `next()` raises `TimeoutError`. -/
theorem timeout_step {c : Cfg} {t0 : Nat} (ho : ordered c = true) (fuel : Nat) {s : St} {g : Gen} {i : Nat}
    {rest : List Nat} {ctr : Int} (h : GoodR c t0 s) (hph : g.phase = .start ∨ g.phase = .retrieve) (hb : g.buf = [])
    (hna : s.aborting = false) (hj : s.jobs = i :: rest) (hp : (getTrk s i).status = .pending)
    (hto : 0 ≤ c.timeout) (hctr : (getTrk s i).toCounter = some ctr) (hlate : s.now - ctr > c.timeout) :
    ∃ s' g', genNext c (fuel + 1) s g = (s', g', .raise .timeout) ∧ Idle s' ∧ Clean s' ∧ s'.exception = true := by
  have hmem : i ∈ s.jobs := by rw [hj]; simp
  obtain ⟨hi0, hi1⟩ := h.inv.T.jobs_own i hmem
  -- the call cannot be over: a pending tracker of the call exists
  have hwait : s.iterating = true ∨ s.nCompleted < s.nDispTasks :=
    Or.inr (Decidable.byContradiction fun hw => by
      have := exit_no_pending h.inv hna hw i hi0 hi1; rw [hp] at this; cases this)
  have hb0 : ({ g with phase := .retrieve } : Gen).buf = [] := hb
  rw [genNext_retrieve c (fuel + 1) s hph, retrieveLoop_wait c fuel hb0 hna hwait, if_pos ho]
  simp only [waitOrdered, hj]
  -- `get_status` registers the timeout
  have hgs := getStatus_spec (c := c) h.inv hi0 hi1
  obtain ⟨hst, hres⟩ : (getStatus c s i).2 = .error ∧ (getTrk (getStatus c s i).1 i).result = .exc .timeout := by
    unfold getStatus
    simp only
    rw [if_neg (by simp [hp]; omega)]
    simp only [hctr, Option.getD_some]
    have hp1 : (getTrk (setTrk s i { getTrk s i with toCounter := some ctr }) i).status = .pending := by
      rw [getTrk_setTrk, if_pos ⟨rfl, hi1⟩]; exact hp
    rw [if_pos (show (setTrk s i { getTrk s i with toCounter := some ctr }).now - ctr > c.timeout from hlate),
      registerOutcome_error hp1, getTrk_set_self rfl (by simpa [setTrk] using hi1)]
    exact ⟨rfl, rfl⟩
  generalize getStatus c s i = r0 at hgs hst hres
  obtain ⟨s1, st⟩ := r0
  simp only at hst hres ⊢
  subst hst
  rw [if_neg (by simp)]
  have hf := hgs.later.frame
  have hg1 : GoodR c t0 s1 := ⟨hgs.inv, hgs.later.post h.post, hgs.hung.trans h.hung,
    by rw [hf.callId, hf.callCtr]; exact h.cid⟩
  rw [getResult_exc (s := { s1 with jobs := rest }) (e := .timeout) hres hgs.status.symm]
  simp only
  have hov := raise_end (c := c) (s3 := setTrk { s1 with jobs := rest } i { getTrk { s1 with jobs := rest } i with result := .none }) hg1
    (getTrk_set_proj (s := s1) (·.callId) rfl rfl) (List.length_set ..) rfl rfl rfl rfl
  exact ⟨_, _, rfl, hov.idle, hov.clean, hov.exception⟩

/-- While the call is aborting, the completion of any parked batch changes neither the input position nor the
tracker table nor the queues: only the backend's bookkeeping (`parked`, log). -/
theorem deliver_aborting (c : Cfg) (k : Nat) {s : St} (h : s.aborting = true) :
    ∃ lg pk ib, deliver c k s = { s with log := lg, parked := pk, inCb := ib } := by
  cases hk : s.parked[k]? with
  | none => exact ⟨s.log, s.parked, s.inCb, deliver_none hk⟩
  | some i =>
    obtain ⟨lg, failed, he, _⟩ := deliver_some (c := c) hk
    have := aborting_callback_noop c { s with log := lg, parked := s.parked.eraseIdx k, inCb := true } i failed h
    rw [he, this]
    exact ⟨lg, _, false, rfl⟩

/-! ### the input position moves only inside `dispatchLocked` -/

theorem dispatch_srcPos (c : Cfg) (s : St) (b : List Nat) : (dispatch c s b).srcPos = s.srcPos := by
  unfold dispatch
  split
  · rfl
  · simp only; split <;> rfl

theorem getStatus_srcPos (c : Cfg) (s : St) (i : Nat) : (getStatus c s i).1.srcPos = s.srcPos :=
  (getStatus_core c s i).srcPos

theorem getResult_srcPos (s : St) (i : Nat) : (getResult s i).1.srcPos = s.srcPos := by
  unfold getResult
  simp only
  split
  · rfl
  · split <;> rfl
  · split <;> rfl

theorem abort_srcPos (c : Cfg) (s : St) : (abort c s).srcPos = s.srcPos := by
  obtain ⟨lg, pk, sc, ib, h, _, _⟩ := abort_eq c s; rw [h]

theorem finallyBlock_srcPos (s : St) : (finallyBlock s).1.srcPos = s.srcPos := by
  obtain ⟨lg, h⟩ := finallyBlock_eq s; rw [h]

theorem handleException_srcPos (c : Cfg) (s : St) : (handleException c s).srcPos = s.srcPos := by
  obtain ⟨lg, pk, sc, ib, h, _, _⟩ := handleException_eq c s; rw [h]

/-- `dispatch_one_batch` called from a callback moves the input position only inside its locked region. -/
theorem dispatchOneCb_srcPos (c : Cfg) (s : St) :
    (dispatchOneCb c s).1.srcPos = s.srcPos ∨
    ∃ bs s1, s1.srcPos = s.srcPos ∧ (dispatchOneCb c s).1 = (dispatchLocked c true bs s1).1 := by
  rw [dispatchOneCb_eq]
  split
  · exact Or.inl rfl
  · exact Or.inr ⟨scriptedBs c s, { s with bsI := if c.bsAuto then s.bsI + 1 else s.bsI }, rfl, rfl⟩

/-- A completion callback moves the input position only through `dispatch_one_batch(self._original_iterator)`,
hence only inside the locked region, and only while `_original_iterator` is still set. -/
theorem callback_srcPos (c : Cfg) (s : St) (i : Nat) (failed : Option Nat) :
    (callback c s i failed).srcPos = s.srcPos ∨
    (s.origAlive = true ∧ ∃ s1, s1.srcPos = s.srcPos ∧
      (callback c s i failed).srcPos = (dispatchOneCb c s1).1.srcPos) := by
  unfold callback
  simp only
  by_cases h1 : (s.callId != (getTrk s i).callId) = true
  · rw [if_pos h1]; exact Or.inl rfl
  rw [if_neg h1]
  by_cases h2 : s.aborting = true
  · rw [if_pos h2]; exact Or.inl rfl
  rw [if_neg h2]
  cases failed with
  | some id => exact Or.inl (registerOutcome_core c s i _ _).srcPos
  | none =>
    simp only
    have hr := registerOutcome_core c s i .done (.vals (getTrk s i).items)
    generalize registerOutcome c s i .done (.vals (getTrk s i).items) = s1 at hr
    by_cases hor : s1.origAlive = true
    · rw [if_pos hor]
      refine Or.inr ⟨hr.origAlive ▸ hor, { s1 with nCompleted := s1.nCompleted + (getTrk s i).bsize }, hr.srcPos, ?_⟩
      generalize dispatchOneCb c _ = res
      obtain ⟨s3, more⟩ := res
      cases more <;> rfl
    · rw [if_neg hor]; exact Or.inl hr.srcPos

theorem genClose_active (c : Cfg) (s : St) {g : Gen} (h : g.phase = .start ∨ g.phase = .retrieve) :
    genClose c s g = (handleException c s, { g with phase := .done }) := by
  unfold genClose handleException
  rcases h with h | h <;> rw [h]

theorem genClose_inactive (c : Cfg) (s : St) {g : Gen} (h : g.phase = .tail ∨ g.phase = .done) :
    genClose c s g = (s, { g with phase := .done }) := by
  unfold genClose
  rcases h with h | h <;> rw [h]

/-! ### leaving the `with` block while the generator is alive (`Parallel.__exit__`, consumer op 6) -/

/-- What `__exit__` changes: `managed`, `calling`, the abort flags, and the backend's bookkeeping (completions that
arrive inside `abort_everything` are no-ops). In particular `running`, the job queues, the tracker table, the input
position and the look-ahead queue are untouched. In a generator mode with the call still in progress (`calling`) the
object is aborting afterwards. -/
theorem exitBlock_eq (c : Cfg) (s : St) : ∃ lg pk sc ib ab abd,
    exitBlock c s = { s with log := lg, parked := pk, sched := sc, inCb := ib, managed := false, calling := false, aborting := ab, aborted := abd } ∧
    pk.Sublist s.parked ∧ sc.length ≤ s.sched.length ∧ (s.aborting = true → ab = true) ∧
    (isGen c = true → s.calling = true → ab = true) := by
  unfold exitBlock
  dsimp only
  by_cases hg : (isGen c && s.calling) = true
  · rw [if_pos hg]
    obtain ⟨lg1, pk, sc, ib, h1, hpk, hsc⟩ := abort_eq c { s with managed := false }
    obtain ⟨lg2, h2⟩ := terminateAndReset_eq (abort c { s with managed := false })
    rw [h2, h1]
    exact ⟨_, pk, sc, ib, true, true, rfl, hpk, hsc, fun _ => rfl, fun _ _ => rfl⟩
  · rw [if_neg hg]
    obtain ⟨lg2, h2⟩ := terminateAndReset_eq { s with managed := false }
    rw [h2]
    refine ⟨_, s.parked, s.sched, s.inCb, s.aborting, s.aborted, rfl, List.Sublist.refl _, Nat.le_refl _,
      fun h => h, fun h1 h2 => ?_⟩
    simp [h1, h2] at hg

/-- When the backend completes a parked batch of the running call that contains a failing task, the call is
aborting afterwards and the `_exception` flag is set (the error was registered on that tracker, or another error
had been registered before). -/
theorem deliver_failing {c : Cfg} (hc : CfgOK c) {t0 : Nat} {s : St} {k i : Nat} (h : Inv c t0 s)
    (hk : s.parked[k]? = some i) (hi0 : t0 ≤ i) (hi1 : i < s.trk.length)
    (hfail : ∃ id ∈ (getTrk s i).items, id ∈ s.failIds) :
    (deliver c k s).aborting = true ∧ (deliver c k s).exception = true := by
  have hinv := (deliver_spec hc k h).1.inv
  suffices hab : (deliver c k s).aborting = true from ⟨hab, by rw [hinv.T.abort_exc]; exact hab⟩
  by_cases hab0 : s.aborting = true
  · exact (deliver_spec hc k h).1.later.frame.abort_mono hab0
  have hna : s.aborting = false := by simpa using hab0
  obtain ⟨lg, failed, he, _, hf2⟩ := deliver_some (c := c) hk
  generalize hsA : ({ s with log := lg, parked := s.parked.eraseIdx k, inCb := true } : St) = sA at he
  have e1 : getTrk sA i = getTrk s i := by rw [← hsA]; rfl
  have e2 : sA.callId = s.callId := by rw [← hsA]
  have e3 : sA.aborting = false := by rw [← hsA]; exact hna
  rw [he]
  cases failed with
  | none =>
    obtain ⟨id, hid1, hid2⟩ := hfail
    exact absurd hid2 (hf2 rfl id hid1)
  | some id =>
    have hp : (getTrk s i).status = .pending :=
      (h.T.parked_pending hna i hi0 hi1).mpr (Or.inl (List.mem_of_getElem? hk))
    show (callback c sA i (some id)).aborting = true
    unfold callback
    simp only
    rw [if_neg (by rw [e1, e2, h.T.ownId i hi0 hi1]; simp), if_neg (by rw [e3]; simp),
      registerOutcome_error (by rw [e1]; exact hp)]

/-- Without `_original_iterator` a completion callback never touches the input. -/
theorem deliver_srcPos_of_not_orig (c : Cfg) (k : Nat) {s : St} (h : s.origAlive = false) :
    (deliver c k s).srcPos = s.srcPos := by
  cases hk : s.parked[k]? with
  | none => rw [deliver_none hk]
  | some i =>
    obtain ⟨lg, failed, he, _⟩ := deliver_some (c := c) hk
    rw [he]
    rcases callback_srcPos c { s with log := lg, parked := s.parked.eraseIdx k, inCb := true } i failed with
      h1 | ⟨h1, _⟩
    · exact h1
    · rw [show s.origAlive = false from h] at h1; cases h1

end JoblibModel.ParallelProto
