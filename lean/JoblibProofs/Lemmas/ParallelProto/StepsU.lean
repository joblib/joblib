import JoblibProofs.Lemmas.ParallelProto.StepsS
/-!
`return_as='generator_unordered'`: the invariant of the completed-jobs queue `_jobs` and of `_jobs_set`, and its
preservation by the elementary updates.
-/
namespace JoblibModel.ParallelProto

/-- Unordered mode: `_jobs_set` holds the trackers of the call that have not been popped, `_jobs` those of them
whose outcome is registered (in registration order), without duplicates. -/
structure InvU (t0 : Nat) (s : St) : Prop where
  jobs_nodup : s.jobs.Nodup
  jobs_set : ∀ i ∈ s.jobs, i ∈ s.jobsSet ∧ (getTrk s i).status ≠ .pending
  set_nodup : s.jobsSet.Nodup
  set_own : ∀ i ∈ s.jobsSet, t0 ≤ i ∧ i < s.trk.length
  set_done : ∀ i ∈ s.jobsSet, (getTrk s i).status ≠ .pending → i ∈ s.jobs
  pend_set : ∀ i, t0 ≤ i → i < s.trk.length → (getTrk s i).status = .pending → i ∈ s.jobsSet

theorem InvU_frame {t0 : Nat} {s s' : St} (h : InvU t0 s)
    (htrk : s'.trk = s.trk) (hjobs : s'.jobs = s.jobs) (hjs : s'.jobsSet = s.jobsSet) : InvU t0 s' := by
  have hg : ∀ j, getTrk s' j = getTrk s j := getTrk_same htrk
  refine ⟨by rw [hjobs]; exact h.jobs_nodup, ?_, by rw [hjs]; exact h.set_nodup, ?_, ?_, ?_⟩
  · intro i hi; rw [hjobs] at hi; rw [hjs, hg]; exact h.jobs_set i hi
  · intro i hi; rw [hjs] at hi; rw [htrk]; exact h.set_own i hi
  · intro i hi hs; rw [hjs] at hi; rw [hg] at hs; rw [hjobs]; exact h.set_done i hi hs
  · intro i h0 h1 hs; rw [htrk] at h1; rw [hg] at hs; rw [hjs]; exact h.pend_set i h0 h1 hs

/-- A new tracker joins `_jobs_set`: pending from `_dispatch`, or already carrying the input iterable's error, in
which case it joins `_jobs` as well. -/
theorem InvU_push {t0 : Nat} {s s' : St} {t : Tracker} (h : InvU t0 s) (ht0 : t0 ≤ s.trk.length)
    (htrk : s'.trk = s.trk ++ [t])
    (hjobs : s'.jobs = if t.status = .pending then s.jobs else s.jobs ++ [s.trk.length])
    (hjs : s'.jobsSet = s.jobsSet ++ [s.trk.length]) : InvU t0 s' := by
  have hold : ∀ {i}, i < s.trk.length → getTrk s' i = getTrk s i := getTrk_push_lt htrk
  have hnew := getTrk_push_self htrk
  have hlen : s'.trk.length = s.trk.length + 1 := by rw [htrk, List.length_append]; rfl
  have hjm : ∀ i, i ∈ s'.jobs ↔ i ∈ s.jobs ∨ (i = s.trk.length ∧ t.status ≠ .pending) := by
    intro i; rw [hjobs]; split <;> simp [*]
  have hsm : ∀ i, i ∈ s'.jobsSet ↔ i ∈ s.jobsSet ∨ i = s.trk.length := by
    intro i; rw [hjs]; simp
  have hnd : ∀ {l : List Nat}, l.Nodup → (∀ i ∈ l, i < s.trk.length) → (l ++ [s.trk.length]).Nodup := by
    intro l hl hlt
    rw [List.nodup_append]
    exact ⟨hl, by simp, fun a ha b hb => by rw [List.eq_of_mem_singleton hb]; exact Nat.ne_of_lt (hlt a ha)⟩
  refine ⟨?_, fun i hi => ?_, by rw [hjs]; exact hnd h.set_nodup fun i hi => (h.set_own i hi).2, fun i hi => ?_, fun i hi hs => ?_,
    fun i h0 h1 hs => ?_⟩
  · rw [hjobs]; split
    · exact h.jobs_nodup
    · exact hnd h.jobs_nodup fun i hi => (h.set_own i (h.jobs_set i hi).1).2
  · rcases (hjm i).mp hi with hi | ⟨rfl, hp⟩
    · obtain ⟨x, y⟩ := h.jobs_set i hi
      rw [hold (h.set_own i x).2]; exact ⟨(hsm i).mpr (Or.inl x), y⟩
    · rw [hnew]; exact ⟨(hsm _).mpr (Or.inr rfl), hp⟩
  · rcases (hsm i).mp hi with hi | rfl
    · have := h.set_own i hi; omega
    · omega
  · rcases (hsm i).mp hi with hi | rfl
    · rw [hold (h.set_own i hi).2] at hs; exact (hjm i).mpr (Or.inl (h.set_done i hi hs))
    · rw [hnew] at hs; exact (hjm _).mpr (Or.inr ⟨rfl, hs⟩)
  · rw [hlen] at h1
    rcases Nat.lt_succ_iff_lt_or_eq.mp h1 with hlt | rfl
    · rw [hold hlt] at hs; exact (hsm i).mpr (Or.inl (h.pend_set i h0 hlt hs))
    · exact (hsm _).mpr (Or.inr rfl)

/-- An outcome (success or error) is registered on the pending tracker `i` (unordered mode): it joins `_jobs`. -/
theorem InvU_register {t0 : Nat} {s s' : St} {i : Nat} {t : Tracker} (h : InvU t0 s)
    (hi0 : t0 ≤ i) (hi1 : i < s.trk.length) (hp : (getTrk s i).status = .pending) (hst : t.status ≠ .pending)
    (htrk : s'.trk = s.trk.set i t) (hjobs : s'.jobs = s.jobs ++ [i]) (hjs : s'.jobsSet = s.jobsSet) :
    InvU t0 s' := by
  have hg := getTrk_set htrk
  have hlen : s'.trk.length = s.trk.length := by simp [htrk]
  have hnj : i ∉ s.jobs := fun hm => (h.jobs_set i hm).2 hp
  refine ⟨?_, ?_, by rw [hjs]; exact h.set_nodup, ?_, ?_, ?_⟩
  · rw [hjobs, List.nodup_append]
    refine ⟨h.jobs_nodup, by simp, ?_⟩
    intro a ha b hb
    simp only [List.mem_singleton] at hb
    intro e; subst e; subst hb; exact hnj ha
  · intro j hj; rw [hjobs, List.mem_append] at hj; rw [hjs, hg]
    rcases hj with hj | hj
    · obtain ⟨x, y⟩ := h.jobs_set j hj
      have : i ≠ j := fun e => hnj (e ▸ hj)
      simp only [this, false_and, if_false]
      exact ⟨x, y⟩
    · simp only [List.mem_singleton] at hj; subst hj
      simp only [hi1, and_self, if_true]
      exact ⟨h.pend_set j hi0 hi1 hp, hst⟩
  · intro j hj; rw [hjs] at hj; rw [hlen]; exact h.set_own j hj
  · intro j hj hs; rw [hjs] at hj; rw [hjobs]
    by_cases hji : i = j
    · subst hji; simp
    · rw [hg] at hs; simp only [hji, false_and, if_false] at hs
      exact List.mem_append_left _ (h.set_done j hj hs)
  · intro j h0 h1 hs; rw [hjs]
    by_cases hji : i = j
    · subst hji; rw [hg] at hs; simp only [hi1, and_self, if_true] at hs; exact absurd hs hst
    · rw [hg] at hs; simp only [hji, false_and, if_false] at hs
      exact h.pend_set j h0 (by omega) hs

/-- Tracker `i` is replaced by one with the same status (`toCounter` / `result` changes). -/
theorem InvU_set_aux {t0 : Nat} {s s' : St} {i : Nat} {t : Tracker} (h : InvU t0 s)
    (hst : t.status = (getTrk s i).status)
    (htrk : s'.trk = s.trk.set i t) (hjobs : s'.jobs = s.jobs) (hjs : s'.jobsSet = s.jobsSet) : InvU t0 s' := by
  have hlen : s'.trk.length = s.trk.length := by simp [htrk]
  have hgs := getTrk_set_proj (·.status) htrk hst
  refine ⟨by rw [hjobs]; exact h.jobs_nodup, ?_, by rw [hjs]; exact h.set_nodup, ?_, ?_, ?_⟩
  · intro j hj; rw [hjobs] at hj; rw [hjs, hgs]; exact h.jobs_set j hj
  · intro j hj; rw [hjs] at hj; rw [hlen]; exact h.set_own j hj
  · intro j hj hs; rw [hjs] at hj; rw [hgs] at hs; rw [hjobs]; exact h.set_done j hj hs
  · intro j h0 h1 hs; rw [hlen] at h1; rw [hgs] at hs; rw [hjs]; exact h.pend_set j h0 h1 hs

/-- `_jobs.popleft()` + `_jobs_set.remove(job)` in unordered mode. -/
theorem InvU_pop {t0 : Nat} {s s' : St} {i : Nat} {rest : List Nat} (h : InvU t0 s) (hj : s.jobs = i :: rest)
    (htrk : s'.trk = s.trk) (hjobs : s'.jobs = rest) (hjs : s'.jobsSet = removeFirst i s.jobsSet) :
    InvU t0 s' ∧ i ∉ rest ∧ i ∈ s.jobsSet := by
  have hg : ∀ j, getTrk s' j = getTrk s j := getTrk_same htrk
  have hnd := h.jobs_nodup
  rw [hj, List.nodup_cons] at hnd
  have hmem : i ∈ s.jobs := by rw [hj]; simp
  obtain ⟨hrn, hri⟩ := removeFirst_nodup (x := i) h.set_nodup
  refine ⟨⟨by rw [hjobs]; exact hnd.2, ?_, by rw [hjs]; exact hrn, ?_, ?_, ?_⟩, hnd.1, (h.jobs_set i hmem).1⟩
  · intro j hj'; rw [hjobs] at hj'
    have hj'' : j ∈ s.jobs := by rw [hj]; exact List.mem_cons_of_mem _ hj'
    obtain ⟨x, y⟩ := h.jobs_set j hj''
    have hne : j ≠ i := fun e => hnd.1 (e ▸ hj')
    rw [hjs, hg]
    exact ⟨mem_removeFirst_of_ne hne x, y⟩
  · intro j hj'; rw [hjs] at hj'; rw [htrk]; exact h.set_own j (mem_removeFirst hj')
  · intro j hj' hs; rw [hjs] at hj'; rw [hg] at hs; rw [hjobs]
    have hne : j ≠ i := fun e => hri (e ▸ hj')
    have := h.set_done j (mem_removeFirst hj') hs
    rw [hj] at this
    simp only [List.mem_cons] at this
    rcases this with this | this
    · exact absurd this hne
    · exact this
  · intro j h0 h1 hs; rw [htrk] at h1; rw [hg] at hs; rw [hjs]
    have hne : j ≠ i := by
      intro e; subst e; exact (h.jobs_set j hmem).2 hs
    exact mem_removeFirst_of_ne hne (h.pend_set j h0 h1 hs)

end JoblibModel.ParallelProto
