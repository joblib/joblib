import JoblibProofs.Lemmas.ParallelProto.Loop

/-!
Whole calls: `drain` (`list(output)`) and `callList`, for all `return_as` modes at once.
-/

namespace JoblibModel.ParallelProto

/-- Nothing in this call can fail: no failing task among its ids, no failing iterator step, no timeout. -/
structure NoFail (c : Cfg) (s : St) : Prop where
  tasks : ∀ id ∈ s.failIds, ¬ (s.base ≤ id ∧ id < s.base + s.spec.n)
  iter : s.spec.iterfail < 0
  timeout : c.timeout < 0

theorem NoFail.not_legit {c : Cfg} {s : St} (h : NoFail c s) (e : Exc) : ¬ Legit c s e := by
  intro hl
  cases e with
  | task id => exact h.tasks id hl.1 hl.2
  | iter pos => have := hl.1; have := h.iter; omega
  | timeout => have : 0 ≤ c.timeout := hl; have := h.timeout; omega
  | runtime => exact hl
  | attr => exact hl
  | key => exact hl

/-- A pause of the consumer while the generator is in its tail loop: whatever completes is stale. -/
theorem GoodT.pause (c : Cfg) {s : St} {g : Gen} (hgt : GoodT s g) :
    GoodT (hook c false s) g ∧ restT (hook c false s) g = restT s g := by
  have hr := hook_nosleep_stale c hgt.stale
  have hi := hr.idle hgt.idle
  have hs := hr.allStale hgt.stale
  obtain ⟨lg, pk, sc, ib, e, _, _⟩ := hr
  rw [e] at hi hs ⊢
  exact ⟨⟨hi, ⟨hgt.clean.running, hgt.clean.jobs, hgt.clean.jobsSet, hgt.clean.calling⟩, hgt.noexc, hgt.rem, hgt.nodup,
    hgt.hung, hgt.noiter, hs⟩, rfl⟩

/-- `GenOK ∧ need ≤ fuel` for the ordered modes, written out (`GenGood_iff`): with `GenGoodU`, `restG`, `restGU` the
form in which C04 / C16 state their theorems; proofs go through `GenOK` and `restOut`. -/
def GenGood (c : Cfg) (t0 : Nat) (fuel : Nat) (s : St) (g : Gen) : Prop :=
  ((g.phase = .start ∨ g.phase = .retrieve) ∧ GoodR c t0 s ∧ 1 ≤ fuel ∧
      (s.aborting = false → boundR c s ≤ fuel)) ∨
  (g.phase = .tail ∧ GoodT s g ∧ g.remaining.length + 1 ≤ fuel)

/-- What the generator is still going to yield. -/
def restG (s : St) (g : Gen) : List Nat := if g.phase = .tail then restT s g else g.buf ++ restS s

/-- `GenGood` for `return_as='generator_unordered'` (`GenGoodU_iff`). -/
def GenGoodU (c : Cfg) (t0 : Nat) (fuel : Nat) (s : St) (g : Gen) : Prop :=
  ((g.phase = .start ∨ g.phase = .retrieve) ∧ GoodR c t0 s ∧ InvU t0 s ∧ GOwn t0 s g ∧ 1 ≤ fuel ∧
      (s.aborting = false → boundR c s ≤ fuel)) ∨
  (g.phase = .tail ∧ GoodT s g ∧ g.remaining.length + 1 ≤ fuel)

/-- What the generator is still going to yield (as a multiset), unordered mode. -/
def restGU (s : St) (g : Gen) : List Nat := if g.phase = .tail then restT s g else g.buf ++ restU s

theorem GenOK_need {c : Cfg} {t0 fuel : Nat} {s : St} {g : Gen} :
    GenOK c t0 s g ∧ need c s g ≤ fuel ↔
      ((g.phase = .start ∨ g.phase = .retrieve) ∧ GoodR c t0 s ∧ InvQ c t0 s g ∧ 1 ≤ fuel ∧
        (s.aborting = false → boundR c s ≤ fuel)) ∨
      (g.phase = .tail ∧ GoodT s g ∧ g.remaining.length + 1 ≤ fuel) := by
  unfold GenOK
  constructor
  · rintro ⟨⟨h1, h2, h3⟩ | ⟨h1, h2⟩, hf⟩
    · have hnt : g.phase ≠ .tail := by rcases h1 with h | h <;> rw [h] <;> simp
      have h1f := Nat.le_trans (one_le_need c s g) hf
      rw [need_retrieve hnt] at hf
      exact Or.inl ⟨h1, h2, h3, h1f, fun ha => by rw [ha] at hf; exact hf⟩
    · exact Or.inr ⟨h1, h2, by simpa [need, h1] using hf⟩
  · rintro (⟨h1, h2, h3, h4, h5⟩ | ⟨h1, h2, h3⟩)
    · have hnt : g.phase ≠ .tail := by rcases h1 with h | h <;> rw [h] <;> simp
      refine ⟨Or.inl ⟨h1, h2, h3⟩, ?_⟩
      rw [need_retrieve hnt]; split
      · exact h4
      · next ha => exact h5 (by simpa using ha)
    · exact ⟨Or.inr ⟨h1, h2⟩, by simpa [need, h1] using h3⟩

theorem GenGood_iff {c : Cfg} (ho : ordered c = true) {t0 fuel : Nat} {s : St} {g : Gen} :
    GenGood c t0 fuel s g ↔ GenOK c t0 s g ∧ need c s g ≤ fuel := by
  rw [GenOK_need]; simp [GenGood, InvQ, ho]

theorem GenGoodU_iff {c : Cfg} (ho : ordered c = false) {t0 fuel : Nat} {s : St} {g : Gen} :
    GenGoodU c t0 fuel s g ↔ GenOK c t0 s g ∧ need c s g ≤ fuel := by
  rw [GenOK_need]; simp [GenGoodU, InvQ, ho, and_assoc]

theorem restOut_ordered {c : Cfg} (ho : ordered c = true) (s : St) (g : Gen) : restOut c s g = restG s g := by
  simp only [restOut, restG, rest_ordered ho]

theorem restOut_unordered {c : Cfg} (ho : ordered c = false) (s : St) (g : Gen) : restOut c s g = restGU s g := by
  simp only [restOut, restGU, rest_unordered ho]

/-- Facts about the state in which `callStart` leaves a call that was accepted (no overlap). -/
structure Started (c : Cfg) (fuel base : Nat) (spec : CallSpec) (s s1 : St) : Prop where
  inv : Inv c s.trk.length s1
  hung : s1.hung = s.hung
  sched_le : s1.sched.length ≤ s.sched.length
  meas_le : s1.aborting = false → meas c s1 ≤ s.parked.length + 2 * spec.n
  post : spec.n + 2 ≤ fuel → s.hung = false → (c.pdMode = 1 ∨ 1 ≤ c.pd) → Post s1
  invB : InvB c s.trk.length s1
  invU : ordered c = false → InvU s.trk.length s1
  rest_eq : s1.aborting = false → rest c s1 = List.range' base spec.n
  rest_len : (rest c s1).length ≤ spec.n
  failIds : s1.failIds = s.failIds
  callId : s1.callId = s.callCtr + 1
  callCtr : s1.callCtr = s.callCtr + 1
  base : s1.base = base
  spec : s1.spec = spec

theorem callStart_started {c : Cfg} (hc : CfgOK c) (fuel base : Nat) (spec : CallSpec) {s : St} (hi : Idle s)
    (hh : s.hung = false) :
    ∃ s1, callStart c fuel base spec s = (s1, none) ∧ Started c fuel base spec s s1 := by
  obtain ⟨sF, he, hF⟩ := callStart_fresh c fuel base spec hi hh
  rw [he]
  refine ⟨_, rfl, ?_⟩
  have hs := start_spec hc (fuel := fuel) hF.inv
  have hf := hs.later.frame
  obtain ⟨z1, z2, z3, z4, z5, z6, z7, z8, z9, z10⟩ := hF.zero
  have hsub : sF.parked.length ≤ s.parked.length := hF.parked.length_le
  have ho := hs.out fun _ => hF.invU
  have e : rest c { sF with iterating := false } = List.range' base spec.n := by
    simp only [rest, unpopped, z1, z2, z3, z4, hF.base, hF.spec]
    simp
  refine ⟨hs.inv, hs.hung.trans hF.hung,
    Nat.le_trans hs.sched_le hF.sched, ?_, ?_, hs.B hF.invB, ho.inv, fun ha => by rw [ho.rest_eq ha, e],
    by have := ho.rest_len; rw [e] at this; simpa using this, hf.failIds.trans hF.failIds,
    hf.callId.trans hF.callId, hf.callCtr.trans hF.callCtr, hf.base.trans hF.base, hf.spec.trans hF.spec⟩
  · intro ha
    have := hs.later.meas_le ha
    have e : meas c { sF with iterating := false } = sF.parked.length + 2 * spec.n := by
      simp only [meas, unpopped, work, z1, z2, z3, z4, hF.spec]
      by_cases ho : ordered c = true <;> simp [ho]
    omega
  · intro hfu hhu hpd
    apply hs.post
    · simp only [work, z1, z2, hF.spec]; simp; omega
    · rw [hF.hung]; exact hhu
    · by_cases hm : c.pdMode = 1
      · exact Or.inl hm
      · right
        obtain ⟨x, y⟩ := hF.mode.2 hm
        refine ⟨x, c.pd, y, ?_⟩
        rcases hpd with hpd | hpd
        · exact absurd hpd hm
        · exact hpd

theorem callStart_genOK {c : Cfg} (hc : CfgOK c) {fuel base : Nat} {spec : CallSpec}
    {s : St} (hi : Idle s) (hh : s.hung = false) (hpd : c.pdMode = 1 ∨ 1 ≤ c.pd)
    (hfuel : 2 * spec.n + s.sched.length + s.parked.length + 2 ≤ fuel) :
    ∃ s1, callStart c fuel base spec s = (s1, none) ∧ Started c fuel base spec s s1 ∧
      GenOK c s.trk.length s1 {} ∧ need c s1 {} ≤ fuel ∧
      (s1.aborting = false → restOut c s1 {} = List.range' base spec.n) ∧ yieldsMax c s1 {} ≤ spec.n := by
  obtain ⟨s1, he, hS⟩ := callStart_started hc fuel base spec hi hh
  have hph : ({} : Gen).phase ≠ .tail := by simp
  refine ⟨s1, he, hS, Or.inl ⟨Or.inl rfl, ⟨hS.inv, hS.post (by omega) hh hpd, hS.hung.trans hh, hS.callId.trans hS.callCtr.symm⟩,
    fun ho => ⟨hS.invU ho, nofun⟩⟩, ?_, fun hna => ?_, ?_⟩
  · rw [need_retrieve hph]; split
    · omega
    · next ha =>
      have := hS.meas_le (by simpa using ha)
      have := hS.sched_le
      simp only [boundR]; omega
  · simp only [restOut, hph, if_false, List.nil_append]; exact hS.rest_eq hna
  · simp only [yieldsMax, hph, if_false, List.length_nil, Nat.zero_add]; exact hS.rest_len

theorem callList_eq_drain {c : Cfg} {fuel base : Nat} {spec : CallSpec} {s s1 : St}
    (he : callStart c fuel base spec s = (s1, none)) (hh : s1.hung = false) :
    callList c fuel base spec s =
      match drain c fuel fuel s1 {} [] with
      | (s, _, acc, .stop) => (s, .ret acc)
      | (s, _, _, .raise e) => (s, .raised e)
      | (s, _, _, _) => (s, .hung) := by
  unfold callList
  rw [he]
  simp only
  rw [if_neg (by simp [hh])]
  rfl

/-- How `list(output)` ends; it never hangs. -/
def DrainEnd (c : Cfg) (s : St) (g : Gen) (acc : List Nat) : St × Gen × List Nat × Out → Prop
  | (s', g', acc', .stop) => GenStopped c s g s' g' (acc ++ restOut c s g) acc'
  | (s', g', _, .raise e) => GenRaised c s s' g' e
  | (_, _, _, .value _) => False
  | (_, _, _, .hang) => False

/-- `list(output)`. No hypothesis about failures is needed for the values: a generator that stops was `Live` at every
`next()` before (an aborting call ends by raising, never by stopping, and the abort flag is not cleared), so the output
equation of `NextPost` held at every step. -/
theorem drain_spec {c : Cfg} (hc : CfgOK c) {t0 : Nat} (fuel : Nat) :
    ∀ (n : Nat) (s : St) (g : Gen) (acc : List Nat), GenOK c t0 s g → need c s g ≤ fuel → yieldsMax c s g + 1 ≤ n →
      DrainEnd c s g acc (drain c n fuel s g acc) := by
  intro n
  induction n with
  | zero => intro s g acc _ _ hn; omega
  | succ n ih =>
    intro s g acc hg hf hn
    unfold drain
    have hp := genNext_next hc hg hf
    generalize genNext c fuel s g = res at hp
    obtain ⟨s1, g1, o⟩ := res
    cases o with
    | value v =>
      have hy := hp.yields_lt
      have hd := ih s1 g1 (acc ++ [v]) hp.ok (Nat.le_trans hp.need_le hf) (by omega)
      simp only
      generalize drain c n fuel s1 g1 (acc ++ [v]) = res at hd
      obtain ⟨s', g', acc', o'⟩ := res
      cases o' with
      | stop =>
        have hout := hd.out
        rw [List.append_assoc] at hout
        exact { hd with
          failIds := hd.failIds.trans hp.same.failIds
          out := (OutRel.append_left acc (hp.out hd.live).2).trans hout
          noiter := by rw [← hp.same.spec]; exact hd.noiter
          live := (hp.out hd.live).1 }
      | raise e => exact { hd with failIds := hd.failIds.trans hp.same.failIds, legit := hp.same.legit.mp hd.legit }
      | value _ => exact hd
      | hang => exact hd
    | stop => exact { hp with out := by rw [hp.out.eq_nil, List.append_nil]; exact .refl _ }
    | raise e => exact hp
    | hang => exact hp.elim

/-- How a list-mode call on an idle object ends, any `return_as`, whatever fails; it never hangs. -/
def CallEnd (c : Cfg) (base : Nat) (spec : CallSpec) (s : St) : St × CallOutcome → Prop
  | (s', .ret v) => Stopped c { s with base := base, spec := spec } s' (List.range' base spec.n) v
  | (s', .raised e) => Raised c { s with base := base, spec := spec } s' e
  | (_, .hung) => False

/-- That the call's tasks do not fail is not assumed for the returned values: a call that returns never aborted
(`drain_spec`), so it returns exactly what was promised when it started; failures only decide between returning and
raising (`callList_returns`). -/
theorem callList_spec {c : Cfg} (hc : CfgOK c) {fuel base : Nat} {spec : CallSpec}
    {s : St} (hi : Idle s) (hh : s.hung = false) (hpd : c.pdMode = 1 ∨ 1 ≤ c.pd)
    (hfuel : 2 * spec.n + s.sched.length + s.parked.length + 2 ≤ fuel) :
    CallEnd c base spec s (callList c fuel base spec s) := by
  obtain ⟨s1, he, hS, hgg, hnd, hrest, hyl⟩ := callStart_genOK hc (base := base) (spec := spec) hi hh hpd hfuel
  rw [callList_eq_drain he (hS.hung.trans hh)]
  have hp := drain_spec hc fuel fuel s1 {} [] hgg hnd (by omega)
  generalize drain c fuel fuel s1 {} [] = res at hp
  obtain ⟨s', g', acc, o⟩ := res
  cases o with
  | stop =>
    have hout := hp.out
    rw [List.nil_append, hrest (hp.live.resolve_left (by simp))] at hout
    exact { hp.toOver with failIds := hp.failIds.trans hS.failIds, out := hout, noiter := by rw [← hS.spec]; exact hp.noiter }
  | raise e =>
    exact { hp.toOver with
      failIds := hp.failIds.trans hS.failIds
      legit := (Legit_congr (s := { s with base := base, spec := spec }) (s' := s1) hS.failIds hS.base hS.spec e).mp
        hp.legit }
  | value _ => exact hp.elim
  | hang => exact hp.elim

theorem callList_returns {c : Cfg} (hc : CfgOK c) {fuel base : Nat} {spec : CallSpec}
    {s : St} (hi : Idle s) (hh : s.hung = false) (hpd : c.pdMode = 1 ∨ 1 ≤ c.pd)
    (hnf : NoFail c { s with base := base, spec := spec })
    (hfuel : 2 * spec.n + s.sched.length + s.parked.length + 2 ≤ fuel) :
    ∃ s' out, callList c fuel base spec s = (s', .ret out) ∧ OutRel c (List.range' base spec.n) out ∧ Idle s' ∧
      Clean s' ∧ s'.hung = false ∧ s'.exception = false := by
  have h := callList_spec hc (base := base) (spec := spec) hi hh hpd hfuel
  generalize callList c fuel base spec s = r at h
  obtain ⟨s', o⟩ := r
  cases o with
  | ret v => exact ⟨s', v, rfl, h.out, h.idle, h.clean, h.hung, h.exception⟩
  | raised e => exact absurd h.legit (hnf.not_legit e)
  | hung => exact h.elim

end JoblibModel.ParallelProto
