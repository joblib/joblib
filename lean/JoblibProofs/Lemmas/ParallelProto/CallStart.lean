import JoblibProofs.Lemmas.ParallelProto.Start
/-!
Between calls (`Idle`), and `callStart`: the completions delivered at `backend.configure()` all belong to earlier
calls (their call id is smaller than the id just drawn), so they are no-ops; then the invariant is established.
-/
namespace JoblibModel.ParallelProto

/-- All parked batches belong to other calls than the current one. -/
def AllStale (s : St) : Prop := ∀ i ∈ s.parked, (getTrk s i).callId ≠ s.callId

/-- Every completion the backend can deliver now is a no-op on the `Parallel` object: the call is aborting (the
callback returns at its abort guard), or every parked batch belongs to another call (call-id guard). -/
def Quiet (s : St) : Prop := s.aborting = true ∨ AllStale s

/-- No call is in progress on the `Parallel` object (state at creation, or after a call has ended): not running, no
job queue, and whatever is still parked at the backend can only complete as a no-op. -/
structure Idle (s : St) : Prop where
  running : s.running = false
  jobs : s.jobs = []
  jobsSet : s.jobsSet = []
  callId_le : ∀ i, (getTrk s i).callId ≤ s.callCtr
  parked_lt : ∀ i ∈ s.parked, i < s.trk.length
  parked_nodup : s.parked.Nodup
  quiet : Quiet s

/-- Only the backend's bookkeeping moved (some parked batches were completed without any effect). -/
def StaleRel (s s' : St) : Prop :=
  ∃ lg pk sc ib, s' = { s with log := lg, parked := pk, sched := sc, inCb := ib } ∧
    pk.Sublist s.parked ∧ sc.length ≤ s.sched.length

theorem StaleRel.refl (s : St) : StaleRel s s :=
  ⟨s.log, s.parked, s.sched, s.inCb, rfl, List.Sublist.refl _, Nat.le_refl _⟩

theorem StaleRel.trans {a b d : St} (h1 : StaleRel a b) (h2 : StaleRel b d) : StaleRel a d := by
  obtain ⟨lg1, pk1, sc1, ib1, e1, p1, q1⟩ := h1
  obtain ⟨lg2, pk2, sc2, ib2, e2, p2, q2⟩ := h2
  subst e1
  subst e2
  exact ⟨lg2, pk2, sc2, ib2, rfl, p2.trans p1, Nat.le_trans q2 q1⟩

theorem StaleRel.allStale {s s' : St} (h : StaleRel s s') (hs : AllStale s) : AllStale s' := by
  obtain ⟨lg, pk, sc, ib, e, hsub, _⟩ := h
  subst e
  exact fun i hi => hs i (hsub.subset hi)

theorem StaleRel.quiet {s s' : St} (h : StaleRel s s') (hq : Quiet s) : Quiet s' := by
  rcases hq with hq | hq
  · left
    obtain ⟨lg, pk, sc, ib, e, _, _⟩ := h
    subst e; exact hq
  · exact Or.inr (h.allStale hq)

theorem StaleRel.idle {s s' : St} (h : StaleRel s s') (hi : Idle s) : Idle s' := by
  have hq := h.quiet hi.quiet
  obtain ⟨lg, pk, sc, ib, e, hsub, _⟩ := h
  subst e
  exact ⟨hi.running, hi.jobs, hi.jobsSet, hi.callId_le, fun i hm => hi.parked_lt i (hsub.subset hm),
    hi.parked_nodup.sublist hsub, hq⟩

/-- A completion delivered while every possible completion is a no-op (`Quiet`). -/
theorem deliver_quiet (c : Cfg) (k : Nat) {s : St} (hq : Quiet s) : StaleRel s (deliver c k s) := by
  cases hk : s.parked[k]? with
  | none => rw [deliver_none hk]; exact StaleRel.refl s
  | some i =>
    obtain ⟨lg, failed, he, _⟩ := deliver_some (c := c) hk
    have hno : callback c { s with log := lg, parked := s.parked.eraseIdx k, inCb := true } i failed =
        { s with log := lg, parked := s.parked.eraseIdx k, inCb := true } := by
      rcases hq with hq | hq
      · exact aborting_callback_noop c _ i failed hq
      · exact stale_callback_noop c _ i failed (hq i (List.mem_of_getElem? hk))
    rw [he, hno]
    exact ⟨lg, s.parked.eraseIdx k, s.sched, false, rfl, List.eraseIdx_sublist _ _, Nat.le_refl _⟩

theorem deliverAll_quiet (c : Cfg) : ∀ (l : List Nat) {s : St}, Quiet s → StaleRel s (deliverAll c s l) := by
  intro l
  induction l with
  | nil => intro s _; exact StaleRel.refl s
  | cons idx r ih =>
    intro s hs
    unfold deliverAll
    simp only
    by_cases hp : s.parked.length = 0
    · rw [if_pos hp]; exact ih hs
    · rw [if_neg hp]
      have h1 := deliver_quiet c (idx % s.parked.length) hs
      exact h1.trans (ih (h1.quiet hs))

/-- A hook point (not the retrieval loop's sleep) reached while every possible completion is a no-op: whatever the
schedule delivers, only the backend's bookkeeping (`parked`, the log, the schedule) changes. -/
theorem hook_nosleep_quiet (c : Cfg) {s : St} (hs : Quiet s) : StaleRel s (hook c false s) := by
  unfold hook
  cases hsch : s.sched with
  | nil => simp only [Bool.false_eq_true, if_false]; exact StaleRel.refl s
  | cons entry rest =>
    simp only [Bool.false_eq_true, if_false]
    have h0 : StaleRel s { s with sched := rest } :=
      ⟨s.log, s.parked, rest, s.inCb, rfl, List.Sublist.refl _, by rw [hsch]; simp⟩
    exact h0.trans (deliverAll_quiet c entry (h0.quiet hs))

theorem deliver_stale (c : Cfg) (k : Nat) {s : St} (hs : AllStale s) : StaleRel s (deliver c k s) :=
  deliver_quiet c k (Or.inr hs)

theorem hook_nosleep_stale (c : Cfg) {s : St} (hs : AllStale s) : StaleRel s (hook c false s) :=
  hook_nosleep_quiet c (Or.inr hs)

/-- BETWEEN CALLS. At the hook point between two calls (and after the last one) the object is idle: completions of
batches of earlier calls that arrive there — trackers of older calls, or of the call that just ended (which is
aborting if anything of it is still parked) — change nothing but the backend's bookkeeping, and the object stays
idle. -/
theorem between_calls_noop (c : Cfg) {s : St} (hi : Idle s) :
    StaleRel s (hook c false s) ∧ Idle (hook c false s) :=
  ⟨hook_nosleep_quiet c hi.quiet, (hook_nosleep_quiet c hi.quiet).idle hi⟩

/-- The state `callStart` hands to `_start`. -/
structure Fresh (c : Cfg) (base : Nat) (spec : CallSpec) (s sF : St) : Prop where
  inv : Inv c s.trk.length { sF with iterating := false }
  invB : InvB c s.trk.length { sF with iterating := false }
  invU : InvU s.trk.length { sF with iterating := false }
  base : sF.base = base
  spec : sF.spec = spec
  failIds : sF.failIds = s.failIds
  callId : sF.callId = s.callCtr + 1
  callCtr : sF.callCtr = s.callCtr + 1
  trk : sF.trk = s.trk
  parked : sF.parked.Sublist s.parked
  sched : sF.sched.length ≤ s.sched.length
  hung : sF.hung = s.hung
  now : sF.now = s.now
  managed : sF.managed = s.managed
  running : sF.running = true
  calling : sF.calling = true
  zero : sF.srcPos = 0 ∧ sF.ready = [] ∧ sF.jobs = [] ∧ sF.jobsSet = [] ∧ sF.nbConsumed = 0 ∧
    sF.nCompleted = 0 ∧ sF.nDispTasks = 0 ∧ sF.aborting = false ∧ sF.srcDead = false ∧ sF.exception = false
  mode : (c.pdMode = 1 → sF.origAlive = false ∧ sF.preLeft = none) ∧
    (c.pdMode ≠ 1 → sF.origAlive = true ∧ sF.preLeft = some c.pd)

theorem callStart_running (c : Cfg) (fuel base : Nat) (spec : CallSpec) (s : St) (h : s.running = true) :
    callStart c fuel base spec s = (s, some .runtime) := by
  unfold callStart; rw [if_pos h]

/-- `_reset_run_tracking` (with the call id drawn in the same critical section). -/
def resetState (s : St) : St :=
  { s with running := true, callCtr := s.callCtr + 1, callId := s.callCtr + 1, nDispBatches := 0, nDispTasks := 0, nCompleted := 0, nbConsumed := 0, exception := false, aborting := false, aborted := false }

theorem Idle.reset_stale {s : St} (hi : Idle s) : AllStale (resetState s) := fun i _ => by
  have := hi.callId_le i
  show (getTrk s i).callId ≠ s.callCtr + 1
  omega

/-- `backend.configure()` when the object is not used as a context manager (a hook point). -/
def configured (c : Cfg) (s : St) : St := if !s.managed then hook c false (ev s "configure") else s

/-- The set-up in `__call__` between `configure` and `_start`. -/
def freshState (c : Cfg) (base : Nat) (spec : CallSpec) (s : St) : St :=
  let s := { s with ready := [] }
  let s := ev s "start_call"
  let s := { s with calling := true, base := base, spec := spec, srcPos := 0, srcDead := false }
  if c.pdMode == 1 then { s with origAlive := false, preLeft := none }
  else { s with origAlive := true, preLeft := some c.pd }

/-- The model's `callStart` has its three stages inlined; the proofs read them as `resetState`, `configured`,
`freshState` (the start-up model's `ParallelStartup.resetRun` is `resetState` again: `resetRun_eq`). -/
theorem callStart_eq (c : Cfg) (fuel base : Nat) (spec : CallSpec) (s : St) :
    callStart c fuel base spec s =
      if s.running then (s, some .runtime)
      else if (configured c (resetState s)).hung then (configured c (resetState s), none)
      else (start c fuel (freshState c base spec (configured c (resetState s))), none) := rfl

theorem configured_stale (c : Cfg) {s : St} (hs : AllStale s) : StaleRel s (configured c s) := by
  unfold configured
  split
  · have h0 : StaleRel s (ev s "configure") := ⟨_, _, _, _, rfl, List.Sublist.refl _, Nat.le_refl _⟩
    exact h0.trans (hook_nosleep_stale c (h0.allStale hs))
  · exact StaleRel.refl s

theorem Fresh.of_fields {c : Cfg} {base : Nat} {spec : CallSpec} {s sF : St} (hi : Idle s)
    (hbase : sF.base = base) (hspec : sF.spec = spec) (hfail : sF.failIds = s.failIds)
    (hcid : sF.callId = s.callCtr + 1) (hctr : sF.callCtr = s.callCtr + 1) (htrk : sF.trk = s.trk)
    (hpk : sF.parked.Sublist s.parked) (hsc : sF.sched.length ≤ s.sched.length) (hhung : sF.hung = s.hung)
    (hnow : sF.now = s.now) (hman : sF.managed = s.managed) (hrun : sF.running = true)
    (hcall : sF.calling = true)
    (hz : sF.srcPos = 0 ∧ sF.ready = [] ∧ sF.jobs = [] ∧ sF.jobsSet = [] ∧ sF.nbConsumed = 0 ∧
      sF.nCompleted = 0 ∧ sF.nDispTasks = 0 ∧ sF.aborting = false ∧ sF.srcDead = false ∧ sF.exception = false)
    (hmode : (c.pdMode = 1 → sF.origAlive = false ∧ sF.preLeft = none) ∧
      (c.pdMode ≠ 1 → sF.origAlive = true ∧ sF.preLeft = some c.pd)) :
    Fresh c base spec s sF := by
  obtain ⟨z1, z2, z3, z4, z5, z6, z7, z8, z9, z10⟩ := hz
  have hg : ∀ j, getTrk { sF with iterating := false } j = getTrk s j := getTrk_same htrk
  have hnone : ∀ i, s.trk.length ≤ i → ¬ i < ({ sF with iterating := false } : St).trk.length :=
    fun i h0 h1 => absurd (show i < s.trk.length from htrk ▸ h1) (Nat.not_lt.mpr h0)
  have hown : own s.trk.length { sF with iterating := false } = [] := by
    show sF.trk.drop _ = []; rw [htrk]; exact List.drop_length ..
  have hrdy : ∀ b, b ∉ ({ sF with iterating := false } : St).ready :=
    fun b h => by rw [show ({ sF with iterating := false } : St).ready = [] from z2] at h; cases h
  have hjb : ∀ i, i ∉ ({ sF with iterating := false } : St).jobs :=
    fun i h => by rw [show ({ sF with iterating := false } : St).jobs = [] from z3] at h; cases h
  have hjs : ∀ i, i ∉ ({ sF with iterating := false } : St).jobsSet :=
    fun i h => by rw [show ({ sF with iterating := false } : St).jobsSet = [] from z4] at h; cases h
  have hab : ∀ {p : Prop}, ({ sF with iterating := false } : St).aborting = true → p :=
    fun h => by rw [show ({ sF with iterating := false } : St).aborting = false from z8] at h; cases h
  refine {
    inv := {
      T := {
        t0_le := Nat.le_of_eq (congrArg _ htrk).symm, callId_pos := ?_, stale := fun i _ => ?_
        ownId := fun i h0 h1 => absurd h1 (hnone i h0), parked_lt := fun i h => ?_
        parked_nodup := hi.parked_nodup.sublist hpk, hole_notin := fun _ h => (nomatch h)
        parked_pending := fun _ i h0 h1 => absurd h1 (hnone i h0), items_ok := fun i h0 h1 => absurd h1 (hnone i h0)
        no_error := fun _ i h0 h1 => absurd h1 (hnone i h0), abort_exc := z10.trans z8.symm, abort_err := hab
        tok := fun i h => absurd h (hjb i), jobs_own := fun i h => absurd h (hjb i), ord_jobs := fun _ => ?_ }
      S := {
        src_le := ?_, src_iter := fun h => ?_, dead := fun _ h => ?_, cons := fun _ => ?_
        ready_ne := fun b h => absurd h (hrdy b), ready_range := fun b h => absurd h (hrdy b)
        items_range := fun i h0 h1 => absurd h1 (hnone i h0), ndisp := fun _ => ?_, ncomp := fun _ => ?_ }
      L := {
        iter_orig := fun h => (nomatch h), orig_mode := fun h hm => ?_, pre_mode := fun hm => (hmode.1 hm).2
        orig_exh := fun hm h => ?_ }
      P := fun _ h => (nomatch h) }
    invB := {
      items_le := fun i h0 h1 => absurd h1 (hnone i h0), ready_le := fun b h => absurd h (hrdy b), ready_tot := ?_
      budget := fun hm => ⟨c.pd, (hmode.2 hm).2, ?_⟩ }
    invU := {
      jobs_nodup := ?_, jobs_set := fun i h => absurd h (hjb i), set_nodup := ?_, set_own := fun i h => absurd h (hjs i)
      set_done := fun i h _ => absurd h (hjs i), pend_set := fun i h0 h1 => absurd h1 (hnone i h0) }
    base := hbase, spec := hspec, failIds := hfail, callId := hcid, callCtr := hctr, trk := htrk, parked := hpk
    sched := hsc, hung := hhung, now := hnow, managed := hman, running := hrun, calling := hcall
    zero := ⟨z1, z2, z3, z4, z5, z6, z7, z8, z9, z10⟩, mode := hmode }
  · show 0 < sF.callId; omega
  · rw [hg]; show _ < sF.callId; have := hi.callId_le i; omega
  · rw [show ({ sF with iterating := false } : St).trk = s.trk from htrk]; exact hi.parked_lt i (hpk.subset h)
  · exact ⟨s.trk.length, Nat.le_refl _, Nat.le_of_eq (congrArg _ htrk).symm,
      by show sF.jobs = _; rw [z3, htrk, Nat.sub_self]; rfl, fun i h0 h1 => absurd h0 (Nat.not_le.mpr h1)⟩
  · show sF.srcPos ≤ _; omega
  · show (sF.srcPos : Int) ≤ sF.spec.iterfail; rw [z1]; simpa using h
  · rw [show ({ sF with iterating := false } : St).srcDead = false from z9] at h; cases h
  · show dispItems _ _ ++ sF.ready.flatten = List.range' sF.base sF.srcPos
    rw [dispItems, hown, z1, z2]; rfl
  · show sF.nDispTasks = (dispItems _ _).length
    rw [dispItems, hown, z7]; rfl
  · show sF.nCompleted + pendSum (own _ _) = sF.nDispTasks
    rw [hown, z6, z7]; rfl
  · exact absurd ((hmode.1 hm).1 ▸ h) (by simp)
  · exact absurd ((hmode.2 hm).1 ▸ h) (by simp)
  · show sF.ready.flatten.length ≤ _; rw [z2]; exact Nat.zero_le _
  · show sF.srcPos + _ ≤ _; rw [z1, z6]; omega
  · show sF.jobs.Nodup; rw [z3]; exact List.nodup_nil
  · show sF.jobsSet.Nodup; rw [z4]; exact List.nodup_nil

theorem callStart_fresh (c : Cfg) (fuel base : Nat) (spec : CallSpec) {s : St} (hi : Idle s)
    (hh : s.hung = false) :
    ∃ sF, callStart c fuel base spec s = (start c fuel sF, none) ∧ Fresh c base spec s sF := by
  rw [callStart_eq, if_neg (by simp [hi.running])]
  obtain ⟨lg, pk, sc, ib, eC, hpk, hsc⟩ := configured_stale c hi.reset_stale
  rw [eC, if_neg (by simp [resetState, hh])]
  refine ⟨_, rfl, ?_⟩
  unfold freshState
  simp only [resetState, ev]
  split
  · next hm =>
    have hm' : c.pdMode = 1 := by simpa using hm
    exact .of_fields hi rfl rfl rfl rfl rfl rfl hpk hsc rfl rfl rfl rfl rfl
      ⟨rfl, rfl, hi.jobs, hi.jobsSet, rfl, rfl, rfl, rfl, rfl, rfl⟩ ⟨fun _ => ⟨rfl, rfl⟩, fun h => absurd hm' h⟩
  · next hm =>
    have hm' : c.pdMode ≠ 1 := by simpa using hm
    exact .of_fields hi rfl rfl rfl rfl rfl rfl hpk hsc rfl rfl rfl rfl rfl
      ⟨rfl, rfl, hi.jobs, hi.jobsSet, rfl, rfl, rfl, rfl, rfl, rfl⟩ ⟨fun h => absurd h hm', fun _ => ⟨rfl, rfl⟩⟩

end JoblibModel.ParallelProto
