import JoblibProofs.Lemmas.ParallelProto.Prims

/-!
The invariant of a `Parallel` call in progress (M1), split by topic:
`InvT` trackers and queues, `InvS` input source / conservation / counters, `InvL` liveness bookkeeping, `IterPend`;
`Inv` is their conjunction. Also here: `CfgOK`, `bmax`, the size bounds `InvB` with `ownParked` (C09), and the lemmas
about `own`, `dispItems`, `pendSum` and access to a modified tracker table.
`t0` is the number of trackers that existed when the call started: the call's own trackers are `s.trk.drop t0`.
-/

namespace JoblibModel.ParallelProto

/-- The configurations of the model's domain: at least one worker slot, scripted batch sizes ≥ 1. -/
structure CfgOK (c : Cfg) : Prop where
  nj : 1 ≤ c.nj
  bs : ∀ b ∈ c.bs, 1 ≤ b

/-- The largest batch size the script can return (1 if the script is empty). -/
def bmax (c : Cfg) : Nat := c.bs.foldr max 1

theorem le_bmax_of_mem {c : Cfg} {b : Nat} (h : b ∈ c.bs) : b ≤ bmax c := by
  unfold bmax
  generalize c.bs = l at h ⊢
  induction l with
  | nil => simp at h
  | cons x xs ih =>
    simp only [List.mem_cons] at h
    simp only [List.foldr_cons]
    rcases h with h | h
    · subst h; omega
    · have := ih h; omega

theorem one_le_bmax (c : Cfg) : 1 ≤ bmax c := by
  unfold bmax
  generalize c.bs = l
  induction l with
  | nil => simp
  | cons x xs ih => simp only [List.foldr_cons]; omega

theorem scriptedBs_pos {c : Cfg} (hc : CfgOK c) (s : St) : 1 ≤ scriptedBs c s := by
  rcases List.getD_mem_or_eq c.bs (min s.bsI (c.bs.length - 1)) 1 with h | h
  · exact hc.bs _ h
  · exact Nat.le_of_eq h.symm

theorem scriptedBs_le_bmax (c : Cfg) (s : St) : scriptedBs c s ≤ bmax c := by
  rcases List.getD_mem_or_eq c.bs (min s.bsI (c.bs.length - 1)) 1 with h | h
  · exact le_bmax_of_mem h
  · exact Nat.le_trans (Nat.le_of_eq h) (one_le_bmax c)

/-- The trackers created by the running call, in creation order. -/
def own (t0 : Nat) (s : St) : List Tracker := s.trk.drop t0

/-- The task ids dispatched by the running call, in dispatch order. -/
def dispItems (t0 : Nat) (s : St) : List Nat := ((own t0 s).map (·.items)).flatten

/-- Total size of the pending trackers of a table. -/
def pendSum (l : List Tracker) : Nat := ((l.filter (fun t => t.status == .pending)).map (·.bsize)).sum

/-- The exceptions a call may legitimately raise to its caller. -/
def Legit (c : Cfg) (s : St) : Exc → Prop
  | .task id => id ∈ s.failIds ∧ s.base ≤ id ∧ id < s.base + s.spec.n
  | .iter pos => 0 ≤ s.spec.iterfail ∧ ((pos : Nat) : Int) = (s.base : Int) + s.spec.iterfail
  | .timeout => 0 ≤ c.timeout
  | _ => False

/-- Tracker `i`'s registered outcome is intact. -/
def TOK (c : Cfg) (s : St) (i : Nat) : Prop :=
  ((getTrk s i).status = .done → (getTrk s i).result = .vals (getTrk s i).items) ∧
  ((getTrk s i).status = .error → ∃ e, (getTrk s i).result = .exc e ∧ Legit c s e)

/-- Trackers and queues. `hole = some i`: tracker `i` has just been taken out of `parked` by the backend and its
completion callback has not yet registered the outcome (the only moment a pending tracker is not parked). `ord_jobs`
carries the ordered modes: `_jobs` is `p, p+1, …` up to the newest tracker, `p` the next one the retrieval loop pops, and
every tracker of the call below `p` has its outcome. -/
structure InvT (c : Cfg) (t0 : Nat) (hole : Option Nat) (s : St) : Prop where
  t0_le : t0 ≤ s.trk.length
  callId_pos : 0 < s.callId
  stale : ∀ i, i < t0 → (getTrk s i).callId < s.callId
  ownId : ∀ i, t0 ≤ i → i < s.trk.length → (getTrk s i).callId = s.callId
  parked_lt : ∀ i ∈ s.parked, i < s.trk.length
  parked_nodup : s.parked.Nodup
  hole_notin : ∀ h, hole = some h → h ∉ s.parked
  parked_pending : s.aborting = false → ∀ i, t0 ≤ i → i < s.trk.length →
    ((getTrk s i).status = .pending ↔ (i ∈ s.parked ∨ hole = some i))
  items_ok : ∀ i, t0 ≤ i → i < s.trk.length → (getTrk s i).status ≠ .error →
    (getTrk s i).items ≠ [] ∧ (getTrk s i).bsize = (getTrk s i).items.length
  no_error : s.aborting = false → ∀ i, t0 ≤ i → i < s.trk.length → (getTrk s i).status ≠ .error
  abort_exc : s.exception = s.aborting
  abort_err : s.aborting = true → ∃ i ∈ s.jobs, (getTrk s i).status = .error
  tok : ∀ i ∈ s.jobs, TOK c s i
  jobs_own : ∀ i ∈ s.jobs, t0 ≤ i ∧ i < s.trk.length
  ord_jobs : ordered c = true → ∃ p, t0 ≤ p ∧ p ≤ s.trk.length ∧
    s.jobs = List.range' p (s.trk.length - p) ∧
    ∀ i, t0 ≤ i → i < p → (getTrk s i).status ≠ .pending

/-- Input source, conservation, counters. -/
structure InvS (c : Cfg) (t0 : Nat) (s : St) : Prop where
  src_le : s.srcPos ≤ s.spec.n
  src_iter : 0 ≤ s.spec.iterfail → (s.srcPos : Int) ≤ s.spec.iterfail
  dead : s.aborting = false → s.srcDead = true →
    s.srcPos = s.spec.n ∧ (s.srcPos : Int) ≠ s.spec.iterfail
  cons : s.aborting = false → dispItems t0 s ++ s.ready.flatten = List.range' s.base s.srcPos
  ready_ne : ∀ b ∈ s.ready, b ≠ []
  ready_range : ∀ b ∈ s.ready, ∀ id ∈ b, s.base ≤ id ∧ id < s.base + s.spec.n
  items_range : ∀ i, t0 ≤ i → i < s.trk.length → ∀ id ∈ (getTrk s i).items,
    s.base ≤ id ∧ id < s.base + s.spec.n
  ndisp : s.aborting = false → s.nDispTasks = (dispItems t0 s).length
  ncomp : s.aborting = false → s.nCompleted + pendSum (own t0 s) = s.nDispTasks

/-- Liveness bookkeeping. -/
structure InvL (c : Cfg) (t0 : Nat) (s : St) : Prop where
  iter_orig : s.iterating = true → s.origAlive = true
  orig_mode : s.origAlive = true → c.pdMode ≠ 1
  pre_mode : c.pdMode = 1 → s.preLeft = none
  orig_exh : c.pdMode ≠ 1 → s.origAlive = false → s.aborting = false →
    s.ready = [] ∧ s.srcDead = true

/-- Number of parked (submitted, not completed) batches of the running call. -/
def ownParked (t0 : Nat) (s : St) : Nat := (s.parked.filter (fun i => decide (t0 ≤ i))).length

/-- Size bounds (C09): every batch is at most `bmax` long, the look-ahead queue holds at most `n_jobs · bmax`
tasks, and the input position is paid for by `pre_dispatch` plus `n_jobs · bmax` per completed task. -/
structure InvB (c : Cfg) (t0 : Nat) (s : St) : Prop where
  items_le : ∀ i, t0 ≤ i → i < s.trk.length → (getTrk s i).items.length ≤ bmax c
  ready_le : ∀ b ∈ s.ready, b.length ≤ bmax c
  ready_tot : s.ready.flatten.length ≤ c.nj * bmax c
  budget : c.pdMode ≠ 1 → ∃ r, s.preLeft = some r ∧
    s.srcPos + r ≤ c.pd + s.nCompleted * (c.nj * bmax c)

/-- While `_iterating` is set (and the call is not aborting) some batch of this call is still pending: the
completion callback that will either dispatch more or clear the flag is yet to come. -/
def IterPend (t0 : Nat) (s : St) : Prop :=
  s.aborting = false → s.iterating = true →
    ∃ i, t0 ≤ i ∧ i < s.trk.length ∧ (getTrk s i).status = .pending

/-- The invariant of a call in progress (`_start` has begun; `finally` has not run). -/
structure Inv (c : Cfg) (t0 : Nat) (s : St) : Prop where
  T : InvT c t0 none s
  S : InvS c t0 s
  L : InvL c t0 s
  P : IterPend t0 s

theorem pendSum_append (l₁ l₂ : List Tracker) : pendSum (l₁ ++ l₂) = pendSum l₁ + pendSum l₂ := by
  simp [pendSum, List.filter_append, List.sum_append]

def pendW (t : Tracker) : Nat := if t.status = .pending then t.bsize else 0

theorem pendSum_cons (x : Tracker) (xs : List Tracker) : pendSum (x :: xs) = pendW x + pendSum xs := by
  simp only [pendSum, pendW, List.filter_cons]
  by_cases h : x.status = .pending <;> simp [h]

theorem pendSum_eq (l : List Tracker) : pendSum l = (l.map pendW).sum := by
  induction l with
  | nil => rfl
  | cons x xs ih => rw [pendSum_cons, ih, List.map_cons, List.sum_cons]

theorem pendSum_set {l : List Tracker} {i : Nat} (t : Tracker) (hi : i < l.length) :
    pendSum (l.set i t) + pendW l[i] = pendSum l + pendW t := by
  rw [pendSum_eq, pendSum_eq, List.getElem_eq_getD default]; exact List.sum_map_set pendW l i t _ hi

theorem pendSum_pos_iff (l : List Tracker) :
    0 < pendSum l ↔ ∃ t ∈ l, t.status = .pending ∧ 0 < t.bsize := by
  induction l with
  | nil => simp [pendSum]
  | cons x xs ih =>
    simp only [pendSum_cons, List.mem_cons, exists_eq_or_imp, ← ih, pendW]
    by_cases h : x.status = .pending <;>
      simp only [h, if_true, if_false, true_and, false_and, false_or, Nat.zero_add] <;> omega

theorem getTrk_push {s s' : St} {t : Tracker} (h : s'.trk = s.trk ++ [t]) (i : Nat) :
    getTrk s' i = if i < s.trk.length then getTrk s i else if i = s.trk.length then t else default := by
  rw [getTrk, h]; exact List.getD_concat_eq ..

theorem getTrk_set {s s' : St} {i : Nat} {t : Tracker} (h : s'.trk = s.trk.set i t) (j : Nat) :
    getTrk s' j = if i = j ∧ i < s.trk.length then t else getTrk s j := by
  have := getTrk_setTrk s i j t
  simp only [getTrk, setTrk] at this ⊢
  rw [h]; exact this

theorem getTrk_same {s s' : St} (h : s'.trk = s.trk) (j : Nat) : getTrk s' j = getTrk s j := by
  simp [getTrk, h]

theorem getTrk_push_lt {s s' : St} {t : Tracker} (h : s'.trk = s.trk ++ [t]) {i : Nat} (hi : i < s.trk.length) :
    getTrk s' i = getTrk s i := by
  rw [getTrk_push h, if_pos hi]

theorem getTrk_push_self {s s' : St} {t : Tracker} (h : s'.trk = s.trk ++ [t]) : getTrk s' s.trk.length = t := by
  rw [getTrk_push h, if_neg (Nat.lt_irrefl _), if_pos rfl]

theorem getTrk_set_ne {s s' : St} {i j : Nat} {t : Tracker} (h : s'.trk = s.trk.set i t) (hij : i ≠ j) :
    getTrk s' j = getTrk s j := by
  rw [getTrk_set h, if_neg (fun hh => hij hh.1)]

theorem getTrk_set_self {s s' : St} {i : Nat} {t : Tracker} (h : s'.trk = s.trk.set i t) (hi : i < s.trk.length) :
    getTrk s' i = t := by
  rw [getTrk_set h, if_pos ⟨rfl, hi⟩]

theorem getTrk_set_proj {α : Type} (f : Tracker → α) {s s' : St} {i : Nat} {t : Tracker}
    (h : s'.trk = s.trk.set i t) (hf : f t = f (getTrk s i)) (j : Nat) : f (getTrk s' j) = f (getTrk s j) := by
  rw [getTrk_set h]
  split
  · next hh => rw [hf, hh.1]
  · rfl

theorem getTrk_set_outcome {s s' : St} {i : Nat} {st : Status} {r : Res}
    (h : s'.trk = s.trk.set i { getTrk s i with status := st, result := r }) (j : Nat) :
    (getTrk s' j).items = (getTrk s j).items ∧ (getTrk s' j).callId = (getTrk s j).callId ∧
      (getTrk s' j).bsize = (getTrk s j).bsize :=
  ⟨getTrk_set_proj (·.items) h rfl j, getTrk_set_proj (·.callId) h rfl j, getTrk_set_proj (·.bsize) h rfl j⟩

theorem own_push {t0 : Nat} {s s' : St} {t : Tracker} (h : s'.trk = s.trk ++ [t]) (h0 : t0 ≤ s.trk.length) :
    own t0 s' = own t0 s ++ [t] := by
  simp [own, h, List.drop_append_of_le_length h0]

theorem dispItems_push {t0 : Nat} {s s' : St} {t : Tracker} (h : s'.trk = s.trk ++ [t])
    (h0 : t0 ≤ s.trk.length) : dispItems t0 s' = dispItems t0 s ++ t.items := by
  simp [dispItems, own_push h h0]

theorem own_set {t0 : Nat} {s s' : St} {i : Nat} {t : Tracker} (h : s'.trk = s.trk.set i t) (h0 : t0 ≤ i) :
    own t0 s' = (own t0 s).set (i - t0) t := by
  simp only [own, h, List.drop_set]
  rw [if_neg (by omega)]

theorem own_getElem {t0 : Nat} {s : St} {i : Nat} (h0 : t0 ≤ i) (h1 : i < s.trk.length) :
    ∃ h : i - t0 < (own t0 s).length, (own t0 s)[i - t0] = getTrk s i := by
  have : i - t0 < (own t0 s).length := by simp [own]; omega
  refine ⟨this, ?_⟩
  simp only [own, List.getElem_drop, getTrk_lt h1]
  congr 1; omega

theorem own_eq_map (t0 : Nat) (s : St) :
    own t0 s = (List.range' t0 (s.trk.length - t0)).map (fun i => getTrk s i) := by
  apply List.ext_getElem
  · simp [own]
  · intro k h1 h2
    simp only [own, List.length_drop] at h1
    simp only [own, List.getElem_drop, List.getElem_map, List.getElem_range']
    rw [getTrk_lt (by omega)]
    congr 1; omega

theorem mem_own_iff {t0 : Nat} {s : St} {t : Tracker} :
    t ∈ own t0 s ↔ ∃ i, t0 ≤ i ∧ i < s.trk.length ∧ getTrk s i = t := by
  rw [own_eq_map, List.mem_map]
  constructor
  · rintro ⟨i, hi, rfl⟩; rw [List.mem_range'_1] at hi; exact ⟨i, hi.1, by omega, rfl⟩
  · rintro ⟨i, h0, h1, rfl⟩; exact ⟨i, by rw [List.mem_range'_1]; omega, rfl⟩

theorem pendSum_own_pos {t0 : Nat} {s : St} : 0 < pendSum (own t0 s) ↔
    ∃ i, t0 ≤ i ∧ i < s.trk.length ∧ (getTrk s i).status = .pending ∧ 0 < (getTrk s i).bsize := by
  rw [pendSum_pos_iff]
  constructor
  · rintro ⟨t, ht, hp, hb⟩
    obtain ⟨i, h0, h1, rfl⟩ := mem_own_iff.mp ht
    exact ⟨i, h0, h1, hp, hb⟩
  · rintro ⟨i, h0, h1, hp, hb⟩
    exact ⟨_, mem_own_iff.mpr ⟨i, h0, h1, rfl⟩, hp, hb⟩

theorem dispItems_set {t0 : Nat} {s s' : St} {i : Nat} {t : Tracker} (h : s'.trk = s.trk.set i t)
    (hi : t.items = (getTrk s i).items) : dispItems t0 s' = dispItems t0 s := by
  by_cases h1 : i < s.trk.length
  · by_cases h0 : t0 ≤ i
    · obtain ⟨hl, he⟩ := own_getElem h0 h1
      simp only [dispItems, own_set h h0]
      rw [List.map_set, hi, ← he, ← List.getElem_map Tracker.items (l := own t0 s) (h := by simpa using hl),
        List.set_getElem_self]
    · simp only [dispItems, own, h, List.drop_set]
      rw [if_pos (by omega)]
  · have : s'.trk = s.trk := by rw [h]; exact List.set_eq_of_length_le (by omega)
    simp [dispItems, own, this]

theorem pendSum_own_set_same {t0 : Nat} {s s' : St} {i : Nat} {t : Tracker} (h : s'.trk = s.trk.set i t)
    (hs : t.status = (getTrk s i).status) (hb : t.bsize = (getTrk s i).bsize) :
    pendSum (own t0 s') = pendSum (own t0 s) := by
  by_cases h1 : i < s.trk.length
  · by_cases h0 : t0 ≤ i
    · obtain ⟨hl, he⟩ := own_getElem h0 h1
      rw [own_set h h0]
      have := pendSum_set t hl
      simp only [pendW, he, hs, hb] at this
      omega
    · simp only [own, h, List.drop_set]
      rw [if_pos (by omega)]
  · have : s'.trk = s.trk := by rw [h]; exact List.set_eq_of_length_le (by omega)
    simp [own, this]

theorem pendSum_own_set_complete {t0 : Nat} {s s' : St} {i : Nat} {t : Tracker} (h : s'.trk = s.trk.set i t)
    (h0 : t0 ≤ i) (h1 : i < s.trk.length)
    (hp : (getTrk s i).status = .pending) (hs : t.status ≠ .pending) :
    pendSum (own t0 s') + (getTrk s i).bsize = pendSum (own t0 s) := by
  obtain ⟨hl, he⟩ := own_getElem h0 h1
  rw [own_set h h0]
  have := pendSum_set t hl
  simp only [pendW, he, hp, hs, if_true, if_false] at this
  omega

theorem Legit_congr {c : Cfg} {s s' : St} (h1 : s'.failIds = s.failIds) (h2 : s'.base = s.base)
    (h3 : s'.spec = s.spec) (e : Exc) : Legit c s' e ↔ Legit c s e := by
  cases e <;> simp [Legit, h1, h2, h3]

theorem TOK_congr {c : Cfg} {s s' : St} {i : Nat} (h0 : getTrk s' i = getTrk s i)
    (h1 : s'.failIds = s.failIds) (h2 : s'.base = s.base)
    (h3 : s'.spec = s.spec) : TOK c s' i ↔ TOK c s i := by
  simp only [TOK, h0, Legit_congr h1 h2 h3]

end JoblibModel.ParallelProto
