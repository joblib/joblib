import JoblibModel.ParallelProto
/-!
Generic facts used by the M1 (`ParallelProto`) proofs: `chunks`, `nTasks`, `removeFirst`.
-/
namespace JoblibModel.ParallelProto

theorem false_of_imp_true {a b : Bool} (h : a = true → b = true) (hb : b = false) : a = false := by
  cases a with
  | false => rfl
  | true => rw [h rfl] at hb; cases hb

theorem chunks_go_flatten (k : Nat) : ∀ (fuel : Nat) (l : List Nat), l.length ≤ fuel →
    (chunks.go k fuel l).flatten = l := by
  intro fuel l
  fun_induction chunks.go k fuel l with
  | case1 l => intro h; cases l <;> simp_all
  | case2 => simp
  | case3 fuel l _ ih =>
    intro h
    rw [List.flatten_cons, ih (by simp only [List.length_drop]; omega), List.take_append_drop]

theorem chunks_flatten (k : Nat) (l : List Nat) : (chunks k l).flatten = l :=
  chunks_go_flatten k _ l (Nat.le_refl _)

theorem chunks_go_ne_nil (k : Nat) : ∀ (fuel : Nat) (l : List Nat), ∀ b ∈ chunks.go k fuel l, b ≠ [] := by
  intro fuel l
  fun_induction chunks.go k fuel l with
  | case1 => simp
  | case2 => simp
  | case3 fuel l hl ih =>
    intro b hb
    rcases List.mem_cons.mp hb with rfl | hb
    · cases l with
      | nil => exact absurd rfl hl
      | cons a t => cases hm : max k 1 with
        | zero => omega
        | succ m => simp
    · exact ih b hb

theorem chunks_ne_nil (k : Nat) (l : List Nat) : ∀ b ∈ chunks k l, b ≠ [] :=
  chunks_go_ne_nil k _ l

theorem chunks_go_len_le (k : Nat) : ∀ (fuel : Nat) (l : List Nat), ∀ b ∈ chunks.go k fuel l,
    b.length ≤ max k 1 := by
  intro fuel l
  fun_induction chunks.go k fuel l with
  | case1 => simp
  | case2 => simp
  | case3 fuel l _ ih =>
    intro b hb
    rcases List.mem_cons.mp hb with rfl | hb
    · simp only [List.length_take]; omega
    · exact ih b hb

theorem chunks_len_le (k : Nat) (l : List Nat) : ∀ b ∈ chunks k l, b.length ≤ max k 1 :=
  chunks_go_len_le k _ l

theorem chunks_go_length_le (k : Nat) : ∀ (fuel : Nat) (l : List Nat),
    (chunks.go k fuel l).length ≤ l.length := by
  intro fuel l
  fun_induction chunks.go k fuel l with
  | case1 => simp
  | case2 => simp
  | case3 fuel l hl ih =>
    have : 0 < l.length := List.length_pos_iff.mpr (fun h => hl h)
    simp only [List.length_cons, List.length_drop] at ih ⊢
    omega

theorem chunks_length_le (k : Nat) (l : List Nat) : (chunks k l).length ≤ l.length :=
  chunks_go_length_le k _ l

theorem chunks_nil (k : Nat) : chunks k [] = [] := by simp [chunks, chunks.go]

theorem chunks_eq_nil_iff (k : Nat) (l : List Nat) : chunks k l = [] ↔ l = [] := by
  constructor
  · intro h
    have := chunks_flatten k l
    rw [h] at this; simpa using this.symm
  · rintro rfl; exact chunks_nil k

/-- The number of items in a list of batches. -/
def nTasks (bs : List (List Nat)) : Nat := bs.flatten.length

@[simp] theorem nTasks_nil : nTasks [] = 0 := rfl
@[simp] theorem nTasks_cons (b : List Nat) (bs : List (List Nat)) : nTasks (b :: bs) = b.length + nTasks bs := by
  simp [nTasks]

theorem removeFirst_eq_erase (x : Nat) : ∀ l : List Nat, removeFirst x l = l.erase x
  | [] => rfl
  | y :: ys => by
    simp only [removeFirst, List.erase_cons, removeFirst_eq_erase x ys, beq_iff_eq, eq_comm (a := x)]

theorem removeFirst_length {x : Nat} {l : List Nat} (h : x ∈ l) : (removeFirst x l).length + 1 = l.length := by
  rw [removeFirst_eq_erase, List.length_erase_of_mem h]; have := List.length_pos_of_mem h; omega

theorem mem_removeFirst {x y : Nat} {l : List Nat} (h : y ∈ removeFirst x l) : y ∈ l :=
  List.mem_of_mem_erase (removeFirst_eq_erase x l ▸ h)

theorem mem_removeFirst_of_ne {x y : Nat} (hne : y ≠ x) {l : List Nat} (h : y ∈ l) : y ∈ removeFirst x l := by
  rw [removeFirst_eq_erase]; exact (List.mem_erase_of_ne hne).2 h

theorem removeFirst_nodup {x : Nat} {l : List Nat} (h : l.Nodup) :
    (removeFirst x l).Nodup ∧ x ∉ removeFirst x l := by
  rw [removeFirst_eq_erase]; exact ⟨h.erase x, fun hx => (h.mem_erase_iff.1 hx).1 rfl⟩

end JoblibModel.ParallelProto
