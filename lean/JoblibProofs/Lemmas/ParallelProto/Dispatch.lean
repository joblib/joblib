import JoblibProofs.Lemmas.ParallelProto.StepsU

/-!
What the steps of a call guarantee beyond the invariant (`Frame` ⊂ `Later`, `OStep`; the measure `meas`; the expected
output `rest c`, compared by `OutRel c`), and `dispatchLocked`, the locked region of `dispatch_one_batch`, with everything
it guarantees (`DLSpec`).
-/

namespace JoblibModel.ParallelProto

/-- Fields that no step inside a call changes (until `finally`), and monotonicity of the abort flag. -/
structure Frame (s s' : St) : Prop where
  base : s'.base = s.base
  spec : s'.spec = s.spec
  callId : s'.callId = s.callId
  callCtr : s'.callCtr = s.callCtr
  failIds : s'.failIds = s.failIds
  managed : s'.managed = s.managed
  running : s'.running = s.running
  calling : s'.calling = s.calling
  abort_mono : s.aborting = true → s'.aborting = true

theorem Frame.refl (s : St) : Frame s s := ⟨rfl, rfl, rfl, rfl, rfl, rfl, rfl, rfl, id⟩

/-- One tuple equation, so that `Frame.of_eq rfl` does where the fields are the same terms. -/
theorem Frame.of_eq {s s' : St}
    (h : (s'.base, s'.spec, s'.callId, s'.callCtr, s'.failIds, s'.managed, s'.running, s'.calling, s'.aborting) =
      (s.base, s.spec, s.callId, s.callCtr, s.failIds, s.managed, s.running, s.calling, s.aborting)) : Frame s s' := by
  simp only [Prod.mk.injEq] at h
  obtain ⟨h1, h2, h3, h4, h5, h6, h7, h8, h9⟩ := h
  exact ⟨h1, h2, h3, h4, h5, h6, h7, h8, fun ha => h9.trans ha⟩

theorem Frame.trans {a b d : St} (h1 : Frame a b) (h2 : Frame b d) : Frame a d :=
  ⟨h2.base.trans h1.base, h2.spec.trans h1.spec, h2.callId.trans h1.callId, h2.callCtr.trans h1.callCtr,
   h2.failIds.trans h1.failIds, h2.managed.trans h1.managed, h2.running.trans h1.running,
   h2.calling.trans h1.calling, fun h => h2.abort_mono (h1.abort_mono h)⟩

/-- Batches sliced but not dispatched, plus input not yet sliced. -/
def work (s : St) : Nat := s.ready.length + (s.spec.n - s.srcPos)

/-- The trackers the retrieval loop has not popped yet. -/
def unpopped (c : Cfg) (s : St) : List Nat := if ordered c then s.jobs else s.jobsSet

/-- Termination measure of the call (without the schedule). -/
def meas (c : Cfg) (s : St) : Nat := (unpopped c s).length + s.parked.length + 2 * work s

/-- What the call is still going to output, in order (ordered modes): the batches not yet popped, then the
look-ahead queue, then the rest of the input. -/
def restS (s : St) : List Nat :=
  (s.jobs.map (fun i => (getTrk s i).items)).flatten ++ s.ready.flatten ++
    List.range' (s.base + s.srcPos) (s.spec.n - s.srcPos)

/-- What an unordered-mode call is still going to output, as a multiset: the batches not yet popped
(`_jobs_set`, in creation order), the look-ahead queue, the rest of the input. -/
def restU (s : St) : List Nat :=
  (s.jobsSet.map (fun i => (getTrk s i).items)).flatten ++ s.ready.flatten ++
    List.range' (s.base + s.srcPos) (s.spec.n - s.srcPos)

/-- What the call is still going to output: the batches not yet popped, the look-ahead queue, the rest of the input. -/
def rest (c : Cfg) (s : St) : List Nat :=
  ((unpopped c s).map (fun i => (getTrk s i).items)).flatten ++ s.ready.flatten ++
    List.range' (s.base + s.srcPos) (s.spec.n - s.srcPos)

theorem rest_ordered {c : Cfg} (ho : ordered c = true) (s : St) : rest c s = restS s := by
  simp only [rest, restS, unpopped, ho, if_true]

theorem rest_unordered {c : Cfg} (ho : ordered c = false) (s : St) : rest c s = restU s := by
  simp only [rest, restU, unpopped, ho, Bool.false_eq_true, if_false]

/-- How the output relates to what was expected: the same list in the ordered modes, a rearrangement of it for
`return_as='generator_unordered'`. -/
def OutRel (c : Cfg) (a b : List Nat) : Prop := if ordered c then a = b else a.Perm b

namespace OutRel

variable {c : Cfg} {a b d : List Nat}

theorem of_eq (h : a = b) : OutRel c a b := by
  unfold OutRel; split
  · exact h
  · exact h ▸ List.Perm.refl _

theorem refl (a : List Nat) : OutRel c a a := of_eq rfl

theorem of_perm (ho : ordered c = false) (h : a.Perm b) : OutRel c a b := by
  unfold OutRel; rw [if_neg (by simp [ho])]; exact h

theorem perm (h : OutRel c a b) : a.Perm b := by
  unfold OutRel at h; split at h
  · exact h ▸ List.Perm.refl _
  · exact h

theorem eq (ho : ordered c = true) (h : OutRel c a b) : a = b := by
  unfold OutRel at h; rwa [if_pos ho] at h

theorem trans (h1 : OutRel c a b) (h2 : OutRel c b d) : OutRel c a d := by
  unfold OutRel at *; split at h1
  · next ho => rw [if_pos ho] at h2 ⊢; exact h1.trans h2
  · next ho => rw [if_neg ho] at h2 ⊢; exact h1.trans h2

theorem append_left (l : List Nat) (h : OutRel c a b) : OutRel c (l ++ a) (l ++ b) := by
  unfold OutRel at *; split at h
  · next ho => rw [if_pos ho, h]
  · next ho => rw [if_neg ho]; exact h.append_left l

theorem length_eq (h : OutRel c a b) : a.length = b.length := h.perm.length_eq

theorem eq_nil (h : OutRel c a []) : a = [] := h.perm.eq_nil

end OutRel

theorem unpopped_congr {c : Cfg} {s s' : St} (hjobs : ordered c = true → s'.jobs = s.jobs)
    (hjs : s'.jobsSet = s.jobsSet) : unpopped c s' = unpopped c s := by
  unfold unpopped; split
  · next ho => exact hjobs ho
  · exact hjs

/-- After `_start`: once `_iterating` is cleared (and the call is not aborting) the input is exhausted and
nothing is queued. -/
def Post (s : St) : Prop := s.aborting = false → s.iterating = false → s.ready = [] ∧ s.srcDead = true

/-- The part of `Step` (Deliver.lean) that mentions neither `t0` nor an invariant: `s'` is a later state of the same
call, reached by dispatch and completion steps only (the retrieving thread did not pop a batch in between; a timeout it
registers is such a step). -/
structure Later (c : Cfg) (s s' : St) : Prop where
  frame : Frame s s'
  len : s.trk.length ≤ s'.trk.length
  meas_le : s'.aborting = false → meas c s' ≤ meas c s
  post : Post s → Post s'
  ncomp : s.nCompleted ≤ s'.nCompleted
  work_le : work s' ≤ work s
  io : s.iterating = s.origAlive → s'.iterating = s'.origAlive
  exh : s.ready = [] → s.srcDead = true → s'.ready = [] ∧ s'.srcDead = true

theorem Later.refl (c : Cfg) (s : St) : Later c s s :=
  ⟨Frame.refl s, Nat.le_refl _, fun _ => Nat.le_refl _, id, Nat.le_refl _, Nat.le_refl _, id, fun a b => ⟨a, b⟩⟩

theorem Later.trans {c : Cfg} {a b d : St} (h1 : Later c a b) (h2 : Later c b d) : Later c a d :=
  ⟨h1.frame.trans h2.frame, Nat.le_trans h1.len h2.len,
    fun hd => Nat.le_trans (h2.meas_le hd) (h1.meas_le (false_of_imp_true h2.frame.abort_mono hd)),
    fun hp => h2.post (h1.post hp), Nat.le_trans h1.ncomp h2.ncomp, Nat.le_trans h2.work_le h1.work_le,
    fun h => h2.io (h1.io h), fun a b => h2.exh (h1.exh a b).1 (h1.exh a b).2⟩

theorem Later.of_table {c : Cfg} {s s' : St} (hf : Frame s s') (hlen : s'.trk.length = s.trk.length)
    (hjobs : ordered c = true → s'.jobs = s.jobs) (hjs : s'.jobsSet = s.jobsSet)
    (hparked : s'.parked.length ≤ s.parked.length) (hready : s'.ready = s.ready) (hpos : s'.srcPos = s.srcPos)
    (hdead : s'.srcDead = s.srcDead) (hit : s'.iterating = s.iterating) (hor : s'.origAlive = s.origAlive)
    (hnc : s.nCompleted ≤ s'.nCompleted) : Later c s s' := by
  refine ⟨hf, Nat.le_of_eq hlen.symm, fun _ => ?_, fun hp ha hi => ?_, hnc, ?_, by rw [hit, hor]; exact id,
    by rw [hready, hdead]; exact fun a b => ⟨a, b⟩⟩
  · simp only [meas, unpopped_congr hjobs hjs, work, hready, hpos, hf.spec]; omega
  · have hna : s.aborting = false := false_of_imp_true hf.abort_mono ha
    rw [hready, hdead]; exact hp hna (hit ▸ hi)
  · simp only [work, hready, hpos, hf.spec]; exact Nat.le_refl _

/-- What `Step.out` yields: what a dispatch / completion step keeps of the expected output `rest c`, and `InvU`, on
which that rests in unordered mode. -/
structure OStep (c : Cfg) (t0 : Nat) (s s' : St) : Prop where
  inv : ordered c = false → InvU t0 s'
  rest_eq : s'.aborting = false → rest c s' = rest c s
  rest_len : (rest c s').length ≤ (rest c s).length

theorem OStep.of_rest {c : Cfg} {t0 : Nat} {s s' : St} (h : ordered c = false → InvU t0 s')
    (hr : rest c s' = rest c s) : OStep c t0 s s' :=
  ⟨h, fun _ => hr, Nat.le_of_eq (congrArg _ hr)⟩

theorem OStep.refl {c : Cfg} {t0 : Nat} {s : St} (h : ordered c = false → InvU t0 s) : OStep c t0 s s := .of_rest h rfl

theorem OStep.trans {c : Cfg} {t0 : Nat} {a b d : St} (h1 : OStep c t0 a b) (h2 : OStep c t0 b d)
    (hab : b.aborting = true → d.aborting = true) : OStep c t0 a d :=
  ⟨h2.inv, fun hd => (h2.rest_eq hd).trans (h1.rest_eq (false_of_imp_true hab hd)), Nat.le_trans h2.rest_len h1.rest_len⟩

theorem OStep.of_same {c : Cfg} {t0 : Nat} {s s' : St} (h : ordered c = false → InvU t0 s')
    (hitems : ∀ j, (getTrk s' j).items = (getTrk s j).items) (hjobs : ordered c = true → s'.jobs = s.jobs)
    (hjs : s'.jobsSet = s.jobsSet) (hready : s'.ready = s.ready) (hpos : s'.srcPos = s.srcPos)
    (hbase : s'.base = s.base) (hspec : s'.spec = s.spec) : OStep c t0 s s' :=
  .of_rest h (by simp only [rest, unpopped_congr hjobs hjs, hready, hpos, hbase, hspec, hitems])

theorem unpopped_lt {c : Cfg} {t0 : Nat} {hole : Option Nat} {s : St} (hT : InvT c t0 hole s)
    (hq : ordered c = false → InvU t0 s) : ∀ i ∈ unpopped c s, i < s.trk.length := by
  unfold unpopped; split
  · exact fun i hi => (hT.jobs_own i hi).2
  · next ho => exact fun i hi => ((hq (by simpa using ho)).set_own i hi).2

theorem ownParked_append (t0 : Nat) (s s' : St) (i : Nat) (h : s'.parked = s.parked ++ [i]) :
    ownParked t0 s' ≤ ownParked t0 s + 1 ∧ (t0 ≤ i → ownParked t0 s' = ownParked t0 s + 1) := by
  simp only [ownParked, h, List.filter_append, List.length_append]
  by_cases hi : t0 ≤ i <;> simp [hi]

/-- What `dispatchLocked` leaves alone, as far as the proofs read it. -/
structure DLSame (s s' : St) : Prop where
  sched : s'.sched = s.sched
  hung : s'.hung = s.hung
  nCompleted : s'.nCompleted = s.nCompleted
  iterating : s'.iterating = s.iterating
  origAlive : s'.origAlive = s.origAlive

/-- The slack a completion callback has for its `dispatch_one_batch`: the task just counted pays for the slice. -/
def Slack (c : Cfg) (fo : Bool) (s : St) : Prop :=
  c.pdMode ≠ 1 → fo = true → ∃ r, s.preLeft = some r ∧
    s.srcPos + r + c.nj * bmax c ≤ c.pd + s.nCompleted * (c.nj * bmax c)

/-- Everything `dispatchLocked` guarantees from a non-aborting state satisfying the invariant. -/
structure DLSpec (c : Cfg) (t0 : Nat) (fo : Bool) (bs : Nat) (s s' : St) (more : Bool) : Prop where
  T : InvT c t0 none s'
  S : InvS c t0 s'
  L : InvL c t0 s'
  iterp : IterPend t0 s → IterPend t0 s'
  later : Later c s s'
  same : DLSame s s'
  exh : more = false → s'.aborting = false →
    s'.ready = [] ∧ (s'.srcDead = true ∨ (fo = false ∧ s'.preLeft = some 0))
  pend : more = true → s'.aborting = false →
    ∃ i, t0 ≤ i ∧ i < s'.trk.length ∧ (getTrk s' i).status = .pending
  work_lt : more = true → s'.aborting = false → work s' < work s
  pre_orig : fo = true → s'.preLeft = s.preLeft
  pre_nomore : more = false → s'.preLeft = s.preLeft
  B : InvB c t0 s → bs ≤ bmax c → Slack c fo s → InvB c t0 s'
  parked_le : ownParked t0 s' ≤ ownParked t0 s + 1
  out : (ordered c = false → InvU t0 s) → OStep c t0 s s'

theorem Later.of_dispatch {c : Cfg} {s s' : St} (hf : Frame s s') (hlen : s.trk.length ≤ s'.trk.length)
    (hmeas : s'.aborting = false → meas c s' ≤ meas c s) (hsame : DLSame s s')
    (hexh : s.ready = [] → s.srcDead = true → s'.ready = [] ∧ s'.srcDead = true) (hwork : work s' ≤ work s) :
    Later c s s' := by
  refine ⟨hf, hlen, hmeas, fun hp ha hi => ?_, by rw [hsame.nCompleted]; exact Nat.le_refl _, hwork,
    by rw [hsame.iterating, hsame.origAlive]; exact id, hexh⟩
  rw [hsame.iterating] at hi
  obtain ⟨h1, h2⟩ := hp (false_of_imp_true hf.abort_mono ha) hi
  exact hexh h1 h2

theorem map_items_push {s s' : St} {t : Tracker} (h : s'.trk = s.trk ++ [t]) {l : List Nat}
    (hl : ∀ i ∈ l, i < s.trk.length) :
    l.map (fun i => (getTrk s' i).items) = l.map (fun i => (getTrk s i).items) := by
  apply List.map_congr_left
  intro i hi
  rw [getTrk_push h]; simp [hl i hi]

theorem rest_push {s s' : St} {t : Tracker} {rdy : List (List Nat)} {m : Nat} (q : List Nat)
    (htrk : s'.trk = s.trk ++ [t]) (hown : ∀ i ∈ q, i < s.trk.length)
    (hsplit : t.items ++ rdy.flatten = s.ready.flatten ++ List.range' (s.base + s.srcPos) m)
    (hle : s.srcPos + m ≤ s.spec.n) :
    ((q ++ [s.trk.length]).map (fun i => (getTrk s' i).items)).flatten ++ rdy.flatten ++
        List.range' (s.base + (s.srcPos + m)) (s.spec.n - (s.srcPos + m)) =
      (q.map (fun i => (getTrk s i).items)).flatten ++ s.ready.flatten ++
        List.range' (s.base + s.srcPos) (s.spec.n - s.srcPos) := by
  simp only [List.map_append, List.flatten_append, List.map_cons, List.map_nil, List.flatten_cons,
    List.flatten_nil, List.append_nil]
  rw [map_items_push htrk hown, getTrk_push_self htrk]
  have hr : List.range' (s.base + s.srcPos) (s.spec.n - s.srcPos) =
      List.range' (s.base + s.srcPos) m ++ List.range' (s.base + (s.srcPos + m)) (s.spec.n - (s.srcPos + m)) := by
    rw [show s.base + (s.srcPos + m) = s.base + s.srcPos + 1 * m by omega, List.range'_append]
    congr 1; omega
  rw [hr]
  simp only [List.append_assoc]
  rw [← List.append_assoc t.items, hsplit]
  simp [List.append_assoc]

theorem length_le_flatten_length : ∀ {L : List (List Nat)}, (∀ b ∈ L, b ≠ []) → L.length ≤ L.flatten.length := by
  intro L
  induction L with
  | nil => simp
  | cons b bs ih =>
    intro h
    have h1 : b ≠ [] := h b (by simp)
    have h2 := ih (fun x hx => h x (by simp [hx]))
    have : 0 < b.length := List.length_pos_iff.mpr h1
    simp only [List.length_cons, List.flatten_cons, List.length_append]; omega

/-- What is still to come out does not get longer when a tracker without items is queued last. -/
theorem rest_push_empty {s s' : St} {t : Tracker} (q : List Nat) (htrk : s'.trk = s.trk ++ [t])
    (hti : t.items = []) (hown : ∀ i ∈ q, i < s.trk.length) (hready : s'.ready = s.ready)
    (hpos : s.srcPos ≤ s'.srcPos) (hspec : s'.spec = s.spec) :
    (((q ++ [s.trk.length]).map (fun i => (getTrk s' i).items)).flatten ++ s'.ready.flatten ++
        List.range' (s'.base + s'.srcPos) (s'.spec.n - s'.srcPos)).length ≤
      ((q.map (fun i => (getTrk s i).items)).flatten ++ s.ready.flatten ++
        List.range' (s.base + s.srcPos) (s.spec.n - s.srcPos)).length := by
  simp only [List.map_append, List.flatten_append, List.map_cons, List.map_nil, List.flatten_cons,
    List.flatten_nil, List.append_nil, List.length_append, List.length_range']
  rw [map_items_push htrk hown, getTrk_push_self htrk, hti, hready, hspec]
  simp only [List.length_nil]
  omega

/-- `InvB` only reads the items of the trackers, the look-ahead queue, the input position, `preLeft` and the
completed counter (which may grow). -/
theorem InvB_mono {c : Cfg} {t0 : Nat} {s s' : St} (h : InvB c t0 s)
    (hlen : s'.trk.length = s.trk.length) (hitems : ∀ j, (getTrk s' j).items = (getTrk s j).items)
    (hready : s'.ready = s.ready) (hpos : s'.srcPos = s.srcPos) (hpre : s'.preLeft = s.preLeft)
    (hnc : s.nCompleted ≤ s'.nCompleted) : InvB c t0 s' := by
  refine ⟨fun i h0 h1 => by rw [hitems]; exact h.items_le i h0 (by omega), by rw [hready]; exact h.ready_le,
    by rw [hready]; exact h.ready_tot, ?_⟩
  intro hm
  obtain ⟨r, h1, h2⟩ := h.budget hm
  refine ⟨r, by rw [hpre]; exact h1, ?_⟩
  rw [hpos]
  have : s.nCompleted * (c.nj * bmax c) ≤ s'.nCompleted * (c.nj * bmax c) := Nat.mul_le_mul_right _ hnc
  omega

theorem InvB_same {c : Cfg} {t0 : Nat} {s s' : St} (h : InvB c t0 s)
    (e : (s'.trk, s'.ready, s'.srcPos, s'.preLeft, s'.nCompleted) = (s.trk, s.ready, s.srcPos, s.preLeft, s.nCompleted)) :
    InvB c t0 s' := by
  simp only [Prod.mk.injEq] at e
  obtain ⟨h1, h2, h3, h4, h5⟩ := e
  exact InvB_mono h (by rw [h1]) (fun j => by rw [getTrk_same h1]) h2 h3 h4 (Nat.le_of_eq h5.symm)

/-- What registering an outcome leaves alone, whatever the tracker index (of the call, of another call, out of range): the
conclusion of `registerOutcome_core` and `getStatus_core`. -/
structure RegSame (s s' : St) : Prop where
  len : s'.trk.length = s.trk.length
  items : ∀ j, (getTrk s' j).items = (getTrk s j).items
  ready : s'.ready = s.ready
  srcPos : s'.srcPos = s.srcPos
  preLeft : s'.preLeft = s.preLeft
  nCompleted : s'.nCompleted = s.nCompleted
  parked : s'.parked = s.parked
  origAlive : s'.origAlive = s.origAlive

theorem RegSame.trans {a b d : St} (h1 : RegSame a b) (h2 : RegSame b d) : RegSame a d :=
  ⟨h2.len.trans h1.len, fun j => (h2.items j).trans (h1.items j), h2.ready.trans h1.ready, h2.srcPos.trans h1.srcPos,
    h2.preLeft.trans h1.preLeft, h2.nCompleted.trans h1.nCompleted, h2.parked.trans h1.parked,
    h2.origAlive.trans h1.origAlive⟩

theorem RegSame.invB {c : Cfg} {t0 : Nat} {s s' : St} (h : RegSame s s') (hB : InvB c t0 s) : InvB c t0 s' :=
  InvB_mono hB h.len h.items h.ready h.srcPos h.preLeft (Nat.le_of_eq h.nCompleted.symm)

theorem registerOutcome_core (c : Cfg) (s : St) (i : Nat) (st : Status) (r : Res) :
    RegSame s (registerOutcome c s i st r) := by
  by_cases hp : (getTrk s i).status = .pending
  · have key : ∃ s', registerOutcome c s i st r = s' ∧
        s'.trk = s.trk.set i { getTrk s i with status := st, result := r } ∧
        s'.ready = s.ready ∧ s'.srcPos = s.srcPos ∧ s'.preLeft = s.preLeft ∧ s'.nCompleted = s.nCompleted ∧
        s'.parked = s.parked ∧ s'.origAlive = s.origAlive := by
      unfold registerOutcome
      simp only
      rw [if_neg (by simp [hp])]
      refine ⟨_, rfl, ?_⟩
      split <;> split <;> exact ⟨rfl, rfl, rfl, rfl, rfl, rfl, rfl⟩
    obtain ⟨s', e, h1, h2, h3, h4, h5, h6, h7⟩ := key
    rw [e]
    exact ⟨by rw [h1, List.length_set], fun j => (getTrk_set_outcome h1 j).1, h2, h3, h4, h5, h6, h7⟩
  · rw [registerOutcome_nonpending hp]
    exact ⟨rfl, fun _ => rfl, rfl, rfl, rfl, rfl, rfl, rfl⟩

theorem InvB_push {c : Cfg} {t0 : Nat} {s s' : St} {t : Tracker} (hB : InvB c t0 s) (htrk : s'.trk = s.trk ++ [t])
    (ht : t.items.length ≤ bmax c) (hle : ∀ b ∈ s'.ready, b.length ≤ bmax c)
    (htot : s'.ready.flatten.length ≤ c.nj * bmax c)
    (hbud : c.pdMode ≠ 1 → ∃ r, s'.preLeft = some r ∧ s'.srcPos + r ≤ c.pd + s'.nCompleted * (c.nj * bmax c)) :
    InvB c t0 s' := by
  refine ⟨fun i hi hi' => ?_, hle, htot, hbud⟩
  rw [htrk, List.length_append] at hi'
  rcases Nat.lt_succ_iff_lt_or_eq.mp hi' with hlt | rfl
  · rw [getTrk_push_lt htrk hlt]; exact hB.items_le i hi hlt
  · rw [getTrk_push_self htrk]; exact ht

/-- Common part of the two dispatching cases (from the queue, `m = 0`; after slicing, `m > 0`). -/
theorem dlspec_push {c : Cfg} {t0 : Nat} {fo : Bool} {bs : Nat} {s s' : St}
    (hT : InvT c t0 none s) (hS : InvS c t0 s) (hL : InvL c t0 s)
    {tasks : List Nat} {rdy : List (List Nat)} {m : Nat}
    (hna : s.aborting = false) (htasks : tasks ≠ [])
    (hsplit : tasks ++ rdy.flatten = s.ready.flatten ++ List.range' (s.base + s.srcPos) m)
    (hrest : ∀ b ∈ rdy, b ≠ [])
    (hwork : rdy.length + 1 + (s.spec.n - (s.srcPos + m)) ≤ s.ready.length + (s.spec.n - s.srcPos))
    (hle : s.srcPos + m ≤ s.spec.n)
    (hiter : 0 ≤ s.spec.iterfail → ((s.srcPos + m : Nat) : Int) ≤ s.spec.iterfail)
    (hdead : s'.srcDead = true → s.srcPos + m = s.spec.n ∧ ((s.srcPos + m : Nat) : Int) ≠ s.spec.iterfail)
    (hexh : c.pdMode ≠ 1 → s.origAlive = false → False)
    (hnexh : s.ready = [] → s.srcDead = true → False)
    (hpre : s.preLeft = none → s'.preLeft = none)
    (hpreo : fo = true → s'.preLeft = s.preLeft)
    (hB : InvB c t0 s → bs ≤ bmax c → Slack c fo s → InvB c t0 s')
    (htrk : s'.trk = s.trk ++ [newTrk s tasks]) (hready : s'.ready = rdy)
    (hjobs : s'.jobs = if ordered c then s.jobs ++ [s.trk.length] else s.jobs)
    (hjobsSet : s'.jobsSet = if ordered c then s.jobsSet else s.jobsSet ++ [s.trk.length])
    (hparked : s'.parked = s.parked ++ [s.trk.length])
    (hpos : s'.srcPos = s.srcPos + m) (hab : s'.aborting = s.aborting) (hexc : s'.exception = s.exception)
    (hnd : s'.nDispTasks = s.nDispTasks + tasks.length)
    (hframe : Frame s s')
    (hsame : DLSame s s') :
    DLSpec c t0 fo bs s s' true := by
  have hlen : s'.trk.length = s.trk.length + 1 := by simp [htrk]
  have hunp : unpopped c s' = unpopped c s ++ [s.trk.length] := by
    simp only [unpopped, hjobs, hjobsSet]; split <;> rfl
  refine {
    T := InvT_push hT htasks hna htrk hjobs hparked hframe.callId hab hexc hframe.failIds hframe.base hframe.spec
    S := InvS_dispatch hS hT.t0_le hna hsplit hrest hle hiter hdead htrk hready hpos hnd hsame.nCompleted
      hframe.base hframe.spec
    L := InvL_of hL (by rw [hsame.iterating]; exact id) hsame.origAlive hpre
      (by intro h1 h2 _; rw [hsame.origAlive] at h2; exact (hexh h1 h2).elim)
    iterp := fun hP => IterPend_of hP (by rw [hab]; exact id) (by rw [hsame.iterating]; exact id)
      (by omega) (fun _ i hi => by rw [getTrk_push_lt htrk hi])
    later := .of_dispatch hframe (by omega) (fun _ => ?_) hsame (fun h1 h2 => (hnexh h1 h2).elim)
      (by simp only [work, hready, hpos, hframe.spec]; omega)
    same := hsame
    exh := nofun
    pend := fun _ _ => ⟨s.trk.length, hT.t0_le, by omega, by rw [getTrk_push_self htrk]; rfl⟩
    work_lt := fun _ _ => by simp only [work, hready, hpos, hframe.spec]; omega
    pre_orig := hpreo
    pre_nomore := nofun
    B := hB
    parked_le := (ownParked_append t0 s s' s.trk.length hparked).1
    out := fun hq => .of_rest
      (fun ho => InvU_push (hq ho) hT.t0_le htrk (by simp [hjobs, ho, newTrk]) (by simp [hjobsSet, ho])) ?_ }
  · simp only [meas, hunp, work, hparked, hready, hpos, hframe.spec, List.length_append, List.length_cons,
      List.length_nil]
    omega
  · simp only [rest, hunp, hready, hpos, hframe.base, hframe.spec]
    exact rest_push (unpopped c s) htrk (unpopped_lt hT hq) hsplit hle

/-- Registering the input iterable's error on the tracker just pushed for it is one push of a tracker that carries the
error; under both queue disciplines it ends up last in `_jobs`. -/
theorem registerOutcome_pushed {c : Cfg} {s X : St} {bs : Nat} {e : Exc}
    (htrk : X.trk = s.trk ++ [errTrk s bs])
    (hjobs : X.jobs = if ordered c then s.jobs ++ [s.trk.length] else s.jobs) :
    registerOutcome c X s.trk.length .error (.exc e) =
      { X with trk := s.trk ++ [{ errTrk s bs with status := .error, result := .exc e }],
               jobs := s.jobs ++ [s.trk.length], exception := true, aborting := true } := by
  have hpend : getTrk X s.trk.length = errTrk s bs := getTrk_push_self htrk
  rw [registerOutcome_error (by rw [hpend]; rfl), hpend, htrk, hjobs]
  have : (s.trk ++ [errTrk s bs]).set s.trk.length { errTrk s bs with status := .error, result := .exc e } =
      s.trk ++ [{ errTrk s bs with status := .error, result := .exc e }] := by simp
  rw [this]
  cases ordered c <;> rfl

/-- The input iterable raised while being sliced; `s'` as in `registerOutcome_pushed`. -/
theorem dlspec_raise {c : Cfg} {t0 : Nat} {fo : Bool} {s s' : St} {bs m : Nat} {d : Bool} {pl : Option Nat}
    {k : Nat} (hT : InvT c t0 none s) (hS : InvS c t0 s) (hL : InvL c t0 s)
    (hps : PullSpec fo k s m d pl true)
    (hB : InvB c t0 s → bs ≤ bmax c → Slack c fo s → InvB c t0 s')
    (htrk : s'.trk = s.trk ++ [{ errTrk s bs with status := .error, result := .exc (.iter (s.base + (s.srcPos + m))) }])
    (hjobs : s'.jobs = s.jobs ++ [s.trk.length])
    (hjobsSet : s'.jobsSet = if ordered c then s.jobsSet else s.jobsSet ++ [s.trk.length])
    (hparked : s'.parked = s.parked) (hready : s'.ready = s.ready)
    (hpos : s'.srcPos = s.srcPos + m) (hpl : s'.preLeft = pl) (hab : s'.aborting = true) (hexc : s'.exception = true)
    (hframe : Frame s s') (hsame : DLSame s s') :
    DLSpec c t0 fo bs s s' true := by
  have hraised := hps.raised rfl
  have hleg : Legit c s (.iter (s.base + (s.srcPos + m))) := by
    simp only [Legit]; rw [← hraised.2]; omega
  have hmn := hps.le_n hS.src_le
  have hunp : unpopped c s' = unpopped c s ++ [s.trk.length] := by
    simp only [unpopped, hjobs, hjobsSet]; split <;> rfl
  have habs : ∀ {p : Prop}, s'.aborting = false → p := fun h => by rw [hab] at h; cases h
  refine {
    T := InvT_pushErr hT hleg htrk hjobs hparked hframe.callId hab hexc hframe.failIds hframe.base hframe.spec
    S := InvS_aborted hS hab (by rw [hpos]; exact hmn) (fun hi => by rw [hpos]; exact hps.le_iter (hS.src_iter hi))
      (fun i _ hi' => ?_) hready hframe.base hframe.spec
    L := InvL_of hL (by rw [hsame.iterating]; exact id) hsame.origAlive
      (fun hn => by rw [hpl]; exact hps.pl_none hn) (fun _ _ h3 => habs h3)
    iterp := fun _ h3 => habs h3
    later := .of_dispatch hframe (by rw [htrk]; simp) (fun h => habs h) hsame
      (fun _ h2 => by have := (hps.dead_mono h2).2.2; simp at this)
      (by simp only [work, hready, hpos, hframe.spec]; omega)
    same := hsame
    exh := nofun
    pend := fun _ h => habs h
    work_lt := fun _ h => habs h
    pre_orig := fun hfo => by rw [hpl]; exact hps.pl_orig hfo
    pre_nomore := nofun
    B := hB
    parked_le := by simp only [ownParked, hparked]; exact Nat.le_succ _
    out := fun hq => ⟨fun ho => InvU_push (hq ho) hT.t0_le htrk (by simp [hjobs]) (by simp [hjobsSet, ho]),
      fun ha => habs ha, ?_⟩ }
  · have hi'' : i < s.trk.length + 1 := by rw [htrk] at hi'; simpa using hi'
    rcases Nat.lt_succ_iff_lt_or_eq.mp hi'' with hlt | rfl
    · exact Or.inl ⟨hlt, by rw [getTrk_push_lt htrk hlt]⟩
    · exact Or.inr (by rw [getTrk_push_self htrk]; rfl)
  · -- only the length matters once aborting
    simp only [rest, hunp]
    exact rest_push_empty (unpopped c s) htrk rfl (unpopped_lt hT hq) hready (by rw [hpos]; omega) hframe.spec

/-- The `pre_dispatch` budget after slicing `m` items: the caller's slice is paid for by its `islice`, a callback's
by the slack. -/
theorem budget_after_pull {c : Cfg} {t0 : Nat} {fo : Bool} {bs : Nat} {s : St} (hB : InvB c t0 s) (hbs : bs ≤ bmax c)
    (hslack : Slack c fo s) {m : Nat} {d : Bool} {pl : Option Nat} {r : Bool}
    (hps : PullSpec fo (bs * c.nj) s m d pl r) (hm : c.pdMode ≠ 1) :
    ∃ q, pl = some q ∧ s.srcPos + m + q ≤ c.pd + s.nCompleted * (c.nj * bmax c) := by
  have hkb : bs * c.nj ≤ c.nj * bmax c := by rw [Nat.mul_comm]; exact Nat.mul_le_mul_left _ hbs
  obtain ⟨q, hq, hqb⟩ := hB.budget hm
  cases hfo : fo with
  | true =>
    obtain ⟨q', hq', hqb'⟩ := hslack hm hfo
    rw [hq] at hq'; simp only [Option.some.injEq] at hq'; subst hq'
    refine ⟨q, by rw [hps.pl_orig hfo, hq], ?_⟩
    have := hps.m_le
    omega
  | false =>
    obtain ⟨h1, h2⟩ := hps.pl_some hfo q hq
    exact ⟨q - m, h2, by omega⟩

/-- The case where nothing is left to slice: only the source state moves. -/
theorem dlspec_none {c : Cfg} (hc : CfgOK c) {t0 : Nat} {fo : Bool} {bs : Nat} {s : St} {lg : List String} {d : Bool}
    {pl : Option Nat} (hbs : 1 ≤ bs) (hT : InvT c t0 none s) (hS : InvS c t0 s) (hL : InvL c t0 s)
    (hna : s.aborting = false) (hrd : s.ready = []) (hps : PullSpec fo (bs * c.nj) s 0 d pl false) :
    DLSpec c t0 fo bs s { s with log := lg, srcPos := s.srcPos + 0, srcDead := d, preLeft := pl } false := by
  have hdn : d = true → s.srcPos = s.spec.n ∧ (s.srcPos : Int) ≠ s.spec.iterfail := by
    intro hd
    cases hsd : s.srcDead with
    | true => exact hS.dead hna hsd
    | false =>
      have := hps.dead_new rfl hd hsd
      have h2 := hS.src_le
      simp only [Nat.add_zero] at this
      exact ⟨by omega, this.2⟩
  refine {
    T := InvT_same hT rfl
    S := InvS_src hS (fun _ hd => hdn hd) rfl rfl rfl rfl rfl rfl rfl rfl
    L := InvL_of hL id rfl hps.pl_none (by
      intro h1 h2 h3
      have := hL.orig_exh h1 h2 h3
      exact ⟨this.1, (hps.dead_mono this.2).1⟩)
    iterp := fun hP => IterPend_of hP id id (Nat.le_refl _) (fun _ i _ => rfl)
    later := .of_dispatch (Frame.of_eq rfl) (Nat.le_refl _) (fun _ => Nat.le_refl _)
      ⟨rfl, rfl, rfl, rfl, rfl⟩ (fun h1 h2 => ⟨h1, (hps.dead_mono h2).1⟩) (Nat.le_refl _)
    same := ⟨rfl, rfl, rfl, rfl, rfl⟩
    exh := fun _ _ => ⟨hrd, hps.short rfl (Nat.mul_pos (by omega) (by have := hc.nj; omega))⟩
    pend := nofun
    work_lt := nofun
    pre_orig := hps.pl_orig
    pre_nomore := fun _ => ?_
    B := fun hB hbs' hs => ⟨hB.items_le, hB.ready_le, hB.ready_tot, budget_after_pull hB hbs' hs hps⟩
    parked_le := Nat.le_succ _
    out := fun hq => .of_rest (fun ho => InvU_frame (hq ho) rfl rfl rfl) rfl }
  show pl = s.preLeft
  cases hpl : s.preLeft with
  | none => exact hps.pl_none hpl
  | some q =>
    cases fo with
    | true => rw [hps.pl_orig rfl, hpl]
    | false => rw [(hps.pl_some rfl q hpl).2]; rfl

theorem dispatchLocked_dlspec {c : Cfg} (hc : CfgOK c) {t0 : Nat} {fo : Bool} {bs : Nat} {s : St}
    (hbs : 1 ≤ bs) (hT : InvT c t0 none s) (hS : InvS c t0 s) (hL : InvL c t0 s) (hna : s.aborting = false) :
    DLSpec c t0 fo bs s (dispatchLocked c fo bs s).1 (dispatchLocked c fo bs s).2 := by
  rcases dispatchLocked_spec c fo bs s hna hS.ready_ne with
    ⟨tasks, rdy, hrd, he⟩ | ⟨hrd, lg, m, d, pl, r, hps, hcases⟩
  · -- from the look-ahead queue
    obtain ⟨lg, hd⟩ := dispatch_eq (c := c) (s := { s with ready := rdy }) tasks hna
    rw [he, hd]
    have htn : tasks ≠ [] := hS.ready_ne tasks (by simp [hrd])
    refine dlspec_push (m := 0) (tasks := tasks) (rdy := rdy) hT hS hL hna htn (by simp [hrd])
      (fun b hb => hS.ready_ne b (by simp [hrd, hb])) (by simp [hrd]) hS.src_le
      (fun hi => hS.src_iter hi) (fun hd' => hS.dead hna hd') ?_ (fun h1 _ => by rw [hrd] at h1; simp at h1)
      (fun hp => hp) (fun _ => rfl) (fun hB _ _ => ?_) rfl rfl rfl rfl rfl rfl rfl rfl rfl
      (Frame.of_eq rfl) ⟨rfl, rfl, rfl, rfl, rfl⟩
    · intro h1 h2
      have := (hL.orig_exh h1 h2 hna).1
      rw [hrd] at this; simp at this
    · refine InvB_push hB rfl (hB.ready_le tasks (by rw [hrd]; simp))
        (fun b hb => hB.ready_le b (by rw [hrd]; simp [hb])) ?_ hB.budget
      have := hB.ready_tot
      rw [hrd] at this
      exact Nat.le_trans (by simp) this
  · rcases hcases with ⟨hr, hm, he⟩ | ⟨hr, hm, tasks, rdy, htn, hrest, hsplit, hlens, he⟩ | ⟨hr, he⟩
    · subst hr; subst hm
      rw [he]
      exact dlspec_none hc hbs hT hS hL hna hrd hps
    · -- a fresh slice
      subst hr
      obtain ⟨lg2, hd⟩ := dispatch_eq (c := c)
        (s := { s with log := lg, srcPos := s.srcPos + m, srcDead := d, preLeft := pl, ready := rdy }) tasks hna
      rw [he, hd]
      have hnd : s.srcDead = false := by
        cases hsd : s.srcDead with
        | true => have := (hps.dead_mono hsd).2.1; omega
        | false => rfl
      have hcnt : (tasks :: rdy).length ≤ m := by
        have := length_le_flatten_length (L := tasks :: rdy)
          (by intro b hb; simp only [List.mem_cons] at hb; rcases hb with hb | hb
              · subst hb; exact htn
              · exact hrest b hb)
        simp only [List.flatten_cons, hsplit, List.length_range'] at this
        exact this
      have hmn := hps.le_n hS.src_le
      refine dlspec_push (m := m) (tasks := tasks) (rdy := rdy) hT hS hL hna htn (by simp [hrd, hsplit])
        hrest (by simp only [List.length_cons] at hcnt; simp only [hrd, List.length_nil]; omega) hmn
        (fun hi => hps.le_iter (hS.src_iter hi)) ?_ ?_ (fun _ h2 => by rw [hnd] at h2; simp at h2)
        hps.pl_none hps.pl_orig (fun hB hbs' hs => ?_) rfl rfl rfl rfl rfl rfl rfl rfl rfl
        (Frame.of_eq rfl) ⟨rfl, rfl, rfl, rfl, rfl⟩
      · intro hd'
        have := hps.dead_new rfl hd' hnd
        exact ⟨by omega, this.2⟩
      · intro h1 h2
        have := (hL.orig_exh h1 h2 hna).2
        rw [hnd] at this; simp at this
      · have hmb : max 1 bs ≤ bmax c := by have := one_le_bmax c; omega
        have hkb : bs * c.nj ≤ c.nj * bmax c := by rw [Nat.mul_comm]; exact Nat.mul_le_mul_left _ hbs'
        refine InvB_push hB rfl (Nat.le_trans (hlens tasks (by simp)) hmb)
          (fun b hb => Nat.le_trans (hlens b (by simp [hb])) hmb) ?_ (budget_after_pull hB hbs' hs hps)
        have h1 : rdy.flatten.length ≤ (tasks ++ rdy.flatten).length := by simp
        rw [hsplit] at h1
        simp only [List.length_range'] at h1
        have := hps.m_le
        show rdy.flatten.length ≤ _
        omega
    · -- the iterable raised
      subst hr
      rw [he, registerOutcome_pushed rfl rfl]
      exact dlspec_raise hT hS hL hps
        (fun hB hbs' hs => InvB_push hB rfl (Nat.zero_le _) hB.ready_le hB.ready_tot (budget_after_pull hB hbs' hs hps))
        rfl rfl rfl rfl rfl rfl rfl rfl rfl ⟨rfl, rfl, rfl, rfl, rfl, rfl, rfl, rfl, fun _ => rfl⟩ ⟨rfl, rfl, rfl, rfl, rfl⟩

end JoblibModel.ParallelProto
