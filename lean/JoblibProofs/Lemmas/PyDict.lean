import JoblibModel.FilterArgs
/-! Python's `dict` as an association list (`dget`, `dset`, `dpop` of `JoblibModel.FilterArgs`). FuncCode's fourth operation `ddel`
is a definition of that model; the lemmas about it open `Lemmas/FuncCode.lean`. -/
namespace JoblibModel.FilterArgs

section PyDict
variable {κ ν : Type} [DecidableEq κ]

theorem dget_dset_self (k : κ) (v : ν) (d : List (κ × ν)) : dget k (dset k v d) = some v := by
  induction d with
  | nil => simp [dset, dget]
  | cons x r ih =>
    obtain ⟨k', v'⟩ := x
    by_cases h : k' = k <;> simp [dset, dget, h, ih]

theorem dget_dset_ne {k k' : κ} (h : k' ≠ k) (v : ν) (d : List (κ × ν)) :
    dget k' (dset k v d) = dget k' d := by
  induction d with
  | nil => simp [dset, dget, Ne.symm h]
  | cons x r ih =>
    obtain ⟨k'', v''⟩ := x
    by_cases h1 : k'' = k
    · subst h1; simp [dset, dget, Ne.symm h]
    · by_cases h2 : k'' = k'
      · subst h2; simp [dset, dget, h1]
      · simp [dset, dget, h1, h2, ih]

theorem dset_of_none {k : κ} {d : List (κ × ν)} (h : dget k d = none) (v : ν) :
    dset k v d = d ++ [(k, v)] := by
  induction d with
  | nil => rfl
  | cons x r ih =>
    obtain ⟨k', v'⟩ := x
    by_cases h1 : k' = k
    · simp [dget, h1] at h
    · simp [dget, h1] at h; simp [dset, h1, ih h]

theorem dset_of_some {k : κ} {v : ν} {d : List (κ × ν)} (h : dget k d = some v) :
    dset k v d = d := by
  induction d with
  | nil => simp [dget] at h
  | cons x r ih =>
    obtain ⟨k', v'⟩ := x
    by_cases h1 : k' = k
    · simp [dget, h1] at h; simp [dset, h1, h]
    · simp [dget, h1] at h; simp [dset, h1, ih h]

theorem dget_isSome_iff (k : κ) (d : List (κ × ν)) : (dget k d).isSome ↔ k ∈ d.map Prod.fst := by
  induction d with
  | nil => simp [dget]
  | cons x r ih =>
    obtain ⟨k', v'⟩ := x
    by_cases h1 : k' = k
    · simp [dget, h1]
    · simp [dget, h1, ih]; intro h; exact absurd h.symm h1

theorem dget_none_iff (k : κ) (d : List (κ × ν)) : dget k d = none ↔ k ∉ d.map Prod.fst := by
  rw [← dget_isSome_iff]; cases dget k d <;> simp

theorem dget_append (k : κ) (d e : List (κ × ν)) :
    dget k (d ++ e) = match dget k d with | some v => some v | none => dget k e := by
  induction d with
  | nil => simp [dget]
  | cons x r ih =>
    obtain ⟨k', v'⟩ := x
    by_cases h1 : k' = k <;> simp [dget, h1, ih]

theorem dget_of_mem {k : κ} {v : ν} {d : List (κ × ν)} (hn : (d.map Prod.fst).Nodup)
    (h : (k, v) ∈ d) : dget k d = some v := by
  induction d with
  | nil => simp at h
  | cons x r ih =>
    obtain ⟨k', v'⟩ := x
    simp only [List.map_cons, List.nodup_cons] at hn
    rcases List.mem_cons.mp h with h | h
    · cases h; simp [dget]
    · have : k' ≠ k := by
        intro e; subst e; exact hn.1 (List.mem_map.mpr ⟨(k', v), h, rfl⟩)
      simp [dget, this, ih hn.2 h]

theorem mem_of_dget {k : κ} {v : ν} {d : List (κ × ν)} (h : dget k d = some v) : (k, v) ∈ d := by
  induction d with
  | nil => simp [dget] at h
  | cons x r ih =>
    obtain ⟨k', v'⟩ := x
    by_cases h1 : k' = k
    · simp [dget, h1] at h; simp [h1, h]
    · simp [dget, h1] at h; exact List.mem_cons_of_mem _ (ih h)

theorem keys_dset (k : κ) (v : ν) (d : List (κ × ν)) :
    (dset k v d).map Prod.fst = if (dget k d).isSome then d.map Prod.fst else d.map Prod.fst ++ [k] := by
  induction d with
  | nil => simp [dset, dget]
  | cons x r ih =>
    obtain ⟨k', v'⟩ := x
    by_cases h1 : k' = k
    · simp [dset, dget, h1]
    · simp only [dset, dget, h1, if_false, List.map_cons, ih]
      split <;> simp

theorem nodup_keys_dset (k : κ) (v : ν) {d : List (κ × ν)} (h : (d.map Prod.fst).Nodup) :
    ((dset k v d).map Prod.fst).Nodup := by
  rw [keys_dset]
  split
  · exact h
  · rename_i hk
    have : k ∉ d.map Prod.fst := by rw [← dget_isSome_iff]; exact hk
    rw [List.nodup_append]
    refine ⟨h, by simp, ?_⟩
    intro a ha b hb
    simp at hb; subst hb
    intro e; subst e; exact this ha

theorem dpop_eq_filter {d : List (κ × ν)} (hn : (d.map Prod.fst).Nodup) (k : κ) :
    dpop k d = d.filter (fun e => decide (e.1 ≠ k)) := by
  induction d with
  | nil => rfl
  | cons x r ih =>
    obtain ⟨k', v'⟩ := x
    simp only [List.map_cons, List.nodup_cons] at hn
    by_cases h1 : k' = k
    · subst h1
      have hr : r.filter (fun e => decide (e.1 ≠ k')) = r := by
        rw [List.filter_eq_self]
        intro e he
        have : e.1 ≠ k' := by
          intro h; apply hn.1; rw [← h]; exact List.mem_map.mpr ⟨e, he, rfl⟩
        simpa using this
      simp [dpop]
      simpa using hr.symm
    · simp [dpop, h1, ih hn.2]

theorem dpop_sublist (k : κ) (d : List (κ × ν)) : (dpop k d).Sublist d := by
  induction d with
  | nil => exact List.Sublist.slnil
  | cons x r ih =>
    obtain ⟨k', v'⟩ := x
    by_cases h1 : k' = k
    · simp [dpop, h1]
    · simp [dpop, h1, ih]

theorem nodup_keys_dpop (k : κ) {d : List (κ × ν)} (h : (d.map Prod.fst).Nodup) :
    ((dpop k d).map Prod.fst).Nodup :=
  List.Nodup.sublist ((dpop_sublist k d).map _) h

theorem dget_dpop_ne {k k' : κ} (h : k' ≠ k) (d : List (κ × ν)) :
    dget k' (dpop k d) = dget k' d := by
  induction d with
  | nil => rfl
  | cons x r ih =>
    obtain ⟨k'', v''⟩ := x
    by_cases h1 : k'' = k
    · subst h1; simp [dpop, dget, Ne.symm h]
    · by_cases h2 : k'' = k'
      · subst h2; simp [dpop, dget, h1]
      · simp [dpop, dget, h1, h2, ih]

theorem dget_dset_cases {k k' : κ} {v w : ν} {d : List (κ × ν)}
    (h : dget k' (dset k v d) = some w) : (k' = k ∧ w = v) ∨ (k' ≠ k ∧ dget k' d = some w) := by
  by_cases e : k' = k
  · subst e; rw [dget_dset_self] at h; cases h; exact .inl ⟨rfl, rfl⟩
  · rw [dget_dset_ne e] at h; exact .inr ⟨e, h⟩

theorem dget_dset_keep {a : κ} {v : ν} {d : List (κ × ν)} (h : ∀ r, dget a d = some r → r = v)
    {a' : κ} {r : ν} (h' : dget a' d = some r) : dget a' (dset a v d) = some r := by
  by_cases e : a' = a
  · subst e; rw [dget_dset_self, h r h']
  · rw [dget_dset_ne e]; exact h'

theorem dpop_of_none {k : κ} {d : List (κ × ν)} (h : dget k d = none) :
    dpop k d = d := by
  induction d with
  | nil => rfl
  | cons x r ih =>
    obtain ⟨k', v'⟩ := x
    by_cases h1 : k' = k
    · simp [dget, h1] at h
    · simp [dget, h1] at h; simp [dpop, h1, ih h]

theorem dget_filter_key (p : κ → Bool) (k : κ) : ∀ d : List (κ × ν),
    dget k (d.filter fun e => p e.1) = if p k then dget k d else none
  | [] => by simp [dget]
  | (k', v) :: r => by
    have ih := dget_filter_key p k r
    rcases Decidable.em (k' = k) with rfl | e
    · cases hp : p k' <;> simp [dget, hp, ih]
    · cases hp : p k' <;> simp [dget, hp, e, ih]

theorem mem_keys_dset {k k' : κ} {v : ν} {d : List (κ × ν)}
    (h : k' ∈ (dset k v d).map Prod.fst) : k' ∈ d.map Prod.fst ∨ k' = k := by
  rw [keys_dset] at h
  split at h
  · exact .inl h
  · exact (List.mem_append.mp h).imp_right List.mem_singleton.mp

end PyDict

theorem value_unique {κ ν : Type} {k : κ} {v v' : ν} : ∀ {l : List (κ × ν)}, (l.map Prod.fst).Nodup →
    (k, v) ∈ l → (k, v') ∈ l → v = v'
  | x :: xs, hn, h, h' => by
    simp only [List.map_cons, List.nodup_cons] at hn
    rcases List.mem_cons.mp h with e | t
    · rcases List.mem_cons.mp h' with e' | t'
      · rw [← e] at e'; cases e'; rfl
      · subst e; exact absurd (List.mem_map.mpr ⟨(k, v'), t', rfl⟩ : k ∈ xs.map Prod.fst) hn.1
    · rcases List.mem_cons.mp h' with e' | t'
      · subst e'; exact absurd (List.mem_map.mpr ⟨(k, v), t, rfl⟩ : k ∈ xs.map Prod.fst) hn.1
      · exact value_unique hn.2 t t'

end JoblibModel.FilterArgs
