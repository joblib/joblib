import JoblibProofs.Lemmas.StoreInv
import JoblibProofs.Lemmas.StoreLogic
/-! Knowledge a participant has about the shared directory, and its stability under the other participants' allowed
calls (C11; C05 is the special case of no other participant). Each stability proof splits over `Touch` (once per name it speaks of). -/
namespace JoblibModel.Store

variable {fs fs' : FS} {p q p' : Path} {o : Op} {i j : Nat} {c d D : Bytes}
  {π : Par} {lvl : Level} {who : Nat → Prop} {me : Nat} {s : Bool}

/-- one step of the environment of participant `me`: a call some other participant is allowed to make -/
def Env (π : Par) (lvl : Level) (me : Nat) (fs fs' : FS) : Prop :=
  ∃ o, Allowed π lvl (fun x => x ≠ me) fs o ∧ fs' = (apply o fs).2

def IsDirAt (p : Path) (fs : FS) : Prop := ∃ j, fs.get p = some (.dir j)

theorem dir_stable (h : IsDirAt p fs) (ha : Allowed π lvl who fs o) (hpr : Protected lvl p) :
    IsDirAt p (apply o fs).2 := by
  obtain ⟨j, hj⟩ := h
  cases ha.touch p with
  | same e => exact ⟨j, e.trans hj⟩
  | mkdir _ hb _ => rw [hb] at hj; cases hj
  | creat _ _ hb _ => rcases hb with ⟨hb, _⟩ | ⟨_, hb⟩ <;> rw [hb] at hj <;> cases hj
  | write _ _ _ _ _ hb _ _ => rw [hb] at hj; cases hj
  | movedAway _ _ _ hb _ => rw [hb] at hj; cases hj
  | movedOnto _ _ _ _ _ _ _ hb _ _ => rcases hb with ⟨hb, _⟩ | ⟨_, _, hb, _⟩ <;> rw [hb] at hj <;> cases hj
  | unlink _ _ _ _ hb _ _ _ => rw [hb] at hj; cases hj
  | rmdir _ _ hnp _ _ => exact absurd hpr hnp

theorem inv_stable_env : Stable (Env π lvl me) (Inv π s) := by
  rintro fs fs' h ⟨o, ha, rfl⟩
  exact inv_apply h ha

theorem orphans_after (fs : FS) (o : Op) :
    fs.next ≤ (apply o fs).2.next ∧
    ((∃ j d, (apply o fs).2.orphans = writeOrphans j d fs.orphans ∧ ∃ p, o = .write p j d) ∨
     (apply o fs).2.orphans = fs.orphans ∨
     (∃ q j c, (apply o fs).2.orphans = (q, j, c) :: fs.orphans ∧ fs.get q = some (.file j c))) := by
  have same : ∀ {fs' : FS}, fs'.next = fs.next → fs.next ≤ fs'.next := fun e => Nat.le_of_eq e.symm
  have more : ∀ {fs' : FS}, fs'.next = fs.next + 1 → fs.next ≤ fs'.next := fun e => e ▸ Nat.le_succ _
  rcases apply_cases o fs with e | ⟨p, rfl⟩ | ⟨p, rfl⟩ | ⟨p, i, d, rfl⟩ | ⟨p, q, rfl⟩ | ⟨p, g, rfl⟩ | ⟨p, g, rfl⟩
  · rw [e]; exact ⟨Nat.le_refl _, Or.inr (Or.inl rfl)⟩
  · rcases mkdir_spec p fs with ⟨e, _⟩ | ⟨_, _, _, hn, ho, _⟩
    · rw [e]; exact ⟨Nat.le_refl _, Or.inr (Or.inl rfl)⟩
    · exact ⟨more hn, Or.inr (Or.inl ho)⟩
  · rcases creat_spec p fs with ⟨e, _⟩ | ⟨_, _, _, _, hn, ho, _⟩ | ⟨_, _, _, hn, ho, _⟩
    · rw [e]; exact ⟨Nat.le_refl _, Or.inr (Or.inl rfl)⟩
    · exact ⟨same hn, Or.inr (Or.inl ho)⟩
    · exact ⟨more hn, Or.inr (Or.inl ho)⟩
  · exact ⟨same (write_spec p i d fs).2.1, Or.inl ⟨i, d, (write_spec p i d fs).2.2.1, p, rfl⟩⟩
  · rcases rename_spec p q fs with e | ⟨_, _, _, _, _, _, hn, hor, _⟩
    · rw [e]; exact ⟨Nat.le_refl _, Or.inr (Or.inl rfl)⟩
    · rcases hor with ⟨_, ho⟩ | ⟨j, c', hq, ho⟩
      · exact ⟨same hn, Or.inr (Or.inl ho)⟩
      · exact ⟨same hn, Or.inr (Or.inr ⟨q, j, c', ho, hq⟩)⟩
  · rcases unlink_spec p g fs with ⟨e, _⟩ | ⟨i0, c0, hp, _, _, hn, ho, _⟩
    · rw [e]; exact ⟨Nat.le_refl _, Or.inr (Or.inl rfl)⟩
    · exact ⟨same hn, Or.inr (Or.inr ⟨p, i0, c0, ho, hp⟩)⟩
  · rcases rmdir_spec p g fs with ⟨e, _⟩ | ⟨_, _, _, _, _, hn, ho, _⟩
    · rw [e]; exact ⟨Nat.le_refl _, Or.inr (Or.inl rfl)⟩
    · exact ⟨same hn, Or.inr (Or.inl ho)⟩

theorem loc_of_orphan_after (h : (q, i, c) ∈ (apply o fs).2.orphans) : Loc fs i q := by
  rcases (orphans_after fs o).2 with ⟨j, d, ho, _⟩ | ho | ⟨q', j, c', ho, hq'⟩ <;> rw [ho] at h
  · obtain ⟨c0, h0⟩ := mem_writeOrphans h
    exact Or.inr ⟨c0, h0⟩
  · exact Or.inr ⟨c, h⟩
  · rcases List.mem_cons.mp h with e | h
    · cases e; exact Or.inl ⟨c, hq'⟩
    · exact Or.inr ⟨c, h⟩

/-- names only participant `me` (or everybody, in place) writes through: its temporaries, `func_code.py`, `.gitignore` -/
def Mine (me : Nat) (p : Path) : Prop := IsTmp (fun x => x = me) p ∨ p = pCode ∨ p = pGit

/-- inode `i` is in use and has no location other than `p` -/
def LocOnly (i : Nat) (p : Path) (fs : FS) : Prop := i < fs.next ∧ ∀ q, Loc fs i q → q = p

/-- the temporary `p` is gone, or is inode `i` with content `c` -/
def TmpData (p : Path) (i : Nat) (c : Bytes) (fs : FS) : Prop :=
  fs.get p = none ∨ fs.get p = some (.file i c)

theorem tmp_owner (h : IsTmp (fun x => x = me) p) : ¬ IsTmp (fun x => x ≠ me) p := by
  obtain ⟨a, o, rfl, e⟩ := h
  rintro ⟨a', o', hne, e'⟩
  rcases e with rfl | rfl <;> rcases e' with e' | e' <;>
    simp [pTmpOut, pTmpMeta] at e' <;> exact hne e'.2.symm

theorem mine_not_other (h : Mine me p) : ¬ IsTmp (fun x => x ≠ me) p := by
  rcases h with h | rfl | rfl
  · exact tmp_owner h
  · rintro ⟨a, o, _, e | e⟩ <;> simp [pCode, pTmpOut, pTmpMeta] at e
  · rintro ⟨a, o, _, e | e⟩ <;> simp [pGit, pTmpOut, pTmpMeta] at e

theorem tmp_not_creatable_by_others (hp : IsTmp (fun x => x = me) p) :
    ¬ Creatable (fun x => x ≠ me) p := by
  rintro (h | rfl | rfl)
  · exact tmp_owner hp h
  · obtain ⟨a, o, _, e | e⟩ := hp <;> simp [pGit, pTmpOut, pTmpMeta] at e
  · obtain ⟨a, o, _, e | e⟩ := hp <;> simp [pCode, pTmpOut, pTmpMeta] at e

theorem locOnly_stable (hp : Mine me p) :
    Stable (Env π lvl me) (LocOnly i p) := by
  rintro fs fs' ⟨hlt, hl⟩ ⟨o, ha, rfl⟩
  refine ⟨Nat.lt_of_lt_of_le hlt (orphans_after fs o).1, fun q hq => ?_⟩
  rcases hq with ⟨c, hq⟩ | ⟨c, hq⟩
  · -- linked at `q` after the call: it was there before; a rename onto `q` would have taken it from `p`
    cases ha.touch q with
    | same e => exact hl q (Or.inl ⟨c, e ▸ hq⟩)
    | mkdir _ _ e => rw [e] at hq; cases hq
    | creat j _ hb e =>
      rw [e] at hq; cases hq
      rcases hb with ⟨_, rfl⟩ | ⟨c0, h0⟩
      · exact absurd hlt (Nat.lt_irrefl _)
      · exact hl q (Or.inl ⟨c0, h0⟩)
    | write _ j c0 d _ hb _ e => rw [e] at hq; cases hq; exact hl q (Or.inl ⟨c0, hb⟩)
    | movedAway _ _ _ _ e => rw [e] at hq; cases hq
    | movedOnto t j c0 _ ht hb _ _ _ e =>
      rw [e] at hq; cases hq
      have := hl t (Or.inl ⟨_, hb⟩)
      subst this
      exact absurd ht (mine_not_other hp)
    | unlink _ _ _ _ _ _ _ e => rw [e] at hq; cases hq
    | rmdir _ _ _ _ e => rw [e] at hq; cases hq
  · exact hl q (loc_of_orphan_after hq)

theorem tmpData_stable (hp : IsTmp (fun x => x = me) p) : Stable (Env π lvl me) (TmpData p i c) := by
  rintro fs fs' h ⟨o, ha, rfl⟩
  have hno := tmp_not_creatable_by_others hp
  cases ha.touch p with
  | same e => unfold TmpData; rw [e]; exact h
  | mkdir hd _ _ => exact absurd (isTmp_file hp) (dir_not_file hd)
  | creat _ hc _ _ => exact absurd hc hno
  | write _ _ _ _ _ _ hw _ => exact absurd (writable_creatable hw) hno
  | movedAway _ _ ht _ _ => exact absurd (Or.inl ht) hno
  | movedOnto _ _ _ _ _ _ hf _ _ _ => exact absurd hp (sealed_not_tmp hf.sealed)
  | unlink _ _ _ _ _ _ _ e => exact Or.inl e
  | rmdir _ _ _ _ e => exact Or.inl e

theorem mine_creatable {me : Nat} {p : Path} (h : Mine me p) : IsTmp (fun x => x = me) p ∨ p = pGit ∨ p = pCode :=
  h.imp_right Or.symm

theorem own_creat (hwf : WF fs) (hr : (apply (.creat p) fs).1 = .fd i) :
    LocOnly i p (apply (.creat p) fs).2 ∧ (apply (.creat p) fs).2.get p = some (.file i []) := by
  have hwf' := wf_apply (.creat p) fs hwf
  -- once inode `i` is at `p`, it is nowhere else (`WF` of the new state) …
  have only : (apply (.creat p) fs).2.get p = some (.file i []) → ∀ q, Loc (apply (.creat p) fs).2 i q → q = p := by
    rintro hp q (⟨c, hq⟩ | ⟨c, hq⟩)
    · exact hwf'.distinct _ _ _ _ _ hq hp
    · exact (hwf'.sep _ _ _ _ _ hp hq).elim
  rcases creat_spec p fs with ⟨_, hno⟩ | ⟨i0, c0, hp, hfd, hn, _, hg⟩ | ⟨hp, _, hfd, hn, _, hg⟩
  · exact absurd hr (hno i)
  · rw [hfd] at hr; cases hr
    have hpi := (hg p).trans (getUpd_self (notDir_file hp).ne_nil)
    exact ⟨⟨hwf'.fresh _ _ _ hpi, only hpi⟩, hpi⟩
  · rw [hfd] at hr; cases hr
    have hpi := (hg p).trans (getUpd_self (notDir_none hp).ne_nil)
    exact ⟨⟨hwf'.fresh _ _ _ hpi, only hpi⟩, hpi⟩

theorem own_write_allowed (hp : Mine me p) (hl : LocOnly i p fs) (hd : p = pCode → d <+: π.cd.codeText π.ver) :
    Allowed π lvl (fun x => x = me) fs (.write p' i d) := by
  refine .write p' i d fun q hq => ?_
  have := hl.2 q hq
  subst this
  rcases hp with h | rfl | rfl
  · exact Or.inl h
  · exact Or.inr (Or.inr ⟨rfl, hd rfl⟩)
  · exact Or.inr (Or.inl rfl)

theorem locOnly_write {fs : FS} {p p' : Path} {i j : Nat} {d : Bytes} (hl : LocOnly i p fs) :
    LocOnly i p (apply (.write p' j d) fs).2 := by
  obtain ⟨_, hn, _, hg⟩ := write_spec p' j d fs
  refine ⟨by rw [hn]; exact hl.1, fun q hq => hl.2 q ?_⟩
  rcases hq with ⟨c, hq⟩ | ⟨c, hq⟩
  · rw [hg] at hq
    obtain ⟨c0, h0, _⟩ := wr_file hq
    exact Or.inl ⟨c0, h0⟩
  · exact loc_of_orphan_after hq

theorem tmpData_write (h : TmpData p i c fs) :
    TmpData p i (overwrite c d) (apply (.write p' i d) fs).2 := by
  obtain ⟨_, _, _, hg⟩ := write_spec p' i d fs
  rcases h with h | h
  · left; rw [hg, h]; rfl
  · right; rw [hg, h]; simp [wr]

theorem overwrite_nil (d : Bytes) : overwrite [] d = d := by simp [overwrite]

/-- The file opened at the final name `p` as inode `i` holds `D`: it is still there, or it was replaced / removed and
survives as an orphan nobody may write to. -/
def ReadK (p : Path) (i : Nat) (D : Bytes) (fs : FS) : Prop :=
  fs.get p = some (.file i D) ∨
  ((∀ q c, fs.get q ≠ some (.file i c)) ∧ inoInOrphans i fs.orphans = some D ∧ i < fs.next ∧
    ∀ q c, (q, i, c) ∈ fs.orphans → Sealed q)

theorem readK_read (h : ReadK p i D fs) : fs.readData p i = D := by
  unfold FS.readData
  rcases h with h | ⟨h1, h2, _, _⟩
  · rw [h]; simp
  · cases hg : fs.get p with
    | none => simp [h2]
    | some nd =>
      cases nd with
      | dir j => simp [h2]
      | file j c =>
        by_cases hji : j = i
        · subst hji; exact absurd hg (h1 p c)
        · simp [hji, h2]

theorem inoInOrphans_mem {l : List (Path × Nat × Bytes)} (h : inoInOrphans i l = some D) :
    ∃ q, (q, i, D) ∈ l := by
  induction l with
  | nil => cases h
  | cons x r ih =>
    obtain ⟨q, j, c⟩ := x
    unfold inoInOrphans at h
    split at h
    · rename_i hji; cases h; subst hji; exact ⟨q, List.mem_cons_self⟩
    · obtain ⟨q', hq'⟩ := ih h; exact ⟨q', List.mem_cons_of_mem _ hq'⟩

theorem inoInOrphans_write_ne (hne : j ≠ i) (d : Bytes) (l : List (Path × Nat × Bytes)) :
    inoInOrphans i (writeOrphans j d l) = inoInOrphans i l := by
  induction l with
  | nil => rfl
  | cons x r ih =>
    obtain ⟨q, k, c⟩ := x
    unfold writeOrphans inoInOrphans
    by_cases hki : k = i
    · subst hki
      have : ¬ k = j := fun e => hne e.symm
      simp [this]
    · simp [hki, ih]

theorem readK_displaced (hs : Sealed p) (hwf : WF fs) (hwf' : WF fs')
    (hp : fs.get p = some (.file i D)) (hn : fs'.next = fs.next) (ho : fs'.orphans = (p, i, D) :: fs.orphans) :
    ReadK p i D fs' := by
  refine Or.inr ⟨fun q c hq => hwf'.sep _ _ _ _ _ hq (ho ▸ List.mem_cons_self), ?_, ?_, ?_⟩
  · rw [ho]; simp [inoInOrphans]
  · rw [hn]; exact hwf.fresh _ _ _ hp
  · intro q c hq
    rw [ho] at hq
    rcases List.mem_cons.mp hq with e | hq
    · cases e; exact hs
    · exact (hwf.sep _ _ _ _ _ hp hq).elim

theorem readK_stable (hs : Sealed p) :
    Stable (Env π lvl me) (fun fs => WF fs ∧ ReadK p i D fs) := by
  rintro fs fs' ⟨hwf, h⟩ ⟨o, ha, rfl⟩
  have hwf' := wf_apply o fs hwf
  refine ⟨hwf', ?_⟩
  rcases h with hp | ⟨hnl, hor, hlt, hsl⟩
  · -- still linked at `p`: it stays, or is displaced by a rename onto `p` or an unlink
    cases ha.touch p with
    | same e => exact Or.inl (e.trans hp)
    | mkdir _ hb _ => rw [hb] at hp; cases hp
    | creat _ hc _ _ => exact absurd hc (sealed_not_creatable hs)
    | write _ _ _ _ _ _ hw _ => exact absurd hw (sealed_not_writable hs)
    | movedAway _ _ ht _ _ => exact absurd ht (sealed_not_tmp hs)
    | movedOnto _ _ _ _ _ _ _ hb hn _ =>
      rcases hb with ⟨hb, _⟩ | ⟨_, _, hb, ho⟩ <;> rw [hp] at hb <;> cases hb
      exact readK_displaced hs hwf hwf' hp hn ho
    | unlink _ _ _ _ hb ho hn _ => rw [hp] at hb; cases hb; exact readK_displaced hs hwf hwf' hp hn ho
    | rmdir _ _ _ hb _ => rw [hp] at hb; cases hb
  · -- already an orphan: nobody writes through it, no call links it again
    obtain ⟨q0, hq0⟩ := inoInOrphans_mem hor
    have notwr : ∀ p' d, o = .write p' i d → False := by
      rintro p' d rfl
      cases ha with
      | noop _ hno _ => exact hno p' i d rfl
      | write _ _ _ hw => exact sealed_not_writable (hsl _ _ hq0) (hw q0 (Or.inr ⟨D, hq0⟩))
    refine Or.inr ⟨fun q c hq => ?_, ?_, Nat.lt_of_lt_of_le hlt (orphans_after fs o).1, fun q c hq => ?_⟩
    · cases ha.touch q with
      | same e => exact hnl q c (e ▸ hq)
      | mkdir _ _ e => rw [e] at hq; cases hq
      | creat _ _ hb e =>
        rw [e] at hq; cases hq
        rcases hb with ⟨_, rfl⟩ | ⟨c0, h0⟩
        · exact absurd hlt (Nat.lt_irrefl _)
        · exact hnl q c0 h0
      | write _ _ c0 _ _ hb _ e => rw [e] at hq; cases hq; exact hnl q c0 hb
      | movedAway _ _ _ _ e => rw [e] at hq; cases hq
      | movedOnto t _ _ _ _ hb _ _ _ e => rw [e] at hq; cases hq; exact hnl t _ hb
      | unlink _ _ _ _ _ _ _ e => rw [e] at hq; cases hq
      | rmdir _ _ _ _ e => rw [e] at hq; cases hq
    · rcases (orphans_after fs o).2 with ⟨j, d, ho, p', rfl⟩ | ho | ⟨q, j, c, ho, hq⟩
      · rw [ho, inoInOrphans_write_ne (fun e => notwr p' d (by rw [e])) d]; exact hor
      · rw [ho]; exact hor
      · rw [ho]
        have : j ≠ i := by rintro rfl; exact hnl q c hq
        simp [inoInOrphans, this, hor]
    · rcases loc_of_orphan_after hq with ⟨c0, h0⟩ | ⟨c0, h0⟩
      · exact (hnl q c0 h0).elim
      · exact hsl _ _ h0

end JoblibModel.Store
