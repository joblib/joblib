import JoblibProofs.Lemmas.StoreCall
/-! Executable interleavings, for concrete witnesses (C05, C11). -/
namespace JoblibModel.Store

/-- removals a clearing participant may make: anything strictly below `<location>/joblib` -/
def clearRemovalB : Op → Bool
  | .unlink p _ => pLoc.isPrefixOf p && decide (p ≠ pLoc)
  | .rmdir p _ => pLoc.isPrefixOf p && decide (p ≠ pLoc)
  | _ => false

theorem clearRemovalB_sound {π : Par} {who : Nat → Prop} {fs : FS} {o : Op} (h : clearRemovalB o = true) :
    Allowed π .clear who fs o := by
  cases o with
  | unlink p g =>
    simp only [clearRemovalB, Bool.and_eq_true, decide_eq_true_eq] at h
    exact .unlinkC p g rfl ⟨List.isPrefixOf_iff_prefix.mp h.1, h.2⟩
  | rmdir p g =>
    simp only [clearRemovalB, Bool.and_eq_true, decide_eq_true_eq] at h
    exact .rmdirC p g rfl ⟨List.isPrefixOf_iff_prefix.mp h.1, h.2⟩
  | _ => simp [clearRemovalB] at h

/-- apply a list of environment calls, checking each with `ok` -/
def applyEnv (ok : Op → Bool) : List Op → FS → Option FS
  | [], fs => some fs
  | o :: r, fs => if ok o then applyEnv ok r (apply o fs).2 else none

/-- Run `p`; before its n-th call the environment makes the calls `envs[n]` (all must pass `ok`). -/
def runWithEnv {α : Type} (ok : Op → Bool) : Prog α → FS → List (List Op) → Option (Outcome α × FS)
  | .ret a, fs, _ => some (.ok a, fs)
  | .raise e, fs, _ => some (.raised e, fs)
  | .op o k, fs, envs =>
    match applyEnv ok (envs.headD []) fs with
    | none => none
    | some fs1 => runWithEnv ok (k (apply o fs1).1) (apply o fs1).2 envs.tail

theorem runs_env_prefix {α : Type} {R : FS → FS → Prop} {ok : Op → Bool}
    (hok : ∀ o fs, ok o = true → R fs (apply o fs).2) {o : Op} {k : Res → Prog α}
    (l : List Op) : ∀ (fs fs1 : FS) (tr : List (FS × Op)) (out : Outcome α) (fs' : FS),
      applyEnv ok l fs = some fs1 → Runs R (.op o k) fs1 tr out fs' → Runs R (.op o k) fs tr out fs' := by
  induction l with
  | nil => intro fs fs1 tr out fs' h hr; simp [applyEnv] at h; subst h; exact hr
  | cons e r ih =>
    intro fs fs1 tr out fs' h hr
    unfold applyEnv at h
    split at h
    · rename_i hoke
      exact .env (hok e fs hoke) (ih _ _ _ _ _ h hr)
    · cases h

theorem runWithEnv_runs {α : Type} {R : FS → FS → Prop} {ok : Op → Bool}
    (hok : ∀ o fs, ok o = true → R fs (apply o fs).2) (p : Prog α) :
    ∀ (fs : FS) (envs : List (List Op)) (out : Outcome α),
      (runWithEnv ok p fs envs).map (·.1) = some out → ∃ tr fs', Runs R p fs tr out fs' := by
  induction p with
  | ret a => intro fs envs out h; cases h; exact ⟨[], fs, .ret a fs⟩
  | raise e => intro fs envs out h; cases h; exact ⟨[], fs, .raise e fs⟩
  | op o k ih =>
    intro fs envs out h
    unfold runWithEnv at h
    split at h
    · cases h
    · rename_i fs1 he
      obtain ⟨tr, fs', hr⟩ := ih _ _ _ _ h
      exact ⟨(fs1, o) :: tr, fs', runs_env_prefix hok _ _ _ _ _ _ he (.step hr)⟩

end JoblibModel.Store
