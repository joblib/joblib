import JoblibProofs.Lemmas.ParallelProto.Bound

/-!
Whole calls of M1 (`JoblibModel.ParallelProto`) seen from outside: what a list-mode call leaves however it ends, what
the hook point between two calls keeps, and that an aborting object dispatches nothing. Shared by C01, C04, C09, C16
and by the histories of `Lemmas/ParallelStartup`.
-/

namespace JoblibModel.ParallelProto

theorem cfgOK_of {c : Cfg} (hnj : 2 ≤ c.nj) (hbs : ∀ b ∈ c.bs, 1 ≤ b) : CfgOK c := ⟨by omega, hbs⟩

theorem callList_ends {c : Cfg} (hc : CfgOK c) {fuel base : Nat} {spec : CallSpec} {s : St} (hi : Idle s)
    (hh : s.hung = false) (hpd : c.pdMode = 1 ∨ 1 ≤ c.pd)
    (hfuel : 2 * spec.n + s.sched.length + s.parked.length + 2 ≤ fuel) :
    (callList c fuel base spec s).2 ≠ .hung ∧ Idle (callList c fuel base spec s).1 ∧
    Clean (callList c fuel base spec s).1 ∧ (callList c fuel base spec s).1.hung = false ∧
    (callList c fuel base spec s).1.failIds = s.failIds := by
  have h := callList_spec hc (base := base) (spec := spec) hi hh hpd hfuel
  generalize callList c fuel base spec s = r at h
  obtain ⟨s', o⟩ := r
  cases o with
  | ret v => exact ⟨CallOutcome.noConfusion, h.idle, h.clean, h.hung, h.failIds⟩
  | raised e => exact ⟨CallOutcome.noConfusion, h.idle, h.clean, h.hung, h.failIds⟩
  | hung => exact h.elim

/-- A state that differs from an idle one by a fresh call id, fewer parked batches and fields `Idle` does not read is
idle again once `_running` is cleared: every parked batch is stale for the new id. -/
theorem Idle.restarted {s s' : St} (hi : Idle s) (hr : s'.running = false) (hj : s'.jobs = s.jobs)
    (hjs : s'.jobsSet = s.jobsSet) (ht : s'.trk = s.trk) (hc : s'.callCtr = s.callCtr + 1)
    (hid : s'.callId = s.callCtr + 1) (hp : s'.parked.Sublist s.parked) : Idle s' := by
  have hg : ∀ j, getTrk s' j = getTrk s j := getTrk_same ht
  refine ⟨hr, hj.trans hi.jobs, hjs.trans hi.jobsSet, ?_, ?_, hi.parked_nodup.sublist hp, Or.inr ?_⟩
  · intro j; rw [hg, hc]; have := hi.callId_le j; omega
  · intro j hj'; rw [ht]; exact hi.parked_lt j (hp.subset hj')
  · intro j _; rw [hg, hid]; have := hi.callId_le j; omega

theorem hook_between_keeps (c : Cfg) {s : St} (hi : Idle s) :
    Idle (hook c false s) ∧ (hook c false s).hung = s.hung ∧ (hook c false s).failIds = s.failIds := by
  obtain ⟨⟨lg, pk, sc, ib, e, _, _⟩, h2⟩ := between_calls_noop c hi
  exact ⟨h2, by rw [e], by rw [e]⟩

theorem aborting_stops_dispatch (c : Cfg) {s : St} (hab : s.aborting = true) :
    (∀ fo bs, dispatchLocked c fo bs s = (s, false)) ∧ dispatchOneCb c s = (s, false) ∧
    dispatchOneMain c s = (s, false) ∧ (∀ b, dispatch c s b = s) ∧
    (∀ k, ∃ lg pk ib, deliver c k s = { s with log := lg, parked := pk, inCb := ib }) :=
  ⟨fun fo bs => dispatchLocked_aborting c fo bs hab, dispatchOneCb_aborting c hab,
    dispatchOneMain_aborting c hab, fun b => dispatch_aborting c b hab, fun k => deliver_aborting c k hab⟩

end JoblibModel.ParallelProto
