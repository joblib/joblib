import JoblibModel.Store
/-! Lemmas about the file-system model of `JoblibModel.Store` (C05, C11): how each system call changes what the
observer `FS.get` returns. -/
namespace JoblibModel.Store

variable {fs fs' : FS} {p q p' : Path} {o : Op} {i j : Nat} {c d : Bytes} {n : Option Node} {g : Option Nat}

/-- effect of `write(ino i, d)` on one node -/
def wr (i : Nat) (d : Bytes) : Node → Node
  | .file j c => .file j (if j = i then overwrite c d else c)
  | n => n

theorem lookup_eraseName_self (p : Path) (l : List (Path × Node)) : lookup p (eraseName p l) = none := by
  induction l with
  | nil => rfl
  | cons x r ih =>
    obtain ⟨q, n⟩ := x
    by_cases h : q = p <;> simp [eraseName, lookup, h, ih]

theorem lookup_eraseName_ne (h : q ≠ p) (l : List (Path × Node)) :
    lookup q (eraseName p l) = lookup q l := by
  induction l with
  | nil => rfl
  | cons x r ih =>
    obtain ⟨q', n⟩ := x
    by_cases h1 : q' = p
    · have : q' ≠ q := by rw [h1]; exact fun e => h e.symm
      simp [eraseName, lookup, h1, ih]
      intro e; exact absurd e.symm h
    · by_cases h2 : q' = q
      · subst h2; simp [eraseName, lookup, h1]
      · simp [eraseName, lookup, h1, h2, ih]

theorem lookup_writeNames (i : Nat) (d : Bytes) (q : Path) (l : List (Path × Node)) :
    lookup q (writeNames i d l) = (lookup q l).map (wr i d) := by
  induction l with
  | nil => rfl
  | cons x r ih =>
    obtain ⟨q', n⟩ := x
    cases n with
    | dir j => by_cases h : q' = q <;> simp [writeNames, lookup, h, ih, wr]
    | file j c => by_cases h : q' = q <;> simp [writeNames, lookup, h, ih, wr]

/-- `get` after a successful change of one name. -/
def getUpd (fs : FS) (p : Path) (n : Option Node) (q : Path) : Option Node :=
  if q = [] then some (.dir 0) else if q = p then n else fs.get q

theorem get_set (fs : FS) (p : Path) (n : Node) (q : Path) : (fs.set p n).get q = getUpd fs p (some n) q := by
  unfold getUpd FS.get FS.set
  by_cases h0 : q = []
  · simp [h0]
  · by_cases h1 : q = p
    · subst h1; simp [h0, lookup]
    · have : p ≠ q := fun e => h1 e.symm
      simp [h0, h1, lookup, this, lookup_eraseName_ne h1]

theorem get_erase (fs : FS) (p q : Path) : (fs.erase p).get q = getUpd fs p none q := by
  unfold getUpd FS.get FS.erase
  by_cases h0 : q = []
  · simp [h0]
  · by_cases h1 : q = p
    · subst h1; simp [h0, lookup_eraseName_self]
    · simp [h0, h1, lookup_eraseName_ne h1]

@[simp] theorem get_nil (fs : FS) : fs.get [] = some (.dir 0) := by simp [FS.get]

theorem get_with_next (fs : FS) (n : Nat) (q : Path) : ({ fs with next := n } : FS).get q = fs.get q := rfl
theorem get_with_orphans (fs : FS) (o : List (Path × Nat × Bytes)) (q : Path) :
    ({ fs with orphans := o } : FS).get q = fs.get q := rfl

theorem get_write (fs : FS) (i : Nat) (d : Bytes) (q : Path) :
    ({ fs with names := writeNames i d fs.names, orphans := writeOrphans i d fs.orphans } : FS).get q
      = (fs.get q).map (wr i d) := by
  unfold FS.get
  by_cases h0 : q = []
  · simp [h0, wr]
  · simp [h0, lookup_writeNames]

theorem wr_file (h : n.map (wr i d) = some (.file j c)) :
    ∃ c0, n = some (.file j c0) ∧ c = if j = i then overwrite c0 d else c0 := by
  cases n with
  | none => cases h
  | some nd =>
    cases nd with
    | dir k => simp [wr] at h
    | file k c0 =>
      simp [wr] at h
      obtain ⟨rfl, rfl⟩ := h
      exact ⟨c0, rfl, rfl⟩

theorem mem_writeOrphans {l : List (Path × Nat × Bytes)}
    (h : (q, j, c) ∈ writeOrphans i d l) : ∃ c0, (q, j, c0) ∈ l := by
  induction l with
  | nil => simp [writeOrphans] at h
  | cons x r ih =>
    obtain ⟨q', j', c'⟩ := x
    simp only [writeOrphans, List.mem_cons] at h
    rcases h with h | h
    · simp only [Prod.mk.injEq] at h
      obtain ⟨rfl, rfl, _⟩ := h
      exact ⟨c', List.mem_cons_self⟩
    · obtain ⟨c0, h0⟩ := ih h
      exact ⟨c0, List.mem_cons_of_mem _ h0⟩

def Op.reads : Op → Bool
  | .stat _ | .lstat _ _ | .openr _ | .read _ _ | .opendir _ _ | .readdir _ _ => true
  | _ => false

theorem reads_noop (h : o.reads = true) (fs : FS) : (apply o fs).2 = fs := by
  cases o with
  | stat _ | read _ _ | readdir _ _ => rfl
  | lstat _ _ | openr _ => simp only [apply]; split <;> rfl
  | opendir _ _ =>
    simp only [apply]; split
    · rfl
    · split <;> rfl
  | _ => cases h

theorem reads_not_write (h : o.reads = true) (p : Path) (i : Nat) (d : Bytes) : o ≠ .write p i d := by
  rintro rfl; cases h

theorem apply_cases (o : Op) (fs : FS) :
    (apply o fs).2 = fs ∨ (∃ p, o = .mkdir p) ∨ (∃ p, o = .creat p) ∨ (∃ p i d, o = .write p i d) ∨
    (∃ p q, o = .rename p q) ∨ (∃ p g, o = .unlink p g) ∨ (∃ p g, o = .rmdir p g) := by
  cases o with
  | mkdir p => exact .inr (.inl ⟨p, rfl⟩)
  | creat p => exact .inr (.inr (.inl ⟨p, rfl⟩))
  | write p i d => exact .inr (.inr (.inr (.inl ⟨p, i, d, rfl⟩)))
  | rename p q => exact .inr (.inr (.inr (.inr (.inl ⟨p, q, rfl⟩))))
  | unlink p g => exact .inr (.inr (.inr (.inr (.inr (.inl ⟨p, g, rfl⟩)))))
  | rmdir p g => exact .inr (.inr (.inr (.inr (.inr (.inr ⟨p, g, rfl⟩)))))
  | _ => exact .inl (reads_noop rfl fs)

theorem lstat_dir (h : fs.get p = some (.dir j)) (hg : guardOK fs p g = true) : apply (.lstat p g) fs = (.fd j, fs) := by
  simp [apply, h, hg]

theorem opendir_dir (h : fs.get p = some (.dir j)) (hg : guardOK fs p g = true) : apply (.opendir p g) fs = (.fd j, fs) := by
  simp [apply, h, hg]

theorem readdir_dir (h : fs.get p = some (.dir j)) : apply (.readdir p j) fs = (.names (fs.children p), fs) := by
  simp [apply, h]

theorem openr_fd (h : (apply (.openr p) fs).1 = .fd i) :
    ∃ c, fs.get p = some (.file i c) := by
  simp only [apply] at h
  split at h
  · cases h
  · cases h
  · rename_i j c hg; cases h; exact ⟨c, hg⟩

theorem openr_file (h : fs.get p = some (.file i c)) :
    (apply (.openr p) fs).1 = .fd i := by
  simp [apply, h]

theorem getUpd_file (h : getUpd fs p n q = some (.file i c)) :
    (q = p ∧ n = some (.file i c)) ∨ (q ≠ p ∧ fs.get q = some (.file i c)) := by
  unfold getUpd at h
  split at h
  · cases h
  · split at h
    · rename_i h1; exact Or.inl ⟨h1, h⟩
    · rename_i h1; exact Or.inr ⟨h1, h⟩

theorem getUpd_ne (h0 : p ≠ []) (hne : p ≠ p') :
    getUpd fs p' n p = fs.get p := by
  unfold getUpd; rw [if_neg h0, if_neg hne]

theorem getUpd_cases (hg : ∀ x, fs'.get x = getUpd fs p n x)
    (h0 : q ≠ []) : (q = p ∧ fs'.get q = n) ∨ fs'.get q = fs.get q := by
  rw [hg]; unfold getUpd; rw [if_neg h0]
  by_cases hqp : q = p
  · exact Or.inl ⟨hqp, if_pos hqp⟩
  · exact Or.inr (if_neg hqp)

theorem getUpd_self (h0 : p ≠ []) : getUpd fs p n p = n := by
  unfold getUpd; rw [if_neg h0, if_pos rfl]

theorem mkdir_spec (p : Path) (fs : FS) :
    ((apply (.mkdir p) fs).2 = fs ∧ (apply (.mkdir p) fs).1 ≠ .ok) ∨
    ((apply (.mkdir p) fs).1 = .ok ∧ fs.get p = none ∧ (∃ j, fs.get (parent p) = some (.dir j)) ∧
      (apply (.mkdir p) fs).2.next = fs.next + 1 ∧ (apply (.mkdir p) fs).2.orphans = fs.orphans ∧
      ∀ q, (apply (.mkdir p) fs).2.get q = getUpd fs p (some (.dir fs.next)) q) := by
  simp only [apply]
  split
  · left; simp
  · rename_i hp
    split
    · rename_i j hj
      right
      exact ⟨rfl, hp, ⟨j, hj⟩, rfl, rfl, get_set fs p _⟩
    · left; simp
    · left; simp

theorem creat_spec (p : Path) (fs : FS) :
    ((apply (.creat p) fs).2 = fs ∧ ∀ i, (apply (.creat p) fs).1 ≠ .fd i) ∨
    (∃ i c, fs.get p = some (.file i c) ∧ (apply (.creat p) fs).1 = .fd i ∧
      (apply (.creat p) fs).2.next = fs.next ∧ (apply (.creat p) fs).2.orphans = fs.orphans ∧
      ∀ q, (apply (.creat p) fs).2.get q = getUpd fs p (some (.file i [])) q) ∨
    (fs.get p = none ∧ (∃ j, fs.get (parent p) = some (.dir j)) ∧ (apply (.creat p) fs).1 = .fd fs.next ∧
      (apply (.creat p) fs).2.next = fs.next + 1 ∧ (apply (.creat p) fs).2.orphans = fs.orphans ∧
      ∀ q, (apply (.creat p) fs).2.get q = getUpd fs p (some (.file fs.next [])) q) := by
  simp only [apply]
  split
  · left; simp
  · rename_i i c hp
    right; left
    exact ⟨i, c, hp, rfl, rfl, rfl, get_set fs p _⟩
  · rename_i hp
    split
    · rename_i j hj
      right; right
      exact ⟨hp, ⟨j, hj⟩, rfl, rfl, rfl, get_set fs p _⟩
    · left; simp
    · left; simp

theorem write_spec (p : Path) (i : Nat) (d : Bytes) (fs : FS) :
    (apply (.write p i d) fs).1 = .ok ∧ (apply (.write p i d) fs).2.next = fs.next ∧
    (apply (.write p i d) fs).2.orphans = writeOrphans i d fs.orphans ∧
    ∀ q, (apply (.write p i d) fs).2.get q = (fs.get q).map (wr i d) := by
  refine ⟨rfl, rfl, rfl, fun q => ?_⟩
  exact get_write fs i d q

theorem unlink_spec (p : Path) (g : Option Nat) (fs : FS) :
    ((apply (.unlink p g) fs).2 = fs ∧ (apply (.unlink p g) fs).1 ≠ .ok) ∨
    (∃ i c, fs.get p = some (.file i c) ∧ guardOK fs p g = true ∧ (apply (.unlink p g) fs).1 = .ok ∧
      (apply (.unlink p g) fs).2.next = fs.next ∧ (apply (.unlink p g) fs).2.orphans = (p, i, c) :: fs.orphans ∧
      ∀ q, (apply (.unlink p g) fs).2.get q = getUpd fs p none q) := by
  simp only [apply]
  by_cases hgd : guardOK fs p g = true
  case neg => left; simp [hgd]
  simp only [hgd, Bool.not_true, Bool.false_eq_true, if_false]
  split
  · left; simp
  · left; simp
  · rename_i i c hp
    right
    exact ⟨i, c, hp, trivial, rfl, rfl, rfl, get_erase fs p⟩

theorem rmdir_spec (p : Path) (g : Option Nat) (fs : FS) :
    ((apply (.rmdir p g) fs).2 = fs ∧ (apply (.rmdir p g) fs).1 ≠ .ok) ∨
    (∃ j, fs.get p = some (.dir j) ∧ p ≠ [] ∧ (fs.children p).isEmpty = true ∧ (apply (.rmdir p g) fs).1 = .ok ∧
      (apply (.rmdir p g) fs).2.next = fs.next ∧ (apply (.rmdir p g) fs).2.orphans = fs.orphans ∧
      ∀ q, (apply (.rmdir p g) fs).2.get q = getUpd fs p none q) := by
  simp only [apply]
  by_cases hgd : guardOK fs p g = true
  case neg => left; simp [hgd]
  simp only [hgd, Bool.not_true, Bool.false_eq_true, if_false]
  split
  · left; simp
  · left; simp
  · rename_i j hp
    split
    · left; simp
    · rename_i hne
      split
      · rename_i hc
        right
        exact ⟨j, hp, hne, hc, rfl, rfl, rfl, get_erase fs p⟩
      · left; simp

theorem get_erase_ne (h : q ≠ p) : (fs.erase p).get q = fs.get q := by
  by_cases h0 : q = []
  · rw [h0, get_nil, get_nil]
  · rw [get_erase, getUpd_ne h0 h]

/-- A successful `rename p q` is two changes of one name: the name `p` is taken away (`fs.erase p`), then the file is put at `q`
(what was there becomes an orphan). So it is covered by what is proved about a change of one name (`getUpd`), twice. -/
theorem rename_spec (p q : Path) (fs : FS) :
    ((apply (.rename p q) fs).2 = fs) ∨
    (∃ i c, fs.get p = some (.file i c) ∧ q ≠ p ∧ (∃ j, fs.get (parent q) = some (.dir j)) ∧
      (apply (.rename p q) fs).1 = .ok ∧ (apply (.rename p q) fs).2.next = fs.next ∧
      ((fs.get q = none ∧ (apply (.rename p q) fs).2.orphans = fs.orphans) ∨
       (∃ j c', fs.get q = some (.file j c') ∧ (apply (.rename p q) fs).2.orphans = (q, j, c') :: fs.orphans)) ∧
      ∀ x, (apply (.rename p q) fs).2.get x = getUpd (fs.erase p) q (some (.file i c)) x) := by
  simp only [apply]
  split
  · left; rfl
  · left; rfl
  · rename_i i c hp
    split
    · rename_i j hj
      split
      · left; rfl
      · rename_i j' c' hq
        split
        · left; rfl
        · rename_i hne
          right
          exact ⟨i, c, hp, hne, ⟨j, hj⟩, rfl, rfl, Or.inr ⟨j', c', hq, rfl⟩, get_set _ _ _⟩
      · rename_i hq
        have hne : q ≠ p := by
          intro e; rw [e, hp] at hq; cases hq
        right
        exact ⟨i, c, hp, hne, ⟨j, hj⟩, rfl, rfl, Or.inl ⟨hq, rfl⟩, get_set _ _ _⟩
    · left; rfl
    · left; rfl

def flagOf : Node → Bool
  | .dir _ => true
  | .file _ _ => false

theorem childrenOf_complete {n : Name} {nd : Node} {l : List (Path × Node)}
    (h : lookup (p ++ [n]) l = some nd) : (n, flagOf nd) ∈ childrenOf p l := by
  induction l with
  | nil => cases h
  | cons x r ih =>
    obtain ⟨q', nd'⟩ := x
    unfold lookup at h
    unfold childrenOf
    by_cases hq : q' = p ++ [n]
    · subst hq
      simp only [if_true] at h
      cases h
      simp [flagOf]
      cases nd <;> simp
    · rw [if_neg hq] at h
      have := ih h
      split
      · split
        · exact List.mem_cons_of_mem _ this
        · exact this
      · exact this

theorem children_complete {n : Name} {nd : Node} (h : fs.get (p ++ [n]) = some nd) :
    (n, flagOf nd) ∈ fs.children p := by
  unfold FS.get at h
  rw [if_neg (by simp)] at h
  exact childrenOf_complete h

theorem children_empty (h : (fs.children p).isEmpty = true) (hq : q ≠ []) (hp : parent q = p) : fs.get q = none := by
  cases hg : fs.get q with
  | none => rfl
  | some nd =>
    have hq' : q = p ++ [q.getLast hq] := by rw [← hp]; exact (List.dropLast_concat_getLast hq).symm
    rw [hq'] at hg
    have := children_complete hg
    cases hc : fs.children p with
    | nil => rw [hc] at this; cases this
    | cons a b => rw [hc] at h; cases h

theorem tear_eq (n : Nat) (o : Op) : tear n o = o ∨ ∃ p i d, o = .write p i d ∧ tear n o = .write p i (d.take n) := by
  cases o with
  | write p i d => exact Or.inr ⟨p, i, d, rfl, rfl⟩
  | _ => exact Or.inl rfl

theorem tear_rename {n : Nat} (h : tear n o = .rename p q) : o = .rename p q := by
  cases o <;> first | exact h | cases h

/-- the calls that can take a name away or put a file under another one -/
def Op.moves : Op → Bool
  | .rename _ _ | .unlink _ _ | .rmdir _ _ => true
  | _ => false

abbrev Builds (o : Op) : Prop := o.moves = false

theorem creat_ok (hpar : fs.get (parent p) = some (.dir j)) (hnd : ∀ j, fs.get p ≠ some (.dir j)) :
    ∃ i, (apply (.creat p) fs).1 = .fd i := by
  cases hg : fs.get p with
  | none => exact ⟨fs.next, by simp [apply, hg, hpar]⟩
  | some nd =>
    cases nd with
    | dir j' => exact absurd hg (hnd j')
    | file i c => exact ⟨i, by simp [apply, hg]⟩

theorem rename_ok (hp : fs.get p = some (.file i c)) (hpar : fs.get (parent q) = some (.dir j))
    (hnd : ∀ j, fs.get q ≠ some (.dir j)) (hne : q ≠ p) :
    (apply (.rename p q) fs).1 = .ok ∧ (apply (.rename p q) fs).2.dataAt q = some c := by
  have h0 : q ≠ [] := by rintro rfl; exact hnd 0 (get_nil fs)
  unfold FS.dataAt
  cases hf : fs.get q with
  | none => simp only [apply, hp, hpar, hf]; rw [get_set, getUpd_self h0]; exact ⟨trivial, rfl⟩
  | some nd =>
    cases nd with
    | dir j' => exact absurd hf (hnd j')
    | file i2 c2 => simp only [apply, hp, hpar, hf, if_neg hne]; rw [get_with_orphans, get_set, getUpd_self h0]; exact ⟨trivial, rfl⟩

end JoblibModel.Store
