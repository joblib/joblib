import JoblibModel.ParallelSeq
import JoblibProofs.Lemmas.ParallelCalls
/-!
Lemmas for the sequential path (`n_jobs == 1`, `JoblibModel.ParallelSeq`): the invariant of the suspended
`_get_sequential_output` generator and what `seqStart` / `seqNext` / `seqClose` / `seqDrain` / `seqCallList` do.
-/
namespace JoblibModel.ParallelSeq
open JoblibModel.ParallelProto

/-- What no step of the sequential path touches. -/
structure SKeep (s s' : St) : Prop where
  trk : s'.trk = s.trk
  parked : s'.parked = s.parked
  jobs : s'.jobs = s.jobs
  jobsSet : s'.jobsSet = s.jobsSet
  callId : s'.callId = s.callId
  callCtr : s'.callCtr = s.callCtr
  sched : s'.sched = s.sched
  failIds : s'.failIds = s.failIds
  base : s'.base = s.base
  spec : s'.spec = s.spec
  hung : s'.hung = s.hung
  managed : s'.managed = s.managed
  calling : s'.calling = s.calling
  now : s'.now = s.now

theorem SKeep.refl (s : St) : SKeep s s := ⟨rfl, rfl, rfl, rfl, rfl, rfl, rfl, rfl, rfl, rfl, rfl, rfl, rfl, rfl⟩

theorem SKeep.trans {a b d : St} (h1 : SKeep a b) (h2 : SKeep b d) : SKeep a d :=
  ⟨h2.trk.trans h1.trk, h2.parked.trans h1.parked, h2.jobs.trans h1.jobs, h2.jobsSet.trans h1.jobsSet,
   h2.callId.trans h1.callId, h2.callCtr.trans h1.callCtr, h2.sched.trans h1.sched, h2.failIds.trans h1.failIds,
   h2.base.trans h1.base, h2.spec.trans h1.spec, h2.hung.trans h1.hung, h2.managed.trans h1.managed,
   h2.calling.trans h1.calling, h2.now.trans h1.now⟩

/-- The invariant of a live sequential generator: the pending items are the ids pulled but not yet executed, the
executed ones are `base … base + nCompleted − 1` and none of them failed. -/
structure SInv (s : St) (g : SGen) : Prop where
  live : g.live = true
  running : s.running = true
  na : s.aborting = false
  ne : s.exception = false
  pend : g.pending = List.range' (s.base + s.nCompleted) g.pending.length
  pos : s.nCompleted + g.pending.length = s.srcPos
  le_n : s.srcPos ≤ s.spec.n
  iter : 0 ≤ s.spec.iterfail → (s.srcPos : Int) ≤ s.spec.iterfail
  dead : s.srcDead = true → s.srcPos = s.spec.n ∧ (s.srcPos : Int) ≠ s.spec.iterfail
  plen : g.pending.length ≤ max g.bs 1
  disp : s.nDispTasks = s.nCompleted
  ok : ∀ id, s.base ≤ id → id < s.base + s.nCompleted → id ∉ s.failIds

/-- Why the sequential call `base`, `spec` raised `e`, read off the state `s'` it ended in: `e` is the exception of the first
failing task in submission order, which ran and after which nothing ran, or that of the failing step of the input. -/
def SFail (base : Nat) (spec : CallSpec) (failIds : List Nat) (s' : St) (e : Exc) : Prop :=
  (e = .task (base + s'.nCompleted) ∧ base + s'.nCompleted ∈ failIds ∧ s'.nCompleted < spec.n ∧
      s'.nDispTasks = s'.nCompleted + 1) ∨
  (∃ pos, e = .iter pos ∧ 0 ≤ spec.iterfail ∧ (pos : Int) = (base : Int) + spec.iterfail)

/-- `SOver`, `SStopped`, `SRaised`, `SYielded` are the sequential counterparts of `Over`, `Stopped`, `Raised`, `Yielded`. The
first three speak of the end state `s'` only, so they pass unchanged from `next()` to `list(output)` to the call. -/
structure SOver (base : Nat) (failIds : List Nat) (s' : St) : Prop where
  running : s'.running = false
  ok : ∀ id, base ≤ id → id < base + s'.nCompleted → id ∉ failIds

structure SStopped (base : Nat) (spec : CallSpec) (failIds : List Nat) (s' : St) : Prop extends SOver base failIds s' where
  all : s'.nCompleted = spec.n
  noexc : s'.exception = false

structure SRaised (base : Nat) (spec : CallSpec) (failIds : List Nat) (s' : St) (e : Exc) : Prop
    extends SOver base failIds s' where
  exc : s'.exception = true
  why : SFail base spec failIds s' e

structure SYielded (s : St) (g : SGen) (s' : St) (g' : SGen) (v : Nat) : Prop where
  keep : SKeep s s'
  val : v = s.base + s.nCompleted
  inv : SInv s' g'
  count : s'.nCompleted = s.nCompleted + 1
  bs : g'.bs = g.bs

/-- A `next()` that ends the generator: nothing more was executed. -/
structure SEnded (s s' : St) (g' : SGen) : Prop where
  keep : SKeep s s'
  dead : g'.live = false
  count : s'.nCompleted = s.nCompleted

/-- The counterpart of `NextPost` for the sequential generator (`n_jobs == 1`). -/
def SNPost (s : St) (g : SGen) : St × SGen × Out → Prop
  | (s', g', .value v) => SYielded s g s' g' v
  | (s', g', .stop) => SEnded s s' g' ∧ SStopped s'.base s'.spec s'.failIds s'
  | (s', g', .raise e) => SEnded s s' g' ∧ SRaised s'.base s'.spec s'.failIds s' e
  | (_, _, .hang) => False

/-- `SNPost` from a state `s1` that `s` reaches by writing only what the clauses do not read (the pull). -/
theorem SNPost.of_keep {s s1 : St} {g g1 : SGen} {r : St × SGen × Out} (h : SNPost s1 g1 r) (hk : SKeep s s1)
    (hn : s1.nCompleted = s.nCompleted) (hb : g1.bs = g.bs) : SNPost s g r := by
  obtain ⟨s', g', o⟩ := r
  cases o with
  | value v => exact ⟨hk.trans h.keep, by rw [h.val, hk.base, hn], h.inv, h.count.trans (by rw [hn]), h.bs.trans hb⟩
  | stop => exact ⟨⟨hk.trans h.1.keep, h.1.dead, h.1.count.trans hn⟩, h.2⟩
  | raise e => exact ⟨⟨hk.trans h.1.keep, h.1.dead, h.1.count.trans hn⟩, h.2⟩
  | hang => exact h

theorem seqNext_cons {s : St} {g : SGen} (fuel : Nat) (h : SInv s g) {id : Nat} {rest : List Nat}
    (hp : g.pending = id :: rest) : SNPost s g (seqNext (fuel + 1) s g) := by
  have hpl : g.pending.length = rest.length + 1 := by rw [hp]; rfl
  obtain ⟨hid, hrest⟩ : id = s.base + s.nCompleted ∧ rest = List.range' (s.base + (s.nCompleted + 1)) rest.length := by
    have := h.pend
    rw [hpl, hp, List.range'_succ] at this
    exact List.cons.inj this
  have hpos := h.pos
  have hplen := h.plen
  rw [hpl] at hpos hplen
  unfold seqNext
  rw [if_neg (by simp [h.live]), hp]
  simp only
  by_cases hf : id ∈ s.failIds
  · rw [if_pos (by simpa [ev] using hf)]
    -- `{ SKeep.refl s with }` re-checks each field of `SKeep.refl s` against the new end state up to unfolding: it is
    -- `SKeep.refl` for an end state that differs only in what `SKeep` omits
    refine ⟨⟨{ SKeep.refl s with }, rfl, rfl⟩, ⟨rfl, h.ok⟩, rfl, Or.inl ⟨congrArg Exc.task hid, hid ▸ hf, ?_, ?_⟩⟩
    · have := h.le_n
      show s.nCompleted < s.spec.n
      omega
    · show s.nDispTasks + 1 = s.nCompleted + 1
      rw [h.disp]
  · rw [if_neg (by simpa [ev] using hf)]
    refine ⟨{ SKeep.refl s with }, hid,
      ⟨h.live, h.running, h.na, h.ne, hrest, ?_, h.le_n, h.iter, h.dead, ?_, ?_, ?_⟩, rfl, rfl⟩
    · show s.nCompleted + 1 + rest.length = s.srcPos
      omega
    · show rest.length ≤ max g.bs 1
      omega
    · show s.nDispTasks + 1 = s.nCompleted + 1
      rw [h.disp]
    · intro j h0 h1
      by_cases hj : j < s.base + s.nCompleted
      · exact h.ok j h0 hj
      · have : j = id := by have : j < s.base + (s.nCompleted + 1) := h1; omega
        exact this ▸ hf

theorem seqNext_spec {s : St} {g : SGen} (fuel : Nat) (h : SInv s g) : SNPost s g (seqNext (fuel + 2) s g) := by
  cases hp : g.pending with
  | cons id rest => exact seqNext_cons (fuel + 1) h hp
  | nil =>
    have hpos : s.nCompleted = s.srcPos := by have := h.pos; rw [hp] at this; exact this
    unfold seqNext
    rw [if_neg (by simp [h.live]), hp]
    simp only
    obtain ⟨lg, m, d, pl, r, he, hs⟩ := pullUpTo_spec true (max g.bs 1) s
    rw [he]
    simp only
    have hmn := hs.le_n h.le_n
    cases r with
    | true =>
      simp only [if_true]
      obtain ⟨_, hr2⟩ := hs.raised rfl
      refine ⟨⟨{ SKeep.refl s with }, rfl, rfl⟩, ⟨rfl, h.ok⟩, rfl,
        Or.inr ⟨_, rfl, by show 0 ≤ s.spec.iterfail; omega, ?_⟩⟩
      show ((s.base + (s.srcPos + m) : Nat) : Int) = (s.base : Int) + s.spec.iterfail
      omega
    | false =>
      simp only [Bool.false_eq_true, if_false, List.length_range']
      by_cases hm : m = 0
      · rw [if_pos hm]
        subst hm
        have hd : d = true := (hs.short rfl (by omega)).resolve_right fun x => Bool.noConfusion x.1
        have hend : s.srcPos = s.spec.n := by
          cases hsd : s.srcDead with
          | true => exact (h.dead hsd).1
          | false => have := (hs.dead_new rfl hd hsd).1; have := h.le_n; omega
        exact ⟨⟨{ SKeep.refl s with }, rfl, rfl⟩, ⟨rfl, h.ok⟩, hpos.trans hend, h.ne⟩
      · rw [if_neg hm]
        obtain ⟨k, rfl⟩ : ∃ k, m = k + 1 := ⟨m - 1, by omega⟩
        have hnd : s.srcDead = false := by
          cases hsd : s.srcDead with
          | true => exact absurd (hs.dead_mono hsd).2.1 hm
          | false => rfl
        have hI : SInv { s with log := lg, srcPos := s.srcPos + (k + 1), srcDead := d, preLeft := pl }
            { g with pending := List.range' (s.base + s.srcPos) (k + 1) } := by
          refine ⟨h.live, h.running, h.na, h.ne, ?_, ?_, hmn, fun hi => hs.le_iter (h.iter hi), fun hd => ?_, ?_,
            h.disp, h.ok⟩
          · show List.range' _ (k + 1) = List.range' (s.base + s.nCompleted) (List.range' _ (k + 1)).length
            rw [List.length_range', hpos]
          · show s.nCompleted + (List.range' _ (k + 1)).length = s.srcPos + (k + 1)
            rw [List.length_range', hpos]
          · have := hs.dead_new rfl hd hnd
            exact ⟨Nat.le_antisymm hmn this.1, this.2⟩
          · show (List.range' _ (k + 1)).length ≤ max g.bs 1
            rw [List.length_range']; exact hs.m_le
        exact (seqNext_cons fuel hI List.range'_succ).of_keep { SKeep.refl s with } rfl rfl

theorem seqStart_running (c : Cfg) (base : Nat) (spec : CallSpec) (s : St) (h : s.running = true) :
    seqStart c base spec s = (s, { live := false }, some .runtime) := by
  unfold seqStart; rw [if_pos h]

/-- The state `seqStart` sets up before the `compute_batch_size` hook point. -/
def seqFresh (c : Cfg) (base : Nat) (spec : CallSpec) (s : St) : St :=
  { configured c (resetState s) with iterating := true, origAlive := true, base := base, spec := spec, srcPos := 0, srcDead := false }

theorem seqStart_eq (c : Cfg) (base : Nat) (spec : CallSpec) (s : St) :
    seqStart c base spec s =
      if s.running then (s, { live := false }, some .runtime)
      else
        ((if c.bsAuto then hook c false { seqFresh c base spec s with bsI := (configured c (resetState s)).bsI + 1 }
          else (seqFresh c base spec s)),
         { bs := scriptedBs c (seqFresh c base spec s) }, none) := rfl

/-- What `seqStart` leaves of the state it started from. -/
structure SStarted (base : Nat) (spec : CallSpec) (s s1 : St) : Prop where
  trk : s1.trk = s.trk
  parked : s1.parked.Sublist s.parked
  jobs : s1.jobs = s.jobs
  jobsSet : s1.jobsSet = s.jobsSet
  callId : s1.callId = s.callCtr + 1
  callCtr : s1.callCtr = s.callCtr + 1
  failIds : s1.failIds = s.failIds
  base : s1.base = base
  spec : s1.spec = spec
  hung : s1.hung = s.hung
  sched : s1.sched.length ≤ s.sched.length
  zero : s1.nCompleted = 0 ∧ s1.srcPos = 0
  managed : s1.managed = s.managed
  calling : s1.calling = s.calling
  stale : AllStale s1

theorem seqStart_core (c : Cfg) (base : Nat) (spec : CallSpec) {s : St} (hi : Idle s) (bs : Nat) :
    SInv (seqFresh c base spec s) { bs := bs } ∧
    SStarted base spec s (seqFresh c base spec s) := by
  obtain ⟨lg, pk, sc, ib, eC, hpk, hsc⟩ := configured_stale c hi.reset_stale
  rw [seqFresh, eC]
  refine ⟨⟨rfl, rfl, rfl, rfl, rfl, rfl, Nat.zero_le _, (fun hh => by simpa using hh), (fun h => by cases h),
    Nat.zero_le _, rfl, fun id h0 h1 => ?_⟩, ⟨rfl, hpk, rfl, rfl, rfl, rfl, rfl, rfl, rfl, rfl, hsc, ⟨rfl, rfl⟩, rfl, rfl,
    fun i hi' => hi.reset_stale i (hpk.subset hi')⟩⟩
  have h1' : id < base + 0 := h1
  have h0' : base ≤ id := h0
  omega

theorem seqStart_spec (c : Cfg) (base : Nat) (spec : CallSpec) {s : St} (hi : Idle s) :
    ∃ s1 bs, seqStart c base spec s = (s1, { bs := bs }, none) ∧ SInv s1 { bs := bs } ∧ SStarted base spec s s1 := by
  rw [seqStart_eq, if_neg (by simp [hi.running])]
  obtain ⟨hI, hS⟩ := seqStart_core c base spec hi (scriptedBs c (seqFresh c base spec s))
  generalize seqFresh c base spec s = D at hI hS ⊢
  split
  · obtain ⟨lg, pk, sc, ib, e, hpk, hsc⟩ :=
      hook_nosleep_stale c (s := { D with bsI := (configured c (resetState s)).bsI + 1 }) hS.stale
    rw [e]
    exact ⟨_, _, rfl, { hI with }, { hS with
      parked := hpk.trans hS.parked
      sched := Nat.le_trans hsc hS.sched
      stale := fun i hi' => hS.stale i (hpk.subset hi') }⟩
  · exact ⟨_, _, rfl, hI, hS⟩

/-- The counterpart of `DrainEnd`, but about the end state only. -/
def SDEnd : St × SGen × List Nat × Out → Prop
  | (s', _, acc', .stop) => acc' = List.range' s'.base s'.nCompleted ∧ SStopped s'.base s'.spec s'.failIds s'
  | (s', _, acc', .raise e) => acc' = List.range' s'.base s'.nCompleted ∧ SRaised s'.base s'.spec s'.failIds s' e
  | _ => False

/-- `SDEnd` speaks of the final state only, so a `next()` that yields hands the claim on to the rest of the loop. -/
theorem seqDrain_spec (fuel : Nat) : ∀ (n : Nat) (s : St) (g : SGen) (acc : List Nat), SInv s g →
    acc = List.range' s.base s.nCompleted → s.spec.n - s.nCompleted + 1 ≤ n →
    SKeep s (seqDrain n (fuel + 2) s g acc).1 ∧ SDEnd (seqDrain n (fuel + 2) s g acc) := by
  intro n
  induction n with
  | zero => intro s g acc _ _ hn; omega
  | succ n ih =>
    intro s g acc h hacc hn
    unfold seqDrain
    have hp := seqNext_spec fuel h
    generalize seqNext (fuel + 2) s g = res at hp
    obtain ⟨s1, g1, o⟩ := res
    cases o with
    | value v =>
      have hlt1 : s1.nCompleted ≤ s1.spec.n := by have := hp.inv.pos; have := hp.inv.le_n; omega
      have := ih s1 g1 (acc ++ [v]) hp.inv (by rw [hp.keep.base, hp.count, hacc, hp.val, List.range'_1_concat])
        (by rw [hp.keep.spec, hp.count] at *; omega)
      exact ⟨hp.keep.trans this.1, this.2⟩
    | stop => exact ⟨hp.1.keep, by rw [hp.1.keep.base, hp.1.count]; exact hacc, hp.2⟩
    | raise e => exact ⟨hp.1.keep, by rw [hp.1.keep.base, hp.1.count]; exact hacc, hp.2⟩
    | hang => exact hp.elim

theorem idle_after {base : Nat} {spec : CallSpec} {s₀ s1 s' : St} (hi : Idle s₀) (hS : SStarted base spec s₀ s1)
    (hk : SKeep s1 s') (hr : s'.running = false) : Idle s' :=
  hi.restarted hr (hk.jobs.trans hS.jobs) (hk.jobsSet.trans hS.jobsSet) (hk.trk.trans hS.trk)
    (hk.callCtr.trans hS.callCtr) (hk.callId.trans hS.callId) (hk.parked ▸ hS.parked)

/-- What a sequential call that began in `s₀` leaves, whatever its outcome. -/
structure SCKeep (s₀ s' : St) : Prop where
  idle : Idle s'
  hung : s'.hung = s₀.hung
  calling : s'.calling = s₀.calling

/-- The counterpart of `CallEnd`. -/
def SCPost (base : Nat) (spec : CallSpec) (s₀ : St) : St × CallOutcome → Prop
  | (s', .ret v) => SCKeep s₀ s' ∧ v = List.range' base spec.n ∧ SStopped base spec s₀.failIds s'
  | (s', .raised e) => SCKeep s₀ s' ∧ SRaised base spec s₀.failIds s' e
  | (_, .hung) => False

theorem seqCallList_spec (c : Cfg) {fuel base : Nat} {spec : CallSpec} {s₀ : St} (hi : Idle s₀)
    (hfuel : spec.n + 2 ≤ fuel) : SCPost base spec s₀ (seqCallList c fuel base spec s₀) := by
  obtain ⟨s1, bs, he, hI, hS⟩ := seqStart_spec c base spec hi
  unfold seqCallList
  rw [he]
  simp only
  obtain ⟨f, hf⟩ : ∃ f, fuel = f + 2 := ⟨fuel - 2, by omega⟩
  subst hf
  obtain ⟨hk, hd⟩ := seqDrain_spec f (f + 2) s1 { bs := bs } [] hI (by rw [hS.zero.1]; rfl)
    (by rw [hS.spec, hS.zero.1]; omega)
  generalize seqDrain (f + 2) (f + 2) s1 { bs := bs } [] = res at hk hd
  obtain ⟨s', g', acc, o⟩ := res
  have eb : s'.base = base := hk.base.trans hS.base
  have es : s'.spec = spec := hk.spec.trans hS.spec
  have ef : s'.failIds = s₀.failIds := hk.failIds.trans hS.failIds
  have hkeep : s'.running = false → SCKeep s₀ s' := fun hr =>
    ⟨idle_after hi hS hk hr, hk.hung.trans hS.hung, hk.calling.trans hS.calling⟩
  cases o with
  | stop =>
    obtain ⟨b1, b2⟩ := hd
    rw [eb, es, ef] at b2
    exact ⟨hkeep b2.running, by rw [b1, eb, b2.all], b2⟩
  | raise e =>
    obtain ⟨_, b2⟩ := hd
    rw [eb, es, ef] at b2
    exact ⟨hkeep b2.running, b2⟩
  | value _ => exact hd.elim
  | hang => exact hd.elim

theorem seqClose_live (s : St) {g : SGen} (h : g.live = true) : seqClose s g = (failed s, { g with live := false }) := by
  unfold seqClose; rw [if_pos h]

theorem seqNext_dead (fuel : Nat) (s : St) {g : SGen} (h : g.live = false) :
    seqNext (fuel + 1) s g = (s, g, .stop) := by
  unfold seqNext; rw [if_pos (by simp [h])]

end JoblibModel.ParallelSeq
