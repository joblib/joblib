import JoblibModel.LokyMgr
/-! Lemmas for C10 about the coarse layer of `JoblibModel.LokyMgr`, in this order: the futures table, the worker events in one form
(`step_env`), the manager's iteration (`managerStep_eq`, `waitStep_frame`), the invariant `Inv` and its preservation, dead workers and
progress (`DeadProgress`, `backlog`), the torn pipe, the broken flag and the healing of the pool (`getReusableExecutor_*`,
`broken_never_returned`), a death in an idle executor (`Quiescent`), the exit-code message, the tear-down with the client in between.

To add a worker event: `Event`, `EnvEv`, `EnvEv.toEvent`, `step` (model); `Event.envCases`, a case of `step_env`; in
`LokyMgr/Wakeup.lean` `step_env_disabled` and `Quiet`. For a new kind of message also `WorkerMove.pipe`, `MsgOk`, `Frame.msg`,
`processResultItem_eq` / `_flags`, `inv_processResultItem` and the splits over messages in `inv_step` and `envStep_frame`.
To add a clause to `Inv`: `Inv.of_frame`, a case in `Inv.of_same` and in the four uses of `of_frame` (`inv_enqueue`,
`inv_complete`, `inv_fail_join`, `inv_register`); `inv_step` asks only if a worker event writes a field the clause reads. -/
namespace JoblibModel.LokyMgr

variable {fn : Nat → Nat} {s : State}   -- `s`: the pre-state, where a lemma binds none

theorem getElem?_setFut (fs : List FutRec) (wid i : Nat) (st : Fut) :
    (setFut fs wid st)[i]? =
      if i = wid then (fs[i]?).map (fun r => { r with st := st }) else fs[i]? := by
  unfold setFut
  split
  · rename_i r h
    have hlt : wid < fs.length := (List.getElem?_eq_some_iff.mp h).1
    by_cases hi : i = wid
    · subst hi
      obtain ⟨hl, he⟩ := List.getElem?_eq_some_iff.mp h
      simp [hlt, he]
    · simp [hi, List.getElem?_set]; intro h'; omega
  · rename_i h
    by_cases hi : i = wid
    · subst hi; simp [h]
    · simp [hi]

@[simp] theorem length_setFut (fs : List FutRec) (wid : Nat) (st : Fut) :
    (setFut fs wid st).length = fs.length := by
  unfold setFut; split <;> simp

@[simp] theorem length_failAll (wids : List Nat) (e : Exc) (fs : List FutRec) :
    (failAll fs wids e).length = fs.length := by
  unfold failAll
  induction wids generalizing fs with
  | nil => rfl
  | cons w ws ih => simp [List.foldl_cons, ih]

theorem getElem?_failAll (wids : List Nat) (e : Exc) (fs : List FutRec) (i : Nat) :
    (failAll fs wids e)[i]? =
      if i ∈ wids then (fs[i]?).map (fun r => { r with st := .exception e }) else fs[i]? := by
  unfold failAll
  induction wids generalizing fs with
  | nil => simp
  | cons w ws ih =>
    simp only [List.foldl_cons, ih, getElem?_setFut, List.mem_cons]
    by_cases h1 : i ∈ ws <;> by_cases h2 : i = w <;> simp [h1, h2]
    all_goals (cases fs[w]? <;> simp)

/-- The `if c then o.map … else o`, here and in the next lemma, is what `getElem?_setFut` and `getElem?_failAll` give for a lookup
after a write. -/
theorem arg_of_map {c : Prop} [Decidable c] {o : Option FutRec} {st : Fut} {r : FutRec} (hi : o = some r) :
    ∃ r' : FutRec, (if c then o.map (fun r => { r with st := st }) else o) = some r' ∧ r'.arg = r.arg := by
  subst hi
  split
  · exact ⟨_, rfl, rfl⟩
  · exact ⟨r, rfl, rfl⟩

theorem of_map_eq_some {c : Prop} [Decidable c] {o : Option FutRec} {st : Fut} {r' : FutRec}
    (h : (if c then o.map (fun r => { r with st := st }) else o) = some r') :
    (¬ c ∧ o = some r') ∨ (c ∧ ∃ r, o = some r ∧ r' = { r with st := st }) := by
  split at h
  · cases o with
    | none => cases h
    | some r => exact Or.inr ⟨‹_›, r, rfl, (Option.some.inj h).symm⟩
  · exact Or.inl ⟨‹_›, h⟩

/-- The workers `_adjust_process_count` starts. -/
def newWorkers (p : Nat) : Nat → List Worker
  | 0 => []
  | n + 1 => ⟨p, true, none, false, false⟩ :: newWorkers (p + 1) n

theorem spawn_eq (n : Nat) (s : State) :
    spawn n s = { s with processes := s.processes ++ newWorkers s.next_pid n,
                         next_pid := s.next_pid + n } := by
  induction n generalizing s with
  | zero => simp [spawn, newWorkers]
  | succ n ih =>
    simp only [spawn, ih, newWorkers, List.append_assoc, List.singleton_append]
    congr 1
    omega

theorem newWorkers_fresh (p n : Nat) : ∀ w ∈ newWorkers p n, w.current = none := by
  induction n generalizing p with
  | zero => simp [newWorkers]
  | succ n ih =>
    intro w hw
    simp only [newWorkers, List.mem_cons] at hw
    rcases hw with rfl | hw
    · rfl
    · exact ih _ w hw

/-- A dead process `p` is (still) in the executor's `_processes`. In the coarse layer, where `wait` looks at the sentinels
of all processes, its sentinel is then ready; in the fine-grained layer only if `p` is also in the list the thread waits on. -/
def DeadIn (s : State) (p : Nat) : Prop := ∃ w ∈ s.processes, w.pid = p ∧ w.alive = false

instance (s : State) (p : Nat) : Decidable (DeadIn s p) :=
  inferInstanceAs (Decidable (∃ w ∈ s.processes, w.pid = p ∧ w.alive = false))

theorem mem_deadPids {ps : List Worker} {p : Nat} :
    p ∈ deadPids ps ↔ ∃ w ∈ ps, w.pid = p ∧ w.alive = false := by
  simp [deadPids]
  constructor
  · rintro ⟨w, ⟨h1, h2⟩, h3⟩; exact ⟨w, h1, h3, h2⟩
  · rintro ⟨w, h1, h3, h2⟩; exact ⟨w, ⟨h1, h2⟩, h3⟩

theorem updWorker_dead (ps : List Worker) (pid : Nat) (f : Worker → Worker)
    (hf : ∀ w, (f w).pid = w.pid ∧ (w.alive = false → (f w).alive = false))
    (p : Nat) (h : ∃ w ∈ ps, w.pid = p ∧ w.alive = false) :
    ∃ w ∈ updWorker ps pid f, w.pid = p ∧ w.alive = false := by
  obtain ⟨w, hw, hp, ha⟩ := h
  unfold updWorker
  refine ⟨if w.pid == pid then f w else w, List.mem_map.mpr ⟨w, hw, rfl⟩, ?_, ?_⟩
  · split
    · rw [(hf w).1]; exact hp
    · exact hp
  · split
    · exact (hf w).2 ha
    · exact ha

theorem mem_updWorker {ps : List Worker} {pid : Nat} {f : Worker → Worker} {w' : Worker}
    (h : w' ∈ updWorker ps pid f) : ∃ w ∈ ps, w' = if w.pid == pid then f w else w := by
  simp only [updWorker, List.mem_map] at h
  obtain ⟨w, hw, e⟩ := h
  exact ⟨w, hw, e.symm⟩

theorem getWorker_mem {ps : List Worker} {pid : Nat} {w : Worker} (h : getWorker ps pid = some w) :
    w ∈ ps ∧ w.pid = pid := by
  unfold getWorker at h
  exact ⟨List.mem_of_find?_eq_some h, by simpa using List.find?_some h⟩

theorem getWorker_updWorker (ps : List Worker) (pid w : Nat) (f : Worker → Worker)
    (hf : ∀ x, (f x).pid = x.pid) :
    getWorker (updWorker ps pid f) w = (getWorker ps w).map (fun x => if x.pid == pid then f x else x) := by
  unfold getWorker updWorker
  induction ps with
  | nil => rfl
  | cons a as ih =>
    simp only [List.map_cons, List.find?_cons]
    have : (if a.pid == pid then f a else a).pid = a.pid := by split <;> simp [hf]
    rw [this]
    split
    · simp
    · exact ih

/-- The eight events of the workers and of the OS in one form: worker `pid` becomes `f w`, the call queue keeps `cq`, `ms`
is appended to the pipe, the partial message becomes `pm` (a disabled event: `f = id`). `f` keeps pids and never revives;
a task comes into a worker's hands from the head of the call queue only; the pipe is written to only by a live worker that
holds, or may take, the write lock, and what it writes is about the task in its hands. -/
structure WorkerMove (fn : Nat → Nat) (s : State) (e : EnvEv) (s' : State) (pid : Nat) (f : Worker → Worker)
    (cq : List CallItem) (ms : List Msg) (pm : Option Nat) : Prop where
  eq : s' = { s with processes := updWorker s.processes pid f, call_queue := cq,
                     result_pipe := s.result_pipe ++ ms, partialMsg := pm }
  pid_eq : ∀ x, (f x).pid = x.pid
  dead : ∀ x, x.alive = false → (f x).alive = false
  cur : ∀ x it, (f x).current = some it → x.current = some it ∨ s.call_queue = it :: cq
  queue : cq = s.call_queue ∨ ∃ it, s.call_queue = it :: cq
  pipe : (ms = [] ∧ pm = s.partialMsg) ∨
    ∃ w, getWorker s.processes pid = some w ∧ w.alive = true ∧ (s.partialMsg = none ∨ s.partialMsg = some pid) ∧
      ∀ m ∈ ms, m = .remoteTb ∨ (m = .pid pid ∧ e = .announceExit pid) ∨
        ∃ it, w.current = some it ∧ (m = .result it.wid (fn it.arg) ∨ m = .taskExc it.wid)

theorem WorkerMove.skip (fn : Nat → Nat) (s : State) (e : EnvEv) :
    ∃ pid f cq ms pm, WorkerMove fn s e s pid f cq ms pm :=
  ⟨0, id, s.call_queue, [], s.partialMsg, by simp [updWorker], fun _ => rfl, fun _ => id,
    fun _ _ => Or.inl, Or.inl rfl, Or.inl ⟨rfl, rfl⟩⟩

theorem step_env (fn : Nat → Nat) (s : State) (e : EnvEv) :
    ∃ pid f cq ms pm, WorkerMove fn s e (step fn s e.toEvent) pid f cq ms pm := by
  -- In each case: after the splits every branch but the enabled one is the unchanged state (`WorkerMove.skip`); `rename_i` then
  -- fetches, of the enabled branch, the worker found (`hg`), the queue or task equation (`hq`, `hcur`) and the guard (`hc`).
  cases e with
  | take pid =>
    simp only [EnvEv.toEvent, step]
    repeat' split
    any_goals exact WorkerMove.skip fn s _
    rename_i _ _ _ item rest _ hq _
    exact ⟨pid, fun w => { w with current := some item }, rest, [], s.partialMsg, by simp, fun _ => rfl, fun _ => id,
      fun x it h => Or.inr (by cases h; exact hq), Or.inr ⟨item, hq⟩, Or.inl ⟨rfl, rfl⟩⟩
  | unpickleFail pid =>
    simp only [EnvEv.toEvent, step]
    repeat' split
    any_goals exact WorkerMove.skip fn s _
    rename_i _ _ w item rest hg hq hc
    simp only [Bool.and_eq_true, Option.isNone_iff_eq_none, Worker.idle] at hc
    exact ⟨pid, fun w => { w with alive := false }, rest, [.remoteTb], s.partialMsg, rfl, fun _ => rfl, fun _ _ => rfl,
      fun x it h => Or.inl h, Or.inr ⟨item, hq⟩, Or.inr ⟨w, hg, hc.1.1.1.1, Or.inl hc.2, by simp⟩⟩
  | sendResult pid =>
    simp only [EnvEv.toEvent, step]
    repeat' split
    any_goals exact WorkerMove.skip fn s _
    rename_i _ w hg _ item hcur hc
    simp only [Bool.and_eq_true, Option.isNone_iff_eq_none] at hc
    exact ⟨pid, fun w => { w with current := none }, s.call_queue, [.result item.wid (fn item.arg)], s.partialMsg, rfl,
      fun _ => rfl, fun _ => id, fun _ _ h => (nomatch h), Or.inl rfl,
      Or.inr ⟨w, hg, hc.1.1, Or.inl hc.2, by simp [hcur]⟩⟩
  | sendTaskExc pid =>
    simp only [EnvEv.toEvent, step]
    repeat' split
    any_goals exact WorkerMove.skip fn s _
    rename_i _ w hg _ item hcur hc
    simp only [Bool.and_eq_true, Option.isNone_iff_eq_none] at hc
    exact ⟨pid, fun w => { w with current := none }, s.call_queue, [.taskExc item.wid], s.partialMsg, rfl,
      fun _ => rfl, fun _ => id, fun _ _ h => (nomatch h), Or.inl rfl,
      Or.inr ⟨w, hg, hc.1.1, Or.inl hc.2, by simp [hcur]⟩⟩
  | beginSend pid =>
    simp only [EnvEv.toEvent, step]
    repeat' split
    any_goals exact WorkerMove.skip fn s _
    rename_i _ w hg hc
    simp only [Bool.and_eq_true, Option.isNone_iff_eq_none] at hc
    exact ⟨pid, fun w => { w with sending := true }, s.call_queue, [], some pid, by simp,
      fun _ => rfl, fun _ => id, fun _ _ h => Or.inl h, Or.inl rfl,
      Or.inr ⟨w, hg, hc.1.1.1, Or.inl hc.2, by simp⟩⟩
  | endSend pid =>
    simp only [EnvEv.toEvent, step]
    repeat' split
    any_goals exact WorkerMove.skip fn s _
    rename_i _ w hg _ item hcur hc
    simp only [Bool.and_eq_true, beq_iff_eq] at hc
    exact ⟨pid, fun w => { w with current := none, sending := false }, s.call_queue, [.result item.wid (fn item.arg)], none, rfl,
      fun _ => rfl, fun _ => id, fun _ _ h => (nomatch h), Or.inl rfl,
      Or.inr ⟨w, hg, hc.1.1, Or.inr hc.2, by simp [hcur]⟩⟩
  | announceExit pid =>
    simp only [EnvEv.toEvent, step]
    repeat' split
    any_goals exact WorkerMove.skip fn s _
    rename_i _ w hg hc
    simp only [Bool.and_eq_true, Option.isNone_iff_eq_none, Worker.idle] at hc
    exact ⟨pid, fun w => { w with exiting := true }, s.call_queue, [.pid pid], s.partialMsg, rfl,
      fun _ => rfl, fun _ => id, fun _ _ h => Or.inl h, Or.inl rfl,
      Or.inr ⟨w, hg, hc.1.1.1.1, Or.inl hc.2, by simp⟩⟩
  | kill pid =>
    simp only [EnvEv.toEvent, step]
    exact ⟨pid, fun w => { w with alive := false }, s.call_queue, [], s.partialMsg, by simp,
      fun _ => rfl, fun _ _ => rfl, fun _ _ h => Or.inl h, Or.inl rfl, Or.inl ⟨rfl, rfl⟩⟩

theorem Event.envCases {motive : Event → Prop} (submit : ∀ a, motive (.submit a))
    (shutdown : ∀ kw, motive (.shutdown kw)) (mgr : motive .mgr) (env : ∀ e : EnvEv, motive e.toEvent) :
    ∀ e, motive e
  | .submit a => submit a
  | .shutdown kw => shutdown kw
  | .mgr => mgr
  | .take p => env (.take p)
  | .unpickleFail p => env (.unpickleFail p)
  | .sendResult p => env (.sendResult p)
  | .sendTaskExc p => env (.sendTaskExc p)
  | .beginSend p => env (.beginSend p)
  | .endSend p => env (.endSend p)
  | .announceExit p => env (.announceExit p)
  | .kill p => env (.kill p)

theorem step_submit (fn : Nat → Nat) (s : State) (a : Nat) : step fn s (.submit a) = (submit s a).1 := rfl
theorem step_mgr (fn : Nat → Nat) (s : State) : step fn s .mgr = (managerStep s).1 := rfl

theorem submit_cases (s : State) (arg : Nat) :
    (submit s arg).1 = s ∨ ∃ n, (submit s arg).1 =
      { s with futures := s.futures ++ [⟨arg, .pending⟩],
               pending_work_items := s.pending_work_items ++ [s.futures.length],
               work_ids := s.work_ids ++ [s.futures.length], wakeups := s.wakeups + 1,
               processes := s.processes ++ newWorkers s.next_pid n, next_pid := s.next_pid + n,
               mgr := if s.mgr = .notStarted then .running else s.mgr } := by
  unfold submit
  split
  · exact Or.inl rfl
  · split
    · exact Or.inl rfl
    · right
      simp only [ensureRunning, adjustProcessCount]
      split
      · exact ⟨_, by rw [spawn_eq]; rfl⟩
      · exact ⟨0, by rw [show register s arg = spawn 0 (register s arg) from rfl, spawn_eq]; rfl⟩

theorem addCallItems_eq (s : State) :
    ∃ fs rw ws cq m, addCallItems s =
      { s with futures := fs, running_work_items := rw, work_ids := ws, call_queue := cq, mgr := m } ∧
      (m = s.mgr ∨ m = .crashed) := by
  suffices ∀ ids s, ∃ fs rw ws cq m, addCallItemsLoop ids s =
      { s with futures := fs, running_work_items := rw, work_ids := ws, call_queue := cq, mgr := m } ∧
      (m = s.mgr ∨ m = .crashed) from this _ s
  intro ids
  induction ids with
  | nil => exact fun s => ⟨_, _, _, _, _, rfl, Or.inl rfl⟩
  | cons wid rest ih =>
    intro s
    unfold addCallItemsLoop
    split
    · exact ⟨_, _, _, _, _, rfl, Or.inl rfl⟩
    · split
      · split
        · rename_i r _
          obtain ⟨fs, rw, ws, cq, m, heq, hm⟩ := ih (enqueue s wid rest r)
          exact ⟨fs, rw, ws, cq, m, by rw [heq]; rfl, hm⟩
        · exact ⟨_, _, _, _, _, rfl, Or.inr rfl⟩
      · exact ⟨_, _, _, _, _, rfl, Or.inr rfl⟩

theorem deadWaited_all (ps : List Worker) : deadWaited (pidsOf ps) ps = deadPids ps := by
  unfold deadWaited
  rw [List.filter_eq_self]
  intro p hp
  obtain ⟨w, hw, rfl, _⟩ := mem_deadPids.mp hp
  simp only [List.contains_eq_mem, decide_eq_true_eq, pidsOf]
  exact List.mem_map.mpr ⟨w, hw, rfl⟩

theorem managerStep_eq (s : State) :
    managerStep s =
      if s.mgr ≠ .running then (s, .notRunning)
      else if (addCallItems s).mgr = .crashed then (addCallItems s, .crashed)
      else waitStep (addCallItems s) (pidsOf (addCallItems s).processes) := by
  unfold managerStep waitStep
  simp only [deadWaited_all]

theorem finishIteration_cases (s : State) :
    (s.mgr = .crashed ∧ finishIteration s = (s, .crashed)) ∨
    ∃ f : Flags, f.broken = s.flags.broken ∧
      (finishIteration s = ({ s with flags := f }, .progressed) ∨
       (s.pending_work_items = [] ∧ finishIteration s = (joinExecutorInternals { s with flags := f }, .exited)) ∨
       finishIteration s =
         (joinExecutorInternals (killWorkers (failPending { s with flags := f } .shutdownExecutor)), .exited)) := by
  unfold finishIteration
  split
  · exact Or.inl ⟨‹_›, rfl⟩
  · right
    split
    · refine ⟨{ s.flags with shutdown := true }, rfl, ?_⟩
      unfold flagExecutorShuttingDown
      simp only []
      split
      · exact Or.inr (Or.inr rfl)
      · split
        · rename_i hp
          exact Or.inr (Or.inl ⟨by simpa using hp, rfl⟩)
        · exact Or.inl rfl
    · exact ⟨s.flags, rfl, Or.inl rfl⟩

/-- What `finishIteration` leaves as it was; the part of `WaitEnd` that does not depend on what was received. -/
structure IterEnd (s : State) (r : State × StepResult) : Prop where
  awake : r.2 ≠ .blockedInWait
  broken : r.1.flags.broken = s.flags.broken
  size : r.1.max_workers = s.max_workers
  pipe : r.1.result_pipe = s.result_pipe
  exited : r.2 = .exited → r.1.mgr = .exited
  crashed : r.2 = .crashed → r.1.mgr = .crashed
  procs : (r.1.mgr = .exited ∧ r.1.processes = []) ∨ (r.1.processes = s.processes ∧ r.1.mgr = s.mgr)

theorem finishIteration_frame (s : State) : IterEnd s (finishIteration s) := by
  rcases finishIteration_cases s with ⟨hc, h⟩ | ⟨f, hf, h | ⟨_, h⟩ | h⟩ <;> rw [h]
  · exact ⟨by simp, rfl, rfl, rfl, by simp, fun _ => hc, Or.inr ⟨rfl, rfl⟩⟩
  · exact ⟨by simp, hf, rfl, rfl, by simp, by simp, Or.inr ⟨rfl, rfl⟩⟩
  · exact ⟨by simp, hf, rfl, rfl, fun _ => rfl, by simp, Or.inl ⟨rfl, rfl⟩⟩
  · exact ⟨by simp, hf, rfl, rfl, fun _ => rfl, by simp, Or.inl ⟨rfl, rfl⟩⟩

theorem adjustProcessCount_flags (s : State) : (adjustProcessCount s).flags = s.flags := by
  simp [adjustProcessCount, spawn_eq]

theorem processResultItem_flags (s : State) (m : Msg) : (processResultItem s m).flags = s.flags := by
  cases m with
  | pid p => simp only [processResultItem, reapWorker]; split <;> simp [adjustProcessCount_flags]
  | result wid v | taskExc wid => simp only [processResultItem]; (repeat' split) <;> simp [complete]
  | remoteTb | unpicklable => rfl

theorem processResultItem_eq (s : State) (m : Msg) (hm : ∀ q, m ≠ .pid q) :
    ∃ fs pw rw mg, processResultItem s m =
      { s with futures := fs, pending_work_items := pw, running_work_items := rw, mgr := mg } ∧
      (mg = s.mgr ∨ mg = .crashed) := by
  cases m with
  | pid q => exact absurd rfl (hm q)
  | result wid v | taskExc wid =>
    simp only [processResultItem]
    repeat' split
    · exact ⟨_, _, _, _, rfl, Or.inl rfl⟩
    · exact ⟨_, _, _, _, rfl, Or.inr rfl⟩
    · exact ⟨_, _, _, _, rfl, Or.inl rfl⟩
  | remoteTb | unpicklable => exact ⟨_, _, _, _, rfl, Or.inl rfl⟩

/- `rfl` at type `Nat` makes the unifier unfold `failAll`; hence the unfolding by hand. -/
theorem terminateBroken_max_workers (s : State) (e : Exc) : (terminateBroken s e).max_workers = s.max_workers := by
  unfold terminateBroken joinExecutorInternals killWorkers failPending flagAsBroken; rfl

/-- What `waitStep_frame` gives: the facts about the wait step that need no invariant; `inv_waitStep` and `waitStep_deadProgress`
traverse `waitStep` again. -/
structure WaitEnd (s : State) (ws : List Nat) (r : State × StepResult) : Prop where
  awake : waitReady s ws = true → r.2 ≠ .blockedInWait
  broken : r.1.flags.broken = s.flags.broken ∨
    r.1.flags.broken = some .terminatedWorker ∨ r.1.flags.broken = some .brokenPool
  exited : r.2 = .exited → r.1.mgr = .exited
  crashed : r.2 = .crashed → r.1.mgr = .crashed
  procs : (∀ q, Msg.pid q ∉ s.result_pipe) →
    r.1.max_workers = s.max_workers ∧ (∀ m ∈ r.1.result_pipe, m ∈ s.result_pipe) ∧
    ((r.1.mgr = .exited ∧ r.1.processes = []) ∨
     (r.1.processes = s.processes ∧ (r.1.mgr = s.mgr ∨ r.1.mgr = .crashed)))

theorem waitStep_frame (s : State) (ws : List Nat) : WaitEnd s ws (waitStep s ws) := by
  unfold waitStep
  split
  · rename_i m rest hpipe
    have hsub : ∀ x ∈ rest, x ∈ s.result_pipe := fun x hx => by rw [hpipe]; exact List.mem_cons_of_mem _ hx
    split
    · exact ⟨fun _ => by simp, Or.inr (Or.inr rfl), fun _ => rfl, by simp,
        fun _ => ⟨terminateBroken_max_workers _ _, hsub, Or.inl ⟨rfl, rfl⟩⟩⟩
    · exact ⟨fun _ => by simp, Or.inr (Or.inr rfl), fun _ => rfl, by simp,
        fun _ => ⟨terminateBroken_max_workers _ _, hsub, Or.inl ⟨rfl, rfl⟩⟩⟩
    · simp only []
      have F := finishIteration_frame (processResultItem (received s rest) m)
      refine ⟨fun _ => F.awake, Or.inl (by rw [F.broken, processResultItem_flags]; rfl), F.exited, F.crashed,
        fun hnp => ?_⟩
      obtain ⟨fs, pw, rw, mg, heq, hmg⟩ := processResultItem_eq (received s rest) m
        (fun q e => hnp q (by rw [hpipe, e]; exact List.mem_cons_self))
      obtain ⟨_, _, f1, f2, _, _, f5⟩ := F
      rw [heq] at f1 f2 f5 ⊢
      refine ⟨f1, by rw [f2]; exact hsub, ?_⟩
      rcases f5 with f5 | ⟨f5, f6⟩
      · exact Or.inl f5
      · exact Or.inr ⟨f5, by rw [f6]; exact hmg⟩
  · rename_i hpipe _
    split <;> exact ⟨fun _ => by simp, Or.inl rfl, by simp, by simp,
      fun _ => ⟨rfl, by simp [hpipe], Or.inr ⟨rfl, Or.inl rfl⟩⟩⟩
  · rename_i hpipe hpart
    split
    · have F := finishIteration_frame (received s [])
      refine ⟨fun _ => F.awake, Or.inl F.broken, F.exited, F.crashed,
        fun _ => ⟨F.size, by rw [F.pipe]; simp [received], ?_⟩⟩
      rcases F.procs with f5 | ⟨f5, f6⟩
      · exact Or.inl f5
      · exact Or.inr ⟨f5, Or.inl f6⟩
    · rename_i hw
      split
      · rename_i he
        exact ⟨fun h => by simp [waitReady, hpipe, hpart, he, hw] at h, Or.inl rfl, by simp, by simp,
          fun _ => ⟨rfl, by simp [hpipe], Or.inr ⟨rfl, Or.inl rfl⟩⟩⟩
      · exact ⟨fun _ => by simp, Or.inr (Or.inl rfl), fun _ => rfl, by simp,
          fun _ => ⟨terminateBroken_max_workers _ _, fun m hm => hm, Or.inl ⟨rfl, rfl⟩⟩⟩

theorem DeadIn.deadWaited {s : State} {ws : List Nat} {p : Nat} (hd : DeadIn s p) (hp : p ∈ ws) :
    (deadWaited ws s.processes).isEmpty = false :=
  List.isEmpty_eq_false_iff_exists_mem.mpr ⟨p, List.mem_filter.mpr ⟨mem_deadPids.mpr hd, by simpa using hp⟩⟩

theorem waitStep_dead_waited (s : State) (ws : List Nat) (p : Nat) (hd : DeadIn s p) (hp : p ∈ ws) :
    (waitStep s ws).2 ≠ .blockedInWait :=
  (waitStep_frame s ws).awake (by simp [waitReady, hd.deadWaited hp])

theorem waitStep_death {s : State} {ws : List Nat} {p : Nat} (hpipe : s.result_pipe = []) (hpart : s.partialMsg = none)
    (hwk : s.wakeups = 0) (hd : DeadIn s p) (hp : p ∈ ws) :
    waitStep s ws = (terminateBroken s .terminatedWorker, .exited) := by
  simp [waitStep, hpipe, hpart, hwk, hd.deadWaited hp]

/-- A call item on its way (call queue, a worker's hands) belongs to a future with the same argument and,
while that future's work item is pending, its id is in `running_work_items`. -/
def ItemOk (s : State) (it : CallItem) : Prop :=
  (∃ r, s.futures[it.wid]? = some r ∧ r.arg = it.arg) ∧
  (it.wid ∈ s.pending_work_items → it.wid ∈ s.running_work_items)

/-- A complete message in the result pipe carries the value computed from the argument of ITS work id. -/
def MsgOk (fn : Nat → Nat) (s : State) : Msg → Prop
  | .result wid v =>
    (∃ r, s.futures[wid]? = some r ∧ v = fn r.arg) ∧
    (wid ∈ s.pending_work_items → wid ∈ s.running_work_items)
  | .taskExc wid =>
    (∃ r, s.futures[wid]? = some r) ∧ (wid ∈ s.pending_work_items → wid ∈ s.running_work_items)
  | _ => True

/-- The invariant of the executor state behind C10 §2–§3: ids in the three tables are ids of futures; every unresolved future
is in `pending_work_items` (so `terminate_broken` reaches it); a queued work id is pending and not yet running (no `KeyError`,
no `ValueError` in the loop: `not_crashed`); a result future carries `fn` of ITS argument; call items and messages on their way
are in order (`ItemOk`, `MsgOk`). `ids_pend` only while the thread has not ended: the tear-down empties `pending_work_items` and
leaves `work_ids`. `run_lt`: the id `register` hands out next is not running. -/
structure Inv (fn : Nat → Nat) (s : State) : Prop where
  pend_lt : ∀ wid ∈ s.pending_work_items, wid < s.futures.length
  unres_pend : ∀ (wid : Nat) (r : FutRec), s.futures[wid]? = some r → r.st.unresolved = true → wid ∈ s.pending_work_items
  ids_pend : s.mgr = .running ∨ s.mgr = .notStarted →
    ∀ wid ∈ s.work_ids, wid ∈ s.pending_work_items ∧ wid ∉ s.running_work_items
  res_ok : ∀ (wid : Nat) (r : FutRec) (v : Nat), s.futures[wid]? = some r → r.st = Fut.result v → v = fn r.arg
  cq_ok : ∀ it ∈ s.call_queue, ItemOk s it
  cur_ok : ∀ w ∈ s.processes, ∀ it, w.current = some it → ItemOk s it
  pipe_ok : ∀ m ∈ s.result_pipe, MsgOk fn s m
  not_crashed : s.mgr ≠ .crashed
  ids_lt : ∀ wid ∈ s.work_ids, wid < s.futures.length
  ids_nodup : s.work_ids.Nodup
  run_lt : ∀ wid ∈ s.running_work_items, wid < s.futures.length

/-- What `Inv.of_frame` asks of a step about the three tables `ItemOk`/`MsgOk` look at, so that items and messages that were
in order stay in order; shown operation by operation. The escape `futures[wid]? = none` of `pend` is for `register`, whose new id is
beyond the table. -/
structure Frame (s s' : State) : Prop where
  fut : ∀ (i : Nat) (r : FutRec), s.futures[i]? = some r → ∃ r' : FutRec, s'.futures[i]? = some r' ∧ r'.arg = r.arg
  pend : ∀ wid, wid ∈ s'.pending_work_items → wid ∈ s.pending_work_items ∨ s.futures[wid]? = none
  runn : ∀ wid, wid ∈ s.running_work_items → wid ∈ s'.pending_work_items → wid ∈ s'.running_work_items

theorem Frame.of_eq {s s' : State} (h1 : s'.futures = s.futures)
    (h2 : s'.pending_work_items = s.pending_work_items)
    (h3 : s'.running_work_items = s.running_work_items) : Frame s s' := by
  refine ⟨?_, ?_, ?_⟩
  · intro i r h; exact ⟨r, by rw [h1]; exact h, rfl⟩
  · intro wid h; left; rw [← h2]; exact h
  · intro wid h _; rw [h3]; exact h

theorem Frame.runs {s s' : State} (hF : Frame s s') {wid : Nat} {r : FutRec} (hr : s.futures[wid]? = some r)
    (hp : wid ∈ s.pending_work_items → wid ∈ s.running_work_items) (hm : wid ∈ s'.pending_work_items) :
    wid ∈ s'.running_work_items := by
  rcases hF.pend _ hm with h1 | h1
  · exact hF.runn _ (hp h1) hm
  · rw [hr] at h1; cases h1

theorem Frame.item {s s' : State} (hF : Frame s s') {it : CallItem} (h : ItemOk s it) : ItemOk s' it := by
  obtain ⟨⟨r, hr, ha⟩, hp⟩ := h
  obtain ⟨r', hr', ha'⟩ := hF.fut _ _ hr
  exact ⟨⟨r', hr', by rw [ha', ha]⟩, hF.runs hr hp⟩

theorem Frame.msg {s' : State} (hF : Frame s s') {m : Msg} (h : MsgOk fn s m) :
    MsgOk fn s' m := by
  cases m with
  | result wid v =>
    obtain ⟨⟨r, hr, hv⟩, hp⟩ := h
    obtain ⟨r', hr', ha'⟩ := hF.fut _ _ hr
    exact ⟨⟨r', hr', by rw [ha', hv]⟩, hF.runs hr hp⟩
  | taskExc wid =>
    obtain ⟨⟨r, hr⟩, hp⟩ := h
    obtain ⟨r', hr', _⟩ := hF.fut _ _ hr
    exact ⟨⟨r', hr'⟩, hF.runs hr hp⟩
  | _ => trivial

theorem Inv.of_frame {s' : State} (h : Inv fn s) (hF : Frame s s')
    (hcq : ∀ it ∈ s'.call_queue, it ∈ s.call_queue ∨ ItemOk s' it)
    (hcur : ∀ w ∈ s'.processes, ∀ it, w.current = some it →
      (∃ w0 ∈ s.processes, w0.current = some it) ∨ ItemOk s' it)
    (hpipe : ∀ m ∈ s'.result_pipe, m ∈ s.result_pipe ∨ MsgOk fn s' m)
    (pend_lt : ∀ wid ∈ s'.pending_work_items, wid < s'.futures.length)
    (unres_pend : ∀ (wid : Nat) (r : FutRec), s'.futures[wid]? = some r → r.st.unresolved = true → wid ∈ s'.pending_work_items)
    (ids_pend : s'.mgr = .running ∨ s'.mgr = .notStarted →
      ∀ wid ∈ s'.work_ids, wid ∈ s'.pending_work_items ∧ wid ∉ s'.running_work_items)
    (res_ok : ∀ (wid : Nat) (r : FutRec) (v : Nat), s'.futures[wid]? = some r → r.st = Fut.result v → v = fn r.arg)
    (not_crashed : s'.mgr ≠ .crashed)
    (ids_lt : ∀ wid ∈ s'.work_ids, wid < s'.futures.length)
    (ids_nodup : s'.work_ids.Nodup)
    (run_lt : ∀ wid ∈ s'.running_work_items, wid < s'.futures.length) : Inv fn s' := by
  refine ⟨pend_lt, unres_pend, ids_pend, res_ok, ?_, ?_, ?_, not_crashed, ids_lt, ids_nodup, run_lt⟩
  · intro it hit
    rcases hcq it hit with h' | h'
    · exact hF.item (h.cq_ok it h')
    · exact h'
  · intro w hw it hc
    rcases hcur w hw it hc with ⟨w0, hw0, hc0⟩ | h'
    · exact hF.item (h.cur_ok w0 hw0 it hc0)
    · exact h'
  · intro m hm
    rcases hpipe m hm with h' | h'
    · exact hF.msg (h.pipe_ok m h')
    · exact h'

theorem inv_init (fn : Nat → Nat) (mw qs fp : Nat) : Inv fn (State.init mw qs fp) := by
  constructor <;> simp [State.init]

theorem inv_enqueue {wid : Nat} {rest : List Nat} {r : FutRec}
    (h : Inv fn s) (hm : s.mgr = .running) (hids : s.work_ids = wid :: rest)
    (hwp : wid ∈ s.pending_work_items) (hr0 : s.futures[wid]? = some r) :
    Inv fn (enqueue s wid rest r) := by
  have hnd : (wid :: rest).Nodup := hids ▸ h.ids_nodup
  have hwr : wid ∉ rest := (List.nodup_cons.mp hnd).1
  apply h.of_frame
  case hF =>
    refine ⟨?_, ?_, ?_⟩
    · intro i r' hi; simp only [enqueue, getElem?_setFut]; exact arg_of_map hi
    · intro w hw; exact Or.inl hw
    · intro w hw _; simp [enqueue, hw]
  case hcq =>
    intro it hit
    simp only [enqueue, List.mem_append, List.mem_singleton] at hit
    rcases hit with hit | rfl
    · exact Or.inl hit
    · right
      refine ⟨⟨{ r with st := .running }, ?_, rfl⟩, ?_⟩
      · simp [enqueue, getElem?_setFut, hr0]
      · intro _; simp [enqueue]
  case hcur =>
    intro w hw it hc; exact Or.inl ⟨w, hw, hc⟩
  case hpipe =>
    intro m hm; exact Or.inl hm
  case pend_lt =>
    intro w hw; simpa [enqueue] using h.pend_lt w hw
  case unres_pend =>
    intro i r' hi hu
    simp only [enqueue, getElem?_setFut] at hi
    rcases of_map_eq_some hi with ⟨_, hi⟩ | ⟨heq, _⟩
    · exact h.unres_pend i r' hi hu
    · exact heq ▸ hwp
  case ids_pend =>
    intro _ w hw
    simp only [enqueue] at hw
    have := h.ids_pend (Or.inl hm) w (by rw [hids]; simp [hw])
    refine ⟨this.1, ?_⟩
    simp only [enqueue, List.mem_append, List.mem_singleton, not_or]
    exact ⟨this.2, fun e => hwr (e ▸ hw)⟩
  case res_ok =>
    intro i r' v hi hv
    simp only [enqueue, getElem?_setFut] at hi
    rcases of_map_eq_some hi with ⟨_, hi⟩ | ⟨_, _, _, rfl⟩
    · exact h.res_ok i r' v hi hv
    · cases hv
  case not_crashed =>
    exact h.not_crashed
  case ids_lt =>
    intro w hw
    simp only [enqueue] at hw
    simpa [enqueue] using h.ids_lt w (by rw [hids]; simp [hw])
  case ids_nodup =>
    simpa [enqueue] using (List.nodup_cons.mp hnd).2
  case run_lt =>
    intro w hw
    simp only [enqueue, List.mem_append, List.mem_singleton] at hw
    rcases hw with hw | rfl
    · simpa [enqueue] using h.run_lt w hw
    · simpa [enqueue] using h.pend_lt _ hwp

theorem inv_addCallItems (h : Inv fn s) (hr : s.mgr = .running) :
    Inv fn (addCallItems s) ∧ (addCallItems s).mgr = .running := by
  suffices ∀ ids s, s.work_ids = ids → Inv fn s → s.mgr = .running →
      Inv fn (addCallItemsLoop ids s) ∧ (addCallItemsLoop ids s).mgr = .running from this _ s rfl h hr
  intro ids
  induction ids with
  | nil => exact fun s _ h hr => ⟨h, hr⟩
  | cons wid rest ih =>
    intro s hids h hr
    have hwp : wid ∈ s.pending_work_items := (h.ids_pend (Or.inl hr) wid (by rw [hids]; simp)).1
    have hlt := h.pend_lt wid hwp
    obtain ⟨r, hr0⟩ : ∃ r, s.futures[wid]? = some r := ⟨s.futures[wid], by simp [hlt]⟩
    unfold addCallItemsLoop
    split
    · exact ⟨h, hr⟩
    · simp only [hr0]
      exact ih _ rfl (inv_enqueue h hr hids hwp hr0) hr

theorem addCallItemsLoop_unresolved (ids : List Nat) (s : State) (i : Nat) (r : FutRec)
    (hi : s.futures[i]? = some r) (hu : r.st.unresolved = true) :
    ∃ r' : FutRec, (addCallItemsLoop ids s).futures[i]? = some r' ∧ r'.st.unresolved = true := by
  induction ids generalizing s r with
  | nil => exact ⟨r, hi, hu⟩
  | cons wid rest ih =>
    unfold addCallItemsLoop
    split
    · exact ⟨r, hi, hu⟩
    · split
      · split
        · rename_i r0 hr0
          by_cases hiw : i = wid
          · subst hiw
            exact ih (enqueue s i rest r0) { r with st := .running } (by simp [enqueue, getElem?_setFut, hi]) rfl
          · exact ih (enqueue s wid rest r0) r (by simp [enqueue, getElem?_setFut, hiw, hi]) hu
        · exact ⟨r, hi, hu⟩
      · exact ⟨r, hi, hu⟩

theorem Inv.of_same {s' : State} (h : Inv fn s)
    (e1 : s'.futures = s.futures) (e2 : s'.pending_work_items = s.pending_work_items)
    (e3 : s'.running_work_items = s.running_work_items) (e4 : s'.work_ids = s.work_ids)
    (hcq : s'.call_queue ⊆ s.call_queue)
    (hcur : ∀ w ∈ s'.processes, w ∈ s.processes ∨ w.current = none)
    (hpipe : s'.result_pipe ⊆ s.result_pipe)
    (hm : s'.mgr = s.mgr ∨ s'.mgr = .exited ∨ (s.mgr = .notStarted ∧ s'.mgr = .running)) : Inv fn s' := by
  apply h.of_frame (Frame.of_eq e1 e2 e3) (fun it hit => Or.inl (hcq hit)) (hpipe := fun m hm => Or.inl (hpipe hm))
  case hcur =>
    intro w hw it hc
    rcases hcur w hw with hw | hn
    · exact Or.inl ⟨w, hw, hc⟩
    · rw [hn] at hc; cases hc
  case pend_lt => rw [e1, e2]; exact h.pend_lt
  case unres_pend => rw [e1, e2]; exact h.unres_pend
  case ids_pend =>
    intro hm'
    rw [e2, e3, e4]
    apply h.ids_pend
    rcases hm with hm | hm | ⟨hm, _⟩
    · rw [← hm]; exact hm'
    · rw [hm] at hm'; rcases hm' with h' | h' <;> cases h'
    · exact Or.inr hm
  case res_ok => rw [e1]; exact h.res_ok
  case not_crashed =>
    rcases hm with hm | hm | ⟨_, hm⟩
    · rw [hm]; exact h.not_crashed
    · rw [hm]; intro h'; cases h'
    · rw [hm]; intro h'; cases h'
  case ids_lt => rw [e1, e4]; exact h.ids_lt
  case ids_nodup => rw [e4]; exact h.ids_nodup
  case run_lt => rw [e1, e3]; exact h.run_lt

theorem inv_received (h : Inv fn s) (rest : List Msg)
    (hsub : rest ⊆ s.result_pipe) : Inv fn (received s rest) :=
  h.of_same rfl rfl rfl rfl (fun _ h => h) (fun _ h => Or.inl h) hsub (Or.inl rfl)

theorem inv_complete {wid : Nat} {st : Fut} (h : Inv fn s)
    (hrun : wid ∈ s.running_work_items) (hres : st.unresolved = false)
    (hval : ∀ v r, st = .result v → s.futures[wid]? = some r → v = fn r.arg) :
    Inv fn (complete s wid st) := by
  apply h.of_frame
  case hF =>
    refine ⟨?_, ?_, ?_⟩
    · intro i r' hi; simp only [complete, getElem?_setFut]; exact arg_of_map hi
    · intro w hw; left; simp only [complete, List.mem_filter] at hw; exact hw.1
    · intro w hw hp
      simp only [complete, List.mem_filter, bne_iff_ne] at hp
      exact (List.mem_erase_of_ne hp.2).mpr hw
  case hcq =>
    intro it hit; exact Or.inl hit
  case hcur =>
    intro w hw it hc; exact Or.inl ⟨w, hw, hc⟩
  case hpipe =>
    intro m hm; exact Or.inl hm
  case pend_lt =>
    intro w hw
    simp only [complete, List.mem_filter] at hw
    simpa [complete] using h.pend_lt w hw.1
  case unres_pend =>
    intro i r' hi hu
    simp only [complete, getElem?_setFut] at hi
    rcases of_map_eq_some hi with ⟨hne, hi⟩ | ⟨_, _, _, rfl⟩
    · simp only [complete, List.mem_filter, bne_iff_ne]
      exact ⟨h.unres_pend i r' hi hu, hne⟩
    · rw [hres] at hu; cases hu
  case ids_pend =>
    intro hm w hw
    have := h.ids_pend hm w hw
    have hne : w ≠ wid := fun e => this.2 (e ▸ hrun)
    simp only [complete, List.mem_filter, bne_iff_ne]
    exact ⟨⟨this.1, hne⟩, fun hx => this.2 (List.mem_of_mem_erase hx)⟩
  case res_ok =>
    intro i r' v hi hv
    simp only [complete, getElem?_setFut] at hi
    rcases of_map_eq_some hi with ⟨_, hi⟩ | ⟨heq, r0, hx, rfl⟩
    · exact h.res_ok i r' v hi hv
    · exact hval v r0 hv (heq ▸ hx)
  case not_crashed =>
    exact h.not_crashed
  case ids_lt =>
    intro w hw; simpa [complete] using h.ids_lt w hw
  case ids_nodup =>
    exact h.ids_nodup
  case run_lt =>
    intro w hw
    simp only [complete] at hw
    simpa [complete] using h.run_lt w (List.mem_of_mem_erase hw)

theorem inv_flags (h : Inv fn s) (f : Flags) : Inv fn { s with flags := f } :=
  h.of_same rfl rfl rfl rfl (fun _ h => h) (fun _ h => Or.inl h) (fun _ h => h) (Or.inl rfl)

theorem inv_adjust (h : Inv fn s) : Inv fn (adjustProcessCount s) := by
  unfold adjustProcessCount
  rw [spawn_eq]
  refine h.of_same rfl rfl rfl rfl (fun _ h => h) ?_ (fun _ h => h) (Or.inl rfl)
  intro w hw
  exact (List.mem_append.mp hw).imp_right (newWorkers_fresh _ _ w)

theorem inv_fail_join (h : Inv fn s) (e : Exc) :
    Inv fn (joinExecutorInternals (killWorkers (failPending s e))) := by
  apply h.of_frame
  case hF =>
    refine ⟨?_, ?_, ?_⟩
    · intro i r' hi; simp only [joinExecutorInternals, killWorkers, failPending, getElem?_failAll]; exact arg_of_map hi
    · intro w hw; simp [joinExecutorInternals, killWorkers, failPending] at hw
    · intro w _ hw; simp [joinExecutorInternals, killWorkers, failPending] at hw
  case hcq =>
    intro it hit; exact Or.inl hit
  case hcur =>
    intro w hw; simp [joinExecutorInternals, killWorkers, failPending] at hw
  case hpipe =>
    intro m hm; exact Or.inl hm
  case pend_lt =>
    intro w hw; simp [joinExecutorInternals, killWorkers, failPending] at hw
  case unres_pend =>
    intro i r' hi hu
    simp only [joinExecutorInternals, killWorkers, failPending, getElem?_failAll] at hi
    rcases of_map_eq_some hi with ⟨hni, hi⟩ | ⟨_, _, _, rfl⟩
    · exact absurd (h.unres_pend i r' hi hu) hni
    · cases hu
  case ids_pend =>
    intro hm; simp [joinExecutorInternals] at hm
  case res_ok =>
    intro i r' v hi hv
    simp only [joinExecutorInternals, killWorkers, failPending, getElem?_failAll] at hi
    rcases of_map_eq_some hi with ⟨_, hi⟩ | ⟨_, _, _, rfl⟩
    · exact h.res_ok i r' v hi hv
    · cases hv
  case not_crashed =>
    simp [joinExecutorInternals]
  case ids_lt =>
    intro w hw; simpa [joinExecutorInternals, killWorkers, failPending] using h.ids_lt w hw
  case ids_nodup =>
    exact h.ids_nodup
  case run_lt =>
    intro w hw; simpa [joinExecutorInternals, killWorkers, failPending] using h.run_lt w hw

theorem inv_terminateBroken (h : Inv fn s) (e : Exc) :
    Inv fn (terminateBroken s e) := by
  unfold terminateBroken flagAsBroken
  exact inv_fail_join (inv_flags h _) e

theorem inv_processResultItem (h : Inv fn s) (m : Msg) (hm : MsgOk fn s m) :
    Inv fn (processResultItem s m) := by
  cases m with
  | pid p =>
    have hfilt : Inv fn { s with processes := s.processes.filter (fun w => w.pid != p) } :=
      h.of_same rfl rfl rfl rfl (fun _ h => h) (fun _ hw => Or.inl (List.mem_filter.mp hw).1) (fun _ h => h)
        (Or.inl rfl)
    simp only [processResultItem, reapWorker]
    split
    · exact inv_adjust hfilt
    · exact hfilt
  | result wid v =>
    simp only [processResultItem]
    split
    · rename_i hp
      have hr := hm.2 hp
      rw [if_pos hr]
      apply inv_complete h hr rfl
      intro v' r hv hr'
      obtain ⟨⟨r0, hr0, hv0⟩, _⟩ := hm
      rw [hr0] at hr'; cases hr'; cases hv; exact hv0
    · exact h
  | taskExc wid =>
    simp only [processResultItem]
    split
    · rename_i hp
      have hr := hm.2 hp
      rw [if_pos hr]
      apply inv_complete h hr rfl
      intro v' r hv; cases hv
    · exact h
  | remoteTb | unpicklable => exact h

theorem inv_finishIteration (h : Inv fn s) : Inv fn (finishIteration s).1 := by
  rcases finishIteration_cases s with ⟨_, h'⟩ | ⟨f, _, h' | ⟨_, h'⟩ | h'⟩ <;> rw [h']
  · exact h
  · exact inv_flags h f
  · exact h.of_same rfl rfl rfl rfl (fun _ h => h) (fun _ hw => nomatch hw) (fun _ h => h) (Or.inr (Or.inl rfl))
  · exact inv_fail_join (inv_flags h f) _

theorem inv_waitStep (h : Inv fn s) (ws : List Nat) : Inv fn (waitStep s ws).1 := by
  unfold waitStep
  split
  · rename_i m rest hpipe
    have h2 := inv_received h rest (fun x hx => by rw [hpipe]; exact List.mem_cons_of_mem _ hx)
    have hmok : MsgOk fn (received s rest) m :=
      (Frame.of_eq rfl rfl rfl).msg (h.pipe_ok m (by rw [hpipe]; exact List.mem_cons_self))
    split
    · exact inv_terminateBroken h2 _
    · exact inv_terminateBroken h2 _
    · exact inv_finishIteration (inv_processResultItem h2 _ hmok)
  · split <;> exact h
  · split
    · exact inv_finishIteration (inv_received h [] (by simp))
    · split
      · exact h
      · exact inv_terminateBroken h _

theorem managerStep_of_inv (h : Inv fn s) (hr : s.mgr = .running) :
    managerStep s = waitStep (addCallItems s) (pidsOf (addCallItems s).processes) := by
  rw [managerStep_eq, if_neg (by simp [hr]), if_neg (by rw [(inv_addCallItems h hr).2]; simp)]

theorem inv_managerStep (h : Inv fn s) : Inv fn (managerStep s).1 := by
  by_cases hr : s.mgr = .running
  · rw [managerStep_of_inv h hr]
    exact inv_waitStep (inv_addCallItems h hr).1 _
  · rw [managerStep_eq, if_pos hr]
    exact h

theorem inv_register (h : Inv fn s) (arg : Nat) : Inv fn (register s arg) := by
  apply h.of_frame
  case hF =>
    refine ⟨?_, ?_, ?_⟩
    · intro i r hi
      have hlt : i < s.futures.length := (List.getElem?_eq_some_iff.mp hi).1
      exact ⟨r, by simp [register, List.getElem?_append_left hlt, hi], rfl⟩
    · intro w hw
      simp only [register, List.mem_append, List.mem_singleton] at hw
      rcases hw with hw | rfl
      · exact Or.inl hw
      · right; simp
    · intro w hw _; exact hw
  case hcq =>
    intro it hit; exact Or.inl hit
  case hcur =>
    intro w hw it hc; exact Or.inl ⟨w, hw, hc⟩
  case hpipe =>
    intro m hm; exact Or.inl hm
  case pend_lt =>
    intro w hw
    simp only [register, List.mem_append, List.mem_singleton] at hw
    simp only [register, List.length_append, List.length_singleton]
    rcases hw with hw | rfl
    · have := h.pend_lt w hw; omega
    · omega
  case unres_pend =>
    intro i r hi hu
    simp only [register, List.mem_append, List.mem_singleton]
    by_cases hlt : i < s.futures.length
    · left
      simp only [register, List.getElem?_append_left hlt] at hi
      exact h.unres_pend i r hi hu
    · right
      have := (List.getElem?_eq_some_iff.mp hi).1
      simp only [register, List.length_append, List.length_singleton] at this
      omega
  case ids_pend =>
    intro hm w hw
    simp only [register, List.mem_append, List.mem_singleton] at hw ⊢
    rcases hw with hw | rfl
    · have := h.ids_pend hm w hw
      exact ⟨Or.inl this.1, this.2⟩
    · refine ⟨Or.inr rfl, fun hx => ?_⟩
      have := h.run_lt _ hx; omega
  case res_ok =>
    intro i r v hi hv
    by_cases hlt : i < s.futures.length
    · simp only [register, List.getElem?_append_left hlt] at hi
      exact h.res_ok i r v hi hv
    · have hl := (List.getElem?_eq_some_iff.mp hi).1
      simp only [register, List.length_append, List.length_singleton] at hl
      have : i = s.futures.length := by omega
      subst this
      simp [register] at hi
      subst hi; simp at hv
  case not_crashed =>
    exact h.not_crashed
  case ids_lt =>
    intro w hw
    simp only [register, List.mem_append, List.mem_singleton] at hw
    simp only [register, List.length_append, List.length_singleton]
    rcases hw with hw | rfl
    · have := h.ids_lt w hw; omega
    · omega
  case ids_nodup =>
    simp only [register]
    apply List.nodup_append.mpr
    refine ⟨h.ids_nodup, by simp, ?_⟩
    intro a ha b hb
    simp at hb; subst hb
    have := h.ids_lt a ha; omega
  case run_lt =>
    intro w hw
    simp only [register, List.length_append, List.length_singleton]
    have := h.run_lt w hw; omega

theorem inv_startManager (h : Inv fn s) : Inv fn (startManager s) := by
  refine h.of_same rfl rfl rfl rfl (fun _ h => h) (fun _ h => Or.inl h) (fun _ h => h) ?_
  simp only [startManager]
  by_cases e : s.mgr = .notStarted
  · right; right; exact ⟨e, by simp [e]⟩
  · left; simp [e]

theorem inv_submit (h : Inv fn s) (arg : Nat) : Inv fn (submit s arg).1 := by
  unfold submit
  split
  · exact h
  · split
    · exact h
    · simp only [ensureRunning]
      apply inv_startManager
      split
      · exact inv_adjust (inv_register h arg)
      · exact inv_register h arg

theorem inv_step (h : Inv fn s) (e : Event) : Inv fn (step fn s e) := by
  cases e using Event.envCases with
  | submit arg => exact inv_submit h arg
  | shutdown kw => exact h.of_same rfl rfl rfl rfl (fun _ h => h) (fun _ h => Or.inl h) (fun _ h => h) (Or.inl rfl)
  | mgr => exact inv_managerStep h
  | env e =>
    obtain ⟨pid, f, cq, ms, pm, M⟩ := step_env fn s e
    have hcq : cq ⊆ s.call_queue := by
      rcases M.queue with rfl | ⟨it0, hq⟩
      · exact fun _ hit => hit
      · rw [hq]; exact fun _ hit => List.mem_cons_of_mem _ hit
    rw [M.eq]
    -- no table of futures or ids is written: the other clauses, `ItemOk` and `MsgOk` read the same of both states
    refine { h with cq_ok := fun it hit => h.cq_ok it (hcq hit), cur_ok := ?_, pipe_ok := ?_ }
    · intro w' hw' it hc
      obtain ⟨w0, hw0, rfl⟩ := mem_updWorker hw'
      split at hc
      · rcases M.cur w0 it hc with h' | h'
        · exact h.cur_ok w0 hw0 it h'
        · exact h.cq_ok it (by rw [h']; exact List.mem_cons_self)
      · exact h.cur_ok w0 hw0 it hc
    · intro m hm
      rcases List.mem_append.mp hm with hm | hm
      · exact h.pipe_ok m hm
      · -- a new message is about the task in the writer's hands
        rcases M.pipe with ⟨rfl, _⟩ | ⟨w, hg, _, _, hms⟩
        · cases hm
        · rcases hms m hm with rfl | ⟨rfl, _⟩ | ⟨it, hc, hm'⟩
          · trivial
          · trivial
          · obtain ⟨⟨r, hr, ha⟩, hp⟩ := h.cur_ok w (getWorker_mem hg).1 it hc
            rcases hm' with rfl | rfl
            · exact ⟨⟨r, hr, by rw [ha]⟩, hp⟩
            · exact ⟨⟨r, hr⟩, hp⟩

theorem inv_run (h : Inv fn s) (evs : List Event) : Inv fn (run fn s evs) :=
  List.foldlRecOn evs _ h (fun _ h e _ => inv_step h e)

theorem DeadIn.mem_pidsOf {s : State} {p : Nat} (hd : DeadIn s p) : p ∈ pidsOf s.processes :=
  let ⟨w, hw, hp, _⟩ := hd
  hp ▸ List.mem_map.mpr ⟨w, hw, rfl⟩

theorem DeadIn.addCallItems {s : State} {p : Nat} (hd : DeadIn s p) : DeadIn (addCallItems s) p := by
  obtain ⟨_, _, _, _, _, heq, _⟩ := addCallItems_eq s
  rw [heq]; exact hd

theorem managerStep_not_blockedInWait (s : State) (p : Nat) (hd : DeadIn s p) :
    (managerStep s).2 ≠ .blockedInWait := by
  rw [managerStep_eq]
  split
  · simp
  · split
    · simp
    · exact waitStep_dead_waited _ _ p hd.addCallItems hd.addCallItems.mem_pidsOf

theorem deadIn_step (fn : Nat → Nat) (s : State) (p : Nat) (e : Event) (hd : DeadIn s p) (hne : e ≠ .mgr) :
    DeadIn (step fn s e) p := by
  cases e using Event.envCases with
  | mgr => exact absurd rfl hne
  | submit arg =>
    rcases submit_cases s arg with h | ⟨n, h⟩ <;> rw [step_submit, h]
    · exact hd
    · obtain ⟨w, hw, h1, h2⟩ := hd
      exact ⟨w, List.mem_append_left _ hw, h1, h2⟩
  | shutdown kw => exact hd
  | env e =>
    obtain ⟨pid, f, _, _, _, M⟩ := step_env fn s e
    rw [M.eq]
    exact updWorker_dead s.processes pid f (fun w => ⟨M.pid_eq w, M.dead w⟩) p hd

/-- "No worker dies between the first and the last byte of its result message": a partial message in the pipe has
a live writer. -/
def NoTornMessage (s : State) : Prop := ∀ w, s.partialMsg = some w → writerAlive s w = true

theorem noTorn_of_none {s : State} (h : s.partialMsg = none) : NoTornMessage s := by
  intro w hw; rw [h] at hw; cases hw

/-- No future of the executor is left `pending` or `running`: a `Parallel` call waiting on any of them returns or raises. -/
def Resolved (s : State) : Prop :=
  ∀ (wid : Nat) (r : FutRec), s.futures[wid]? = some r → r.st.unresolved = false

theorem resolved_of_no_pending (h : Inv fn s)
    (hp : s.pending_work_items = []) : Resolved s := by
  intro wid r hr
  cases hu : r.st.unresolved with
  | false => rfl
  | true => have := h.unres_pend wid r hr hu; rw [hp] at this; cases this

theorem terminateBroken_resolved (h : Inv fn s) (e : Exc) :
    (terminateBroken s e).mgr = .exited ∧ Resolved (terminateBroken s e) :=
  ⟨rfl, resolved_of_no_pending (inv_terminateBroken h e) rfl⟩

theorem managerSteps_not_running (k : Nat) (s : State) (h : s.mgr ≠ .running) : managerSteps k s = s := by
  induction k with
  | zero => rfl
  | succ k ih =>
    have : (managerStep s).1 = s := by unfold managerStep; simp [h]
    simp [managerSteps, this, ih]

theorem finishIteration_running (h : Inv fn s) (hr : s.mgr = .running) :
    ((finishIteration s).1.mgr = .exited ∧ Resolved (finishIteration s).1) ∨
    ∃ f, finishIteration s = ({ s with flags := f }, .progressed) := by
  have hI := inv_finishIteration h
  rcases finishIteration_cases s with ⟨hc, _⟩ | ⟨f, _, h' | ⟨hp, h'⟩ | h'⟩
  · rw [hr] at hc; cases hc
  · exact Or.inr ⟨f, h'⟩
  · rw [h'] at hI ⊢; exact Or.inl ⟨rfl, resolved_of_no_pending hI hp⟩
  · rw [h'] at hI ⊢; exact Or.inl ⟨rfl, resolved_of_no_pending hI rfl⟩

/-- What an iteration `r` of the manager from `s` achieves with the dead process `p` in sight: it ends the thread with every
future resolved, or it consumed one complete message, or (empty pipe) it consumed the pending wake-ups — and the
situation persists —, or it waits in `recv` for a live writer. -/
def DeadProgress (fn : Nat → Nat) (s : State) (p : Nat) (r : State × StepResult) : Prop :=
  (r.1.mgr = .exited ∧ Resolved r.1) ∨
  (r.2 = .progressed ∧ Inv fn r.1 ∧ r.1.mgr = .running ∧ DeadIn r.1 p ∧ r.1.partialMsg = s.partialMsg ∧
    r.1.wakeups = 0 ∧
    ((∃ m, s.result_pipe = m :: r.1.result_pipe) ∨ (s.result_pipe = [] ∧ r.1.result_pipe = [] ∧ s.wakeups > 0))) ∨
  (∃ w, r.2 = .blockedInRecv w ∧ writerAlive s w = true ∧ s.result_pipe = [] ∧ s.partialMsg = some w)

theorem waitStep_deadProgress {p : Nat} {ws : List Nat} (h : Inv fn s) (hr : s.mgr = .running)
    (hd : DeadIn s p) (hp : p ∈ ws) (hnt : NoTornMessage s) (hnp : ∀ q, Msg.pid q ∉ s.result_pipe) :
    DeadProgress fn s p (waitStep s ws) := by
  unfold DeadProgress
  have hI := inv_waitStep h ws
  have hnb := waitStep_dead_waited s ws p hd hp
  revert hI hnb
  unfold waitStep
  split
  · rename_i m rest hpipe
    have h2 := inv_received h rest (fun x hx => by rw [hpipe]; exact List.mem_cons_of_mem _ hx)
    have hmok : MsgOk fn (received s rest) m :=
      (Frame.of_eq rfl rfl rfl).msg (h.pipe_ok m (by rw [hpipe]; exact List.mem_cons_self))
    split
    · intro _ _; left; exact terminateBroken_resolved h2 _
    · intro _ _; left; exact terminateBroken_resolved h2 _
    · simp only []
      have h3 := inv_processResultItem h2 m hmok
      obtain ⟨fs, pw, rw, mg, heq, hmg⟩ := processResultItem_eq (received s rest) m
        (fun q e => hnp q (by rw [hpipe, e]; exact List.mem_cons_self))
      rw [heq] at h3 ⊢
      have hr3 : mg = .running := hmg.resolve_right h3.not_crashed ▸ hr
      rcases finishIteration_running h3 hr3 with hc | ⟨f, hf⟩
      · intro _ _; left; exact hc
      · rw [hf]
        intro hI _
        exact Or.inr (Or.inl ⟨rfl, hI, hr3, hd, rfl, rfl, Or.inl ⟨m, hpipe⟩⟩)
  · rename_i w hpipe hpart
    have hal : writerAlive s w = true := hnt w hpart
    simp only [hal, if_true]
    intro _ _
    exact Or.inr (Or.inr ⟨w, rfl, hal, hpipe, hpart⟩)
  · rename_i hpipe _
    split
    · rename_i hw
      rcases finishIteration_running (inv_received h [] (by simp)) hr with hc | ⟨f, hf⟩
      · intro _ _; left; exact hc
      · rw [hf]
        intro hI _
        exact Or.inr (Or.inl ⟨rfl, hI, hr, hd, rfl, rfl, Or.inr ⟨hpipe, rfl, hw⟩⟩)
    · split
      · intro _ hnb; exact absurd rfl hnb
      · intro _ _; left; exact terminateBroken_resolved h _

theorem managerStep_deadProgress {p : Nat} (h : Inv fn s) (hr : s.mgr = .running)
    (hd : DeadIn s p) (hnt : NoTornMessage s) (hnp : ∀ q, Msg.pid q ∉ s.result_pipe) :
    DeadProgress fn s p (managerStep s) := by
  obtain ⟨h1, hr1⟩ := inv_addCallItems h hr
  obtain ⟨_, _, _, _, _, heq, _⟩ := addCallItems_eq s
  have hd1 := hd.addCallItems
  have := waitStep_deadProgress h1 hr1 hd1 hd1.mem_pidsOf (by rw [heq]; exact hnt) (by rw [heq]; exact hnp)
  rw [managerStep_of_inv h hr]
  rw [heq] at this ⊢
  exact this

theorem managerSteps_exited (k : Nat) (s : State) (hx : (managerStep s).1.mgr = .exited) :
    managerSteps (k + 1) s = (managerStep s).1 :=
  managerSteps_not_running k _ (by rw [hx]; intro e; cases e)

/-- The iterations a manager running alone spends before it looks at the sentinels: one per buffered message (the result
reader has priority in `wait_result_broken_or_wakeup`), one for pending wake-ups on an empty pipe (so has the wake-up reader). -/
def backlog (s : State) : Nat := s.result_pipe.length + if s.wakeups > 0 ∧ s.result_pipe = [] then 1 else 0

theorem backlog_of_no_wakeups (h : s.wakeups = 0) : backlog s = s.result_pipe.length := by
  simp [backlog, h]

theorem backlog_le (s : State) : backlog s ≤ s.result_pipe.length + 1 :=
  Nat.add_le_add_left (by split <;> decide) _

theorem managerSteps_dead_exits {p : Nat} :
    ∀ (k : Nat) (s : State), backlog s < k → Inv fn s → s.mgr = .running → DeadIn s p →
      s.partialMsg = none → (∀ q, Msg.pid q ∉ s.result_pipe) →
      (managerSteps k s).mgr = .exited ∧ Resolved (managerSteps k s) := by
  intro k
  induction k with
  | zero => intro s hk; cases hk
  | succ k ih =>
    intro s hk h hr hd hpm hnp
    rcases managerStep_deadProgress h hr hd (noTorn_of_none hpm) hnp with
      ⟨hx, hres⟩ | ⟨_, h', hr', hd', hpm', hw0, hx⟩ | ⟨w, _, _, _, hw'⟩
    · rw [managerSteps_exited _ _ hx]; exact ⟨hx, hres⟩
    · -- an iteration that does not end the thread takes a message or the wake-ups off the backlog and leaves no wake-up behind
      rcases hx with ⟨m, hm⟩ | ⟨hp, hp', hw⟩
      · refine ih _ ?_ h' hr' hd' (hpm'.trans hpm) (fun q hq => hnp q (by rw [hm]; exact List.mem_cons_of_mem _ hq))
        simp only [backlog, hm, List.length_cons, reduceCtorEq, and_false, if_false] at hk
        rw [backlog_of_no_wakeups hw0]; omega
      · refine ih _ ?_ h' hr' hd' (hpm'.trans hpm) (by rw [hp']; simp)
        have : backlog s = 1 := by simp [backlog, hp, hw]
        rw [backlog_of_no_wakeups hw0, hp']; simp only [List.length_nil]; omega
    · rw [hpm] at hw'; cases hw'

/-- The hazard: the manager is running, the pipe holds only the first bytes of a message, and their writer is
a dead process still in `processes`. -/
def Torn (s : State) (w : Nat) : Prop :=
  s.mgr = .running ∧ s.result_pipe = [] ∧ s.partialMsg = some w ∧
    ∃ wk, getWorker s.processes w = some wk ∧ wk.alive = false

theorem Torn.partialMsg {s : State} {w : Nat} (h : Torn s w) : s.partialMsg = some w := h.2.2.1

theorem torn_writer_dead {s : State} {w : Nat} (h : Torn s w) : writerAlive s w = false := by
  obtain ⟨_, _, _, wk, hg, ha⟩ := h
  simp [writerAlive, hg, ha]

theorem torn_stuck {w : Nat} (hI : Inv fn s) (h : Torn s w) :
    (managerStep s).2 = .stuckInRecv w ∧ (managerStep s).1 = addCallItems s := by
  obtain ⟨_, _, _, _, _, heq, _⟩ := addCallItems_eq s
  have hwd : writerAlive (addCallItems s) w = false := by have := torn_writer_dead h; rw [heq]; exact this
  obtain ⟨hr, hp, hm, _⟩ := h
  have hpipe : (addCallItems s).result_pipe = [] := by rw [heq]; exact hp
  have hpart : (addCallItems s).partialMsg = some w := by rw [heq]; exact hm
  rw [managerStep_of_inv hI hr]
  simp [waitStep, hpipe, hpart, hwd]

/-- Once the pipe is torn nothing the workers, the OS, the client or the manager can do mends it, and no future is
resolved: the manager only runs `add_call_item_to_queue`, and no worker may write behind the partial message. -/
theorem torn_step {w : Nat} (hI : Inv fn s) (h : Torn s w) (e : Event) :
    Torn (step fn s e) w ∧
    ∀ (i : Nat) (r : FutRec), s.futures[i]? = some r → r.st.unresolved = true →
      ∃ r' : FutRec, (step fn s e).futures[i]? = some r' ∧ r'.st.unresolved = true := by
  have hstuck := (torn_stuck hI h).2
  obtain ⟨hr, hpipe, hpart, wk, hg, ha⟩ := h
  cases e using Event.envCases with
  | mgr =>
    rw [step_mgr, hstuck]
    obtain ⟨_, _, _, _, _, heq, _⟩ := addCallItems_eq s
    refine ⟨⟨(inv_addCallItems hI hr).2, by rw [heq]; exact hpipe, by rw [heq]; exact hpart,
      by rw [heq]; exact ⟨wk, hg, ha⟩⟩, ?_⟩
    exact addCallItemsLoop_unresolved s.work_ids s
  | submit arg =>
    rcases submit_cases s arg with h' | ⟨n, h'⟩ <;> rw [step_submit, h']
    · exact ⟨⟨hr, hpipe, hpart, wk, hg, ha⟩, fun i r hi hu => ⟨r, hi, hu⟩⟩
    · refine ⟨⟨by simp [hr], hpipe, hpart, wk, by unfold getWorker at hg ⊢; rw [List.find?_append, hg]; rfl, ha⟩, fun i r hi hu => ⟨r, ?_, hu⟩⟩
      rw [List.getElem?_append_left (List.getElem?_eq_some_iff.mp hi).1]; exact hi
  | shutdown kw => exact ⟨⟨hr, hpipe, hpart, wk, hg, ha⟩, fun i r hi hu => ⟨r, hi, hu⟩⟩
  | env e =>
    obtain ⟨pid, f, cq, ms, pm, M⟩ := step_env fn s e
    obtain ⟨rfl, rfl⟩ : ms = [] ∧ pm = s.partialMsg := by
      rcases M.pipe with hp | ⟨w', hg', ha', hpm | hpm, _⟩
      · exact hp
      · rw [hpart] at hpm; cases hpm
      · -- the writer of the partial message is dead
        rw [hpart] at hpm; cases hpm; rw [hg] at hg'; cases hg'; rw [ha] at ha'; cases ha'
    rw [M.eq]
    refine ⟨⟨hr, by simpa using hpipe, hpart, ?_⟩, fun i r hi hu => ⟨r, hi, hu⟩⟩
    rw [getWorker_updWorker _ _ _ _ M.pid_eq, hg]
    refine ⟨_, rfl, ?_⟩
    dsimp only
    split
    · exact M.dead wk ha
    · exact ha

theorem torn_forever {w : Nat} (evs : List Event) :
    ∀ {s : State}, Inv fn s → Torn s w →
      Torn (run fn s evs) w ∧ (managerStep (run fn s evs)).2 = .stuckInRecv w ∧
      ∀ (i : Nat) (r : FutRec), s.futures[i]? = some r → r.st.unresolved = true →
        ∃ r' : FutRec, (run fn s evs).futures[i]? = some r' ∧ r'.st.unresolved = true := by
  induction evs with
  | nil =>
    intro s hI h
    exact ⟨h, (torn_stuck hI h).1, fun i r hi hu => ⟨r, hi, hu⟩⟩
  | cons e es ih =>
    intro s hI h
    obtain ⟨ht, hu⟩ := torn_step hI h e
    obtain ⟨a, b, c⟩ := ih (inv_step hI e) ht
    exact ⟨a, b, fun i r hi hr => let ⟨r1, h1, hu1⟩ := hu i r hi hr; c i r1 h1 hu1⟩

theorem step_broken_sticky (fn : Nat → Nat) (s : State) (e : Event) (h : s.flags.broken.isSome = true) :
    (step fn s e).flags.broken.isSome = true := by
  cases e using Event.envCases with
  | mgr =>
    obtain ⟨_, _, _, _, _, heq, _⟩ := addCallItems_eq s
    have h1 : (addCallItems s).flags.broken.isSome = true := by rw [heq]; exact h
    rw [step_mgr, managerStep_eq]
    split
    · exact h
    · split
      · exact h1
      · rcases (waitStep_frame (addCallItems s) (pidsOf (addCallItems s).processes)).broken with e | e | e <;> rw [e]
        · exact h1
        · rfl
        · rfl
  | submit a =>
    cases hb : s.flags.broken with
    | none => rw [hb] at h; cases h
    | some b => simp [step_submit, submit, hb]
  | shutdown kw => exact h
  | env e =>
    obtain ⟨_, _, _, _, _, M⟩ := step_env fn s e
    rw [M.eq]; exact h

theorem resize_flags (s : State) (mw : Nat) : (resize s mw).flags = s.flags := by
  unfold resize
  split
  · rfl
  · split
    · rfl
    · simp [adjustProcessCount_flags]

theorem getReusableExecutor_replace {p : Pool} {i : Nat} {e : State} (mw qs : Nat) {reuse : Bool} (kw : Bool)
    (hc : p.current = some i) (he : p.execs[i]? = some e)
    (hb : (e.flags.broken.isSome || e.flags.shutdown || !reuse) = true) :
    getReusableExecutor p mw qs reuse kw =
      (⟨p.execs.set i (shutdown e kw) ++ [State.init mw qs (firstPid p.execs.length)], some p.execs.length⟩,
        p.execs.length, false) := by
  simp only [getReusableExecutor, hc, he, hb, if_true, createExecutor, List.length_set]

theorem getReusableExecutor_healthy (p : Pool) (mw qs : Nat) (reuse kw : Bool) :
    ∃ e, (getReusableExecutor p mw qs reuse kw).1.execs[(getReusableExecutor p mw qs reuse kw).2.1]? = some e ∧
      e.flags.broken = none ∧ e.flags.shutdown = false := by
  unfold getReusableExecutor
  split
  · exact ⟨State.init mw qs (firstPid p.execs.length), by simp [createExecutor], rfl, rfl⟩
  · rename_i i _
    split
    · exact ⟨State.init mw qs (firstPid p.execs.length), by simp [createExecutor], rfl, rfl⟩
    · rename_i e he
      split
      · refine ⟨State.init mw qs (firstPid p.execs.length), ?_, rfl, rfl⟩
        simp [createExecutor]
      · rename_i hc
        simp only [Bool.or_eq_true, Bool.not_eq_true', not_or, Bool.not_eq_true] at hc
        obtain ⟨⟨h1, h2⟩, _⟩ := hc
        have hlt : i < p.execs.length := (List.getElem?_eq_some_iff.mp he).1
        refine ⟨resize e mw, by simp [hlt], ?_, ?_⟩
        · rw [resize_flags]; cases hb : e.flags.broken with
          | none => rfl
          | some b => rw [hb] at h1; cases h1
        · rw [resize_flags]; exact h2

theorem getReusableExecutor_keeps_broken (p : Pool) (mw qs : Nat) (reuse kw : Bool) (j : Nat) (e : State)
    (hj : p.execs[j]? = some e) (hb : e.flags.broken.isSome = true) :
    ∃ e', (getReusableExecutor p mw qs reuse kw).1.execs[j]? = some e' ∧ e'.flags.broken.isSome = true := by
  have hlt : j < p.execs.length := (List.getElem?_eq_some_iff.mp hj).1
  unfold getReusableExecutor
  split
  · exact ⟨e, by simp [createExecutor, List.getElem?_append_left hlt, hj], hb⟩
  · rename_i i _
    split
    · exact ⟨e, by simp [createExecutor, List.getElem?_append_left hlt, hj], hb⟩
    · rename_i x hx
      split
      · by_cases hij : i = j
        · subst hij
          rw [hj] at hx; cases hx
          refine ⟨shutdown e kw, ?_, hb⟩
          simp [createExecutor, List.getElem?_append_left, hlt]
        · refine ⟨e, ?_, hb⟩
          have := (List.getElem?_eq_some_iff.mp hj).2
          simp [createExecutor, List.getElem?_append_left, hlt, hij, this]
      · by_cases hij : i = j
        · subst hij
          rw [hj] at hx; cases hx
          refine ⟨resize e mw, by simp [hlt], ?_⟩
          rw [resize_flags]; exact hb
        · exact ⟨e, by simp [hij, hj], hb⟩

theorem broken_never_returned (fn : Nat → Nat) (ops : List PoolOp) (pr : Pool × List Nat) (j : Nat) (e : State)
    (hj : pr.1.execs[j]? = some e) (hb : e.flags.broken.isSome = true) (hn : j ∉ pr.2) :
    j ∉ (poolRun fn pr ops).2 := by
  refine (List.foldlRecOn ops _ (motive := fun pr : Pool × List Nat =>
    (∃ e, pr.1.execs[j]? = some e ∧ e.flags.broken.isSome = true) ∧ j ∉ pr.2) ⟨⟨e, hj, hb⟩, hn⟩ ?_).2
  rintro pr ⟨⟨e, hj, hb⟩, hn⟩ op _
  cases op with
  | exec i ev =>
    simp only [poolStep]
    split
    · rename_i x hx
      refine ⟨?_, hn⟩
      by_cases hij : i = j
      · subst hij
        rw [hj] at hx; cases hx
        exact ⟨step fn e ev, by simp [(List.getElem?_eq_some_iff.mp hj).1], step_broken_sticky fn e ev hb⟩
      · exact ⟨e, by simp [hij, hj], hb⟩
    · exact ⟨⟨e, hj, hb⟩, hn⟩
  | get mw qs reuse kw =>
    simp only [poolStep, List.mem_cons, not_or]
    obtain ⟨y, hy, hyb⟩ := getReusableExecutor_keeps_broken pr.1 mw qs reuse kw j e hj hb
    refine ⟨⟨y, hy, hyb⟩, fun hji => ?_, hn⟩
    -- the executor handed out is not broken, the one at `j` is
    obtain ⟨x, hx, hxb, _⟩ := getReusableExecutor_healthy pr.1 mw qs reuse kw
    rw [← hji, hy] at hx; cases hx
    rw [hxb] at hyb; cases hyb

theorem terminateBroken_untouched (s : State) (e : Exc) (wid : Nat) (h : wid ∉ s.pending_work_items) :
    (terminateBroken s e).futures[wid]? = s.futures[wid]? := by
  simp [terminateBroken, joinExecutorInternals, killWorkers, failPending, flagAsBroken, getElem?_failAll, h]

theorem terminateBroken_flags (s : State) (e : Exc) :
    (terminateBroken s e).flags.broken = some e ∧ (terminateBroken s e).flags.shutdown = true := ⟨rfl, rfl⟩

theorem submit_on_broken (s : State) (arg : Nat) (b : Exc) (h : s.flags.broken = some b) :
    submit s arg = (s, .error b) := by
  simp [submit, h]

/-- The executor is idle: manager asleep in `wait`, nothing pending, nothing in the pipes. -/
def Quiescent (s : State) : Prop :=
  s.mgr = .running ∧ s.pending_work_items = [] ∧ s.work_ids = [] ∧ s.result_pipe = [] ∧
    s.partialMsg = none ∧ s.wakeups = 0

theorem idle_death_step (s : State) (p : Nat) (hq : Quiescent s) (hd : DeadIn s p) :
    managerStep s = (terminateBroken s .terminatedWorker, .exited) ∧
    (terminateBroken s .terminatedWorker).futures = s.futures := by
  obtain ⟨hr, hp, hw, hpipe, hpart, hwk⟩ := hq
  have ha : addCallItems s = s := by simp [addCallItems, hw, addCallItemsLoop]
  constructor
  · rw [managerStep_eq, ha, if_neg (by simp [hr]), if_neg (by simp [hr]),
      waitStep_death hpipe hpart hwk hd hd.mem_pidsOf]
  · simp [terminateBroken, joinExecutorInternals, killWorkers, failPending, flagAsBroken, hp, failAll]

theorem poolStep_idle_death (fn : Nat → Nat) (p : Pool) (i : Nat) (e : State) (victim : Nat)
    (he : p.execs[i]? = some e) (hq : Quiescent e) (hd : DeadIn e victim) :
    (poolStep fn (p, []) (.exec i .mgr)).1 =
      { p with execs := p.execs.set i (terminateBroken e .terminatedWorker) } := by
  simp [poolStep, he, step_mgr, (idle_death_step e victim hq hd).1]

theorem getExitcodeName_ok (names : List (Nat × String)) (e : Int) :
    getExitcodeName names e =
      .ok (if e < 0 then (names.lookup (-e).toNat).getD "UNKNOWN" else if e ≠ 255 then "EXIT" else "UNKNOWN") := by
  unfold getExitcodeName signalsName
  split
  · cases h : names.lookup (-e).toNat <;> simp
  · split <;> rfl

theorem formatExitcodes_ok (names : List (Nat × String)) (es : List Int) :
    ∃ s, formatExitcodes names es = .ok s := by
  have hm : ∀ l : List Int, ∃ parts, l.mapM (fun e => do
      let n ← getExitcodeName names e
      pure (n ++ "(" ++ toString e ++ ")")) = (.ok parts : Except PyErr (List String)) := by
    intro l
    induction l with
    | nil => exact ⟨[], rfl⟩
    | cons a l ih =>
      obtain ⟨parts, hp⟩ := ih
      rw [List.mapM_cons, getExitcodeName_ok, hp]
      exact ⟨_, rfl⟩
  obtain ⟨parts, hp⟩ := hm es
  exact ⟨_, by unfold formatExitcodes; rw [hp]; rfl⟩

theorem submits_on_broken (s : State) (args : List Nat) (b : Exc) (h : s.flags.broken = some b) :
    submits s args = s := by
  unfold submits
  induction args with
  | nil => rfl
  | cons a as ih => rw [List.foldl_cons, submit_on_broken s a b h]; exact ih

theorem terminateBrokenInterleaved_eq (s : State) (bpe : Exc) (a1 a2 a3 : List Nat) :
    terminateBrokenInterleaved s bpe a1 a2 a3 = terminateBroken s bpe := by
  unfold terminateBrokenInterleaved terminateBroken
  rw [submits_on_broken (flagAsBroken s bpe) a1 bpe rfl,
    submits_on_broken (failPending (flagAsBroken s bpe) bpe) a2 bpe rfl,
    submits_on_broken (killWorkers (failPending (flagAsBroken s bpe) bpe)) a3 bpe rfl]

end JoblibModel.LokyMgr
