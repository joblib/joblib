import JoblibModel.FuncCodeFault
import JoblibProofs.Lemmas.FuncCode
/-! Lemmas for the write-fault extension of C12 (`JoblibModel.FuncCodeFault`).

Contents: `CorrectF`/`AllCorrectF`; with the code as it is (`swallow = false`) a faulted operation either RAISES —
and leaves the wrapper's cell as `⟨missing or empty file, no entry, no writer⟩`, which has `CellInv`
(`inv_writeFails`) — or the fault did not fire and the operation is the plain one (`stepF_faulty_cases`); so `Inv`
of `Lemmas.FuncCode` is kept by every faulted step and history (`stepF_spec`, `execF_spec`). -/
namespace JoblibModel.FuncCode
open JoblibModel.FilterArgs (dget)

variable {R : Type}

/-- What the property demands of one step of a history with faults: a faulted operation may raise (the
injected `OSError`), a plain one may not; a value that IS returned is the value the current code computes. -/
def CorrectF (sem : Src → Nat → R) (st : State R) (fop : FOp) : FOut R → Prop
  | .raised => ∃ f op, fop = .faulty f op
  | .out o => Correct sem st fop.op o

def AllCorrectF (cfg : Cfg) (swallow : Bool) (sem : Src → Nat → R) : State R → List FOp → Prop
  | _, [] => True
  | st, op :: ops =>
    CorrectF sem st op (stepF cfg swallow sem st op).1 ∧ AllCorrectF cfg swallow sem (stepF cfg swallow sem st op).2 ops

instance [DecidableEq R] (sem : Src → Nat → R) (st : State R) (fop : FOp) (out : FOut R) :
    Decidable (CorrectF sem st fop out) := by
  cases out with
  | raised =>
    cases fop with
    | plain op => exact isFalse (by rintro ⟨f, o, h⟩; cases h)
    | faulty f op => exact isTrue ⟨f, op, rfl⟩
  | out o => simp only [CorrectF]; exact inferInstance

instance instDecidableAllCorrectF [DecidableEq R] (cfg : Cfg) (swallow : Bool) (sem : Src → Nat → R) :
    ∀ (st : State R) (ops : List FOp), Decidable (AllCorrectF cfg swallow sem st ops)
  | _, [] => isTrue trivial
  | st, op :: ops =>
    have := instDecidableAllCorrectF cfg swallow sem (stepF cfg swallow sem st op).2 ops
    show Decidable (_ ∧ _) from inferInstance


variable {cfg : Cfg} {sem : Src → Nat → R} {st : State R} {t : Target}

/-- A write that fails in an empty function directory (nothing there yet, or `clear_path` has just run) keeps
the invariant: it leaves no file or an empty one, no entry, no writer. -/
theorem inv_writeFails (f : WriteFault) (hd : ∀ d, d ≠ t.dir → CellInv sem (cell st d))
    (hw : WrapsOK cfg st.wraps) (hk : wkey cfg t.key t.dir = t.dir)
    (hm : (dirAt st t.dir).code = .missing) (he : (dirAt st t.dir).entries = []) :
    Inv cfg sem (writeFails cfg st t f) := by
  refine ⟨fun d => ?_, hw⟩
  unfold cell
  by_cases e : d = t.dir
  · subst e
    rw [dirAt_set rfl, hm, he, show dget t.dir (writeFails cfg st t f).writers = none from
      hk ▸ dget_ddel_self _ _]
    cases f with
    | onOpen => exact cellInv_empty sem
    | onWrite => exact ⟨nofun, fun _ => nofun, fun _ _ => nofun, fun _ _ _ => nofun⟩
  · rw [dirAt_set_ne rfl e, show dget d (writeFails cfg st t f).writers = dget d st.writers from
      dget_ddel_ne (hk.symm ▸ e : d ≠ wkey cfg t.key t.dir) _]
    exact hd d e

/-- With the code as it is, the faulted check IS the plain check (the fault did not fire), or it raises from
the failing write — in a directory without `func_code.py`, or after `clear_path`. -/
theorem checkPreviousF_cases (cfg : Cfg) (st : State R) (t : Target) (f : WriteFault) :
    checkPreviousF cfg false st t f = (some (checkPrevious cfg st t).1, (checkPrevious cfg st t).2) ∨
    ((dirAt st t.dir).code = .missing ∧
      checkPreviousF cfg false st t f = (none, writeFails cfg (refresh cfg st t) t f)) ∨
    checkPreviousF cfg false st t f = (none, writeFails cfg (clearPath (refresh cfg st t) t) t f) := by
  unfold checkPreviousF checkPrevious
  split
  · exact .inl rfl
  · cases hc : (dirAt st t.dir).code with
    | missing => exact .inr (.inl ⟨rfl, rfl⟩)
    | unreadable | other => exact .inr (.inr rfl)
    | ok old =>
      simp only
      split
      · exact .inl rfl
      · exact .inr (.inr rfl)


/-- With the code as it is, a faulted operation IS the plain operation, or it goes through a live wrapper and
raises from the failing write — in a directory without `func_code.py`, or after `clear_path`.  For every
`cfg` (every version of the in-memory tables). -/
theorem stepF_faulty_cases (cfg : Cfg) (sem : Src → Nat → R) (st : State R) (f : WriteFault) (op : Op) :
    stepF cfg false sem st (.faulty f op) = (.out (step cfg sem st op).1, (step cfg sem st op).2) ∨
    ∃ w t, lookup st w = some t ∧ (stepF cfg false sem st (.faulty f op)).1 = .raised ∧
      (((dirAt st t.dir).code = .missing ∧
          (stepF cfg false sem st (.faulty f op)).2 = writeFails cfg (refresh cfg st t) t f) ∨
        (stepF cfg false sem st (.faulty f op)).2 = writeFails cfg (clearPath (refresh cfg st t) t) t f) := by
  cases op with
  | call w a | check w a =>
    cases hl : lookup st w with
    | none => exact .inl (by simp only [stepF, step, hl])
    | some t =>
      simp only [stepF, step, hl]
      rcases checkPreviousF_cases cfg st t f with e | ⟨hc, e⟩ | e <;> rw [e]
      · exact .inl (by simp only [isInCache]; split <;> simp_all)
      · exact .inr ⟨w, t, hl, rfl, .inl ⟨hc, rfl⟩⟩
      · exact .inr ⟨w, t, hl, rfl, .inr rfl⟩
  | clearFn w =>
    cases hl : lookup st w with
    | none => exact .inl (by simp only [stepF, step, hl])
    | some t =>
      obtain ⟨hw, _⟩ := lookup_spec hl
      exact .inr ⟨w, t, hl, by simp [stepF, hl, failWrite], .inr (by simp [stepF, hl, failWrite, refresh, hw])⟩
  | define _ _ _ _ | wrap _ _ _ _ | swap _ _ | clearAll _ | damage _ _ | fresh => exact .inl rfl

theorem stepF_spec (hg : Good cfg) (hi : Inv cfg sem st)
    (fop : FOp) (hnd : NoDelete fop.op) (hk : KeyOK cfg fop.op) :
    Inv cfg sem (stepF cfg false sem st fop).2 ∧ CorrectF sem st fop (stepF cfg false sem st fop).1 := by
  cases fop with
  | plain op => exact step_spec hg hi op hnd hk
  | faulty f op =>
    rcases stepF_faulty_cases cfg sem st f op with h | ⟨w, t, hl, hr, hst⟩
    · rw [h]; exact step_spec hg hi op hnd hk
    · refine ⟨?_, by rw [hr]; exact ⟨f, op, rfl⟩⟩
      have ht := lookup_tok hi hl
      have hi1 := (refresh_spec hg hi ht).2
      rcases hst with ⟨hc, e⟩ | e <;> rw [e]
      · exact inv_writeFails f (fun d _ => hi1.dirs d) hi1.wraps ht.2 hc ((hi.dirs t.dir).missing hc).1
      · refine inv_writeFails f (fun d hne => ?_) hi1.wraps ht.2 (by rw [dirAt_set rfl]) (by rw [dirAt_set rfl])
        unfold cell; rw [dirAt_set_ne rfl hne]; exact hi1.dirs d

theorem execF_spec (hg : Good cfg) :
    ∀ (ops : List FOp) (st : State R), Inv cfg sem st →
    (∀ op ∈ ops, NoDelete op.op) → (∀ op ∈ ops, KeyOK cfg op.op) →
    AllCorrectF cfg false sem st ops ∧ Inv cfg sem (execF cfg false sem st ops)
  | [], _, hi, _, _ => ⟨trivial, hi⟩
  | op :: ops, _, hi, hnd, hk =>
    have ⟨hnd1, hnd⟩ := List.forall_mem_cons.mp hnd
    have ⟨hk1, hk⟩ := List.forall_mem_cons.mp hk
    have h := stepF_spec hg hi op hnd1 hk1
    have ih := execF_spec hg ops _ h.1 hnd hk
    ⟨⟨h.2, ih.1⟩, ih.2⟩

end JoblibModel.FuncCode
