import JoblibModel.AutoBatch
/-!
Lemmas for `JoblibModel.AutoBatch` (`AutoBatchingMixin`): along any sequence of operations every batch size computed is
≥ 1 (`run_all_ge_one`, `final_eff_ge_one`); one `compute_batch_size()` at most doubles it (`compute_le_double`).
-/
namespace JoblibModel.AutoBatch

theorem batchSize_ge_one (s : St) (h : 1 ≤ s.eff) : 1 ≤ batchSize s := by
  unfold batchSize
  split
  · exact Nat.le_max_right _ _
  · split
    · exact Nat.le_max_right _ _
    · exact h

theorem compute_ge_one (s : St) (h : 1 ≤ s.eff) : 1 ≤ (compute s).2 ∧ 1 ≤ (compute s).1.eff := by
  simp only [compute]
  exact ⟨batchSize_ge_one s h, batchSize_ge_one s h⟩

theorem compute_le_double (s : St) (h : 1 ≤ s.eff) : (compute s).2 ≤ 2 * s.eff := by
  simp only [compute]
  unfold batchSize
  split
  · simp only [Nat.max_le]; omega
  · split
    · rename_i h2
      simp only [Bool.and_eq_true, decide_eq_true_eq] at h2
      have hi : ideal s.eff s.dur ≤ s.eff := by
        unfold ideal
        have hlt := h2.1
        simp only [Q.lt, Nat.mul_one, decide_eq_true_eq] at hlt
        apply Nat.div_le_of_le_mul
        calc s.eff * s.dur.den ≤ s.eff * (5 * s.dur.num) := by
              apply Nat.mul_le_mul_left; omega
          _ = 5 * s.dur.num * s.eff := by rw [Nat.mul_comm]
      simp only [Nat.max_le]; omega
    · omega

theorem completed_eff (s : St) (b : Nat) (d : Q) : (completed s b d).eff = s.eff := by
  unfold completed; split <;> (try split) <;> rfl

theorem step_ge_one (s : St) (op : Op) (h : 1 ≤ s.eff) :
    1 ≤ (step s op).1.eff ∧ ∀ b, (step s op).2 = some b → 1 ≤ b := by
  cases op with
  | compute => exact ⟨(compute_ge_one s h).2, fun b hb => Option.some.inj hb ▸ (compute_ge_one s h).1⟩
  | completed b d => exact ⟨(completed_eff s b d).symm ▸ h, nofun⟩
  | reset => exact ⟨Nat.le_refl 1, nofun⟩
  | newCall _ _ _ => exact ⟨h, nofun⟩

theorem run_cons (s : St) (op : Op) (r : List Op) :
    run s (op :: r) = (step s op).2.toList ++ run (step s op).1 r := by
  simp only [run]
  cases step s op with
  | mk s' o => cases o <;> rfl

theorem final_eff_ge_one (s : St) (ops : List Op) (h : 1 ≤ s.eff) : 1 ≤ (final s ops).eff := by
  induction ops generalizing s with
  | nil => exact h
  | cons op r ih => exact ih _ (step_ge_one s op h).1

theorem run_all_ge_one (s : St) (ops : List Op) (h : 1 ≤ s.eff) : ∀ b ∈ run s ops, 1 ≤ b := by
  induction ops generalizing s with
  | nil => intro b hb; cases hb
  | cons op r ih =>
    intro b hb
    rw [run_cons] at hb
    rcases List.mem_append.mp hb with hb | hb
    · exact (step_ge_one s op h).2 b (Option.mem_toList.mp hb)
    · exact ih _ (step_ge_one s op h).1 b hb

theorem run_append (s : St) (a b : List Op) : run s (a ++ b) = run s a ++ run (final s a) b := by
  induction a generalizing s with
  | nil => rfl
  | cons op r ih => rw [List.cons_append, run_cons, run_cons, ih, List.append_assoc]; rfl

end JoblibModel.AutoBatch
