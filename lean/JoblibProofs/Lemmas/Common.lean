/-! What no model owns and the lemma files of several models use.  The `List.getD_*` lemmas are the theory of a table read
with a default (`l.getD i d`: the tracker tables of the Parallel models); each model's `getT_*`/`getTrk_*`/`getOld_*` is an
instance.  A lemma with one user stays with that user. -/
namespace List
variable {α β : Type}

theorem getD_set_eq (l : List α) (i j : Nat) (a d : α) :
    (l.set i a).getD j d = if j = i ∧ i < l.length then a else l.getD j d := by
  simp only [getD_eq_getElem?_getD, getElem?_set]
  by_cases h : i = j
  · subst h; by_cases h2 : i < l.length <;> simp [h2]
  · simp [h, Ne.symm h]

theorem getD_append_left_of_lt (l l' : List α) (i : Nat) (d : α) (h : i < l.length) :
    (l ++ l').getD i d = l.getD i d := by
  simp [getD_eq_getElem?_getD, getElem?_append_left h]

theorem getD_concat_length (l : List α) (a d : α) : (l ++ [a]).getD l.length d = a := by
  simp [getD_eq_getElem?_getD]

theorem getD_of_length_le (l : List α) (i : Nat) (d : α) (h : l.length ≤ i) : l.getD i d = d := by
  simp [getD_eq_getElem?_getD, getElem?_eq_none h]

theorem getD_concat_eq (l : List α) (a d : α) (i : Nat) :
    (l ++ [a]).getD i d = if i < l.length then l.getD i d else if i = l.length then a else d := by
  by_cases h1 : i < l.length
  · rw [if_pos h1, getD_append_left_of_lt _ _ _ _ h1]
  · by_cases h2 : i = l.length
    · rw [if_neg h1, if_pos h2, h2, getD_concat_length]
    · rw [if_neg h1, if_neg h2, getD_of_length_le _ _ _ (by simp; omega)]

theorem getD_mem_or_eq (l : List α) (i : Nat) (d : α) : l.getD i d ∈ l ∨ l.getD i d = d := by
  rw [getD_eq_getElem?_getD]
  cases h : l[i]? with
  | none => exact .inr rfl
  | some a => exact .inl (mem_of_getElem? h)

theorem getD_map_of_lt (l : List α) (f : α → β) (i : Nat) (d : α) (d' : β) (h : i < l.length) :
    (l.map f).getD i d' = f (l.getD i d) := by
  simp [getD_eq_getElem?_getD, getElem?_eq_getElem h]

theorem getD_mem_of_lt (l : List α) (i : Nat) (d : α) (h : i < l.length) : l.getD i d ∈ l :=
  getElem_eq_getD (h := h) d ▸ getElem_mem h

theorem mem_iff_getD (l : List α) (a d : α) : a ∈ l ↔ ∃ i, i < l.length ∧ l.getD i d = a := by
  simp only [mem_iff_getElem, getElem_eq_getD d, exists_prop]

theorem lt_length_of_getD {P : α → Prop} {l : List α} {i : Nat} {d : α} (h : P (l.getD i d)) (hd : ¬ P d) :
    i < l.length :=
  Nat.lt_of_not_le fun hn => hd (getD_of_length_le l i d hn ▸ h)

theorem set_getD_self (l : List α) (i : Nat) (d : α) : l.set i (l.getD i d) = l := by
  by_cases h : i < l.length
  · rw [← getElem_eq_getD (h := h)]; exact set_getElem_self h
  · exact set_eq_of_length_le (Nat.le_of_not_lt h)

theorem sum_map_set (f : α → Nat) : ∀ (l : List α) (i : Nat) (a d : α), i < l.length →
    ((l.set i a).map f).sum + f (l.getD i d) = (l.map f).sum + f a
  | x :: xs, 0, a, d, _ => by simp only [set_cons_zero, map_cons, sum_cons, getD_cons_zero]; omega
  | x :: xs, i + 1, a, d, h => by
    have := sum_map_set f xs i a d (Nat.lt_of_succ_lt_succ h)
    simp only [set_cons_succ, map_cons, sum_cons, getD_cons_succ]; omega

/-- Any function with the two equations of an insertion (whatever the test `c`) permutes. -/
theorem perm_of_insert (ins : α → List α → List α) {c : α → α → Prop} [∀ x y, Decidable (c x y)]
    (h0 : ∀ x, ins x [] = [x])
    (hc : ∀ x y ys, ins x (y :: ys) = if c x y then x :: y :: ys else y :: ins x ys) :
    ∀ x l, (ins x l).Perm (x :: l)
  | x, [] => by rw [h0]
  | x, y :: ys => by
    rw [hc]; split
    · exact .refl _
    · exact ((perm_of_insert ins h0 hc x ys).cons y).trans (.swap x y ys)

theorem perm_of_sort (srt : List α → List α) {ins : α → List α → List α} (h0 : srt [] = [])
    (hs : ∀ x xs, srt (x :: xs) = ins x (srt xs)) (hi : ∀ x l, (ins x l).Perm (x :: l)) :
    ∀ l, (srt l).Perm l
  | [] => by rw [h0]
  | x :: xs => by rw [hs]; exact (hi x _).trans ((perm_of_sort srt h0 hs hi xs).cons x)

theorem exists_find?_eq_some {p : α → Bool} {l : List α} (h : ∃ x ∈ l, p x = true) :
    ∃ y, l.find? p = some y ∧ y ∈ l ∧ p y = true := by
  obtain ⟨y, hy⟩ := Option.isSome_iff_exists.1 (find?_isSome.2 h)
  exact ⟨y, hy, mem_of_find?_eq_some hy, find?_some hy⟩

theorem countP_eraseIdx_add {p : α → Bool} : ∀ {l : List α} {k : Nat} {x : α}, l[k]? = some x →
    (l.eraseIdx k).countP p + (if p x then 1 else 0) = l.countP p
  | y :: ys, 0, x, h => by
    simp only [getElem?_cons_zero, Option.some.injEq] at h; subst h
    simp only [eraseIdx_cons_zero, countP_cons]
  | y :: ys, k + 1, x, h => by
    simp only [getElem?_cons_succ] at h
    simp only [eraseIdx_cons_succ, countP_cons, ← countP_eraseIdx_add (p := p) h]; omega

end List

theorem Except.bind_ok {ε α β : Type} {x : Except ε α} {f : α → Except ε β} {b : β} (h : (x >>= f) = .ok b) :
    ∃ a, x = .ok a ∧ f a = .ok b := by
  cases x with
  | error e => cases h
  | ok a => exact ⟨a, rfl, h⟩

/-- For test vectors by `decide` (`rfl` can be slow there: the elaborator evaluates string comparisons first). Written
out, since `deriving instance` costs more to check. -/
instance {ε α : Type} [DecidableEq ε] [DecidableEq α] : DecidableEq (Except ε α)
  | .ok a, .ok b => if h : a = b then isTrue (h ▸ rfl) else isFalse fun e => h (Except.ok.inj e)
  | .error a, .error b => if h : a = b then isTrue (h ▸ rfl) else isFalse fun e => h (Except.error.inj e)
  | .ok _, .error _ => isFalse nofun
  | .error _, .ok _ => isFalse nofun
