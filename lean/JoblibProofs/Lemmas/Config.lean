import JoblibModel.Config
import JoblibProofs.Lemmas.Common  -- `Except.bind_ok`; C15 and C17 also get `DecidableEq (Except ε α)` for their `decide` witnesses through it
/-! `JoblibModel.Config`. Scoping: a context object is a bracket (`exitStep_made`); the general programs `xrun` simulate the trees
`run` (`xrun_embed`); inside `with` blocks only, the configuration is `stackCfg` of the enclosing blocks (`runThread_cfg_eq_stackCfg`).
Resolution: what `_get_active_backend` and `Parallel.__init__` return, read backwards (`getActive_ok` through `activeBackend` /
`activeConfig`, `parallelInit_ok`; its fields `backend` and `n_jobs` are opened by `chooseBackend_ok`, `resolveNJobs_*`).
Lemmas are stated for the forms with a variant (`stepV`, `runThreadV`, `gstepV`, `getActiveBackendCore`, `parallelInitCore`). The plain
names (`step`, `runThread`, `gstep`, `grun`, `getActiveBackend'`, `parallelInit`) are `def`s over them, not abbreviations: unfold them
(`simp only [runThread]`) before a `rw` with a `V` lemma. A step has no characterisation of its own: the seven arms of `stepV` / `gstepV`
are unfolded where an `Op` is split (`stepV_objs_get`, `step_stackRel`, `gstepV_self`, `gstepV_other` here; `xrun_ops`, `unreg_exact`,
`unregister_is_restore`, `unregister_out_of_order` and, at `.spawn` only, `new_thread_starts_from_defaults` in C17). -/
namespace JoblibModel.Config

theorem update_get (old a : Config) (k : Key) :
    (update old a).get k = (a.get k).orElse fun _ => old.get k := by
  cases k <;> rfl

theorem set_get_ne (c : Config) (k k' : Key) (v : Slot) (h : k' ≠ k) :
    (c.set k v).get k' = c.get k' := by
  cases k <;> cases k' <;> first | rfl | exact absurd rfl h

theorem set_get_same (c : Config) (k : Key) (v : Slot) : (c.set k v).get k = v := by
  cases k <;> rfl

theorem unset_get (k : Key) : Config.unset.get k = none := by cases k <;> rfl

theorem stackCfg_get (stack : List Config) (k : Key) :
    (stackCfg stack).get k = stack.findSome? (·.get k) := by
  induction stack with
  | nil => simp [stackCfg, unset_get]
  | cons a st ih =>
    simp only [stackCfg, update_get, List.findSome?_cons, ih]
    cases a.get k <;> rfl

theorem parallelConfigInit_eq (cur args : Config) :
    parallelConfigInit cur args = (newConfig cur args).map fun nc => (⟨cur, update cur nc⟩, update cur nc) := by
  unfold parallelConfigInit
  dsimp only
  cases newConfig cur args <;> rfl

theorem parallelConfigInit_ok {cur args : Config} {cm : Ctx} {c' : Config}
    (h : parallelConfigInit cur args = .ok (cm, c')) : cm.old_parallel_config = cur := by
  obtain ⟨nc, _, h⟩ := Except.bind_ok h
  cases h
  rfl

theorem runThreadV_append (v : Variant) (env : Env) (s : TState) (a b : List Op) :
    runThreadV v env s (a ++ b) =
      ((runThreadV v env (runThreadV v env s a).1 b).1,
        (runThreadV v env s a).2 ++ (runThreadV v env (runThreadV v env s a).1 b).2) := by
  induction a generalizing s with
  | nil => simp [runThreadV]
  | cons op ops ih =>
    simp only [List.cons_append, runThreadV]
    rw [ih]

theorem runThread_append (env : Env) (s : TState) (a b : List Op) :
    runThread env s (a ++ b) =
      ((runThread env (runThread env s a).1 b).1,
        (runThread env s a).2 ++ (runThread env (runThread env s a).1 b).2) :=
  runThreadV_append Variant.code env s a b

theorem runThreadV_cons (v : Variant) (env : Env) (s : TState) (op : Op) (ops : List Op) :
    (runThreadV v env s (op :: ops)).1 = (runThreadV v env (stepV v env s op).1 ops).1 := by
  simp [runThreadV]

theorem runThread_cons (env : Env) (s : TState) (op : Op) (ops : List Op) :
    (runThread env s (op :: ops)).1 = (runThread env (step env s op).1 ops).1 :=
  runThreadV_cons Variant.code env s op ops

theorem runThread_nil (env : Env) (s : TState) : (runThread env s []).1 = s := rfl

/-- Part of what a successful `createObj` gives, for where `createObj … = .ok` is a hypothesis; for rewriting forwards from
`parallelConfigInit` the whole result is `createObj_eq_of_init_ok`. -/
structure CreateObjOk (s : TState) (args : Config) (o : Obj) (s' : TState) : Prop where
  init : parallelConfigInit s.cfg args = .ok (o.cm, s'.cfg)
  oldOwner : o.oldOwner = s.cur
  stack : s'.stack = s.stack
  objs : s'.objs = s.objs ++ [o]

theorem createObj_inv {s : TState} {args : Config} {o : Obj} {s' : TState}
    (h : createObj s args = .ok (o, s')) : CreateObjOk s args o s' := by
  unfold createObj at h
  split at h
  · rename_i cm cfg hp
    cases h
    exact ⟨hp, rfl, rfl, rfl⟩
  · cases h

theorem createObj_error {s : TState} {args : Config} {e : Err}
    (h : parallelConfigInit s.cfg args = .error e) : createObj s args = .error e := by
  unfold createObj; rw [h]

theorem createObj_eq_of_init_ok {s : TState} {args : Config} {cm : Ctx} {cfg : Config}
    (h : parallelConfigInit s.cfg args = .ok (cm, cfg)) :
    createObj s args = .ok (⟨s.objs.length, cm, s.cur⟩,
      { s with cfg := cfg, objs := s.objs ++ [⟨s.objs.length, cm, s.cur⟩],
               cur := some s.objs.length }) := by
  unfold createObj; rw [h]

theorem unregisterV_code (s : TState) (o : Obj) :
    unregisterV Variant.code s o = { s with cfg := o.cm.old_parallel_config, cur := o.oldOwner } := by
  simp [unregisterV, Variant.code, unregister]

theorem exitStep_cons {s : TState} {o : Obj} {rest : List Obj} (h : s.stack = o :: rest) :
    (exitStep Variant.code s).1 =
      { s with stack := rest, cfg := o.cm.old_parallel_config, cur := o.oldOwner } := by
  simp only [exitStep, h, unregisterV_code]

/-- A `with` block is a bracket: in whatever state `t` the body ends (inside the same blocks), `__exit__` of the object
made in `s` puts back the configuration and the active dictionary of `s`. -/
theorem exitStep_made {s s' t : TState} {args : Config} {o : Obj} (h : createObj s args = .ok (o, s'))
    (ht : t.stack = o :: s'.stack) :
    (exitStep Variant.code t).1 = { t with stack := s.stack, cfg := s.cfg, cur := s.cur } := by
  have ok := createObj_inv h
  rw [exitStep_cons ht, ok.stack, ok.oldOwner, parallelConfigInit_ok ok.init]

theorem unregisterV_objs (v : Variant) (s : TState) (o : Obj) : (unregisterV v s o).objs = s.objs := by
  unfold unregisterV; split <;> rfl

theorem unregisterV_stack (v : Variant) (s : TState) (o : Obj) :
    (unregisterV v s o).stack = s.stack := by
  unfold unregisterV; split <;> rfl

theorem unregStep_stack (v : Variant) (s : TState) (k : Nat) : (unregStep v s k).1.stack = s.stack := by
  unfold unregStep; split
  · exact unregisterV_stack v s _
  · rfl

theorem stepV_objs_get (v : Variant) (env : Env) (s : TState) (op : Op) (k : Nat) (o : Obj)
    (h : s.objs[k]? = some o) : (stepV v env s op).1.objs[k]? = some o := by
  have made : ∀ {a o' s'}, createObj s a = .ok (o', s') → s'.objs[k]? = some o := fun hc => by
    obtain ⟨hk, _⟩ := List.getElem?_eq_some_iff.1 h
    rw [(createObj_inv hc).objs, List.getElem?_append_left hk]; exact h
  cases op with
  | enter a | create a =>
    simp only [stepV]
    cases hc : createObj s a with
    | error e => exact h
    | ok r => obtain ⟨o', s'⟩ := r; exact made (s' := s') hc
  | exit =>
    simp only [stepV, exitStep]
    split
    · rw [unregisterV_objs]; exact h
    · exact h
  | unreg j =>
    simp only [stepV, unregStep]
    split
    · rw [unregisterV_objs]; exact h
    · exact h
  | _ => exact h

theorem runThreadV_objs_get (v : Variant) (env : Env) (ops : List Op) (s : TState) (k : Nat) (o : Obj)
    (h : s.objs[k]? = some o) : (runThreadV v env s ops).1.objs[k]? = some o := by
  induction ops generalizing s with
  | nil => exact h
  | cons op ops ih =>
    rw [runThreadV_cons]
    exact ih _ (stepV_objs_get v env s op k o h)

theorem xrun_stack (p : XProg) (s : TState) : (xrun p s).state.stack = s.stack := by
  fun_induction xrun p s
  case case1 => rfl  -- done
  case case2 ih => exact ih  -- par
  case case3 ih => exact ih  -- gab
  case case4 => rfl  -- block, the constructor raised
  case case5 args body k s o s' hobj rb s'' hraised ihb =>  -- block, the body raised
    exact (congrArg TState.stack (exitStep_made hobj ihb) :)
  case case6 args body k s o s' hobj rb s'' hraised rk ihb ihk =>  -- block, then k
    exact ihk.trans (congrArg TState.stack (exitStep_made hobj ihb) :)
  case case7 => rfl  -- create, raised
  case case8 args k s o s' hobj r ih => exact ih.trans (createObj_inv hobj).stack  -- create
  case case9 ih => exact ih.trans (unregStep_stack _ _ _)  -- unreg
  case case10 => rfl  -- raise
  case case11 ihb ihk => exact ihk.trans ihb  -- try_

theorem xrun_embed (p : Prog) (s : TState) :
    (xrun p.embed s).state.cfg = (run p s.cfg).cfg ∧ (xrun p.embed s).state.cur = s.cur ∧
    (xrun p.embed s).raised = (run p s.cfg).raised ∧ (xrun p.embed s).ops = (run p s.cfg).ops := by
  induction p generalizing s with
  | done => exact ⟨rfl, rfl, rfl, rfl⟩
  | par e k ih => obtain ⟨h1, h2, h3, h4⟩ := ih s; exact ⟨h1, h2, h3, congrArg _ h4⟩
  | gab p q v k ih => obtain ⟨h1, h2, h3, h4⟩ := ih s; exact ⟨h1, h2, h3, congrArg _ h4⟩
  | block args body k ihb ihk =>
    simp only [Prog.embed, xrun, run]
    cases h : parallelConfigInit s.cfg args with
    | error e => rw [createObj_error h]; exact ⟨rfl, rfl, rfl, rfl⟩
    | ok r =>
      obtain ⟨cm, c'⟩ := r
      rw [createObj_eq_of_init_ok h]
      dsimp only
      generalize hs' : TState.mk c' _ _ _ = s'
      obtain ⟨_, _, b3, b4⟩ := ihb s'
      have hc : s'.cfg = c' := by rw [← hs']
      rw [hc] at b3 b4
      have he := exitStep_cons ((xrun_stack body.embed s').trans (by rw [← hs']))
      rw [b3, b4, he]
      split
      · exact ⟨rfl, rfl, rfl, rfl⟩
      · obtain ⟨k1, k2, k3, k4⟩ := ihk
          { (xrun body.embed s').state with stack := s.stack, cfg := cm.old_parallel_config, cur := s.cur }
        exact ⟨k1, k2, k3, by rw [k4]; rfl⟩
  | raise => exact ⟨rfl, rfl, rfl, rfl⟩
  | try_ body k ihb ihk =>
    obtain ⟨b1, b2, b3, b4⟩ := ihb s
    obtain ⟨k1, k2, k3, k4⟩ := ihk (xrun body.embed s).state
    simp only [Prog.embed, xrun, run]
    rw [b1] at k1 k3 k4
    exact ⟨k1, k2.trans b2, k3, by rw [b4, k4]⟩

theorem gstepV_other (v : Variant) (env : Env) (g : Global) {u t : Nat} {op : Op}
    (hu : u ≠ t) (hs : ∀ k, op ≠ .spawn t k) : (gstepV v env g u op).1 t = g t := by
  cases op with
  | spawn c k => exact if_neg fun (hc : t = c) => hs k (hc ▸ rfl)
  | _ => exact if_neg (Ne.symm hu)

theorem gstepV_self (v : Variant) (env : Env) (g : Global) {t : Nat} {op : Op}
    (hs : ∀ k, op ≠ .spawn t k) :
    (gstepV v env g t op).1 t = (stepV v env (g t) op).1 ∧ (gstepV v env g t op).2 = (stepV v env (g t) op).2 := by
  cases op with
  | spawn c k => exact ⟨if_neg fun (hc : t = c) => hs k (hc ▸ rfl), rfl⟩
  | _ => exact ⟨if_pos rfl, rfl⟩

theorem ite_error_ok {ε α : Type} {c : Prop} [Decidable c] {e : ε} {x : Except ε α} {a : α} :
    (if c then .error e else x) = .ok a ↔ ¬ c ∧ x = .ok a := by
  split <;> simp [*]

/-- The backend `_get_active_backend` settles on when the context gave `(x, b)` and hint and constraint resolved to
`pf`, `rq`. -/
def activeBackend (x : Bool) (b : Backend) (pf rq : Val) : Backend :=
  if forceThreads x b.cls pf rq then ⟨defaultThreadBackend, b.level⟩
  else if forceProcesses x b.cls pf then ⟨defaultProcessBackend, b.level⟩
  else b

/-- …and the configuration it hands on: the thread fallback overwrites the context's `n_jobs` (`rep`, F22: only when it
replaces a backend the context chose). -/
def activeConfig (rep x : Bool) (b : Backend) (cfg : Config) (pf rq : Val) : Config :=
  if forceThreads x b.cls pf rq && !(rep && !x) then cfg.set .n_jobs (some (.int 1)) else cfg

theorem activeBackend_level (x : Bool) (b : Backend) (pf rq : Val) : (activeBackend x b pf rq).level = b.level := by
  unfold activeBackend
  split
  · rfl
  · split <;> rfl

theorem forceThreads_explicit (c : BackendClass) (pf rq : Val) :
    forceThreads true c pf rq = true ↔ rq = .str "sharedmem" ∧ c.supportsSharedmem = false := by
  simp [forceThreads]

/-- A backend chosen by the context is replaced only for `require='sharedmem'`: the hint is not read. -/
theorem activeBackend_explicit (b : Backend) (pf rq : Val) :
    activeBackend true b pf rq =
      if rq = .str "sharedmem" ∧ b.cls.supportsSharedmem = false then ⟨defaultThreadBackend, b.level⟩ else b := by
  simp only [activeBackend, forceThreads_explicit, forceProcesses, Bool.not_true, Bool.false_and, Bool.false_eq_true,
    if_false]

/-- No backend chosen by the context: the hint decides between the two defaults, unless `require='sharedmem'` forces threads.
Has no user: kept as the companion of `activeBackend_explicit`. -/
theorem activeBackend_implicit (b : Backend) (pf rq : Val) :
    activeBackend false b pf rq =
      if (rq = .str "sharedmem" ∧ b.cls.supportsSharedmem = false) ∨ (pf = .str "threads" ∧ b.cls.usesThreads = false) then
        ⟨defaultThreadBackend, b.level⟩
      else if pf = .str "processes" ∧ b.cls.usesThreads = true then ⟨defaultProcessBackend, b.level⟩
      else b := by
  simp [activeBackend, forceThreads, forceProcesses]

theorem activeConfig_explicit (rep : Bool) (b : Backend) (cfg : Config) (pf rq : Val) :
    activeConfig rep true b cfg pf rq =
      if rq = .str "sharedmem" ∧ b.cls.supportsSharedmem = false then cfg.set .n_jobs (some (.int 1)) else cfg := by
  simp only [activeConfig, Bool.not_true, Bool.and_false, Bool.not_false, Bool.and_true, forceThreads_explicit]

/-- The repaired code only (`rep = true`): before F22 the fallback overwrote `n_jobs` here too
(`C17.n_jobs_unrepaired_counterexample`). -/
theorem activeConfig_implicit (b : Backend) (cfg : Config) (pf rq : Val) : activeConfig true false b cfg pf rq = cfg := by
  simp [activeConfig]

theorem activeConfig_get (rep x : Bool) (b : Backend) (cfg : Config) (pf rq : Val) {k : Key} (hk : k ≠ .n_jobs) :
    (activeConfig rep x b cfg pf rq).get k = cfg.get k := by
  unfold activeConfig
  split
  · exact set_get_ne _ _ _ _ hk
  · rfl

theorem activeBackend_sharedmem (x : Bool) (b : Backend) {pf : Val} (hc : pf ≠ .str "processes") :
    (activeBackend x b pf (.str "sharedmem")).cls.supportsSharedmem = true := by
  unfold activeBackend
  split
  · rfl
  · rename_i hft
    have hss : b.cls.supportsSharedmem = true := by
      cases hs : b.cls.supportsSharedmem with
      | true => rfl
      | false => exact absurd (by simp [forceThreads, hs]) hft
    split
    · rename_i hfp
      simp [forceProcesses] at hfp
      exact absurd hfp.1.2 hc
    · exact hss

/-- What `_get_active_backend` returning `a` says, for the resolved `prefer`, `require`, `verbose`; `(x, b)` is what
`contextBackend` found. -/
structure ActiveOk (rep : Bool) (env : Env) (cfg : Config) (prefer require verbose : Val) (a : Active) (x : Bool)
    (b : Backend) : Prop where
  hint : validHint prefer = true
  constraint : validConstraint require = true
  compatible : ¬ (prefer = .str "processes" ∧ require = .str "sharedmem")
  context : contextBackend env cfg = .ok (x, b)
  backend : a.backend = activeBackend x b prefer require
  config : a.config = activeConfig rep x b cfg prefer require
  msg : if forceThreads x b.cls prefer require = true then fallbackMsg verbose x = .ok a.msg else a.msg = false

/-- Sound for `.ok` only: that a call fails follows by contraposition, which exception it raises only by unfolding
`getActiveBackendCore`. -/
theorem getActive_ok {rep : Bool} {env : Env} {cfg : Config} {p r v : Slot} {a : Active}
    (h : getActiveBackendCore rep env cfg p r v = .ok a) :
    ∃ x b, ActiveOk rep env cfg (getConfigParam env.d p cfg .prefer) (getConfigParam env.d r cfg .require)
      (getConfigParam env.d v cfg .verbose) a x b := by
  unfold getActiveBackendCore at h
  generalize getConfigParam env.d p cfg .prefer = pf at h ⊢
  generalize getConfigParam env.d r cfg .require = rq at h ⊢
  generalize getConfigParam env.d v cfg .verbose = vb at h ⊢
  rw [ite_error_ok, ite_error_ok, ite_error_ok] at h
  obtain ⟨h1, h2, h3, h⟩ := h
  cases hcb : contextBackend env cfg with
  | error e => rw [hcb] at h; cases h
  | ok xb =>
    obtain ⟨x, b⟩ := xb
    rw [hcb] at h
    suffices H : a.backend = activeBackend x b pf rq ∧ a.config = activeConfig rep x b cfg pf rq ∧
        (if forceThreads x b.cls pf rq = true then fallbackMsg vb x = .ok a.msg else a.msg = false) from
      ⟨x, b, by simpa using h1, by simpa using h2, by simpa using h3, hcb, H.1, H.2.1, H.2.2⟩
    dsimp only at h
    unfold activeBackend activeConfig
    by_cases hft : forceThreads x b.cls pf rq = true
    · rw [if_pos hft] at h ⊢
      cases hm : fallbackMsg vb x with
      | error e => rw [hm] at h; cases h
      | ok msg =>
        rw [hm] at h; cases h
        simp only [hft, Bool.true_and, if_true, true_and, and_true]
        cases (rep && !x) <;> rfl
    · rw [if_neg hft] at h ⊢
      simp only [hft, Bool.false_and, Bool.false_eq_true, if_false]
      by_cases hfp : forceProcesses x b.cls pf = true
      · rw [if_pos hfp] at h ⊢; cases h; exact ⟨rfl, rfl, rfl⟩
      · rw [if_neg hfp] at h ⊢; cases h; exact ⟨rfl, rfl, rfl⟩

theorem contextBackend_congr (env : Env) {c c' : Config} (h : c.backend = c'.backend) :
    contextBackend env c = contextBackend env c' := by
  unfold contextBackend getConfigParam Config.get
  rw [h]

theorem contextBackend_of_backend (env : Env) {cfg : Config} {c : BackendClass} {l : Option Nat}
    (h : cfg.backend = some (.backend c l)) : contextBackend env cfg = .ok (true, ⟨c, l⟩) := by
  simp only [contextBackend, getConfigParam, Config.get, h]

theorem getConfigParam_congr (d : Defaults) (param : Slot) (c c' : Config) (k : Key)
    (h : c.get k = c'.get k) : getConfigParam d param c k = getConfigParam d param c' k := by
  unfold getConfigParam
  rw [h]

theorem chooseBackend_level {a a' : Backend} (hl : a.level = a'.level) {v : Val} (hv : v ≠ .none) :
    chooseBackend a (some v) = chooseBackend a' (some v) := by
  cases v with
  | none => exact absurd rfl hv
  | int i => rfl
  | str s => simp only [chooseBackend, hl]
  | backend c l => cases l <;> simp only [chooseBackend, hl]

/-- The `backend=` cascade of `Parallel.__init__`, read backwards. -/
theorem chooseBackend_ok {a r : Backend} {eb : Slot} : chooseBackend a eb = .ok r →
    match eb with
    | none => r = a
    | some .none => r = a
    | some (.backend c none) => r = ⟨c, a.level⟩
    | some (.backend c (some l)) => r = ⟨c, some l⟩
    | some (.str name) => registry name = some r.cls ∧ r.level = a.level
    | some (.int _) => False := by
  intro h
  unfold chooseBackend at h
  cases eb with
  | none => exact (Except.ok.inj h).symm
  | some v =>
    cases v with
    | none => exact (Except.ok.inj h).symm
    | int i => cases h
    | str s =>
      dsimp only at h ⊢
      cases hreg : registry s with
      | none => rw [hreg] at h; cases h
      | some c => rw [hreg] at h; cases h; exact ⟨rfl, rfl⟩
    | backend c l => cases l <;> exact (Except.ok.inj h).symm

theorem resolveNJobs_some (d : Defaults) {v : Val} (hv : v ≠ .none) (cfg : Config) (cls : BackendClass) :
    resolveNJobs d (some v) cfg cls = toInt v := by
  simp [resolveNJobs, getConfigParam, hv]

theorem resolveNJobs_none (d : Defaults) {cfg : Config} (h : getConfigParam d none cfg .n_jobs ≠ .none) (cls : BackendClass) :
    resolveNJobs d none cfg cls = toInt (getConfigParam d none cfg .n_jobs) := by
  simp [resolveNJobs, h]

theorem resolveNJobs_congr (d : Defaults) (n : Slot) {c c' : Config} (h : c.get .n_jobs = c'.get .n_jobs) (cls : BackendClass) :
    resolveNJobs d n c cls = resolveNJobs d n c' cls := by
  unfold resolveNJobs
  dsimp only
  rw [getConfigParam_congr d _ c c' _ h]

/-- What `Parallel.__init__` returning `r` says; `a` is what `_get_active_backend` gave it. Only `n_jobs` is resolved in
`a.config`: for every other key that is the thread's own `cfg` (`activeConfig_get`). -/
structure ParallelInitOk (r21 r22 : Bool) (env : Env) (cfg e : Config) (r : ParObs) (a : Active) : Prop where
  active : getActiveBackendCore r22 env cfg e.prefer e.require e.verbose = .ok a
  verbose : r.verbose = getConfigParam env.d e.verbose cfg .verbose
  max_nbytes : postMaxNbytes (getConfigParam env.d e.max_nbytes cfg .max_nbytes) = .ok r.max_nbytes
  temp_folder : r.temp_folder = getConfigParam env.d e.temp_folder cfg .temp_folder
  mmap_mode : r.mmap_mode = getConfigParam env.d e.mmap_mode cfg .mmap_mode
  prefer : r.prefer = getConfigParam env.d e.prefer cfg .prefer
  require : r.require = getConfigParam env.d e.require cfg .require
  kw_verbose : kwVerbose r.verbose = .ok r.kw_verbose
  backend : chooseBackend a.backend e.backend = .ok r.backend
  n_jobs : resolveNJobs env.d e.n_jobs a.config r.backend.cls = .ok r.n_jobs
  msg : r.msg = a.msg
  sharedmem : ¬ (testedConstraint r21 r.require e.require = .str "sharedmem" ∧
    r.backend.cls.supportsSharedmem = false)

/-- Sound for `.ok` only, like `getActive_ok`, whose conclusion for `a` it hands on. -/
theorem parallelInit_ok {r21 r22 : Bool} {env : Env} {cfg e : Config} {r : ParObs}
    (h : parallelInitCore r21 r22 env cfg e = .ok r) :
    ∃ a x b, ParallelInitOk r21 r22 env cfg e r a ∧
      ActiveOk r22 env cfg (getConfigParam env.d e.prefer cfg .prefer) (getConfigParam env.d e.require cfg .require)
        (getConfigParam env.d e.verbose cfg .verbose) a x b := by
  unfold parallelInitCore at h
  obtain ⟨a, ha, h⟩ := Except.bind_ok h
  obtain ⟨mx, hmx, h⟩ := Except.bind_ok h
  obtain ⟨kv, hkv, h⟩ := Except.bind_ok h
  obtain ⟨b, hb, h⟩ := Except.bind_ok h
  obtain ⟨n, hn, h⟩ := Except.bind_ok h
  split at h
  · cases h
  · rename_i hc
    obtain ⟨x, b', aok⟩ := getActive_ok ha
    have hg := fun q (k : Key) (hk : k ≠ .n_jobs) =>
      getConfigParam_congr env.d q _ _ k (aok.config ▸ activeConfig_get r22 x b' cfg _ _ hk)
    cases h
    exact ⟨a, x, b', {
      active := ha
      verbose := hg _ _ nofun
      max_nbytes := hg e.max_nbytes .max_nbytes nofun ▸ hmx
      temp_folder := hg _ _ nofun
      mmap_mode := hg _ _ nofun
      prefer := hg _ _ nofun
      require := hg _ _ nofun
      kw_verbose := hkv
      backend := hb
      n_jobs := hn
      msg := rfl
      sharedmem := by simpa using hc }, aok⟩

theorem parallelInit_sharedmem {r22 : Bool} {env : Env} {cfg e : Config} {r : ParObs}
    (h : parallelInitCore true r22 env cfg e = .ok r) (hr : r.require = .str "sharedmem") :
    r.backend.cls.supportsSharedmem = true := by
  obtain ⟨_, _, _, ok, _⟩ := parallelInit_ok h
  cases hs : r.backend.cls.supportsSharedmem with
  | true => rfl
  | false => exact absurd ⟨by simp [testedConstraint, hr], hs⟩ ok.sharedmem

/-- Steps of a program that uses `with` blocks only (no object made by a plain call, no
`unregister()` by hand): for these "the blocks the thread is inside" is defined. -/
def Op.scoped : Op → Bool
  | .create _ => false
  | .unreg _ => false
  | _ => true

/-- The effective arguments (`new_config`) of the blocks the thread is inside, innermost first,
tracked along the steps. -/
def enclosingStep (st : List Config) : Op → List Config
  | .enter a => match newConfig (stackCfg st) a with
    | .ok nc => nc :: st
    | .error _ => st
  | .exit => st.tail
  | _ => st

/-- The blocks the thread is inside after the steps `ops`, started inside `st`. -/
def enclosing : List Config → List Op → List Config
  | st, [] => st
  | st, op :: ops => enclosing (enclosingStep st op) ops

/-- The thread's stack of `with` objects matches the blocks `st`: each object saved the configuration of the blocks
below it, so leaving it gives back `stackCfg` of the rest. -/
def StackRel : List Config → List Obj → Prop
  | [], [] => True
  | _ :: st, o :: stk => o.cm.old_parallel_config = stackCfg st ∧ StackRel st stk
  | _, _ => False

theorem step_stackRel (env : Env) (st : List Config) (s : TState) (op : Op) (hop : op.scoped = true)
    (hc : s.cfg = stackCfg st) (hs : StackRel st s.stack) :
    (step env s op).1.cfg = stackCfg (enclosingStep st op) ∧
      StackRel (enclosingStep st op) (step env s op).1.stack := by
  cases op with
  | enter a =>
    simp only [step, stepV, enclosingStep, ← hc]
    cases hn : newConfig s.cfg a with
    | error e =>
      rw [createObj_error (e := e) (by rw [parallelConfigInit_eq, hn]; rfl)]
      exact ⟨hc, hs⟩
    | ok nc =>
      rw [createObj_eq_of_init_ok (by rw [parallelConfigInit_eq, hn]; rfl)]
      exact ⟨by rw [stackCfg, ← hc], hc, hs⟩
  | exit =>
    cases hstk : s.stack <;> cases st <;> rw [hstk] at hs
    · simp only [step, stepV, exitStep, enclosingStep, hstk]; exact ⟨hc, hs⟩
    · cases hs
    · cases hs
    · simp only [step, stepV, exitStep, enclosingStep, hstk, unregisterV_code, List.tail_cons]; exact hs
  | create a | unreg k => cases hop
  | _ => exact ⟨hc, hs⟩

theorem runThread_cfg_eq_stackCfg (env : Env) (ops : List Op) (hops : ∀ op ∈ ops, op.scoped = true)
    (st : List Config) (s : TState)
    (hc : s.cfg = stackCfg st) (hs : StackRel st s.stack) :
    (runThread env s ops).1.cfg = stackCfg (enclosing st ops) := by
  induction ops generalizing st s with
  | nil => simpa [runThread, runThreadV, enclosing] using hc
  | cons op ops ih =>
    obtain ⟨h1, h2⟩ := step_stackRel env st s op (hops op (by simp)) hc hs
    rw [runThread_cons]
    exact ih (fun o ho => hops o (by simp [ho])) _ _ h1 h2

end JoblibModel.Config
