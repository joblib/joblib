import JoblibModel.TrackerSignals
/-! The invariant of the tracker's start-up is `sigSafe`; `sigRun_survives` is the general statement behind
`C20.start_never_loses_to_a_pending_signal`. -/
namespace JoblibModel.TrackerSignals

/-- The tracker lives and every signal is ignored or still in the mask: an arrival is then discarded or stays
pending, it is never delivered with the start-up disposition (which would end the process). -/
def sigSafe (s : St) : Bool :=
  s.alive && (s.int.ignored || s.int.blocked) && (s.term.ignored || s.term.blocked)

theorem sigRun_append (s : St) (l1 l2 : List Ev) : sigRun s (l1 ++ l2) = sigRun (sigRun s l1) l2 := by
  simp [sigRun, List.foldl_append]

theorem sigRun_cons (s : St) (e : Ev) (l : List Ev) : sigRun s (e :: l) = sigRun (sigStep s e) l := rfl

theorem sigStep_keeps (s : St) (e : Ev) (he : e ≠ .unblockAll) (h : sigSafe s = true) :
    sigSafe (sigStep s e) = true ∧ (sigStep s e).int.blocked = s.int.blocked ∧ (sigStep s e).term.blocked = s.term.blocked
      ∧ (s.int.ignored = true → (sigStep s e).int.ignored = true)
      ∧ (s.term.ignored = true → (sigStep s e).term.ignored = true) := by
  rcases s with ⟨⟨b1, i1, p1⟩, ⟨b2, i2, p2⟩, a⟩
  simp only [sigSafe, Bool.and_eq_true, Bool.or_eq_true] at h
  obtain ⟨⟨rfl, h1⟩, h2⟩ := h
  -- only the record of `g` changes: an arrival sets at most `pending`, `signal(g, SIG_IGN)` sets `ignored`
  cases e with
  | unblockAll => exact absurd rfl he
  | arrive g =>
    cases g
    · cases i1 <;> simp_all [sigSafe, sigStep, St.get, St.set]
    · cases i2 <;> simp_all [sigSafe, sigStep, St.get, St.set]
  | ignore g => cases g <;> simp_all [sigSafe, sigStep, St.get, St.set]

theorem sigStep_ignore (s : St) (g : Sig) (h : s.alive = true) : ((sigStep s (.ignore g)).get g).ignored = true := by
  cases g <;> simp [sigStep, h, St.get, St.set]

theorem sigStep_unblock (s : St) (ha : s.alive = true) (hi : s.int.ignored = true) (ht : s.term.ignored = true) :
    (sigStep s .unblockAll).alive = true ∧ (sigStep s .unblockAll).int.ignored = true
      ∧ (sigStep s .unblockAll).term.ignored = true := by
  simp [sigStep, ha, hi, ht, Per.fatalWhenUnblocked]

theorem sigSafe_alive {s : St} (h : sigSafe s = true) : s.alive = true := by
  simp [sigSafe] at h; exact h.1.1

theorem sigSafe_of_ignored {s : St} (ha : s.alive = true) (hi : s.int.ignored = true) (ht : s.term.ignored = true) :
    sigSafe s = true := by simp [sigSafe, ha, hi, ht]

theorem sigRun_keeps (evs : List Ev) (hu : .unblockAll ∉ evs) : ∀ (s : St), sigSafe s = true →
    sigSafe (sigRun s evs) = true ∧ (sigRun s evs).int.blocked = s.int.blocked
      ∧ (sigRun s evs).term.blocked = s.term.blocked
      ∧ (s.int.ignored = true → (sigRun s evs).int.ignored = true)
      ∧ (s.term.ignored = true → (sigRun s evs).term.ignored = true) := by
  induction evs with
  | nil => intro s h; exact ⟨h, rfl, rfl, id, id⟩
  | cons e r ih =>
    intro s h
    have h1 := sigStep_keeps s e (fun he => hu (he ▸ List.mem_cons_self ..)) h
    have h2 := ih (fun hr => hu (List.mem_cons_of_mem _ hr)) (sigStep s e) h1.1
    rw [sigRun_cons]
    exact ⟨h2.1, h2.2.1.trans h1.2.1, h2.2.2.1.trans h1.2.2.1, fun hi => h2.2.2.2.1 (h1.2.2.2.1 hi),
      fun ht => h2.2.2.2.2 (h1.2.2.2.2 ht)⟩

theorem sigRun_arrivals (a : List Sig) : ∀ (s : St), sigSafe s = true →
    sigSafe (sigRun s (arrivals a)) = true ∧ (sigRun s (arrivals a)).int.blocked = s.int.blocked
      ∧ (sigRun s (arrivals a)).term.blocked = s.term.blocked
      ∧ (s.int.ignored = true → (sigRun s (arrivals a)).int.ignored = true)
      ∧ (s.term.ignored = true → (sigRun s (arrivals a)).term.ignored = true) :=
  sigRun_keeps (arrivals a) (by simp [arrivals])

theorem sigRun_ignored (evs : List Ev) (hu : .unblockAll ∉ evs) (g : Sig) (hg : .ignore g ∈ evs) :
    ∀ (s : St), sigSafe s = true → ((sigRun s evs).get g).ignored = true := by
  induction evs with
  | nil => cases hg
  | cons e r ih =>
    intro s h
    have hur : Ev.unblockAll ∉ r := fun hr => hu (List.mem_cons_of_mem _ hr)
    have h1 := sigStep_keeps s e (fun he => hu (he ▸ List.mem_cons_self ..)) h
    rw [sigRun_cons]
    rcases List.mem_cons.mp hg with rfl | hg
    · have h2 := sigRun_keeps r hur _ h1.1
      have := sigStep_ignore s g (sigSafe_alive h)
      cases g
      · exact h2.2.2.2.1 this
      · exact h2.2.2.2.2 this
    · exact ih hur hg _ h1.1

theorem sigStep_done (s : St) (e : Ev) (ha : s.alive = true) (hi : s.int.ignored = true) (ht : s.term.ignored = true) :
    (sigStep s e).alive = true ∧ (sigStep s e).int.ignored = true ∧ (sigStep s e).term.ignored = true := by
  by_cases he : e = .unblockAll
  · subst he; exact sigStep_unblock s ha hi ht
  · have k := sigStep_keeps s e he (sigSafe_of_ignored ha hi ht)
    exact ⟨sigSafe_alive k.1, k.2.2.2.1 hi, k.2.2.2.2 ht⟩

/-- The tracker outlives every schedule that has ignored both signals (`pre`) before it first unblocks them;
whatever comes then (`post`), it is alive at the end and ignores both. -/
theorem sigRun_survives (pre post : List Ev) (hu : .unblockAll ∉ pre) (hi : .ignore .int ∈ pre)
    (ht : .ignore .term ∈ pre) (s : St) (h : sigSafe s = true) :
    (sigRun s (pre ++ post)).alive = true ∧ (sigRun s (pre ++ post)).int.ignored = true
      ∧ (sigRun s (pre ++ post)).term.ignored = true := by
  rw [sigRun_append]
  have h0 : (sigRun s pre).alive = true ∧ (sigRun s pre).int.ignored = true ∧ (sigRun s pre).term.ignored = true :=
    ⟨sigSafe_alive (sigRun_keeps pre hu s h).1, sigRun_ignored pre hu .int hi s h, sigRun_ignored pre hu .term ht s h⟩
  generalize sigRun s pre = t at h0
  induction post generalizing t with
  | nil => exact h0
  | cons e r ih => exact ih _ (sigStep_done t e h0.1 h0.2.1 h0.2.2)

end JoblibModel.TrackerSignals
