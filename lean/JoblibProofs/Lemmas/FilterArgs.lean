import JoblibProofs.Lemmas.PyDict
import JoblibProofs.Lemmas.Common
/-! Lemmas for C07: `filter_args` (`core`) against Python's binding (`bindGo`), phase by phase.

The parameter loop leaves locals that describe the signature (`WalkOK`; `MemOK` is its per-parameter reading). A successful
`bindGo` on a well-formed signature is a derivation of `Binds` (`binds_of_bindGo`), and everything about Python's mapping `b`
is an induction on that derivation, stated with `parts sel ps b` (the entries of `b` for the parameters `sel` picks) and
`finalKw` (the keywords no parameter takes): `Binds.star`, `Binds.dstar`, `mainLoop_spec` (the `enumerate(arg_names)` loop
yields `parts named`, under `ArgsAt`), `kwLoop_ok` (the `sorted(kwargs.items())` loop stores nothing new). `core_eq_parts`
puts the three groups together, `core_eq_bind` reorders them into Python's order; `ignoreLoop_ok_iff` and `core_nodup` give
`core_ok_iff` for the ignore list. -/
namespace JoblibModel.FilterArgs

/-- A `Bool`, for `filter` and `any`. -/
def Param.is (k : Kind) (p : Param) : Bool := decide (p.kind = k)

theorem walkStep_eq (w : Walk) (p : Param) :
    walkStep w p =
      { argNames := w.argNames ++ (if p.named then [p.name] else [])
        argDefaults := match p.default with
          | some dv => dset p.name dv w.argDefaults
          | none => w.argDefaults
        argPosonly := w.argPosonly ++ (if p.is .posOnly then [p.name] else [])
        argKwonly := w.argKwonly ++ (if p.is .kwOnly then [p.name] else [])
        argVarargs := if p.is .varPos then some p.name else w.argVarargs
        argVarkw := if p.is .varKw then some p.name else w.argVarkw } := by
  obtain ⟨n, k, dv⟩ := p
  cases k <;> cases dv <;> simp [walkStep, Param.named, Param.is]


theorem WF.nodup_names {s : Sig} (h : WF s) : (s.map (·.name)).Nodup := by
  unfold WF at h
  rw [List.Nodup, List.pairwise_map]
  exact h.imp (fun hb => hb.1)

theorem eq_of_name_eq {s : Sig} (hn : (s.map (·.name)).Nodup) {p q : Param} (hp : p ∈ s) (hq : q ∈ s)
    (e : p.name = q.name) : p = q := by
  induction s with
  | nil => simp at hp
  | cons x r ih =>
    simp only [List.map_cons, List.nodup_cons] at hn
    rcases List.mem_cons.mp hp with hp' | hp' <;> rcases List.mem_cons.mp hq with hq' | hq'
    · rw [hp', hq']
    · subst hp'; exact (hn.1 (List.mem_map.mpr ⟨q, hq', e.symm⟩)).elim
    · subst hq'; exact (hn.1 (List.mem_map.mpr ⟨p, hp', e⟩)).elim
    · exact ih hn.2 hp' hq'

/-- What the rest of `filter_args` needs to know about the locals of the parameter loop. -/
structure WalkOK (w : Walk) (s : Sig) : Prop where
  names : w.argNames = (s.filter Param.named).map (·.name)
  kwonly : w.argKwonly = (s.filter (Param.is .kwOnly)).map (·.name)
  posonly : ∀ n, n ∈ w.argPosonly ↔ n ∈ (s.filter (Param.is .posOnly)).map (·.name)
  defaults : ∀ p ∈ s, dget p.name w.argDefaults = p.default
  varargs : w.argVarargs.isSome = s.any (Param.is .varPos)
  varkw : w.argVarkw.isSome = s.any (Param.is .varKw)

/-- One more parameter: the loop's locals describe the signature read so far, and hold no default for a name
not read yet. -/
theorem WalkOK.snoc {w : Walk} {s : Sig} (ok : WalkOK w s)
    (hd : ∀ n, n ∉ s.map (·.name) → dget n w.argDefaults = none) {p : Param} (hp : p.name ∉ s.map (·.name)) :
    WalkOK (walkStep w p) (s ++ [p]) ∧
      ∀ n, n ∉ (s ++ [p]).map (·.name) → dget n (walkStep w p).argDefaults = none := by
  have hdef : ∀ n, n ≠ p.name → dget n (walkStep w p).argDefaults = dget n w.argDefaults := by
    intro n hn
    rw [walkStep_eq]
    cases p.default with
    | none => rfl
    | some dv => exact dget_dset_ne hn _ _
  have app : ∀ f : Param → Bool, ((s ++ [p]).filter f).map (·.name) =
      (s.filter f).map (·.name) ++ if f p then [p.name] else [] := fun f => by
    simp only [List.filter_append, List.map_append, List.filter_cons, List.filter_nil]
    cases f p <;> rfl
  rw [walkStep_eq] at hdef ⊢
  refine ⟨⟨?_, ?_, fun n => ?_, fun q hq => ?_, ?_, ?_⟩, fun n hn => ?_⟩
  · rw [app, ok.names]
  · rw [app, ok.kwonly]
  · simp only [List.mem_append, ok.posonly, app]
  · rcases List.mem_append.mp hq with hq | hq
    · rw [hdef q.name fun e => hp (e ▸ List.mem_map_of_mem hq)]; exact ok.defaults q hq
    · cases List.mem_singleton.mp hq
      cases hq' : p.default with
      | none => exact hd p.name hp
      | some dv => exact dget_dset_self _ _ _
  · simp only [List.any_append, ← ok.varargs, List.any_cons, List.any_nil, Bool.or_false]
    cases p.is .varPos <;> simp
  · simp only [List.any_append, ← ok.varkw, List.any_cons, List.any_nil, Bool.or_false]
    cases p.is .varKw <;> simp
  · simp only [List.map_append, List.mem_append, List.map_cons, List.map_nil, List.mem_singleton, not_or] at hn
    rw [hdef n hn.2]; exact hd n hn.1

theorem walkFrom_ok : ∀ (ps pre : List Param) (w : Walk), WalkOK w pre →
    (∀ n, n ∉ pre.map (·.name) → dget n w.argDefaults = none) → ((pre ++ ps).map (·.name)).Nodup →
    WalkOK (walkFrom w ps) (pre ++ ps) ∧
      ∀ n, n ∉ (pre ++ ps).map (·.name) → dget n (walkFrom w ps).argDefaults = none
  | [], pre, w, ok, hd, _ => by rw [List.append_nil]; exact ⟨ok, hd⟩
  | p :: ps, pre, w, ok, hd, hn => by
    rw [show pre ++ p :: ps = (pre ++ [p]) ++ ps by simp] at hn ⊢
    have hn' : ((pre.map (·.name) ++ [p.name]) ++ ps.map (·.name)).Nodup := by simpa using hn
    have hp : p.name ∉ pre.map (·.name) := fun h =>
      (List.nodup_append.mp (List.nodup_append.mp hn').1).2.2 _ h _ (List.mem_singleton_self _) rfl
    obtain ⟨ok', hd'⟩ := ok.snoc hd hp
    exact walkFrom_ok ps _ _ ok' hd' hn

theorem walk_spec {s : Sig} (h : WF s) :
    WalkOK (walk s) s ∧ ∀ n, n ∉ s.map (·.name) → dget n (walk s).argDefaults = none :=
  walkFrom_ok s [] {} ⟨rfl, rfl, fun _ => Iff.rfl, nofun, rfl, rfl⟩ (fun _ _ => rfl) h.nodup_names

theorem walkOK_walk {s : Sig} (h : WF s) : WalkOK (walk s) s := (walk_spec h).1

theorem mem_names_is {s : Sig} (h : WF s) {p : Param} (hp : p ∈ s) (k : Kind) :
    p.name ∈ (s.filter (Param.is k)).map (·.name) ↔ p.kind = k := by
  constructor
  · intro hm
    obtain ⟨q, hq, e⟩ := List.mem_map.mp hm
    rw [List.mem_filter] at hq
    cases eq_of_name_eq h.nodup_names hq.1 hp e
    simpa [Param.is] using hq.2
  · intro hk
    exact List.mem_map.mpr ⟨p, List.mem_filter.mpr ⟨hp, by simp [Param.is, hk]⟩, rfl⟩


theorem map_eq_ok {ε α β : Type} {f : α → β} {x : Except ε α} {b : β} :
    x.map f = .ok b ↔ ∃ r, x = .ok r ∧ b = f r := by
  cases x <;> simp [Except.map, eq_comm]

variable {w : Walk} {s : Sig} {p : Param} {ps : List Param} {as : List Nat} {kw : List (Nat × Nat)}
  {b : List (Nat × Val)} {args : List Nat} {kwargs : List (Nat × Nat)}

theorem named_of_byKeyword (h : p.byKeyword = true) : p.named = true := by
  revert h; simp only [Param.byKeyword, Param.named]; cases p.kind <;> simp

theorem byKeyword_of_named (h : p.named = true) (h2 : p.kind ≠ .posOnly) :
    p.byKeyword = true := by
  revert h h2; simp only [Param.byKeyword, Param.named]; cases p.kind <;> simp

theorem not_posOnly_of_byKeyword (h : p.byKeyword = true) : p.kind ≠ .posOnly := by
  revert h; simp only [Param.byKeyword]; cases p.kind <;> simp

theorem not_kwOnly_of_positional (h : p.positional = true) : p.kind ≠ .kwOnly := by
  revert h; simp only [Param.positional]; cases p.kind <;> simp

theorem not_is_of_named (h : p.named = true) : p.is .varKw = false ∧ p.is .varPos = false := by
  revert h; simp only [Param.named, Param.is]; cases p.kind <;> simp

theorem rank_after_varPos (hk : p.kind = .varPos)
    (hb : ∀ q ∈ ps, Before p q) : ∀ q ∈ ps, 3 ≤ q.kind.rank := by
  intro q hq
  have := (hb q hq).2.2 (by simp [Param.named, hk])
  rw [hk] at this
  exact this

theorem not_positional_of_rank (hr : 3 ≤ p.kind.rank) : p.is .varPos = false ∧ p.positional = false := by
  revert hr; simp only [Param.is, Param.positional]; cases p.kind <;> simp [Kind.rank]

theorem kwOnly_of_rank (hn : p.named = true) (hr : 3 ≤ p.kind.rank) : p.kind = .kwOnly := by
  revert hn hr; simp only [Param.named]; cases p.kind <;> simp [Kind.rank]

theorem nil_of_varKw (hk : p.kind = .varKw)
    (hb : ∀ q ∈ ps, Before p q) : ps = [] := by
  cases ps with
  | nil => rfl
  | cons q r =>
    have := (hb q (List.mem_cons_self ..)).2.2 (by simp [Param.named, hk])
    rw [hk] at this
    cases hq : q.kind <;> simp [hq, Kind.rank] at this

/-- Where an entry `p` of `arg_names` takes its value from: `Source p args kw x kw'` — with `args` positionals and `kw`
keywords still unconsumed, `p` gets `x` and leaves the keywords `kw'` (and `args.tail`). -/
inductive Source (p : Param) : List Nat → List (Nat × Nat) → Nat → List (Nat × Nat) → Prop
  /-- no positional left, `p` can take a keyword and `kw` has it: the keyword, which is consumed -/
  | keyword {kw : List (Nat × Nat)} {x : Nat} :
      p.byKeyword = true → dget p.name kw = some x → Source p [] kw x (dpop p.name kw)
  /-- the next positional, if `p` can take one (`kw` must not name `p` then) -/
  | positional {a : Nat} {as : List Nat} {kw : List (Nat × Nat)} :
      p.positional = true → (p.byKeyword = true → dget p.name kw = none) → Source p (a :: as) kw a kw
  /-- no positional left and no keyword for `p` in `kw`: its default -/
  | default {kw : List (Nat × Nat)} {dv : Nat} :
      (p.byKeyword = true → dget p.name kw = none) → p.default = some dv → Source p [] kw dv kw

theorem Source.kw_eq {as : List Nat} {kw kw' : List (Nat × Nat)} {x : Nat} (h : Source p as kw x kw') :
    kw' = if p.byKeyword then dpop p.name kw else kw := by
  cases h with
  | keyword hbk _ => rw [if_pos hbk]
  | positional _ hg | default hg _ =>
    split
    · rename_i hbk; exact (dpop_of_none (hg hbk)).symm
    · rfl

theorem Source.dget_ne {as : List Nat} {kw kw' : List (Nat × Nat)} {x n : Nat} (h : Source p as kw x kw')
    (hn : n ≠ p.name) : dget n kw' = dget n kw := by
  cases h with
  | keyword => exact dget_dpop_ne hn _
  | _ => rfl

theorem Source.nodup {as : List Nat} {kw kw' : List (Nat × Nat)} {x : Nat} (h : Source p as kw x kw')
    (hn : (kw.map Prod.fst).Nodup) : (kw'.map Prod.fst).Nodup := by
  cases h with
  | keyword => exact nodup_keys_dpop _ hn
  | _ => exact hn

/-- Python's binding of a well-formed parameter list as a relation: `Binds ps args kw b` — with `args`
positionals and `kw` keywords still unconsumed, the parameters `ps` are bound as `b` and nothing is left over.
What the order of the kinds gives is part of the rules: names after a parameter differ from its own, only
keyword-only parameters and `**kwargs` follow `*args`, nothing follows `**kwargs`. Every successful `bindGo` is a
derivation (`binds_of_bindGo`); the converse and the four ways `bindGo` fails are not characterised. -/
inductive Binds : List Param → List Nat → List (Nat × Nat) → List (Nat × Val) → Prop
  /-- no parameter left: no argument may be left either -/
  | nil : Binds [] [] [] []
  /-- positional-only, positional-or-keyword, keyword-only: one value, from one of the three `Source`s -/
  | named {p : Param} {ps : List Param} {as : List Nat} {kw kw' : List (Nat × Nat)} {x : Nat}
      {r : List (Nat × Val)} : p.named = true → (∀ q ∈ ps, q.name ≠ p.name) → Source p as kw x kw' →
      Binds ps as.tail kw' r → Binds (p :: ps) as kw ((p.name, .one x) :: r)
  /-- `*args`: all positionals left -/
  | varPos {p : Param} {ps : List Param} {as : List Nat} {kw : List (Nat × Nat)} {r : List (Nat × Val)} :
      p.kind = .varPos → (∀ q ∈ ps, 3 ≤ q.kind.rank) → Binds ps [] kw r →
      Binds (p :: ps) as kw ((p.name, .seq as) :: r)
  /-- `**kwargs`, the last parameter: all keywords left -/
  | varKw {p : Param} {kw : List (Nat × Nat)} : p.kind = .varKw → Binds [p] [] kw [(p.name, .map kw)]

theorem binds_of_bindGo (hw : ps.Pairwise Before) (h : bindGo ps as kw = .ok b) : Binds ps as kw b := by
  induction ps generalizing as kw b with
  | nil => cases as <;> cases kw <;> simp [bindGo] at h; subst h; exact .nil
  | cons p ps ih =>
    rw [List.pairwise_cons] at hw
    -- every successful branch of `bindGo` binds `p` by one of the rules and goes on; the cases are the five kinds, in
    -- the order and with the nesting of the `match` in `bindGo`
    have step : ∀ {v as' kw'}, (∀ {r}, Binds ps as' kw' r → Binds (p :: ps) as kw ((p.name, v) :: r)) →
        (bindGo ps as' kw').map ((p.name, v) :: ·) = .ok b → Binds (p :: ps) as kw b :=
      fun rule hm => let ⟨_, hr, e⟩ := map_eq_ok.mp hm; e ▸ rule (ih hw.2 hr)
    have hne : ∀ q ∈ ps, q.name ≠ p.name := fun q hq => Ne.symm (hw.1 q hq).1
    unfold bindGo at h
    split at h
    · rename_i hk -- posOnly
      have hn : p.named = true ∧ p.positional = true ∧ (p.byKeyword = true → dget p.name kw = none) := by
        simp [Param.named, Param.positional, Param.byKeyword, hk]
      split at h
      · exact step (.named hn.1 hne (.positional hn.2.1 hn.2.2)) h
      · split at h
        · exact step (.named hn.1 hne (.default hn.2.2 ‹_›)) h
        · cases h
    · rename_i hk -- posKw
      have hn : p.named = true ∧ p.positional = true ∧ p.byKeyword = true := by
        simp [Param.named, Param.positional, Param.byKeyword, hk]
      split at h
      · split at h
        · cases h
        · rename_i hnone
          exact step (.named hn.1 hne (.positional hn.2.1 fun _ => by simpa using hnone)) h
      · split at h
        · exact step (.named hn.1 hne (.keyword hn.2.2 ‹_›)) h
        · split at h
          · exact step (.named hn.1 hne (.default (fun _ => ‹_›) ‹_›)) h
          · cases h
    · rename_i hk -- varPos
      exact step (.varPos hk (rank_after_varPos hk hw.1)) h
    · rename_i hk -- kwOnly
      have hn : p.named = true ∧ p.byKeyword = true := by simp [Param.named, Param.byKeyword, hk]
      split at h
      · cases h
      · split at h
        · exact step (.named hn.1 hne (.keyword hn.2 ‹_›)) h
        · split at h
          · exact step (.named hn.1 hne (.default (fun _ => ‹_›) ‹_›)) h
          · cases h
    · rename_i hk -- varKw
      split at h
      · cases h
      · -- nothing follows `**kwargs`
        cases nil_of_varKw hk hw.1
        exact step (fun hr => by cases hr; exact .varKw hk) h

/-- The key `filter_args` uses for a parameter. -/
def keyOfParam (p : Param) : Key :=
  match p.kind with
  | .varPos => .star
  | .varKw => .dstar
  | _ => .name p.name

theorem keyOfParam_named (h : p.named = true) : keyOfParam p = .name p.name := by
  revert h; simp only [Param.named, keyOfParam]; cases p.kind <;> simp

/-- The entries of a bound mapping `b` (aligned with `ps`) for the parameters selected by `sel`,
in `filter_args`' key format. -/
def parts (sel : Param → Bool) : List Param → List (Nat × Val) → Dict
  | p :: ps, e :: b => if sel p then (keyOfParam p, e.2) :: parts sel ps b else parts sel ps b
  | _, _ => []

theorem parts_cons_neg {sel : Param → Bool} (h : sel p = false) (ps : List Param)
    (e : Nat × Val) (b : List (Nat × Val)) : parts sel (p :: ps) (e :: b) = parts sel ps b := by
  rw [parts, if_neg (by simp [h])]

theorem parts_none {sel : Param → Bool} (h : ∀ q ∈ ps, sel q = false)
    (b : List (Nat × Val)) : parts sel ps b = [] := by
  induction ps generalizing b with
  | nil => simp [parts]
  | cons p ps ih =>
    cases b with
    | nil => simp [parts]
    | cons e b =>
      rw [parts_cons_neg (h p (List.mem_cons_self ..))]
      exact ih (fun q hq => h q (List.mem_cons_of_mem _ hq)) b

theorem parts_named_cons {v : Val} {r : List (Nat × Val)}
    (h : p.named = true) :
    parts Param.named (p :: ps) ((p.name, v) :: r) = (Key.name p.name, v) :: parts Param.named ps r := by
  rw [parts, if_pos h, keyOfParam_named h]

theorem Binds.names (h : Binds ps as kw b) : b.map Prod.fst = ps.map (·.name) := by
  induction h <;> simp [*]

theorem Binds.star (h : Binds ps as kw b) :
    parts (Param.is .varPos) ps b =
      if ps.any (Param.is .varPos) then
        [(Key.star, Val.seq (as.drop (ps.filter Param.positional).length))]
      else [] := by
  induction h with
  | nil => simp [parts]
  | @named p ps as _ _ _ _ hnamed _ hx _ ih =>
    -- an entry of `arg_names` consumes a positional iff it is positional (or none is left)
    rw [parts_cons_neg (not_is_of_named hnamed).2, ih, List.any_cons, (not_is_of_named hnamed).2,
      Bool.false_or, List.filter_cons]
    by_cases hp : p.positional = true
    · simp [hp]
    · have : as = [] := by
        cases hx with
        | positional hp' _ => exact absurd hp' hp
        | _ => rfl
      simp [hp, this]
  | @varPos p ps _ _ r hk hrank _ _ =>
    have h1 : parts (Param.is .varPos) ps r = [] :=
      parts_none (fun q hq => (not_positional_of_rank (hrank q hq)).1) r
    have h2 : ps.filter Param.positional = [] :=
      List.filter_eq_nil_iff.mpr fun q hq => by simp [(not_positional_of_rank (hrank q hq)).2]
    simp [parts, Param.is, Param.positional, hk, h1, h2, keyOfParam]
  | varKw hk => simp [parts, Param.is, hk]

def kwNames (ps : List Param) : List Nat := (ps.filter Param.byKeyword).map (·.name)

/-- The keywords no parameter takes. -/
def finalKw (ps : List Param) (kw : List (Nat × Nat)) : List (Nat × Nat) :=
  kw.filter (fun e => decide (e.1 ∉ kwNames ps))

theorem finalKw_cons (hn : (kw.map Prod.fst).Nodup) :
    finalKw (p :: ps) kw = finalKw ps (if p.byKeyword then dpop p.name kw else kw) := by
  unfold finalKw kwNames
  rw [List.filter_cons]
  cases p.byKeyword with
  | false => rfl
  | true =>
    rw [if_pos rfl, if_pos rfl, dpop_eq_filter hn, List.filter_filter]
    apply List.filter_congr
    intro e _
    simp only [List.map_cons, List.mem_cons, not_or, Bool.decide_and, Bool.and_comm]

/-- The second half (without `**kwargs` no keyword is left, else `bindGo` would have failed) is why the keyword loop never
reaches its `TypeError`. -/
theorem Binds.dstar (hn : (kw.map Prod.fst).Nodup) (h : Binds ps as kw b) :
    parts (Param.is .varKw) ps b =
        (if ps.any (Param.is .varKw) then [(Key.dstar, Val.map (finalKw ps kw))] else []) ∧
      (ps.any (Param.is .varKw) = false → finalKw ps kw = []) := by
  induction h with
  | nil => simp [parts, finalKw]
  | @named p ps as kw kw' _ r hnamed _ hx _ ih =>
    rw [List.any_cons, (not_is_of_named hnamed).1, Bool.false_or, finalKw_cons hn, ← hx.kw_eq,
      parts_cons_neg (not_is_of_named hnamed).1]
    exact ih (hx.nodup hn)
  | @varPos p ps _ kw r hk _ _ ih =>
    have hpis : p.is .varKw = false := by simp [Param.is, hk]
    rw [List.any_cons, hpis, Bool.false_or, finalKw_cons hn, parts_cons_neg hpis,
      show p.byKeyword = false by simp [Param.byKeyword, hk]]
    exact ih hn
  | varKw hk =>
    simp [parts, Param.is, hk, keyOfParam, finalKw, kwNames, Param.byKeyword]
    exact (List.filter_eq_self.mpr (fun _ _ => rfl)).symm


/-- What the loop knows about a parameter through the locals of the parameter loop. -/
structure MemOK (w : Walk) (p : Param) : Prop where
  kwonly : p.name ∈ w.argKwonly ↔ p.kind = .kwOnly
  posonly : p.name ∈ w.argPosonly ↔ p.kind = .posOnly
  default : dget p.name w.argDefaults = p.default
  varargs : p.kind = .varPos → w.argVarargs.isSome = true

/-- The positionals `bindGo` has not consumed yet, seen from the loop at `arg_position = pos`: the arguments
from `pos` on — or none, once `*args` has taken them (then only keyword-only parameters and `**kwargs` follow). -/
def ArgsAt (w : Walk) (args : List Nat) (pos : Nat) (as : List Nat) (ps : List Param) : Prop :=
  as = args.drop pos ∨ (as = [] ∧ w.argVarargs.isSome = true ∧ ∀ p ∈ ps, 3 ≤ p.kind.rank)

theorem ArgsAt.tail {args as : List Nat} {pos : Nat}
    (h : ArgsAt w args pos as (p :: ps)) : ArgsAt w args (pos + 1) as.tail ps := by
  rcases h with rfl | ⟨rfl, hv, hr⟩
  · exact .inl List.tail_drop
  · exact .inr ⟨rfl, hv, fun q hq => hr q (List.mem_cons_of_mem _ hq)⟩

/-- `hp` excludes the one disagreement: a positional left for a keyword-only `p` under `*args`, where the loop's test answers
`none`. `Binds` leaves none after `*args`, and `Source.positional` asks `p.positional`. -/
theorem ArgsAt.positionalArg_eq {args as : List Nat} {pos : Nat}
    (h : ArgsAt w args pos as (p :: ps)) (hm : MemOK w p) (hn : p.named = true)
    (hp : as = [] ∨ p.positional = true) : positionalArg w args p.name pos = as.head? := by
  unfold positionalArg
  rcases h with rfl | ⟨rfl, hv, hr⟩
  · rw [List.head?_drop]
    split
    · rename_i hc
      rcases hp with hp | hp
      · rw [← List.head?_drop, hp]; rfl
      · exact absurd (hm.kwonly.mp hc.1) (not_kwOnly_of_positional hp)
    · rfl
  · exact if_pos ⟨hm.kwonly.mpr (kwOnly_of_rank hn (hr p (List.mem_cons_self ..))), hv⟩

/-- The three disjuncts are `Source.positional`, `.keyword`, `.default` seen through the locals (`MemOK`). -/
theorem mainLoop_step {n : Nat} {ns : List Nat}
    {pos : Nat} {d : Dict} (v : Nat)
    (h : (positionalArg w args n pos = some v ∧ n ∉ w.argKwonly) ∨
      (positionalArg w args n pos = none ∧
        ((n ∉ w.argPosonly ∧ dget n kwargs = some v) ∨
         ((n ∈ w.argPosonly ∨ dget n kwargs = none) ∧ dget n w.argDefaults = some v)))) :
    mainLoop w args kwargs (n :: ns) pos d =
      mainLoop w args kwargs ns (pos + 1) (dset (.name n) (.one v) d) := by
  rw [mainLoop]
  rcases h with ⟨h1, h2⟩ | ⟨h1, ⟨h2, h3⟩ | ⟨h2, h3⟩⟩
  · simp [h1, h2]
  · simp [h1, h2, h3]
  · have : (if n ∈ w.argPosonly then none else dget n kwargs) = none := by
      rcases h2 with h2 | h2 <;> simp [h2]
    simp [h1, this, h3]

theorem mainLoop_spec (w : Walk) (args : List Nat) (kwargs : List (Nat × Nat)) (h : Binds ps as kw b) :
    ∀ (pos : Nat) (d : Dict),
      (∀ p ∈ ps, MemOK w p) →
      ArgsAt w args pos as ps →
      (∀ p ∈ ps, dget p.name kw = dget p.name kwargs) →
      (∀ p ∈ ps, dget (Key.name p.name) d = none) →
      mainLoop w args kwargs ((ps.filter Param.named).map (·.name)) pos d
        = .ok (d ++ parts Param.named ps b) := by
  induction h with
  | nil => intros; simp [mainLoop, parts]
  | @named p ps as kw kw' x r hnamed hne hx _ ih =>
    intro pos d hm hA hkw hd
    obtain ⟨hmp, hmr⟩ := List.forall_mem_cons.mp hm
    obtain ⟨hkwp, hkwr⟩ := List.forall_mem_cons.mp hkw
    obtain ⟨hdp, hdr⟩ := List.forall_mem_cons.mp hd
    have hstep := mainLoop_step (w := w) (args := args) (kwargs := kwargs) (n := p.name)
      (ns := (ps.filter Param.named).map (·.name)) (pos := pos) (d := d) x (by
        cases hx with
        | keyword hbk hg =>
          exact .inr ⟨hA.positionalArg_eq hmp hnamed (.inl rfl),
            .inl ⟨fun hin => not_posOnly_of_byKeyword hbk (hmp.posonly.mp hin), hkwp ▸ hg⟩⟩
        | positional hp hg =>
          exact .inl ⟨hA.positionalArg_eq hmp hnamed (.inr hp), fun hin => not_kwOnly_of_positional hp (hmp.kwonly.mp hin)⟩
        | default hg hdv =>
          refine .inr ⟨hA.positionalArg_eq hmp hnamed (.inl rfl), .inr ⟨?_, hmp.default.trans hdv⟩⟩
          by_cases hk : p.kind = .posOnly
          · exact .inl (hmp.posonly.mpr hk)
          · exact .inr (hkwp ▸ hg (byKeyword_of_named hnamed hk)))
    have hkw' : ∀ q ∈ ps, dget q.name kw' = dget q.name kwargs := fun q hq =>
      (hx.dget_ne (hne q hq)).trans (hkwr q hq)
    have hd' : ∀ q ∈ ps, dget (Key.name q.name) (dset (.name p.name) (.one x) d) = none := by
      intro q hq
      rw [dget_dset_ne (by simpa using hne q hq)]
      exact hdr q hq
    rw [List.filter_cons, if_pos hnamed, List.map_cons, hstep, ih (pos + 1) _ hmr hA.tail hkw' hd',
      dset_of_none hdp, parts_named_cons hnamed]
    simp
  | @varPos p ps _ kw r hk hrank _ ih =>
    intro pos d hm hA hkw hd
    have hnn : p.named = false := by simp [Param.named, hk]
    obtain ⟨hmp, hmr⟩ := List.forall_mem_cons.mp hm
    rw [List.filter_cons, if_neg (by simp [hnn]),
      ih pos d hmr (.inr ⟨rfl, hmp.varargs hk, hrank⟩) (List.forall_mem_cons.mp hkw).2
        (List.forall_mem_cons.mp hd).2, parts_cons_neg hnn]
  | varKw hk => intros; simp [mainLoop, parts, Param.named, hk]

theorem Binds.keyword_value (h : Binds ps as kw b)
    (hp : p ∈ ps) (hbk : p.byKeyword = true) {v : Nat} (hv : dget p.name kw = some v) :
    (Key.name p.name, Val.one v) ∈ parts Param.named ps b := by
  induction h with
  | nil => simp at hp
  | @named q ps as kw kw' y r hnamed hne hx _ ih =>
    rw [parts_named_cons hnamed]
    rcases List.mem_cons.mp hp with rfl | hp'
    · -- `p` itself: it can only have taken its keyword
      cases hx with
      | keyword _ hg => rw [hg] at hv; cases hv; exact List.mem_cons_self ..
      | positional _ hg | default hg _ => rw [hg hbk] at hv; cases hv
    · -- a later parameter: its keyword is still there
      exact List.mem_cons_of_mem _ (ih hp' ((hx.dget_ne (hne p hp')).trans hv))
  | @varPos q ps _ kw r hk _ _ ih =>
    rcases List.mem_cons.mp hp with rfl | hp'
    · simp [Param.byKeyword, hk] at hbk
    · rw [parts_cons_neg (by simp [Param.named, hk])]; exact ih hp' hv
  | varKw hk =>
    cases List.mem_singleton.mp hp
    simp [Param.byKeyword, hk] at hbk

/-- The surplus-keyword dict Python binds to `**kwargs` has distinct keys when `kwargs` has. -/
theorem Binds.map_nodup (hn : (kw.map Prod.fst).Nodup) (h : Binds ps as kw b) :
    ∀ n m, (n, Val.map m) ∈ b → (m.map Prod.fst).Nodup := by
  induction h with
  | nil => intro n m hm; cases hm
  | named _ _ hx _ ih =>
    intro n m hm
    rcases List.mem_cons.mp hm with e | t
    · cases e
    · exact ih (hx.nodup hn) n m t
  | varPos _ _ _ ih =>
    intro n m hm
    rcases List.mem_cons.mp hm with e | t
    · cases e
    · exact ih hn n m t
  | varKw _ =>
    intro n m hm
    cases List.mem_singleton.mp hm
    exact hn

theorem parts_named_keys (hl : b.length = ps.length) :
    (parts Param.named ps b).map Prod.fst = ((ps.filter Param.named).map (·.name)).map Key.name := by
  induction ps generalizing b with
  | nil => simp [parts]
  | cons p ps ih =>
    cases b with
    | nil => simp at hl
    | cons e b =>
      simp only [List.length_cons, Nat.add_right_cancel_iff] at hl
      simp only [parts, List.filter_cons]
      by_cases hn : p.named = true
      · simp [hn, keyOfParam_named hn, ih hl]
      · simp [hn, ih hl]


theorem sortKw_perm (l : List (Nat × Nat)) : (sortKw l).Perm l :=
  List.perm_of_sort sortKw rfl (fun _ _ => rfl) (List.perm_of_insert insertKw (fun _ => rfl) fun _ _ _ => rfl) l


/-- The keyword loop on a dict that already holds every keyword it would store: with `K` the keywords its test
`arg_name in arg_dict and arg_name not in arg_posonlyargs` accepts, the dict is left as it is and the others
are collected, in order. -/
theorem kwLoop_ok (w : Walk) (d : Dict) (K : List Nat) :
    ∀ (l vk : List (Nat × Nat)),
      (l.map Prod.fst).Nodup → (∀ e ∈ l, dget e.1 vk = none) →
      (∀ e ∈ l, ((dget (Key.name e.1) d).isSome = true ∧ e.1 ∉ w.argPosonly) ↔ e.1 ∈ K) →
      (∀ e ∈ l, e.1 ∈ K → dget (Key.name e.1) d = some (Val.one e.2)) →
      (∀ e ∈ l, e.1 ∉ K → w.argVarkw.isSome = true) →
      kwLoop w l d vk = .ok (d, vk ++ l.filter (fun e => decide (e.1 ∉ K))) := by
  intro l
  induction l with
  | nil => intro vk _ _ _ _ _; simp [kwLoop]
  | cons e r ih =>
    intro vk hn hvk hK ht hf
    obtain ⟨k, v⟩ := e
    simp only [List.map_cons, List.nodup_cons] at hn
    obtain ⟨hvk1, hvk⟩ := List.forall_mem_cons.mp hvk
    obtain ⟨hK1, hK⟩ := List.forall_mem_cons.mp hK
    obtain ⟨ht1, ht⟩ := List.forall_mem_cons.mp ht
    obtain ⟨hf1, hf⟩ := List.forall_mem_cons.mp hf
    by_cases hc : k ∈ K
    · rw [kwLoop, if_pos (hK1.mpr hc), dset_of_some (ht1 hc), ih vk hn.2 hvk hK ht hf]
      simp [hc]
    · rw [kwLoop, if_neg (fun h => hc (hK1.mp h)), if_pos (hf1 hc), dset_of_none hvk1,
        ih (vk ++ [(k, v)]) hn.2 ?_ hK ht hf]
      · simp [hc]
      · intro e he
        have : k ≠ e.1 := fun eq => hn.1 (eq ▸ List.mem_map_of_mem he)
        rw [dget_append, hvk e he]
        simp [dget, this]


theorem find_of_mem (hn : (s.map (·.name)).Nodup) (hp : p ∈ s) :
    s.find? (fun q => decide (q.name = p.name)) = some p := by
  induction s with
  | nil => simp at hp
  | cons x r ih =>
    simp only [List.map_cons, List.nodup_cons] at hn
    rcases List.mem_cons.mp hp with hp' | hp'
    · subst hp'; simp
    · have : x.name ≠ p.name := by
        intro e; apply hn.1; rw [e]; exact List.mem_map.mpr ⟨p, hp', rfl⟩
      simp [this, ih hn.2 hp']

theorem keyOf_of_mem (h : WF s) (hp : p ∈ s) : keyOf s p.name = keyOfParam p := by
  unfold keyOf
  rw [find_of_mem h.nodup_names hp]
  obtain ⟨n, k, dv⟩ := p
  cases k <;> rfl

theorem rename_eq_parts (s : Sig)
    (hb : b.map Prod.fst = ps.map (·.name)) (hk : ∀ p ∈ ps, keyOf s p.name = keyOfParam p) :
    b.map (fun e => (keyOf s e.1, e.2)) = parts (fun _ => true) ps b := by
  induction ps generalizing b with
  | nil => cases b <;> simp_all [parts]
  | cons p ps ih =>
    cases b with
    | nil => simp at hb
    | cons e b =>
      simp only [List.map_cons, List.cons.injEq] at hb
      simp only [List.map_cons, parts, if_true]
      rw [hb.1, hk p (List.mem_cons_self ..),
        ih hb.2 (fun q hq => hk q (List.mem_cons_of_mem _ hq))]

theorem kind_trichotomy (p : Param) :
    (p.named = true ∧ p.is .varKw = false ∧ p.is .varPos = false) ∨
    (p.named = false ∧ p.is .varKw = true ∧ p.is .varPos = false) ∨
    (p.named = false ∧ p.is .varKw = false ∧ p.is .varPos = true) := by
  simp only [Param.named, Param.is]; cases p.kind <;> simp

theorem parts_all_perm (ps : List Param) (b : List (Nat × Val)) :
    (parts (fun _ => true) ps b).Perm
      (parts Param.named ps b ++ parts (Param.is .varKw) ps b ++ parts (Param.is .varPos) ps b) := by
  induction ps generalizing b with
  | nil => simp [parts]
  | cons p ps ih =>
    cases b with
    | nil => simp [parts]
    | cons e b =>
      simp only [parts, if_true]
      rcases kind_trichotomy p with ⟨h1, h2, h3⟩ | ⟨h1, h2, h3⟩ | ⟨h1, h2, h3⟩
      · simp only [h1, h2, h3, if_true, Bool.false_eq_true, if_false, List.cons_append]
        exact List.Perm.cons _ (ih b)
      · simp only [h1, h2, h3, if_true, Bool.false_eq_true, if_false]
        refine (List.Perm.cons _ (ih b)).trans ?_
        rw [List.append_assoc, List.append_assoc]
        exact (List.perm_middle).symm
      · simp only [h1, h2, h3, if_true, Bool.false_eq_true, if_false]
        refine (List.Perm.cons _ (ih b)).trans ?_
        exact (List.perm_middle).symm

theorem ValEq.refl (v : Val) : ValEq v v := by
  cases v <;> simp [ValEq]

theorem EntriesEq.refl (d : Dict) : EntriesEq d d := by
  induction d with
  | nil => trivial
  | cons x r ih => exact ⟨rfl, ValEq.refl _, ih⟩

theorem EntriesEq.ind {motive : Dict → Dict → Prop} (nil : motive [] [])
    (cons : ∀ x y xs ys, x.1 = y.1 → ValEq x.2 y.2 → EntriesEq xs ys → motive xs ys → motive (x :: xs) (y :: ys)) :
    ∀ {a b : Dict}, EntriesEq a b → motive a b
  | [], [], _ => nil
  | x :: xs, y :: ys, h => cons x y xs ys h.1 h.2.1 h.2.2 (EntriesEq.ind nil cons h.2.2)

theorem EntriesEq.append {a a' b b' : Dict} (h1 : EntriesEq a a') (h2 : EntriesEq b b') :
    EntriesEq (a ++ b) (a' ++ b') :=
  h1.ind (motive := fun a a' => EntriesEq (a ++ b) (a' ++ b')) h2 fun _ _ _ _ hk hv _ ih => ⟨hk, hv, ih⟩

theorem EntriesEq.keys {a b : Dict} (h : EntriesEq a b) : a.map Prod.fst = b.map Prod.fst :=
  h.ind (motive := fun a b => a.map Prod.fst = b.map Prod.fst) rfl fun _ _ _ _ hk _ _ ih => by simp [hk, ih]

theorem EntriesEq.filter {a b : Dict} (f : Key → Bool) (h : EntriesEq a b) :
    EntriesEq (a.filter (fun e => f e.1)) (b.filter (fun e => f e.1)) :=
  h.ind (motive := fun a b => EntriesEq (a.filter (fun e => f e.1)) (b.filter (fun e => f e.1))) trivial
    fun x y xs ys hk hv _ ih => by
      simp only [List.filter_cons, ← hk]
      split
      · exact ⟨hk, hv, ih⟩
      · exact ih

theorem SameDict.filter {a b : Dict} (f : Key → Bool) (h : SameDict a b) :
    SameDict (a.filter (fun e => f e.1)) (b.filter (fun e => f e.1)) :=
  let ⟨d, hp, he⟩ := h
  ⟨d.filter (fun e => f e.1), hp.filter _, he.filter f⟩

theorem SameDict.keys_perm {a b : Dict} (h : SameDict a b) : (a.map Prod.fst).Perm (b.map Prod.fst) :=
  let ⟨_, hp, he⟩ := h
  he.keys ▸ hp.map Prod.fst

/-- An entry-wise equal copy follows any reordering. -/
theorem EntriesEq.perm_transport {a X Y : Dict} (h : EntriesEq a X) (hp : X.Perm Y) :
    ∃ a', a.Perm a' ∧ EntriesEq a' Y := by
  induction hp generalizing a with
  | nil => exact ⟨a, .refl _, h⟩
  | cons x _ ih =>
    match a, h with
    | y :: r, h =>
      obtain ⟨a', pa, ea⟩ := ih h.2.2
      exact ⟨y :: a', pa.cons _, h.1, h.2.1, ea⟩
  | swap x y l =>
    match a, h with
    | u :: v :: r, h => exact ⟨v :: u :: r, .swap _ _ _, h.2.2.1, h.2.2.2.1, h.1, h.2.1, h.2.2.2.2⟩
  | trans _ _ ih1 ih2 =>
    obtain ⟨a1, p1, e1⟩ := ih1 h
    obtain ⟨a2, p2, e2⟩ := ih2 e1
    exact ⟨a2, p1.trans p2, e2⟩

theorem named_length (s : Sig) :
    (s.filter Param.named).length
      = (s.filter Param.positional).length + (s.filter (Param.is .kwOnly)).length := by
  induction s with
  | nil => rfl
  | cons p ps ih =>
    obtain ⟨n, k, dv⟩ := p
    cases k <;> simp only [List.filter_cons, Param.named, Param.positional, Param.is, List.length_cons, ih,
      decide_true, decide_false, if_true, if_false, Bool.false_eq_true, reduceCtorEq] <;> omega


theorem WalkOK.memOK (ok : WalkOK w s) (h : WF s) (hp : p ∈ s) :
    MemOK w p := by
  refine ⟨ok.kwonly ▸ mem_names_is h hp _, (ok.posonly _).trans (mem_names_is h hp _), ok.defaults p hp, ?_⟩
  intro hk
  rw [ok.varargs, List.any_eq_true]
  exact ⟨p, hp, by simp [Param.is, hk]⟩

theorem kwTest_iff (ok : WalkOK w s) (h : WF s) (hl : b.length = s.length) (k : Nat) :
    ((dget (Key.name k) (parts Param.named s b)).isSome = true ∧ k ∉ w.argPosonly) ↔ k ∈ kwNames s := by
  simp only [dget_isSome_iff, parts_named_keys hl, ok.posonly, List.mem_map, List.mem_filter, kwNames]
  constructor
  · rintro ⟨⟨n, ⟨p, ⟨hp, hnamed⟩, rfl⟩, hn⟩, hnot⟩
    cases hn
    exact ⟨p, ⟨hp, byKeyword_of_named hnamed fun hk => hnot ⟨p, ⟨hp, by simp [Param.is, hk]⟩, rfl⟩⟩, rfl⟩
  · rintro ⟨p, ⟨hp, hbk⟩, rfl⟩
    refine ⟨⟨p.name, ⟨p, ⟨hp, named_of_byKeyword hbk⟩, rfl⟩, rfl⟩, ?_⟩
    rintro ⟨q, ⟨hq, hqk⟩, e⟩
    cases eq_of_name_eq h.nodup_names hq hp e
    exact not_posOnly_of_byKeyword hbk (by simpa [Param.is] using hqk)

theorem mainLoop_nodup {ns : List Nat} {pos : Nat} {d d' : Dict} (hn : (d.map Prod.fst).Nodup)
    (h : mainLoop w args kwargs ns pos d = .ok d') : (d'.map Prod.fst).Nodup := by
  induction ns generalizing pos d with
  | nil => cases h; exact hn
  | cons n ns ih =>
    rw [mainLoop] at h
    split at h
    · split at h
      · cases h
      · exact ih (nodup_keys_dset _ _ hn) h
    · split at h
      · exact ih (nodup_keys_dset _ _ hn) h
      · split at h
        · exact ih (nodup_keys_dset _ _ hn) h
        · cases h

theorem kwLoop_nodup {l vk : List (Nat × Nat)} {d : Dict} {r : Dict × List (Nat × Nat)}
    (hn : (d.map Prod.fst).Nodup) (h : kwLoop w l d vk = .ok r) : (r.1.map Prod.fst).Nodup := by
  induction l generalizing d vk with
  | nil => cases h; exact hn
  | cons e l ih =>
    obtain ⟨k, v⟩ := e
    rw [kwLoop] at h
    split at h
    · exact ih (nodup_keys_dset _ _ hn) h
    · split at h
      · exact ih hn h
      · cases h

theorem core_nil_ignore (w : Walk) (ig : List Key) (args : List Nat) (kwargs : List (Nat × Nat)) :
    core w ig args kwargs =
      match core w [] args kwargs with
      | .ok d => ignoreLoop ig d
      | .error e => .error e := by
  unfold core
  cases mainLoop w args kwargs w.argNames 0 [] with
  | error e => rfl
  | ok d =>
    simp only
    cases kwLoop w (sortKw kwargs) d [] with
    | error e => rfl
    | ok r => simp [ignoreLoop]

/-- The body of `filter_args` on a call Python binds as `b`, entry by entry: `arg_names` in order, then `'**'`, then `'*'`. -/
theorem core_eq_parts (hwf : WF s) (ok : WalkOK w s) (hc : (kwargs.map Prod.fst).Nodup)
    (hB : Binds s args kwargs b) :
    core w [] args kwargs = .ok (parts Param.named s b ++
      (if s.any (Param.is .varKw) then [(Key.dstar, Val.map (finalKw s (sortKw kwargs)))] else []) ++
      (if s.any (Param.is .varPos) then
        [(Key.star, Val.seq (args.drop (s.filter Param.positional).length))] else [])) := by
  have hlen : b.length = s.length := by simpa using congrArg List.length hB.names
  have h1 : mainLoop w args kwargs w.argNames 0 [] = .ok (parts Param.named s b) := by
    rw [ok.names]
    simpa using mainLoop_spec w args kwargs hB 0 [] (fun p hp => ok.memOK hwf hp)
      (.inl (by simp)) (fun _ _ => rfl) (fun _ _ => rfl)
  have hkeys := parts_named_keys (ps := s) (b := b) hlen
  have hnd : ((parts Param.named s b).map Prod.fst).Nodup := mainLoop_nodup (by simp) h1
  have hstar_none : dget Key.star (parts Param.named s b) = none := by
    rw [dget_none_iff, hkeys]; simp
  have hdstar_none : dget Key.dstar (parts Param.named s b) = none := by
    rw [dget_none_iff, hkeys]; simp
  have hsperm := sortKw_perm kwargs
  -- the `sorted(kwargs.items())` loop stores nothing new and collects the keywords no parameter takes
  have h2 : kwLoop w (sortKw kwargs) (parts Param.named s b) [] =
      .ok (parts Param.named s b, finalKw s (sortKw kwargs)) := by
    have := kwLoop_ok w (parts Param.named s b) (kwNames s) (sortKw kwargs) []
      ((hsperm.map Prod.fst).nodup_iff.mpr hc) (fun _ _ => rfl) (fun e _ => kwTest_iff ok hwf hlen e.1) ?_ ?_
    · simpa [finalKw] using this
    · intro e he ht
      obtain ⟨p, hp, hpn⟩ := List.mem_map.mp ht
      rw [List.mem_filter] at hp
      have hv : dget p.name kwargs = some e.2 := hpn ▸ dget_of_mem hc (hsperm.mem_iff.mp he)
      exact hpn ▸ dget_of_mem hnd (hB.keyword_value hp.1 hp.2 hv)
    · intro e he hnot
      rw [ok.varkw]
      cases hany : s.any (Param.is .varKw) with
      | true => rfl
      | false =>
        have : e ∈ finalKw s kwargs := List.mem_filter.mpr ⟨hsperm.mem_iff.mp he, by simpa using hnot⟩
        rw [(hB.dstar hc).2 hany] at this; cases this
  have hnpos : w.argNames.length - w.argKwonly.length = (s.filter Param.positional).length := by
    rw [ok.names, ok.kwonly, List.length_map, List.length_map, named_length]; omega
  rw [← ok.varkw, ← ok.varargs, ← hnpos]
  unfold core
  rw [h1]; simp only; rw [h2]
  cases w.argVarkw <;> cases w.argVarargs <;>
    simp [ignoreLoop, dset_of_none, hstar_none, hdstar_none, dget_append, dget]

/-- The heart of C07: for any locals `w` that describe the signature `s` faithfully, the body of
`filter_args` yields Python's bound mapping. -/
theorem core_eq_bind (hwf : WF s) (ok : WalkOK w s)
    (hc : (kwargs.map Prod.fst).Nodup)
    (hb : bindGo s args kwargs = .ok b) :
    ∃ d, core w [] args kwargs = .ok d ∧ SameDict d (rename s b) := by
  have hB := binds_of_bindGo hwf hb
  refine ⟨_, core_eq_parts hwf ok hc hB, ?_⟩
  -- Python's mapping lists the same three groups of entries in signature order
  rw [rename, rename_eq_parts s hB.names (fun p hp => keyOf_of_mem hwf hp)]
  refine EntriesEq.perm_transport ?_ (parts_all_perm s b).symm
  rw [(hB.dstar hc).1, hB.star]
  refine EntriesEq.append (EntriesEq.append (EntriesEq.refl _) ?_) (EntriesEq.refl _)
  cases s.any (Param.is .varKw) with
  | false => trivial
  | true => exact ⟨rfl, (sortKw_perm kwargs).filter _, trivial⟩

/-- The bound-method block leaves the locals as the parameter loop over `self + signature` would
(up to the order of `arg_posonlyargs`, which is only tested for membership). -/
theorem walkOK_method {selfP : Param} (h : WF (selfP :: s))
    (hpos : selfP.positional = true) (hd : selfP.default = none) :
    WalkOK (methodWalk selfP (walk s)) (selfP :: s) := by
  obtain ⟨ok, hnone⟩ := walk_spec (List.pairwise_cons.mp h).2
  obtain ⟨hnamed, hnk, hnvp, hnvk⟩ : selfP.named = true ∧ selfP.is .kwOnly = false ∧
      selfP.is .varPos = false ∧ selfP.is .varKw = false := by
    revert hpos; simp only [Param.positional, Param.named, Param.is]; cases selfP.kind <;> simp
  refine ⟨?_, ?_, fun n => ?_, fun p hp => ?_, ?_, ?_⟩
  · simp [methodWalk, ok.names, hnamed]
  · simp [methodWalk, ok.kwonly, hnk]
  · simp only [methodWalk, List.filter_cons]
    by_cases hk : selfP.kind = .posOnly
    · simp only [hk, if_true, Param.is, decide_true, List.map_cons, List.mem_append, List.mem_cons,
        List.not_mem_nil, or_false]
      rw [ok.posonly]; exact Or.comm
    · simp only [hk, if_false, show selfP.is .posOnly = false by simp [Param.is, hk], Bool.false_eq_true]
      exact ok.posonly n
  · rcases List.mem_cons.mp hp with rfl | hp'
    · rw [hd]; exact hnone p.name (List.nodup_cons.mp h.nodup_names).1
    · exact ok.defaults p hp'
  · simp [methodWalk, ok.varargs, hnvp]
  · simp [methodWalk, ok.varkw, hnvk]


theorem ignoreLoop_ok_iff {d : Dict} (hn : (d.map Prod.fst).Nodup) (ig : List Key) (d' : Dict) :
    ignoreLoop ig d = .ok d' ↔
      ig.Nodup ∧ (∀ k ∈ ig, k ∈ d.map Prod.fst) ∧ d' = d.filter (fun e => decide (e.1 ∉ ig)) := by
  induction ig generalizing d with
  | nil => simp [ignoreLoop, eq_comm, List.filter_eq_self.mpr]
  | cons k r ih =>
    rw [ignoreLoop]
    by_cases hk : (dget k d).isSome = true
    · have hkm : k ∈ d.map Prod.fst := (dget_isSome_iff k d).mp hk
      have hf : (d.filter (fun e => decide (e.1 ≠ k))).filter (fun e => decide (e.1 ∉ r))
          = d.filter (fun e => decide (e.1 ∉ k :: r)) := by
        rw [List.filter_filter]
        exact List.filter_congr fun e _ => by simp [Bool.and_comm]
      rw [if_pos hk, ih (nodup_keys_dpop k hn), dpop_eq_filter hn, hf]
      simp only [List.mem_map, List.mem_filter, List.nodup_cons, List.mem_cons, forall_eq_or_imp]
      constructor
      · rintro ⟨hnd, hall, rfl⟩
        exact ⟨⟨fun hkr => by obtain ⟨e, ⟨_, h⟩, rfl⟩ := hall k hkr; simp at h, hnd⟩,
          ⟨List.mem_map.mp hkm, fun k' hk' => by obtain ⟨e, ⟨he, _⟩, rfl⟩ := hall k' hk'; exact ⟨e, he, rfl⟩⟩, rfl⟩
      · rintro ⟨⟨hkr, hnd⟩, ⟨_, hall⟩, rfl⟩
        refine ⟨hnd, fun k' hk' => ?_, rfl⟩
        obtain ⟨e, he, rfl⟩ := hall k' hk'
        exact ⟨e, ⟨he, by simpa using fun h : e.1 = k => hkr (h ▸ hk')⟩, rfl⟩
    · rw [if_neg hk]
      have hkm : k ∉ d.map Prod.fst := fun h => hk ((dget_isSome_iff k d).mpr h)
      exact ⟨nofun, fun ⟨_, hall, _⟩ => absurd (hall k (List.mem_cons_self ..)) hkm⟩

theorem ignoreLoop_error {ig : List Key} {d : Dict} {e : Err} (h : ignoreLoop ig d = .error e) :
    e = .ignoreUndefined := by
  induction ig generalizing d with
  | nil => simp [ignoreLoop] at h
  | cons k r ih =>
    rw [ignoreLoop] at h
    split at h
    · exact ih h
    · cases h; rfl


theorem core_nodup {ig : List Key} {d : Dict}
    (h : core w ig args kwargs = .ok d) : (d.map Prod.fst).Nodup := by
  unfold core at h
  split at h
  · cases h
  · rename_i d1 h1
    split at h
    · cases h
    · rename_i d2 vk h2
      have n2 : (d2.map Prod.fst).Nodup := kwLoop_nodup (mainLoop_nodup (by simp) h1) h2
      have n3 : ∀ (o : Option Nat) (k : Key) (v : Val) {d : Dict}, (d.map Prod.fst).Nodup →
          ((match o with | some _ => dset k v d | none => d).map Prod.fst).Nodup :=
        fun o k v d hd => by
          cases o with
          | none => exact hd
          | some _ => exact nodup_keys_dset _ _ hd
      rw [((ignoreLoop_ok_iff (n3 _ _ _ (n3 _ _ _ n2)) ig d).mp h).2.2]
      exact (n3 _ _ _ (n3 _ _ _ n2)).sublist (List.filter_sublist.map _)

theorem core_ok_iff {ig : List Key} {d₀ : Dict} (h₀ : core w [] args kwargs = .ok d₀) (d : Dict) :
    core w ig args kwargs = .ok d ↔
      ig.Nodup ∧ (∀ k ∈ ig, k ∈ d₀.map Prod.fst) ∧ d = d₀.filter (fun e => decide (e.1 ∉ ig)) := by
  rw [core_nil_ignore, h₀]
  exact ignoreLoop_ok_iff (core_nodup h₀) ig d

end JoblibModel.FilterArgs
