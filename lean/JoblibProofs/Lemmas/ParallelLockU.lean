import JoblibProofs.Lemmas.ParallelLockU.Vals
import JoblibProofs.Lemmas.ParallelLockU.Timeout
import JoblibProofs.Lemmas.ParallelLockU.UChain
/-! Umbrella for the M1LU lemma files. -/
