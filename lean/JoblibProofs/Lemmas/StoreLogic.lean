import JoblibProofs.Lemmas.StoreFS
/-! Rely/guarantee program logic for `Prog` (C05, C11).

`Runs R p fs tr out fs'` — `p`, started in `fs`, interleaved with any number of environment steps `R` before each of its
system calls, ends with `out` in `fs'`; `tr` lists its own calls with the states they were made in.
`Sat R G P p Q E` — a derivation that from every state satisfying `P`, under environment `R`, every call of `p` is
allowed by `G`, and `p` returns `a` only in states satisfying `Q a`, raises `e` only in states satisfying `E e`.
`RmOnly S X p` — `p` only looks, and removes names satisfying `S`; it raises only if `X`.

Rules: `Sat.ret`, `.raise`, `.op` (the definition); consequence `Sat.pre`, `Sat.post`, `Sat.mono_R`, `Sat.mono_G`; sequencing `Sat.bind`,
`Sat.tryCatch`; own calls `Sat.obs`, `Sat.look`, `Sat.scan` (the call only looks), `Sat.ownop` (it may change the state);
`RmOnly.sat` for whole programs; frame `Sat.frame`. Soundness: `Sat.sound`
(interleaved runs), `Sat.run_sound` (solo run), `Sat.crash` (kill at any point), `Sat.solo_post` (facts about the solo run enter
the postcondition). -/
namespace JoblibModel.Store

variable {α β : Type} {P : FS → Prop} {Q : α → FS → Prop} {E : Err → FS → Prop} {fs fs' : FS} {o : Op}

inductive Runs (R : FS → FS → Prop) {α : Type} : Prog α → FS → List (FS × Op) → Outcome α → FS → Prop
  | ret (a : α) (fs : FS) : Runs R (.ret a) fs [] (.ok a) fs
  | raise (e : Err) (fs : FS) : Runs R (.raise e) fs [] (.raised e) fs
  | env {o : Op} {k : Res → Prog α} {fs fs' fs'' : FS} {tr : List (FS × Op)} {out : Outcome α} :
      R fs fs' → Runs R (.op o k) fs' tr out fs'' → Runs R (.op o k) fs tr out fs''
  | step {o : Op} {k : Res → Prog α} {fs fs' : FS} {tr : List (FS × Op)} {out : Outcome α} :
      Runs R (k (apply o fs).1) (apply o fs).2 tr out fs' → Runs R (.op o k) fs ((fs, o) :: tr) out fs'

inductive Sat (R : FS → FS → Prop) (G : FS → Op → Prop) {α : Type} :
    (FS → Prop) → Prog α → (α → FS → Prop) → (Err → FS → Prop) → Prop
  | ret {P : FS → Prop} {a : α} {Q : α → FS → Prop} {E : Err → FS → Prop} :
      (∀ fs, P fs → Q a fs) → Sat R G P (.ret a) Q E
  | raise {P : FS → Prop} {e : Err} {Q : α → FS → Prop} {E : Err → FS → Prop} :
      (∀ fs, P fs → E e fs) → Sat R G P (.raise e) Q E
  /-- An own call: from `P` it is guaranteed (`G`) and establishes the mid-condition `M r` for its result `r`; `M r` is
  stable under the rely `R` (the environment may run before the next call); the continuation is derived from `M r`. -/
  | op {P : FS → Prop} {o : Op} {k : Res → Prog α} {Q : α → FS → Prop} {E : Err → FS → Prop}
      (M : Res → FS → Prop) :
      (∀ fs, P fs → G fs o ∧ M (apply o fs).1 (apply o fs).2) →
      (∀ r fs fs', M r fs → R fs fs' → M r fs') →
      (∀ r, Sat R G (M r) (k r) Q E) → Sat R G P (.op o k) Q E

/-- `P` survives every step of the rely `R` -/
def Stable (R : FS → FS → Prop) (P : FS → Prop) : Prop := ∀ fs fs', P fs → R fs fs' → P fs'

theorem Stable.and {R : FS → FS → Prop} {P Q : FS → Prop} (hp : Stable R P) (hq : Stable R Q) :
    Stable R (fun fs => P fs ∧ Q fs) := fun _ _ h hR => ⟨hp _ _ h.1 hR, hq _ _ h.2 hR⟩

variable {R : FS → FS → Prop} {G : FS → Op → Prop}

theorem Sat.pre {P P' : FS → Prop} {p : Prog α}
    (h : Sat R G P p Q E) (hp : ∀ fs, P' fs → P fs) : Sat R G P' p Q E := by
  cases h with
  | ret hq => exact .ret fun fs h => hq fs (hp fs h)
  | raise he => exact .raise fun fs h => he fs (hp fs h)
  | op M h1 h2 h3 => exact .op M (fun fs h => h1 fs (hp fs h)) h2 h3

theorem Sat.post {p : Prog α} {Q Q' : α → FS → Prop} {E E' : Err → FS → Prop}
    (h : Sat R G P p Q E) (hq : ∀ a fs, Q a fs → Q' a fs) (he : ∀ e fs, E e fs → E' e fs) : Sat R G P p Q' E' := by
  induction h with
  | ret h => exact .ret fun fs hp => hq _ fs (h fs hp)
  | raise h => exact .raise fun fs hp => he _ fs (h fs hp)
  | op M h1 h2 _ ih => exact .op M h1 h2 fun r => ih r hq he

theorem Sat.bind {p : Prog α} {f : α → Prog β} {Q' : α → FS → Prop}
    {Q : β → FS → Prop}
    (hp : Sat R G P p Q' E) (hf : ∀ a, Sat R G (Q' a) (f a) Q E) : Sat R G P (p.bind f) Q E := by
  induction hp with
  | ret h => exact (hf _).pre h
  | raise h => exact .raise h
  | op M h1 h2 _ ih => exact .op M h1 h2 fun r => ih r hf

theorem Sat.tryCatch {p : Prog α} {hd : Err → Prog α}
    {E1 E : Err → FS → Prop}
    (hp : Sat R G P p Q E1) (hh : ∀ e, Sat R G (E1 e) (hd e) Q E) : Sat R G P (p.tryCatch hd) Q E := by
  induction hp with
  | ret h => exact .ret h
  | raise h => exact (hh _).pre h
  | op M h1 h2 _ ih => exact .op M h1 h2 fun r => ih r hh

def OutSat {α : Type} (Q : α → FS → Prop) (E : Err → FS → Prop) : Outcome α → FS → Prop
  | .ok a, fs => Q a fs
  | .raised e, fs => E e fs

/-- Soundness: along every interleaved run from a state in `P` (itself stable: the environment may move first), every
own call is guaranteed and the outcome satisfies the postcondition. -/
theorem Sat.sound {p : Prog α}
    {tr : List (FS × Op)} {out : Outcome α}
    (hr : Runs R p fs tr out fs') (hs : Sat R G P p Q E) (hst : Stable R P) (h0 : P fs) :
    (∀ x ∈ tr, G x.1 x.2) ∧ OutSat Q E out fs' := by
  induction hr generalizing P with
  | ret a fs =>
    cases hs with
    | ret h => exact ⟨by simp, h fs h0⟩
  | raise e fs =>
    cases hs with
    | raise h => exact ⟨by simp, h fs h0⟩
  | env hR _ ih => exact ih hs hst (hst _ _ h0 hR)
  | step _ ih =>
    cases hs with
    | op M h1 h2 h3 =>
      obtain ⟨hg, hm⟩ := h1 _ h0
      obtain ⟨a, b⟩ := ih (h3 _) (h2 _) hm
      refine ⟨?_, b⟩
      intro x hx
      rcases List.mem_cons.mp hx with rfl | hx
      · exact hg
      · exact a x hx

theorem runs_solo (p : Prog α) (fs : FS) :
    ∃ tr, Runs (fun _ _ => False) p fs tr (run p fs).1 (run p fs).2 := by
  induction p generalizing fs with
  | ret a => exact ⟨[], .ret a fs⟩
  | raise e => exact ⟨[], .raise e fs⟩
  | op o k ih =>
    obtain ⟨tr, h⟩ := ih (apply o fs).1 (apply o fs).2
    exact ⟨(fs, o) :: tr, .step h⟩

/-- Soundness for the solo run (empty rely): its outcome satisfies the postcondition. -/
theorem Sat.run_sound {p : Prog α} (hs : Sat (fun _ _ => False) G P p Q E) (h0 : P fs) :
    OutSat Q E (run p fs).1 (run p fs).2 := by
  obtain ⟨tr, hr⟩ := runs_solo p fs
  exact (hs.sound hr (fun _ _ _ h => h.elim) h0).2

/-- Crash soundness: where a torn call is guaranteed as the whole one is, an invariant kept by every guaranteed call holds after
a kill at any point of a solo run. -/
theorem Sat.crash {I : FS → Prop} {p : Prog α} (hT : ∀ fs o n, G fs o → G fs (tear n o))
    (hI : ∀ fs o, G fs o → I fs → I (apply o fs).2) (k : Nat) (torn : Option Nat)
    (hs : Sat (fun _ _ => False) G P p Q E) (h0 : P fs) (hi : I fs) : I (crash k torn p fs) := by
  induction k generalizing P p fs with
  | zero => cases p <;> exact hi
  | succ k ih =>
    cases hs with
    | ret _ => exact hi
    | raise _ => exact hi
    | op M h1 h2 h3 =>
      obtain ⟨hg, hm⟩ := h1 _ h0
      have ha := hI _ _ hg hi
      cases k with
      | zero =>
        cases torn with
        | none => exact ih (h3 _) hm ha
        | some n => exact hI _ _ (hT _ _ n hg) hi
      | succ k' => exact ih (h3 _) hm ha

/-- a smaller rely -/
theorem Sat.mono_R {α : Type} {R R' : FS → FS → Prop} {G : FS → Op → Prop} {P : FS → Prop} {p : Prog α}
    {Q : α → FS → Prop} {E : Err → FS → Prop} (h : Sat R G P p Q E) (hR : ∀ fs fs', R' fs fs' → R fs fs') :
    Sat R' G P p Q E := by
  induction h with
  | ret h => exact .ret h
  | raise h => exact .raise h
  | op M h1 h2 _ ih => exact .op M h1 (fun r fs fs' hm hr => h2 r fs fs' hm (hR _ _ hr)) ih

/-- a weaker guarantee -/
theorem Sat.mono_G {R : FS → FS → Prop} {G G' : FS → Op → Prop} {p : Prog α} (h : Sat R G P p Q E)
    (hg : ∀ fs o, G fs o → G' fs o) : Sat R G' P p Q E := by
  induction h with
  | ret h => exact .ret h
  | raise h => exact .raise h
  | op M h1 h2 _ ih => exact .op M (fun fs hp => ⟨hg _ _ (h1 fs hp).1, (h1 fs hp).2⟩) h2 ih

/-- own call that only looks: the state is unchanged, `Post r` records what the result `r` says about it -/
theorem Sat.obs {k : Res → Prog α}
    (Post : Res → FS → Prop)
    (hG : ∀ fs, P fs → G fs o) (ho : o.reads = true)
    (hpost : ∀ fs, P fs → Post (apply o fs).1 fs) (hP : Stable R P) (hPost : ∀ r, Stable R (Post r))
    (hk : ∀ r, Sat R G (fun fs => P fs ∧ Post r fs) (k r) Q E) : Sat R G P (.op o k) Q E := by
  refine .op (fun r fs => P fs ∧ Post r fs) (fun fs h => ⟨hG fs h, ?_⟩) (fun r => (hP.and (hPost r))) hk
  rw [reads_noop ho]; exact ⟨h, hpost fs h⟩

/-- own call that only looks and from whose result nothing is kept -/
theorem Sat.look {k : Res → Prog α}
    (hG : ∀ fs, P fs → G fs o) (ho : o.reads = true) (hP : Stable R P) (hk : ∀ r, Sat R G P (k r) Q E) :
    Sat R G P (.op o k) Q E :=
  .op (fun _ => P) (fun fs h => ⟨hG fs h, by rw [reads_noop ho]; exact h⟩) (fun _ => hP) hk

/-- `os.scandir`: a `readdir` that only looks; the continuation is derived for every listing -/
theorem Sat.scan {rank : Name → Nat} {p : Path} {i : Nat} {k : List (Name × Bool) → Prog α}
    (hG : ∀ fs, P fs → G fs (.readdir p i)) (hP : Stable R P) (hk : ∀ l, Sat R G P (k l) Q E) :
    Sat R G P (scandir rank p i k) Q E := by
  unfold scandir
  refine Sat.look hG rfl hP fun r => ?_
  cases r <;> exact hk _

/-- own call that may change the state: `P'` holds afterwards whatever the result -/
theorem Sat.ownop {P P' : FS → Prop} {k : Res → Prog α}
    (hG : ∀ fs, P fs → G fs o) (hpres : ∀ fs, P fs → P' (apply o fs).2) (hst : Stable R P')
    (hk : ∀ r, Sat R G P' (k r) Q E) : Sat R G P (.op o k) Q E :=
  .op (fun _ fs => P' fs) (fun fs h => ⟨hG fs h, hpres fs h⟩) (fun _ => hst) hk

/-- `p` only looks, and removes names satisfying `S`; it raises only if `X` -/
inductive RmOnly (S : Path → Prop) (X : Prop) {α : Type} : Prog α → Prop
  | ret (a : α) : RmOnly S X (.ret a)
  | raise (e : Err) : X → RmOnly S X (.raise e)
  | look (o : Op) (k : Res → Prog α) : o.reads = true → (∀ r, RmOnly S X (k r)) → RmOnly S X (.op o k)
  | unlink (t : Path) (g : Option Nat) (k : Res → Prog α) : S t → (∀ r, RmOnly S X (k r)) → RmOnly S X (.op (.unlink t g) k)
  | rmdir (t : Path) (g : Option Nat) (k : Res → Prog α) : S t → (∀ r, RmOnly S X (k r)) → RmOnly S X (.op (.rmdir t g) k)

abbrev ObsOnly {α : Type} (p : Prog α) : Prop := RmOnly (fun _ => False) True p

section
variable {S : Path → Prop} {X : Prop}

theorem RmOnly.bind {p : Prog α} {f : α → Prog β} (hp : RmOnly S X p) (hf : ∀ a, RmOnly S X (f a)) :
    RmOnly S X (p.bind f) := by
  induction hp with
  | ret a => exact hf a
  | raise e hx => exact .raise e hx
  | look o k ho _ ih => exact .look o _ ho ih
  | unlink t g k ht _ ih => exact .unlink t g _ ht ih
  | rmdir t g k ht _ ih => exact .rmdir t g _ ht ih

theorem RmOnly.tryCatch {X' : Prop} {p : Prog α} {h : Err → Prog α} (hp : RmOnly S X' p)
    (hh : ∀ e, RmOnly S X (h e)) : RmOnly S X (p.tryCatch h) := by
  induction hp with
  | ret a => exact .ret _
  | raise e _ => exact hh e
  | look o k ho _ ih => exact .look o _ ho ih
  | unlink t g k ht _ ih => exact .unlink t g _ ht ih
  | rmdir t g k ht _ ih => exact .rmdir t g _ ht ih

theorem RmOnly.scan {rank : Name → Nat} {p : Path} {i : Nat} {k : List (Name × Bool) → Prog α}
    (hk : ∀ l, RmOnly S X (k l)) : RmOnly S X (scandir rank p i k) := by
  unfold scandir
  refine .look _ _ rfl fun r => ?_
  cases r <;> exact hk _

theorem RmOnly.sat {p : Prog α} (h : RmOnly S X p) (hst : Stable R P)
    (hlook : ∀ fs o, o.reads = true → G fs o)
    (hU : ∀ fs t g, P fs → S t → G fs (.unlink t g) ∧ P (apply (.unlink t g) fs).2)
    (hD : ∀ fs t g, P fs → S t → G fs (.rmdir t g) ∧ P (apply (.rmdir t g) fs).2) :
    Sat R G P p (fun _ fs => P fs) (fun _ fs => X ∧ P fs) := by
  induction h with
  | ret a => exact .ret fun _ h => h
  | raise e hx => exact .raise fun _ h => ⟨hx, h⟩
  | look o k ho _ ih => exact Sat.look (fun fs _ => hlook fs o ho) ho hst ih
  | unlink t g k ht _ ih => exact Sat.ownop (fun fs h => (hU fs t g h ht).1) (fun fs h => (hU fs t g h ht).2) hst ih
  | rmdir t g k ht _ ih => exact Sat.ownop (fun fs h => (hD fs t g h ht).1) (fun fs h => (hD fs t g h ht).2) hst ih

theorem RmOnly.run_ok {p : Prog α} (hp : RmOnly S False p) : ∀ fs, ∃ a, (run p fs).1 = .ok a := by
  induction hp with
  | ret a => intro fs; exact ⟨a, rfl⟩
  | raise e hx => exact hx.elim
  | look o k _ _ ih => intro fs; exact ih _ _
  | unlink t g k _ _ ih => intro fs; exact ih _ _
  | rmdir t g k _ _ ih => intro fs; exact ih _ _

end

theorem run_bind (p : Prog α) (f : α → Prog β) :
    ∀ fs, run (p.bind f) fs =
      match (run p fs).1 with
      | .ok a => run (f a) (run p fs).2
      | .raised e => (.raised e, (run p fs).2) := by
  induction p with
  | ret a => intro fs; rfl
  | raise e => intro fs; rfl
  | op o k ih => intro fs; exact ih _ _

theorem Prog.bind_assoc {α β γ : Type} (p : Prog α) (f : α → Prog β) (g : β → Prog γ) :
    (p.bind f).bind g = p.bind (fun a => (f a).bind g) := by
  induction p with
  | ret a => rfl
  | raise e => rfl
  | op o k ih => simp only [Prog.bind]; congr; funext r; exact ih r

theorem Prog.ite_bind {α β : Type} (c : Prop) [Decidable c] (p q : Prog α) (f : α → Prog β) :
    (if c then p else q).bind f = if c then p.bind f else q.bind f := by split <;> rfl

/-- Without environment steps, a postcondition can be strengthened by any fact about the solo run. The precondition `P'`
is separate for the induction: after the first call it is "the state one call after a state satisfying `P'`". -/
theorem Sat.solo_post {p : Prog α} (F : Outcome α → FS → Prop) (hR : ∀ fs fs', ¬ R fs fs') (h : Sat R G P p Q E)
    {P' : FS → Prop} (hsub : ∀ fs, P' fs → P fs) (hF : ∀ fs, P' fs → F (run p fs).1 (run p fs).2) :
    Sat R G P' p (fun a fs => Q a fs ∧ F (.ok a) fs) (fun e fs => E e fs ∧ F (.raised e) fs) := by
  induction h generalizing P' with
  | ret hq => exact .ret fun fs hp => ⟨hq fs (hsub fs hp), hF fs hp⟩
  | raise he => exact .raise fun fs hp => ⟨he fs (hsub fs hp), hF fs hp⟩
  | @op P o k Q E M h1 h2 _ ih =>
    refine .op (fun r fs' => M r fs' ∧ ∃ fs, P' fs ∧ r = (apply o fs).1 ∧ fs' = (apply o fs).2)
      (fun fs hp => ⟨(h1 fs (hsub fs hp)).1, (h1 fs (hsub fs hp)).2, fs, hp, rfl, rfl⟩)
      (fun r fs fs' _ hr => absurd hr (hR _ _)) (fun r => ?_)
    refine ih r (fun fs h => h.1) ?_
    rintro fs' ⟨_, fs, hp, rfl, rfl⟩
    exact hF fs hp

/-- Frame rule: an assertion `I` that the environment and every guaranteed call keep holds throughout. (For an `I` that only
some calls keep, derive the program with a guarantee that says which calls it makes, and weaken it by `Sat.mono_G`.) -/
theorem Sat.frame {I : FS → Prop} {p : Prog α} (hst : Stable R I) (hI : ∀ fs o, G fs o → I fs → I (apply o fs).2) (h : Sat R G P p Q E) :
    Sat R G (fun fs => P fs ∧ I fs) p (fun a fs => Q a fs ∧ I fs) (fun e fs => E e fs ∧ I fs) := by
  induction h with
  | ret h => exact .ret fun fs hp => ⟨h fs hp.1, hp.2⟩
  | raise h => exact .raise fun fs hp => ⟨h fs hp.1, hp.2⟩
  | op M h1 h2 _ ih =>
    exact .op (fun r fs => M r fs ∧ I fs) (fun fs hp => ⟨(h1 fs hp.1).1, (h1 fs hp.1).2, hI _ _ (h1 fs hp.1).1 hp.2⟩)
      (fun r => Stable.and (h2 r) hst) ih

/-- … in particular after the solo run -/
theorem Sat.run_frame {I : FS → Prop} {p : Prog α} (hI : ∀ fs o, G fs o → I fs → I (apply o fs).2)
    (hs : Sat (fun _ _ => False) G P p Q E) (h0 : P fs) (hi : I fs) : I (run p fs).2 := by
  have h := (Sat.frame (fun _ _ _ h => h.elim) hI hs).run_sound ⟨h0, hi⟩
  cases hr : (run p fs).1 <;> rw [hr] at h <;> exact h.2

end JoblibModel.Store
