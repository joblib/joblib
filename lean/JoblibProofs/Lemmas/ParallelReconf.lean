import JoblibModel.ParallelReconf
/-!
`JoblibModel.ParallelReconf` (a configuration per call) with the same configuration at every call is the scenario model
of `JoblibModel.ParallelStartup`.
-/
namespace JoblibModel.ParallelReconf
open JoblibModel.ParallelProto JoblibModel.ParallelStartup

theorem runCallsV_same (c : Cfg) (guard : Bool) (fuel : Nat) (calls : List (CallSpec × Fault)) :
    ∀ (k base : Nat) (s : St),
      runCallsV guard fuel k base c (calls.map (fun x => (c, x.1, x.2))) s = runCallsF c guard fuel k base calls s := by
  induction calls with
  | nil => intro k base s; simp [runCallsV, runCallsF]
  | cons x rest ih =>
    intro k base s
    obtain ⟨spec, f⟩ := x
    simp only [List.map_cons, runCallsV, runCallsF]
    split
    · rfl
    · exact ih _ _ _

theorem lastCfg_same (c : Cfg) (calls : List (CallSpec × Fault)) :
    lastCfg c (calls.map (fun x => (c, x.1, x.2))) = c := by
  induction calls with
  | nil => rfl
  | cons x rest ih => simpa [lastCfg] using ih

theorem maxTimeout_same (c : Cfg) (calls : List (CallSpec × Fault)) :
    maxTimeout c (calls.map (fun x => (c, x.1, x.2))) = c.timeout.toNat := by
  induction calls with
  | nil => rfl
  | cons x rest ih => simp [maxTimeout, ih]

theorem runScenarioV_same (c : Cfg) (guard : Bool) (enter : Fault) (calls : List (CallSpec × Fault)) (sched : List (List Nat)) :
    runScenarioV c guard enter (calls.map (fun x => (c, x.1, x.2))) sched = runScenarioF c guard enter calls sched := by
  have hspecs : (calls.map (fun x => (c, x.1, x.2))).map (·.2.1) = calls.map (·.1) := by
    simp [List.map_map, Function.comp_def]
  simp only [runScenarioV, runScenarioF, hspecs, maxTimeout_same, lastCfg_same, runCallsV_same]

end JoblibModel.ParallelReconf
