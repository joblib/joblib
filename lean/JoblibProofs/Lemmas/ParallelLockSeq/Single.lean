import JoblibProofs.Lemmas.ParallelLock
import JoblibModel.ParallelLockSeq
/-!
M1L-Seq proofs — facts about the SINGLE-call model M1L (`JoblibModel.ParallelLock`) that the multi-call model needs.

`EndInv`, one more invariant of M1L, about the state a call leaves behind: on the raising path `_aborting` is set; once
`self._jobs` has been rebound in the `finally` block (`tailStatus`, `done`) `_jobs` stays empty and `_running` is False,
because either `_aborting` is set or every batch is counted and its callback is past `dispatch_next`; `_call_id` has
been drawn exactly once.

`clean`: a call of a sequence starts from an object that still carries what the earlier calls left in
`n_dispatched_tasks`, `n_completed_tasks`, `_exception`, `_aborting`, `_aborted`, `_ready_batches`,
`_original_iterator`, the pre-dispatch islice and `_iterating`; `clean` replaces, at each program point of the set-up of
`__call__`, exactly the fields that the set-up has not yet rewritten by their values in a fresh object.  It commutes with
the caller's steps (each such field is overwritten before it is read) and is the identity after the set-up.

Facts about a step of the caller or of a callback thread go through the step relations `CStep` / `CbStep` of M1L, but
for two equations between runs of the step functions: `stepCb_quiet` (one program point of `stepCb`, unfolded), and the
commutation of `clean` with `stepCaller`, proved about `stepCaller c { s with pc := p }` by cases on `p` (at a constructor
the step reduces by computation, and `p := s.pc` gives the statement about `s` by eta).
-/
namespace JoblibModel.ParallelLockSeq
open JoblibModel.ParallelLock

/-- The caller is going to re-raise (past `self._aborting = True` of `_abort`). -/
def raisingPc : Pc → Bool
  | .abortCall _ | .finExc (some _) | .finJobsR (some _) | .finJobsW (some _) _ => true
  | _ => false

/-- `self._jobs` has been rebound by the `finally` block. -/
def afterFin : Pc → Bool
  | .tailStatus _ _ | .done => true
  | _ => false

structure EndInv (s : St) : Prop where
  raising : raisingPc s.pc = true → s.aborting = true
  fin : afterFin s.pc = true → s.jobs = [] ∧ s.running = false ∧ (s.aborting = true ∨ Quiet s)
  callId : s.callId = if s.pc = .resetAcq then 0 else 1

theorem endInv_init : EndInv init := by
  refine ⟨?_, ?_, ?_⟩ <;> simp [init, raisingPc, afterFin]

theorem _root_.JoblibModel.ParallelLock.CbStep.jobs_of_aborting {c : Cfg} {s s' : St} {i : Nat} (st : CbStep c i s s')
    (ha : s.aborting = true) :
    s'.jobs = s.jobs := by
  cases st with
  | acqCPark _ _ ha' | acqCDisp _ _ ha' => rw [ha] at ha'; cases ha'
  | bsC => rw [dispatchLocked_aborting (s := { s with bsI := s.bsI + 1 }) _ _ _ ha]; rfl
  | _ => rfl

theorem quiet_set_done {s : St} {i : Nat} (hq : Quiet s) :
    Quiet (setCb s i (.done true)) := by
  intro t ht hne
  simp only [setCb, setTrk] at ht
  rcases List.mem_or_eq_of_mem_set ht with h | h
  · exact hq t h hne
  · subst h; exact Or.inr rfl

theorem stepCb_quiet {c : Cfg} {s : St} {i : Nat} (h : Inv c s) (he : cbEnabled s i = true) (hq : Quiet s) :
    stepCb c i s = setCb s i (.done true) := by
  have hi := cbEnabled_lt he
  have hm := getT_mem s.trk i hi
  have h0 := h.T _ hm
  have hpc : (getT s.trk i).pc = .relC := by
    have hact : (getT s.trk i).pc ≠ .idle := by
      intro e; unfold cbEnabled at he; rw [getTrk_def, e] at he; cases he
    rcases hq _ hm (trk_normal h0 hact).1 with e | e
    · exact e
    · unfold cbEnabled at he; rw [getTrk_def, e] at he; cases he
  unfold stepCb
  simp only [getTrk_def, hpc]

theorem EndInv.keeps {s s' : St} (hE : EndInv s) (hk : Keeps s s')
    (hfin : afterFin s.pc = true → s'.jobs = [] ∧ s'.running = false ∧ (s'.aborting = true ∨ Quiet s')) : EndInv s' :=
  ⟨fun hr => hk.aborting (hE.raising (hk.pc ▸ hr)), fun hf => hfin (hk.pc ▸ hf), by
    rw [hk.pc, hk.callId]; exact hE.callId⟩

theorem stepCb_endInv {c : Cfg} {s : St} {i : Nat} (h : Inv c s) (he : cbEnabled s i = true) (hE : EndInv s) :
    EndInv (stepCb c i s) := by
  have hk := stepCb_keeps c i s
  refine hE.keeps hk fun hf => ?_
  obtain ⟨j1, j2, j3⟩ := hE.fin hf
  rcases j3 with ha | hq
  · exact ⟨((stepCb_cases c i s).jobs_of_aborting ha).trans j1, hk.running.trans j2, Or.inl (hk.aborting ha)⟩
  · rw [stepCb_quiet h he hq]
    exact ⟨j1, j2, Or.inr (quiet_set_done hq)⟩

theorem complete_endInv {c : Cfg} {s : St} {i : Nat} (h : Inv c s) (hi : i < s.trk.length)
    (hpc : (getTrk s i).pc = .parked) (hE : EndInv s) : EndInv (complete c i s) := by
  refine hE.keeps ⟨rfl, rfl, rfl, id⟩ fun hf => ?_
  obtain ⟨j1, j2, j3⟩ := hE.fin hf
  refine ⟨j1, j2, j3.imp id fun hq => ?_⟩
  -- a parked batch is neither at its last release nor finished
  have hm := getT_mem s.trk i hi
  rw [getTrk_def] at hpc
  rcases hq _ hm (trk_normal (h.T _ hm) (by rw [hpc]; nofun)).1 with e | e <;> rw [hpc] at e <;> cases e

/-- The conditions on the two program points are Boolean so that `rfl` decides them. -/
theorem EndInv.move {s s' : St} (hE : EndInv s) (hpc0 : (s.pc == .resetAcq) = false)
    (hp : (raisingPc s'.pc || afterFin s'.pc || s'.pc == .resetAcq) = false) (hc : s'.callId = s.callId) :
    EndInv s' := by
  simp only [Bool.or_eq_false_iff, beq_eq_false_iff_ne] at hp hpc0
  refine ⟨fun h => (by rw [hp.1.1] at h; cases h), fun h => (by rw [hp.1.2] at h; cases h), ?_⟩
  have := hE.callId
  rw [if_neg hpc0] at this
  rw [if_neg hp.2, hc]; exact this

-- Not used by any proof of this development.
macro "emv" hE:ident hpc:ident : tactic =>
  `(tactic| (apply EndInv.move $hE <;> simp [$hpc:ident, raisingPc, afterFin, afterDispatch] <;> (try split) <;> simp))

theorem afterFin_not_raising {p : Pc} (h : afterFin p = true) : raisingPc p = false := by
  cases p <;> first | rfl | cases h

theorem EndInv.ofFin {s : St} (hp : afterFin s.pc = true) (hj : s.jobs = []) (hr : s.running = false)
    (hq : s.aborting = true ∨ Quiet s) (hc : s.callId = 1) : EndInv s :=
  ⟨fun h => (by rw [afterFin_not_raising hp] at h; cases h), fun _ => ⟨hj, hr, hq⟩, by
    rw [if_neg (fun e => (by rw [e] at hp; cases hp))]; exact hc⟩

theorem ror_keeps {s s1 : St} {i : Nat} {r : Except Exc (List Nat)} (hr : returnOrRaise s i = (s1, r)) :
    Keeps s s1 ∧ s1.jobs = s.jobs ∧ (Quiet s → Quiet s1) :=
  ror_ind (P := fun x => Keeps s x ∧ x.jobs = s.jobs ∧ (Quiet s → Quiet x)) hr ⟨.rfl, rfl, id⟩
    ⟨setTrk_keeps _ _ _, rfl, (TrkRel.setResult s i .none).quiet⟩

theorem tailNext_endInv (c : Cfg) {s : St} (rem : List Nat) (hj : s.jobs = []) (hr : s.running = false)
    (hq : s.aborting = true ∨ Quiet s) (hc : s.callId = 1) : EndInv (tailNext c s rem) := by
  cases rem with
  | cons => exact .ofFin rfl hj hr hq hc
  | nil =>
    show EndInv (finishRet c s)
    rw [finishRet_eq]
    exact .ofFin rfl hj hr hq hc

/-- A move does not enter the re-raising path, does not pass the `finally` block and stays clear of `resetAcq`. -/
theorem _root_.JoblibModel.ParallelLock.Move.endOK {c : Cfg} {s : St} {p p' : Pc} (m : Move c s p p') :
    ((!raisingPc p' || raisingPc p) && !afterFin p' && p != .resetAcq && p' != .resetAcq) = true := by
  cases m
  case finExcT e _ | finExcF e _ | finJobsR e => cases e <;> rfl
  all_goals rfl

theorem EndInv.pcMove {s : St} {p' : Pc} (hE : EndInv s)
    (hp : ((!raisingPc p' || raisingPc s.pc) && !afterFin p' && s.pc != .resetAcq && p' != .resetAcq) = true) :
    EndInv { s with pc := p' } := by
  simp only [Bool.and_eq_true, Bool.or_eq_true, Bool.not_eq_true', bne_iff_ne, ne_eq] at hp
  obtain ⟨⟨⟨h1, h2⟩, h3⟩, h4⟩ := hp
  refine ⟨fun h => hE.raising (h1.resolve_left (by simp [show raisingPc p' = true from h])),
    fun h => (by rw [show afterFin p' = false from h2] at h; cases h), ?_⟩
  have := hE.callId
  rw [if_neg h3] at this
  show s.callId = if p' = .resetAcq then 0 else 1
  rw [if_neg h4]; exact this

theorem _root_.JoblibModel.ParallelLock.CStep.endInv {c : Cfg} {s s' : St} (st : CStep c s s') (hE : EndInv s)
    (hL : LocOK c s) : EndInv s' := by
  have hL : ∀ {p}, s.pc = p → LocOK c { s with pc := p } := hL.at
  have hc : ∀ {p : Pc}, s.pc = p → p ≠ .resetAcq → s.callId = 1 := fun hpc hne => by
    have := hE.callId; rwa [if_neg (hpc ▸ hne)] at this
  cases st with
  | move m hp => exact hE.pcMove (hp ▸ m.endOK)
  | write w hp =>
    cases w
    case resetAcq => exact ⟨nofun, nofun, congrArg (· + 1) (by have := hE.callId; rwa [if_pos hp] at this)⟩
    case abortWFin | abortWCall => exact ⟨fun _ => rfl, nofun, by have := hc hp nofun; exact this⟩
    all_goals exact hE.move (by rw [hp]; rfl) rfl rfl
  | stay => exact hE
  | busy hpc hr => exact absurd hr (by simp [show s.running = false from hL hpc])
  | dAcqSubmit k bs s1 j hpc hd | dAcqRet k bs s1 j hpc hd =>
    have hf := (dispatchLocked_keeps c 0 false bs { s with lockOwner := some 0, pc := .dIn k }).callId
    rw [hd] at hf
    exact hE.move (by rw [hpc]; rfl) rfl hf
  | dSubmit k j hpc | pop i rest hpc => exact hE.move (by rw [hpc]; rfl) rfl rfl
  | resErr i s1 e hpc hr | refErr i s1 e hpc hr | refOk i s1 e hpc hr =>
    exact hE.move (by rw [hpc]; rfl) rfl (ror_keeps hr).1.callId
  | resOk i s1 l hpc hr => exact hE.move (by rw [hpc]; rfl) rfl ((deliverVals_callId c _ _).trans (ror_keeps hr).1.callId)
  | abortCall e hpc =>
    have ha : s.aborting = true := hE.raising (by rw [hpc]; rfl)
    have hc := hc hpc nofun
    dsimp only
    split <;> exact ⟨fun _ => ha, nofun, hc⟩
  | finRaise e rem hpc => exact .ofFin rfl rfl rfl (Or.inl (hE.raising (by rw [hpc]; rfl))) (hc hpc nofun)
  | finTail rem hpc => exact tailNext_endInv c rem rfl rfl (Or.inr (hL hpc).1.1) (hc hpc nofun)
  | tailErr i rem s1 e hpc hr =>
    obtain ⟨j1, j2, _⟩ := hE.fin (by rw [hpc]; rfl)
    obtain ⟨fk, fj, fq⟩ := ror_keeps hr
    exact .ofFin rfl (fj.trans j1) (fk.running.trans j2) (Or.inr (fq (hL hpc).1.1)) (fk.callId.trans (hc hpc nofun))
  | tailOk i rem s1 l hpc hr =>
    obtain ⟨j1, j2, _⟩ := hE.fin (by rw [hpc]; rfl)
    obtain ⟨fk, fj, fq⟩ := ror_keeps hr
    exact tailNext_endInv c rem ((deliverVals_jobs c _ _).trans (fj.trans j1))
      ((deliverVals_running c _ _).trans (fk.running.trans j2))
      (Or.inr fun t ht => fq (hL hpc).1.1 t (deliverVals_trk c _ _ ▸ ht))
      ((deliverVals_callId c _ _).trans (fk.callId.trans (hc hpc nofun)))

theorem stepCaller_endInv {c : Cfg} {s : St} (h2 : Inv2 c s) (hE : EndInv s) : EndInv (stepCaller c s) :=
  (stepCaller_cases c s).endInv hE h2.L

theorem step_endInv {c : Cfg} {s : St} (h : Inv c s) (h2 : Inv2 c s) (hE : EndInv s) (a : Act) :
    EndInv (step c s a) :=
  step_cases hE (fun _ => stepCaller_endInv h2 hE) (fun _ he => stepCb_endInv h he hE)
    (fun _ hi hpc => complete_endInv h hi hpc hE) a

/-- The fields not yet rewritten by the set-up of `__call__` at the caller's program point, as in a fresh object.  The
set-up is `Parallel._reset_run_tracking` (`n_dispatched_tasks`, `n_completed_tasks`, `_exception`, `_aborting` with
`_aborted`: the writes at `wNDisp`, `wNComp`, `wExc0`, `wAbort0`), then in `Parallel.__call__`
`self._ready_batches = queue.Queue()` (`readyAcq`) and `self._original_iterator = …` with the pre-dispatch islice
(`wOrig`), then `self._iterating = False` of `_start` (`wIter0`); the branch for a point masks what is written there or
later. -/
def clean (s : St) : St :=
  match s.pc with
  | .resetAcq | .resetRel | .wNDisp =>
    { s with nDispTasks := 0, nCompleted := 0, exception := false, aborting := false, aborted := false, ready := [],
             origAlive := false, preLeft := none, iterating := false }
  | .wNComp =>
    { s with nCompleted := 0, exception := false, aborting := false, aborted := false, ready := [],
             origAlive := false, preLeft := none, iterating := false }
  | .wExc0 =>
    { s with exception := false, aborting := false, aborted := false, ready := [], origAlive := false, preLeft := none,
             iterating := false }
  | .wAbort0 =>
    { s with aborting := false, aborted := false, ready := [], origAlive := false, preLeft := none, iterating := false }
  | .readyAcq => { s with ready := [], origAlive := false, preLeft := none, iterating := false }
  | .readyRel | .wOrig => { s with origAlive := false, preLeft := none, iterating := false }
  | .wIter0 => { s with iterating := false }
  | _ => s

theorem clean_of_not_pre {s : St} (h : s.pc.preDispatch = false) : clean s = s := by
  have key : ∀ p, p.preDispatch = false → clean { s with pc := p } = { s with pc := p } := by
    intro p h
    cases p <;> first | rfl | cases h
  exact key s.pc h

/-- The fields `clean` never masks. -/
structure CleanKeeps (s s' : St) : Prop where
  pc : s'.pc = s.pc
  lockOwner : s'.lockOwner = s.lockOwner
  trk : s'.trk = s.trk
  callId : s'.callId = s.callId
  outcome : s'.outcome = s.outcome
  jobs : s'.jobs = s.jobs
  running : s'.running = s.running
  log : s'.log = s.log
  out : s'.out = s.out
  bsI : s'.bsI = s.bsI
  srcPos : s'.srcPos = s.srcPos
  srcDead : s'.srcDead = s.srcDead
  srcRaised : s'.srcRaised = s.srcRaised
  nPop : s'.nPop = s.nPop

theorem clean_keeps (s : St) : CleanKeeps s (clean s) := by
  unfold clean
  split <;> exact ⟨rfl, rfl, rfl, rfl, rfl, rfl, rfl, rfl, rfl, rfl, rfl, rfl, rfl, rfl⟩

theorem clean_pc (s : St) : (clean s).pc = s.pc := (clean_keeps s).pc
theorem clean_lockOwner (s : St) : (clean s).lockOwner = s.lockOwner := (clean_keeps s).lockOwner
theorem clean_trk (s : St) : (clean s).trk = s.trk := (clean_keeps s).trk
theorem clean_callId (s : St) : (clean s).callId = s.callId := (clean_keeps s).callId
theorem clean_running (s : St) : (clean s).running = s.running := (clean_keeps s).running
theorem clean_log (s : St) : (clean s).log = s.log := (clean_keeps s).log

theorem exiting_not_pre {p : Pc} (h : p.exiting = true) : p.preDispatch = false := by
  cases p <;> first | rfl | cases h

theorem afterDispatch_not_pre (c : Cfg) (k : DK) (r : Bool) : (afterDispatch c k r).preDispatch = false := by
  cases k <;> cases r <;> simp only [afterDispatch] <;> first | rfl | (split <;> rfl)

theorem tailNext_not_pre (c : Cfg) (s : St) (rem : List Nat) : (tailNext c s rem).pc.preDispatch = false := by
  cases rem <;> rfl

theorem pre_of {p p' : Pc} (hb : ((!p'.preDispatch || p.preDispatch) && p' != .resetAcq) = true)
    (h : p'.preDispatch = true) : p.preDispatch = true ∧ p' ≠ .resetAcq := by
  simp only [Bool.and_eq_true, Bool.or_eq_true, Bool.not_eq_true', bne_iff_ne, ne_eq] at hb
  exact ⟨hb.1.resolve_left (by simp [h]), hb.2⟩

theorem _root_.JoblibModel.ParallelLock.CStep.pre {c : Cfg} {s s' : St} (st : CStep c s s') (h : s'.pc.preDispatch = true) :
    s.pc.preDispatch = true ∧ s'.pc ≠ .resetAcq := by
  cases st with
  | move m hp => exact hp ▸ pre_of m.pre h
  | write w hp => exact hp ▸ pre_of w.pre h
  | stay hs => rcases hs with hs | ⟨k, hs⟩ <;> rw [hs] at h <;> cases h
  | finTail rem hpc | tailOk i rem s1 l hpc hr => cases (tailNext_not_pre c _ rem).symm.trans h
  | _ => cases h

theorem stepCaller_pre (c : Cfg) (s : St) (h : (stepCaller c s).pc.preDispatch = true) :
    s.pc.preDispatch = true ∧ (stepCaller c s).pc ≠ .resetAcq := (stepCaller_cases c s).pre h

theorem clean_stepCaller (c : Cfg) (s : St) (h0 : s.pc ≠ .resetAcq ∨ s.running = false) :
    clean (stepCaller c s) = stepCaller c (clean s) := by
  cases hp : s.pc.preDispatch with
  | false =>
    rw [clean_of_not_pre hp]
    apply clean_of_not_pre
    cases hq : (stepCaller c s).pc.preDispatch with
    | false => rfl
    | true => rw [(stepCaller_pre c s hq).1] at hp; cases hp
  | true =>
    have key : ∀ p, p.preDispatch = true → (p ≠ .resetAcq ∨ s.running = false) →
        clean (stepCaller c { s with pc := p }) = stepCaller c (clean { s with pc := p }) := by
      intro p hp h0
      cases p with
      | resetAcq =>
        have hr : s.running = false := h0.resolve_left (fun h => h rfl)
        show clean (if s.running then _ else _) = (if s.running then _ else _ : St)
        rw [hr]; rfl
      | wOrig =>
        show clean (if c.pdMode == 1 then _ else _) = (if c.pdMode == 1 then _ else _ : St)
        cases c.pdMode == 1 <;> rfl
      | resetRel | wNDisp | wNComp | wExc0 | wAbort0 | readyAcq | readyRel | wIter0 => rfl
      | _ => cases hp
    exact key s.pc hp h0

end JoblibModel.ParallelLockSeq
