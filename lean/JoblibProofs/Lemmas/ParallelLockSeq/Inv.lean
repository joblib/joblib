import JoblibProofs.Lemmas.ParallelLockSeq.Single
/-!
M1L-Seq proofs — the invariant `SeqInv` of the multi-call model: the VIEW of the running call (`view` = `clean` of the
M1L state of the running call) is a reachable state of the single-call model M1L under the configuration of that call;
every finished call ended in a reachable final state of M1L; lock discipline and call ids of the threads of earlier
calls; and what holds between two calls (`Between`).  Steps of the threads of EARLIER calls (`stepOld`, `completeOld`)
preserve it in the guarded variant: a thread whose call id differs from the object's only moves its own program counter
(`stepOld_stale`); a thread whose call id still is the object's ("fresh" in lemma names: not stale; not M1L's `Fresh`)
runs only while the caller is parked before `_reset_run_tracking` and touches only fields that the set-up of the next
call rewrites.  `stepOld` has no step relation of its own: it is characterised by three shape lemmas (`stepOld_stale`,
`stepOld_keeps`, `stepOld_fresh_inv`), each of which unfolds it.
-/
namespace JoblibModel.ParallelLockSeq
open JoblibModel.ParallelLock

/-- `s` is a reachable state of the single-call model M1L under configuration `c` (the same as `M1L.Reachable`). -/
def MReach (c : Cfg) (s : St) : Prop := ∃ sched : List Act, s = run c init sched

theorem MReach.start (c : Cfg) : MReach c init := ⟨[], rfl⟩

theorem MReach.step {c : Cfg} {s : St} (h : MReach c s) (a : Act) : MReach c (step c s a) := by
  obtain ⟨sched, rfl⟩ := h
  exact ⟨sched ++ [a], (run_append_one c a sched init).symm⟩

/-- Configurations of the model's domain (every call): `n_jobs ≥ 1`, batch sizes `≥ 1`, `pre_dispatch` `'all'` or `≥ 1`. -/
structure SCfgOK (sc : SCfg) : Prop where
  nj : 1 ≤ sc.nj
  bs : ∀ b ∈ sc.bs, 1 ≤ b
  pd : sc.pdMode = 1 ∨ 1 ≤ sc.pd

theorem callCfg_ok {sc : SCfg} (h : SCfgOK sc) (k b : Nat) : CfgOK (sc.callCfg k b) ∧ PdOK (sc.callCfg k b) := by
  refine ⟨⟨h.nj, ?_⟩, h.pd⟩
  intro x hx
  exact h.bs x (List.mem_of_mem_drop hx)

theorem MReach.invs {c : Cfg} {s : St} (h : MReach c s) (hc : CfgOK c) (hpd : PdOK c) :
    Inv c s ∧ Inv2 c s ∧ Inv3 s ∧ EndInv s := by
  obtain ⟨sched, rfl⟩ := h
  exact run_ind (P := fun s => Inv c s ∧ Inv2 c s ∧ Inv3 s ∧ EndInv s)
    (fun _ a h => ⟨step_inv h.1 a, step_inv2 hc hpd h.1 h.2.1 a, step_inv3 h.1 h.2.1 h.2.2.1 a,
      step_endInv h.1 h.2.1 h.2.2.2 a⟩) sched ⟨inv_init c, inv2_init c, inv3_init, endInv_init⟩

@[simp] theorem setOld_length (ss : SSt) (i : Nat) (t : Tracker) : (setOld ss i t).old.length = ss.old.length := by
  simp [setOld]

theorem getOld_setOld (ss : SSt) (i j : Nat) (t : Tracker) :
    getOld (setOld ss i t) j = if j = i ∧ i < ss.old.length then { getOld ss i with t := t } else getOld ss j := by
  simp only [getOld, setOld, List.getD_eq_getElem?_getD, List.getElem?_set]
  by_cases h : i = j
  · subst h
    by_cases h2 : i < ss.old.length <;> simp [h2]
  · have : ¬ (j = i) := fun e => h e.symm
    simp [h, this]

theorem getOld_mem (ss : SSt) (i : Nat) (h : i < ss.old.length) : getOld ss i ∈ ss.old :=
  List.getD_mem_of_lt _ _ _ h

theorem mem_old_iff (ss : SSt) (o : OldTrk) : o ∈ ss.old ↔ ∃ i, i < ss.old.length ∧ getOld ss i = o :=
  List.mem_iff_getD ..

theorem mem_setOld {ss : SSt} {i : Nat} {t : Tracker} {o : OldTrk} (h : o ∈ (setOld ss i t).old) :
    o ∈ ss.old ∨ (i < ss.old.length ∧ o = { getOld ss i with t := t }) := by
  simp only [setOld] at h
  by_cases hi : i < ss.old.length
  · rcases List.mem_or_eq_of_mem_set h with h | h
    · exact Or.inl h
    · exact Or.inr ⟨hi, h⟩
  · left
    rw [List.set_eq_of_length_le (Nat.le_of_not_lt hi)] at h
    exact h

@[simp] theorem setOld_cur (ss : SSt) (i : Nat) (t : Tracker) : (setOld ss i t).cur = ss.cur := rfl
@[simp] theorem setOld_k (ss : SSt) (i : Nat) (t : Tracker) : (setOld ss i t).k = ss.k := rfl
@[simp] theorem setOld_outs (ss : SSt) (i : Nat) (t : Tracker) : (setOld ss i t).outs = ss.outs := rfl
@[simp] theorem setOld_bsBase (ss : SSt) (i : Nat) (t : Tracker) : (setOld ss i t).bsBase = ss.bsBase := rfl
@[simp] theorem setOld_callBase (ss : SSt) (i : Nat) (t : Tracker) : (setOld ss i t).callBase = ss.callBase := rfl
@[simp] theorem setOld_oldOwner (ss : SSt) (i : Nat) (t : Tracker) : (setOld ss i t).oldOwner = ss.oldOwner := rfl
@[simp] theorem setOld_hist (ss : SSt) (i : Nat) (t : Tracker) : (setOld ss i t).hist = ss.hist := rfl

theorem oldEnabled_lt {ss : SSt} {i : Nat} (he : oldEnabled ss i = true) : i < ss.old.length :=
  List.lt_length_of_getD (l := ss.old) (P := fun o => o.t.pc ≠ .idle)
    (fun e => by rw [oldEnabled, getOld, e] at he; cases he) (fun h => h rfl)

/-- The running call as a state of the single-call model. -/
def view (ss : SSt) : St := clean ss.cur

/-- A callback thread that will never touch the Parallel object again, whatever the call id. -/
def quietPc : CbPc → Bool
  | .idle | .relC | .done _ => true
  | _ => false

/-- The caller is parked before the critical section of `_reset_run_tracking` of the running call. -/
structure Between (ss : SSt) : Prop where
  -- but for the fields the set-up rewrites, the object is as new
  eq : clean ss.cur = init
  -- a thread of the call that has just finished can still touch the object only under `_aborting` (then it writes
  -- nothing the set-up does not rewrite); the threads of older calls are stale
  quiet : ss.cur.aborting = true ∨ ∀ o ∈ ss.old, o.t.callId = ss.callBase → quietPc o.t.pc = true

structure SeqInv (sc : SCfg) (ss : SSt) : Prop where
  reach : MReach (curCfg sc ss) (view ss)
  outs : ∀ k o, ss.outs[k]? = some (some o) →
    ∃ b s, MReach (sc.callCfg k b) s ∧ s.pc = .done ∧ s.outcome = some o
  -- one outcome per finished call (the last call stays at `done`, recorded)
  klen : ss.outs.length = if ss.cur.pc = .done then ss.k + 1 else ss.k
  oldLock : ∀ i, i < ss.old.length → (getOld ss i).t.pc.holding = true → ss.oldOwner = some i
  -- old threads own the lock only between two calls, and only with the call id the object still has: once the next
  -- call has drawn its `_call_id` every old thread is stale and returns at its next lock acquisition
  owner : ∀ i, ss.oldOwner = some i → ss.cur.pc = .resetAcq ∧ (getOld ss i).t.callId = ss.callBase
  -- no old tracker carries an id the object has not drawn yet
  oldIds : ∀ o ∈ ss.old, o.t.callId ≤ ss.callBase
  between : ss.cur.pc = .resetAcq → Between ss

theorem seqInv_init (sc : SCfg) : SeqInv sc sinit := by
  refine ⟨?_, ?_, ?_, ?_, ?_, ?_, ?_⟩
  · exact ⟨[], by simp [view, sinit, clean, init, run]⟩
  · intro k o h; simp [sinit] at h
  · simp [sinit, init]
  · intro i hi; simp [sinit] at hi
  · intro i h; simp [sinit] at h
  · intro o h; simp [sinit] at h
  · intro _; exact ⟨by simp [sinit, clean, init], Or.inr (by intro o h; simp [sinit] at h)⟩

theorem SeqInv.callId {sc : SCfg} {ss : SSt} (h : SeqInv sc ss) (hok : SCfgOK sc) :
    ss.cur.callId = if ss.cur.pc = .resetAcq then 0 else 1 := by
  obtain ⟨hc, hpd⟩ := callCfg_ok hok ss.k ss.bsBase
  have hE := (h.reach.invs hc hpd).2.2.2
  have := hE.callId
  have e1 : (view ss).pc = ss.cur.pc := clean_pc ss.cur
  have e4 : (view ss).callId = ss.cur.callId := clean_callId ss.cur
  by_cases hp : ss.cur.pc = .resetAcq
  · rw [if_pos (by rw [e1]; exact hp), e4] at this
    rw [if_pos hp]; exact this
  · rw [if_neg (by rw [e1]; exact hp), e4] at this
    rw [if_neg hp]; exact this

theorem SeqInv.stale_not_holding {sc : SCfg} {ss : SSt} (h : SeqInv sc ss) (hok : SCfgOK sc) {i : Nat}
    (hi : i < ss.old.length) (hst : ss.callBase + ss.cur.callId ≠ (getOld ss i).t.callId) :
    (getOld ss i).t.pc.holding = false := by
  cases hh : (getOld ss i).t.pc.holding with
  | false => rfl
  | true =>
    exfalso
    obtain ⟨hp, hc⟩ := h.owner i (h.oldLock i hi hh)
    have := h.callId hok
    rw [if_pos hp] at this
    rw [this, hc] at hst
    exact hst rfl

theorem SeqInv.fresh_between {sc : SCfg} {ss : SSt} (h : SeqInv sc ss) (hok : SCfgOK sc) {i : Nat}
    (hi : i < ss.old.length) (hst : ss.callBase + ss.cur.callId = (getOld ss i).t.callId) :
    ss.cur.pc = .resetAcq ∧ (getOld ss i).t.callId = ss.callBase := by
  have hle := h.oldIds _ (getOld_mem ss i hi)
  have hc := h.callId hok
  by_cases hp : ss.cur.pc = .resetAcq
  · rw [if_pos hp] at hc
    exact ⟨hp, by rw [← hst, hc]; rfl⟩
  · rw [if_neg hp] at hc
    omega

/-- The generic step of a thread of an earlier call: one tracker of `old` changes (same call id), with the matching
transfer of the lock. -/
theorem SeqInv.oldStep {sc : SCfg} {ss ss' : SSt} (h : SeqInv sc ss) {i : Nat} (hi : i < ss.old.length) {t' : Tracker}
    (hold : ss'.old = ss.old.set i { getOld ss i with t := t' })
    (hcid : t'.callId = (getOld ss i).t.callId)
    (hk : ss'.k = ss.k) (houts : ss'.outs = ss.outs) (hcb : ss'.callBase = ss.callBase)
    (hpc : ss'.cur.pc = ss.cur.pc)
    (hreach : MReach (curCfg sc ss') (view ss'))
    (hown : ss'.oldOwner = if t'.pc.holding then some i else if (getOld ss i).t.pc.holding then none else ss.oldOwner)
    (hfree : t'.pc.holding = true → (getOld ss i).t.pc.holding = false → ss.oldOwner = none)
    (hfresh : t'.pc.holding = true → ss.cur.pc = .resetAcq ∧ t'.callId = ss.callBase)
    (hbtw : ss.cur.pc = .resetAcq → Between ss') : SeqInv sc ss' := by
  have hlen : ss'.old.length = ss.old.length := by rw [hold]; simp
  have hget : ∀ j, getOld ss' j = if j = i then { getOld ss i with t := t' } else getOld ss j := by
    intro j
    have := getOld_setOld ss i j t'
    simp only [getOld, setOld] at this
    simp only [getOld, hold]
    rw [this]
    simp [hi]
  have hcid' : ∀ j, (getOld ss' j).t.callId = (getOld ss j).t.callId := by
    intro j
    rw [hget]
    split
    · subst j; exact hcid
    · rfl
  refine ⟨hreach, houts ▸ h.outs, by rw [houts, hk, hpc]; exact h.klen, ?_, ?_, ?_, fun hp => hbtw (hpc ▸ hp)⟩
  · intro j hj hh
    rw [hget] at hh
    by_cases hji : j = i
    · subst hji
      rw [hown, if_pos (by simpa using hh)]
    · rw [if_neg hji] at hh
      have hoj := h.oldLock j (hlen ▸ hj) hh
      -- thread `j ≠ i` owns the lock: thread `i` neither had it nor takes it
      have hoi : (getOld ss i).t.pc.holding = false := by
        cases hoi : (getOld ss i).t.pc.holding with
        | false => rfl
        | true => exact absurd (Option.some.inj ((h.oldLock i hi hoi).symm.trans hoj)).symm hji
      have ht' : t'.pc.holding = false := by
        cases ht' : t'.pc.holding with
        | false => rfl
        | true => rw [hfree ht' hoi] at hoj; cases hoj
      rw [hown, ht', hoi]; exact hoj
  · intro j hj
    rw [hpc, hcb, hcid']
    rw [hown] at hj
    split at hj
    · rename_i ht'
      cases hj
      exact hcid ▸ hfresh ht'
    · split at hj
      · cases hj
      · exact h.owner j hj
  · intro o ho
    obtain ⟨j, hj, rfl⟩ := (mem_old_iff ss' o).1 ho
    rw [hcb, hcid']
    exact h.oldIds _ (getOld_mem ss j (hlen ▸ hj))

/-- Where a stale callback thread goes next (guarded variant): it only takes and releases the lock.  At `acqA` and `acqC`
these are the early returns `if self.parallel._call_id != self.parallel_call_id: return` of
`BatchCompletionCallBack.__call__` and `BatchCompletionCallBack._dispatch_new` (joblib/parallel.py). -/
def staleNext : CbPc → CbPc
  | .acqA => .relA false
  | .relA ok => if ok then .stats else .done false
  | .stats => .acqC
  | .acqC => .relA false
  | .relC => .done true
  | p => p

theorem staleNext_not_holding (p : CbPc) (h : p.holding = false) : (staleNext p).holding = false := by
  cases p with
  | relA ok => cases ok <;> rfl
  | _ => simp_all [staleNext, CbPc.holding]

theorem stepOld_stale {sc : SCfg} {ss : SSt} {i : Nat} (hg : sc.dispatchNewGuard = true)
    (hst : ss.callBase + ss.cur.callId ≠ (getOld ss i).t.callId) (hnh : (getOld ss i).t.pc.holding = false)
    (he : oldEnabled ss i = true) : stepOld sc i ss = setOldPc ss i (staleNext (getOld ss i).t.pc) := by
  have hst' : (ss.callBase + ss.cur.callId != (getOld ss i).t.callId) = true := by simpa using hst
  unfold oldEnabled at he
  unfold stepOld
  dsimp only
  cases hpc : (getOld ss i).t.pc <;> rw [hpc] at he hnh
  case idle | parked | dropped | done => cases he
  case retr | bsC | submitC => cases hnh
  case acqA => simp only [hst', if_true]; rfl
  case acqC => simp only [hg, hst', Bool.and_self, if_true]; rfl
  case relA | stats | relC => rfl

theorem curCfg_setOld (sc : SCfg) (ss : SSt) (i : Nat) (t : Tracker) : curCfg sc (setOld ss i t) = curCfg sc ss := rfl

theorem view_setOld (ss : SSt) (i : Nat) (t : Tracker) : view (setOld ss i t) = view ss := rfl

theorem staleNext_quiet (p : CbPc) (h : quietPc p = true) : quietPc (staleNext p) = true := by
  cases p <;> first | rfl | cases h

theorem SeqInv.oldQuiet {sc : SCfg} {ss : SSt} (h : SeqInv sc ss) {i : Nat} (hi : i < ss.old.length) {t' : Tracker}
    (hcid : t'.callId = (getOld ss i).t.callId) (hnh0 : (getOld ss i).t.pc.holding = false)
    (hnh : t'.pc.holding = false)
    (hq : ss.cur.aborting = true ∨ (quietPc (getOld ss i).t.pc = true → quietPc t'.pc = true)) :
    SeqInv sc (setOld ss i t') := by
  refine h.oldStep hi rfl hcid rfl rfl rfl rfl h.reach ?_ ?_ ?_ ?_
  · show ss.oldOwner = _
    rw [hnh, hnh0]; rfl
  · intro hh; rw [hnh] at hh; cases hh
  · intro hh; rw [hnh] at hh; cases hh
  · intro hp
    have hb := h.between hp
    refine ⟨hb.eq, ?_⟩
    rcases hq with ha | hq
    · exact Or.inl ha
    · refine hb.quiet.imp id fun hq' o ho hc => ?_
      rcases mem_setOld ho with ho | ⟨_, rfl⟩
      · exact hq' o ho hc
      · exact hq (hq' _ (getOld_mem ss i hi) (hcid ▸ hc))

theorem stepOld_stale_inv {sc : SCfg} {ss : SSt} {i : Nat} (h : SeqInv sc ss) (hok : SCfgOK sc)
    (hg : sc.dispatchNewGuard = true) (he : oldEnabled ss i = true)
    (hst : ss.callBase + ss.cur.callId ≠ (getOld ss i).t.callId) : SeqInv sc (stepOld sc i ss) := by
  have hi := oldEnabled_lt he
  have hnh := h.stale_not_holding hok hi hst
  rw [stepOld_stale hg hst hnh he]
  exact h.oldQuiet hi rfl hnh (staleNext_not_holding _ hnh) (Or.inr (staleNext_quiet _))

theorem getD_set_self {α : Type} (l : List α) (i : Nat) (a d : α) (h : i < l.length) : (l.set i a).getD i d = a := by
  simp [List.getD_eq_getElem?_getD, h]

theorem setCb_nil {s : St} (h : s.trk = []) (j : Nat) (p : CbPc) : setCb s j p = s := by
  cases s
  simp_all [setCb, setTrk]

theorem reach_of_clean_init (sc : SCfg) {ss' : SSt} (h : clean ss'.cur = init) : MReach (curCfg sc ss') (view ss') := by
  unfold view; rw [h]; exact MReach.start _

/-- Fields that the set-up of the next call rewrites may change freely while the caller is parked before it. -/
theorem clean_junk {s s' : St} (hp : s.pc = .resetAcq)
    (h : s' = { s with nDispTasks := s'.nDispTasks, nCompleted := s'.nCompleted, exception := s'.exception,
                       aborting := s'.aborting, aborted := s'.aborted, ready := s'.ready, origAlive := s'.origAlive,
                       preLeft := s'.preLeft, iterating := s'.iterating }) : clean s' = clean s := by
  have hp' : s'.pc = .resetAcq := by rw [h]; exact hp
  unfold clean
  rw [hp, hp']
  simp only
  rw [h]

theorem oldAfterDispatch_keeps (i : Nat) (ss : SSt) (r : Bool) : Keeps ss.cur (oldAfterDispatch i ss r).cur := by
  cases r <;> exact ⟨rfl, rfl, rfl, id⟩

theorem oldDispatch_keeps (sc : SCfg) (i : Nat) (ss : SSt) (bs : Nat) : Keeps ss.cur (oldDispatch sc i ss bs).cur := by
  have hf := dispatchLocked_keeps (curCfg sc ss) (i + 1) true bs ss.cur
  unfold oldDispatch
  dsimp only
  generalize dispatchLocked (curCfg sc ss) (i + 1) true bs ss.cur = p at hf ⊢
  obtain ⟨s', r⟩ := p
  cases r with
  | submit j => exact hf.trans ⟨rfl, rfl, rfl, id⟩
  | ret r =>
    refine .trans ?_ (oldAfterDispatch_keeps i _ r)
    exact hf.trans ⟨rfl, rfl, rfl, id⟩

theorem oldSubmit_keeps (sc : SCfg) (i j : Nat) (ss : SSt) : Keeps ss.cur (oldSubmit sc i j ss).cur := by
  unfold oldSubmit
  split
  · exact .rfl
  · exact setTrk_keeps _ _ _

theorem stepOld_keeps (sc : SCfg) (i : Nat) (ss : SSt) : Keeps ss.cur (stepOld sc i ss).cur := by
  have ite := @ite_ind SSt (fun x => Keeps ss.cur x.cur)
  have nc : Keeps ss.cur { ss.cur with nCompleted := ss.cur.nCompleted + (getOld ss i).t.bsize } := ⟨rfl, rfl, rfl, id⟩
  unfold stepOld
  dsimp only
  cases (getOld ss i).t.pc with
  | acqA => exact ite .rfl (ite .rfl .rfl)
  | retr =>
    refine ite .rfl ?_
    split
    · exact ⟨rfl, rfl, rfl, fun _ => rfl⟩
    · exact .rfl
  | acqC =>
    refine ite .rfl (ite (ite (.trans ?_ (oldAfterDispatch_keeps i _ false))
      (ite nc (.trans ?_ (oldDispatch_keeps sc i _ _)))) nc) <;> exact nc
  | bsC => exact oldDispatch_keeps sc i { ss with bsBase := ss.bsBase + 1 } _
  | submitC j => exact (oldSubmit_keeps sc i _ ss).trans (oldAfterDispatch_keeps i _ true)
  | _ => exact .rfl

/-- A thread of the finished call moves while the caller is parked before `_reset_run_tracking` and `_aborting` is set:
it may release the lock and change fields that the set-up of the next call rewrites (`hcl`); `bsBase`, `hist` are free. -/
theorem SeqInv.junk {sc : SCfg} {ss ss' : SSt} (h : SeqInv sc ss) {i : Nat} (hi : i < ss.old.length)
    (hp : ss.cur.pc = .resetAcq) {t' : Tracker} {cur' : St} {o' : Option Nat} {b : Nat} {hist' : List Ev}
    (hss : ss' = { ss with cur := cur', old := ss.old.set i { getOld ss i with t := t' }, bsBase := b, oldOwner := o',
                           hist := hist' })
    (hcid : t'.callId = (getOld ss i).t.callId) (hnh : t'.pc.holding = false)
    (hcl : clean cur' = clean ss.cur) (hab : cur'.aborting = true)
    (ho : o' = if (getOld ss i).t.pc.holding then none else ss.oldOwner) : SeqInv sc ss' := by
  subst hss
  have hb := h.between hp
  have hpc : cur'.pc = ss.cur.pc := by
    have := congrArg St.pc hcl
    rwa [clean_pc, clean_pc] at this
  refine h.oldStep (ss' := { ss with cur := cur', old := _, bsBase := b, oldOwner := o', hist := hist' }) hi rfl hcid
    rfl rfl rfl hpc (reach_of_clean_init sc (hcl.trans hb.eq)) ?_ ?_ ?_ ?_
  · rw [ho, hnh]; rfl
  · intro hh; rw [hnh] at hh; cases hh
  · intro hh; rw [hnh] at hh; cases hh
  · intro _; exact ⟨hcl.trans hb.eq, Or.inl hab⟩

theorem oldSubmit_inv {sc : SCfg} {ss : SSt} (h : SeqInv sc ss) (hp : ss.cur.pc = .resetAcq)
    (ha : ss.cur.aborting = true) (htrk : ss.cur.trk = []) (i : Nat) {j : Nat}
    (hnj : j < ss.old.length → (getOld ss j).t.pc.holding = false) : SeqInv sc (oldSubmit sc i j ss) := by
  unfold oldSubmit
  split
  · rename_i hj
    exact h.junk hj hp rfl rfl rfl rfl ha (by rw [hnj hj]; rfl)
  · dsimp only
    rw [setCb_nil htrk]
    exact ⟨h.reach, h.outs, h.klen, h.oldLock, h.owner, h.oldIds, fun hp => ⟨(h.between hp).eq, (h.between hp).quiet⟩⟩

theorem oldSubmit_getOld (sc : SCfg) (ss : SSt) {i j : Nat} (hji : j ≠ i) :
    getOld (oldSubmit sc i j ss) i = getOld ss i ∧ (oldSubmit sc i j ss).old.length = ss.old.length := by
  unfold oldSubmit
  split
  · refine ⟨?_, setOld_length _ _ _⟩
    rw [setOldPc, getOld_setOld, if_neg (fun e => hji e.1.symm)]; rfl
  · exact ⟨rfl, rfl⟩

theorem setOldPc_twice (ss : SSt) {i : Nat} (hi : i < ss.old.length) (p q : CbPc) (c' : St) (o' : Option Nat) :
    setOldPc { setOldPc ss i p with cur := c', oldOwner := o' } i q = setOldPc { ss with cur := c', oldOwner := o' } i q := by
  simp [setOldPc, setOld, getOld, hi]

theorem stepOld_fresh_inv {sc : SCfg} {ss : SSt} {i : Nat} (h : SeqInv sc ss) (hok : SCfgOK sc) (he : oldEnabled ss i = true)
    (hst : ss.callBase + ss.cur.callId = (getOld ss i).t.callId) : SeqInv sc (stepOld sc i ss) := by
  have hi := oldEnabled_lt he
  obtain ⟨hp, hcid⟩ := h.fresh_between hok hi hst
  have hb := h.between hp
  have hns : (ss.callBase + ss.cur.callId != (getOld ss i).t.callId) = false := by simpa using hst
  by_cases ha : ss.cur.aborting = true
  · have hlk : (getOld ss i).t.pc.holding = true → ss.oldOwner = some i := h.oldLock i hi
    unfold stepOld
    dsimp only
    split <;> rename_i hpc
    · -- acqA
      simp only [hns, ha, Bool.false_eq_true, if_false, if_true]
      exact h.oldQuiet hi rfl (by rw [hpc]; rfl) rfl (Or.inl ha)
    · -- retr
      split
      · exact h.junk hi hp rfl rfl rfl rfl ha (by rw [hpc]; rfl)
      · split
        · exact h.junk hi hp rfl rfl rfl (clean_junk hp rfl) rfl (by rw [hpc]; rfl)
        · exact h.junk hi hp rfl rfl rfl rfl ha (by rw [hpc]; rfl)
    · -- relA
      rename_i ok
      exact h.oldQuiet hi rfl (by rw [hpc]; rfl) (by cases ok <;> rfl) (Or.inl ha)
    · exact h.oldQuiet hi rfl (by rw [hpc]; rfl) rfl (Or.inl ha)  -- stats
    · -- acqC
      have hfree : ss.oldOwner = none := by
        unfold oldEnabled lockFree at he
        rw [hpc] at he
        simp only [Bool.and_eq_true, beq_iff_eq] at he
        exact he.2
      simp only [hns, Bool.and_false, Bool.false_eq_true, if_false]
      split
      · exact h.junk hi hp (t' := { (getOld ss i).t with pc := .relC }) (setOldPc_twice _ (by exact hi) _ _ _ _) rfl rfl
          (clean_junk hp rfl) ha (by rw [hpc, hfree]; rfl)
      · exact h.junk hi hp rfl rfl rfl (clean_junk hp rfl) ha (by rw [hpc]; rfl)
    · -- bsC
      unfold oldDispatch
      simp only [dispatchLocked_aborting (s := ss.cur) _ _ _ ha, oldAfterDispatch, Nat.sub_self, List.take_zero, List.map_nil,
        List.nil_append, Bool.false_eq_true, if_false]
      exact h.junk hi hp rfl rfl rfl (clean_junk hp rfl) ha (by rw [hpc]; rfl)
    · -- submitC
      rename_i j
      have hown := hlk (by rw [hpc]; rfl)
      have htrk : ss.cur.trk = [] := by
        have := congrArg St.trk hb.eq
        rwa [clean_trk] at this
      simp only [oldAfterDispatch, if_true]
      by_cases hji : j = i
      · subst hji
        unfold oldSubmit
        rw [if_pos hi]
        exact h.junk hi hp (t' := { (getOld ss j).t with pc := .relC })
          (setOldPc_twice _ (by exact hi) _ _ _ _) rfl rfl rfl ha (by rw [hpc]; rfl)
      · have hk := oldSubmit_keeps sc i j ss
        obtain ⟨hg, hlen⟩ := oldSubmit_getOld sc ss hji
        have h1 : SeqInv sc (oldSubmit sc i j ss) := oldSubmit_inv h hp ha htrk i fun hj => by
          cases hh : (getOld ss j).t.pc.holding with
          | false => rfl
          | true => exact absurd (Option.some.inj ((h.oldLock j hj hh).symm.trans hown)) hji
        exact h1.junk (i := i) (hlen ▸ hi) (hk.pc.trans hp) rfl rfl rfl rfl (hk.aborting ha) (by rw [hg, hpc]; rfl)
    · exact h.oldQuiet hi rfl (by rw [hpc]; rfl) rfl (Or.inl ha)  -- relC
    · exact h  -- idle, parked, dropped, done
  · -- nobody is aborting: every thread of the finished call is past `dispatch_next`
    have hq : quietPc (getOld ss i).t.pc = true := by
      rcases hb.quiet with h1 | h1
      · exact absurd h1 ha
      · exact h1 _ (getOld_mem ss i hi) hcid
    have hpc : (getOld ss i).t.pc = .relC := by
      unfold oldEnabled at he
      cases hpc : (getOld ss i).t.pc <;> simp_all [quietPc]
    have hstep : stepOld sc i ss = setOldPc ss i (.done true) := by
      unfold stepOld; simp only [hpc]
    rw [hstep]
    exact h.oldQuiet hi rfl (by rw [hpc]; rfl) rfl (Or.inr fun _ => rfl)

theorem stepOld_inv {sc : SCfg} {ss : SSt} {i : Nat} (h : SeqInv sc ss) (hok : SCfgOK sc)
    (hg : sc.dispatchNewGuard = true) (he : oldEnabled ss i = true) : SeqInv sc (stepOld sc i ss) := by
  by_cases hst : ss.callBase + ss.cur.callId = (getOld ss i).t.callId
  · exact stepOld_fresh_inv h hok he hst
  · exact stepOld_stale_inv h hok hg he hst

theorem completeOld_inv {sc : SCfg} {ss : SSt} {i : Nat} (h : SeqInv sc ss) (hi : i < ss.old.length)
    (hpc : (getOld ss i).t.pc = .parked) : SeqInv sc (completeOld sc i ss) :=
  h.oldQuiet hi rfl (by rw [hpc]; rfl) rfl (Or.inr fun hq => by rw [hpc] at hq; cases hq)

end JoblibModel.ParallelLockSeq
