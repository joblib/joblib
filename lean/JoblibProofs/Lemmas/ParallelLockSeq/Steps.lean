import JoblibProofs.Lemmas.ParallelLockSeq.Inv
/-!
M1L-Seq proofs — steps of the RUNNING call: callback threads and completions of its batches are the M1L steps on `cur`;
the caller's step, seen through `view`, is the M1L step of thread 0 (`view_caller_step`), followed by the call switch.
Every action preserves `SeqInv` and is, on the view, a stutter, the same M1L step, or the end of the call (`stepS_both`).
-/
namespace JoblibModel.ParallelLockSeq
open JoblibModel.ParallelLock

theorem stepCaller_pc_ne_resetAcq (c : Cfg) (s : St) : (stepCaller c s).pc ≠ .resetAcq :=
  fun h => (stepCaller_pre c s (by rw [h]; rfl)).2 h

theorem callerEnabled_clean (s : St) : callerEnabled (clean s) = callerEnabled s := by
  unfold callerEnabled
  rw [clean_pc, clean_lockOwner]

theorem SeqInv.pre_no_trk {sc : SCfg} {ss : SSt} (h : SeqInv sc ss) (hok : SCfgOK sc)
    (hp : ss.cur.pc.preDispatch = true) : ss.cur.trk = [] := by
  obtain ⟨hc, hpd⟩ := callCfg_ok hok ss.k ss.bsBase
  have hI := (h.reach.invs hc hpd).1
  have := (hI.P (by show (clean ss.cur).pc.preDispatch = true; rw [clean_pc]; exact hp)).trk
  rwa [show (view ss).trk = ss.cur.trk from clean_trk ss.cur] at this

/-- What one action does to the view of the running call. -/
inductive ViewStep (sc : SCfg) (ss ss' : SSt) : Prop
  /-- nothing (steps of threads / completions of batches of earlier calls; actions that are not enabled) -/
  | stutter : view ss' = view ss → ViewStep sc ss ss'
  /-- the same step of the single-call model, under the configuration of the running call -/
  | m1l (a : Act) : view ss' = step (curCfg sc ss) (view ss) a → ss'.k = ss.k → ViewStep sc ss ss'
  /-- the caller's M1L step finishes the call; the next call starts from M1L's initial state -/
  | next : (step (curCfg sc ss) (view ss) (.thread 0)).pc = .done → view ss' = init → ss'.k = ss.k + 1 →
      ss'.outs = ss.outs ++ [(step (curCfg sc ss) (view ss) (.thread 0)).outcome] → ViewStep sc ss ss'

theorem SeqInv.curStep_both {sc : SCfg} {ss : SSt} (h : SeqInv sc ss) {a : Act} {cur' : St}
    (hnp : ss.cur.pc.preDispatch = false) (hst : cur' = step (curCfg sc ss) ss.cur a) (hpc : cur'.pc = ss.cur.pc) :
    SeqInv sc { ss with cur := cur' } ∧ ViewStep sc ss { ss with cur := cur' } := by
  have hv : view { ss with cur := cur' } = step (curCfg sc ss) (view ss) a := by
    show clean cur' = _
    rw [clean_of_not_pre (hpc ▸ hnp), hst, show view ss = ss.cur from clean_of_not_pre hnp]
  refine ⟨⟨?_, h.outs, ?_, h.oldLock, ?_, h.oldIds, ?_⟩, .m1l a hv rfl⟩
  · rw [hv]; exact h.reach.step a
  · show ss.outs.length = if cur'.pc = .done then ss.k + 1 else ss.k
    rw [hpc]; exact h.klen
  · intro i hi
    obtain ⟨k1, k2⟩ := h.owner i hi
    exact ⟨hpc.trans k1, k2⟩
  · intro hp
    rw [show ss.cur.pc = .resetAcq from hpc ▸ hp] at hnp
    cases hnp

theorem stepCur_both {sc : SCfg} {ss : SSt} {j : Nat} (h : SeqInv sc ss) (hok : SCfgOK sc)
    (he : cbEnabledS ss j = true) : SeqInv sc { ss with cur := stepCb (curCfg sc ss) j ss.cur } ∧
      ViewStep sc ss { ss with cur := stepCb (curCfg sc ss) j ss.cur } := by
  have he' : cbEnabled ss.cur j = true := by
    unfold cbEnabledS at he
    simp only [Bool.and_eq_true] at he
    exact he.1
  have hnp : ss.cur.pc.preDispatch = false := by
    cases hp : ss.cur.pc.preDispatch with
    | false => rfl
    | true =>
      have := cbEnabled_lt he'
      rw [h.pre_no_trk hok hp] at this
      simp at this
  apply h.curStep_both (a := .thread (j + 1)) hnp
  · simp [step, he']
  · exact (stepCb_keeps _ j ss.cur).pc

/-- The parked batches of earlier calls: the first summand of `parkedIdsS`. -/
def parkedOld (ss : SSt) : List Nat := (List.range ss.old.length).filter (fun i => (getOld ss i).t.pc == .parked)

/-- Position of a parked batch of the running call among the parked batches of that call. -/
theorem parkedIdsS_cur {ss : SSt} {k g : Nat} (hk : (parkedIdsS ss)[k]? = some g) (hg : ¬ g < ss.old.length) :
    (parkedIds ss.cur)[k - (parkedOld ss).length]? = some (g - ss.old.length) := by
  have hA : ∀ x ∈ parkedOld ss, x < ss.old.length := by
    intro x hx
    simp only [parkedOld, List.mem_filter, List.mem_range] at hx
    exact hx.1
  replace hk : (parkedOld ss ++ (parkedIds ss.cur).map (· + ss.old.length))[k]? = some g := hk
  by_cases hlt : k < (parkedOld ss).length
  · rw [List.getElem?_append_left hlt] at hk
    exact absurd (hA g (List.mem_of_getElem? hk)) hg
  · rw [List.getElem?_append_right (Nat.le_of_not_lt hlt), List.getElem?_map] at hk
    cases hq : (parkedIds ss.cur)[k - (parkedOld ss).length]? with
    | none => rw [hq] at hk; cases hk
    | some x =>
      rw [hq] at hk
      simp only [Option.map_some, Option.some.injEq] at hk
      rw [← hk]; simp

theorem parked_not_pre {sc : SCfg} {ss : SSt} {k' i : Nat} (h : SeqInv sc ss) (hok : SCfgOK sc)
    (hk' : (parkedIds ss.cur)[k']? = some i) : ss.cur.pc.preDispatch = false := by
  cases hp : ss.cur.pc.preDispatch with
  | false => rfl
  | true =>
    have hm := List.mem_of_getElem? hk'
    simp only [parkedIds, h.pre_no_trk hok hp, List.length_nil, List.range_zero, List.filter_nil, List.not_mem_nil] at hm

theorem completeCur_both {sc : SCfg} {ss : SSt} {k g : Nat} (h : SeqInv sc ss) (hok : SCfgOK sc)
    (hk : (parkedIdsS ss)[k]? = some g) (hg : ¬ g < ss.old.length) :
    SeqInv sc { ss with cur := complete (curCfg sc ss) (g - ss.old.length) ss.cur } ∧
      ViewStep sc ss { ss with cur := complete (curCfg sc ss) (g - ss.old.length) ss.cur } := by
  have hk' := parkedIdsS_cur hk hg
  have hnp := parked_not_pre h hok hk'
  apply h.curStep_both (a := .complete (k - (parkedOld ss).length)) hnp
  · simp [step, hk']
  · simp [complete, setTrk, ev]

theorem dropOld_inv {sc : SCfg} {ss : SSt} (h : SeqInv sc ss) (hne : ss.cur.pc ≠ .resetAcq) : SeqInv sc (dropOld ss) := by
  have hget : ∀ i, i < ss.old.length → (getOld (dropOld ss) i).t.callId = (getOld ss i).t.callId ∧
      (getOld (dropOld ss) i).t.pc.holding = (getOld ss i).t.pc.holding := by
    intro i hi
    simp only [getOld, dropOld, List.getD_eq_getElem?_getD, List.getElem?_map, List.getElem?_eq_getElem hi,
      Option.map_some, Option.getD_some]
    split
    · rename_i hpk
      simp only [beq_iff_eq] at hpk
      exact ⟨rfl, by rw [hpk]; rfl⟩
    · exact ⟨rfl, rfl⟩
  have hlen : (dropOld ss).old.length = ss.old.length := by simp [dropOld]
  refine ⟨h.reach, h.outs, h.klen, ?_, ?_, ?_, ?_⟩
  · intro i hi hh
    rw [hlen] at hi
    rw [(hget i hi).2] at hh
    exact h.oldLock i hi hh
  · intro i hi
    exact absurd (h.owner i hi).1 hne
  · intro o ho
    simp only [dropOld, List.mem_map] at ho
    obtain ⟨o0, hm, rfl⟩ := ho
    have := h.oldIds o0 hm
    split <;> exact this
  · intro hp; exact absurd hp hne

theorem view_caller_step {sc : SCfg} {ss : SSt} (h : SeqInv sc ss) (he : callerEnabled ss.cur = true) :
    clean (stepCaller (curCfg sc ss) ss.cur) = step (curCfg sc ss) (view ss) (.thread 0) := by
  have he' : callerEnabled (view ss) = true := by unfold view; rw [callerEnabled_clean]; exact he
  simp only [step, he', if_true]
  refine clean_stepCaller _ _ ?_
  by_cases hp : ss.cur.pc = .resetAcq
  · have := congrArg St.running (h.between hp).eq
    rw [clean_running] at this
    exact Or.inr this
  · exact Or.inl hp

theorem getD_append_map_right {α β : Type} (l : List β) (m : List α) (f : α → β) (d : β) (j : Nat) (hj : j < m.length) :
    (l ++ m.map f).getD (l.length + j) d = f (m[j]) := by
  simp [List.getD_eq_getElem?_getD, hj]

theorem shiftPc_holding (off : Nat) (p : CbPc) : (shiftPc off p).holding = p.holding := by
  cases p <;> rfl

theorem shiftPc_quiet (off : Nat) (p : CbPc) : quietPc (shiftPc off p) = quietPc p := by
  cases p <;> rfl

/-- The call switch proper: the caller has finished a call (`s1.pc = done`, `s1` an M1L state satisfying the single-call
invariants) and another call follows.  The trackers of the finished call join `old`; a callback of that call that owns
the lock keeps it. -/
theorem switchCall_inv {sc : SCfg} {ssd : SSt} {c : Cfg} {s1 : St} (hd : SeqInv sc ssd) (e4 : ssd.oldOwner = none)
    (hklen : ssd.outs.length = ssd.k) (hmore : ssd.k + 1 < sc.calls.length) (hdone : s1.pc = .done)
    (hI : Inv c s1) (hI3 : Inv3 s1) (hE : EndInv s1)
    (houts : ∀ k o, (ssd.outs ++ [s1.outcome])[k]? = some (some o) →
      ∃ b s, MReach (sc.callCfg k b) s ∧ s.pc = .done ∧ s.outcome = some o) :
    SeqInv sc (switchCall sc { ssd with cur := s1 }) ∧ (switchCall sc { ssd with cur := s1 }).k = ssd.k + 1 ∧
      (switchCall sc { ssd with cur := s1 }).outs = ssd.outs ++ [s1.outcome] := by
  obtain ⟨hjobs, hrun, hq⟩ := hE.fin (by rw [hdone]; rfl)
  have hcid1 : s1.callId = 1 := by
    have := hE.callId
    rwa [if_neg (by rw [hdone]; nofun)] at this
  refine ⟨?_, by simp [switchCall, hdone, hmore], by simp [switchCall, hdone, hmore]⟩
  unfold switchCall
  simp only [hdone, bne_self_eq_false, Bool.false_eq_true, if_false, hmore, if_true]
  rw [hjobs, hrun]
  -- remaining clauses of `SeqInv`: klen, oldLock, owner, oldIds, between
  refine ⟨reach_of_clean_init sc rfl, houts, ?_, ?_, ?_, ?_, ?_⟩
  · simp [init, hklen]
  · intro i hi hh
    simp only [List.length_append, List.length_map] at hi
    by_cases hio : i < ssd.old.length
    · exfalso
      have hg : getOld { ssd with old := ssd.old ++ s1.trk.map (fun t =>
          ({ t := { t with callId := ssd.callBase + t.callId, pc := shiftPc ssd.old.length t.pc },
             call := ssd.k } : OldTrk)) } i = getOld ssd i := by
        simp [getOld, List.getD_eq_getElem?_getD, List.getElem?_append_left hio]
      simp only [getOld] at hh hg
      rw [hg] at hh
      have := hd.oldLock i hio hh
      rw [e4] at this; cases this
    · have hj : i - ssd.old.length < s1.trk.length := by omega
      have hi' : i = ssd.old.length + (i - ssd.old.length) := by omega
      simp only [getOld] at hh
      rw [hi', getD_append_map_right _ _ _ _ _ hj] at hh
      simp only [shiftPc_holding] at hh
      have hget : getTrk s1 (i - ssd.old.length) = s1.trk[i - ssd.old.length] := by
        simp [getT, List.getD_eq_getElem?_getD, List.getElem?_eq_getElem hj]
      have := hI.L.cb (i - ssd.old.length) hj (by rw [hget]; exact hh)
      rw [this]
      simp only
      rw [← hi']
  · intro i hi
    simp only at hi
    refine ⟨rfl, ?_⟩
    cases hlo : s1.lockOwner with
    | none => rw [hlo] at hi; simp only at hi; rw [e4] at hi; cases hi
    | some t =>
      cases t with
      | zero => rw [hlo] at hi; simp only at hi; rw [e4] at hi; cases hi
      | succ j =>
        rw [hlo] at hi
        simp only [Option.some.injEq] at hi
        obtain ⟨hj, _⟩ := hI.L.ownCb j hlo
        subst hi
        simp only [getOld]
        rw [getD_append_map_right _ _ _ _ _ hj]
        simp only
        rw [hI3.callId _ (List.getElem_mem hj)]
  · intro o ho
    simp only [List.mem_append, List.mem_map] at ho
    rcases ho with ho | ⟨t, ht, rfl⟩
    · have := hd.oldIds o ho
      simp only; omega
    · simp only
      rw [hI3.callId t ht]
      exact Nat.le_refl _
  · intro _
    refine ⟨rfl, ?_⟩
    rcases hq with ha | hq
    · exact Or.inl ha
    · right
      intro o ho hc
      simp only [List.mem_append, List.mem_map] at ho
      rcases ho with ho | ⟨t, ht, rfl⟩
      · exfalso
        have := hd.oldIds o ho
        simp only at hc
        omega
      · simp only [shiftPc_quiet]
        by_cases hne : t.items = []
        · rcases (hI.T t ht).shape with h1 | h1
          · exact absurd hne h1.1
          · rw [h1.2.2.1]; rfl
        · rcases hq t ht hne with h1 | h1 <;> rw [h1] <;> rfl

theorem stepCallerS_both {sc : SCfg} {ss : SSt} (h : SeqInv sc ss) (hok : SCfgOK sc)
    (he : callerEnabledS ss = true) : SeqInv sc (stepCallerS sc ss) ∧ ViewStep sc ss (stepCallerS sc ss) := by
  have hecur : callerEnabled ss.cur = true := by
    unfold callerEnabledS at he; simp only [Bool.and_eq_true] at he; exact he.1
  have hnd : ss.cur.pc ≠ .done := by
    intro e; simp [callerEnabled, e] at hecur
  have honone : ss.oldOwner = none := by
    cases ho : ss.oldOwner with
    | none => rfl
    | some i =>
      have hp := (h.owner i ho).1
      unfold callerEnabledS at he
      simp [hp, Pc.isAcq, ho] at he
  -- the caller's M1L step and the call switch, from `ss` or from `dropOld ss` (`abort_everything` drops first)
  have key : ∀ ssd : SSt, SeqInv sc ssd → ssd.cur = ss.cur → ssd.k = ss.k → ssd.bsBase = ss.bsBase →
      ssd.outs = ss.outs → ssd.oldOwner = none →
      SeqInv sc (switchCall sc { ssd with cur := stepCaller (curCfg sc ss) ssd.cur }) ∧
        ViewStep sc ss (switchCall sc { ssd with cur := stepCaller (curCfg sc ss) ssd.cur }) := by
    intro ssd hd e1 e2 e3 e5 e4
    have ecfg : curCfg sc ssd = curCfg sc ss := by simp [curCfg, e2, e3]
    have hv1 : clean (stepCaller (curCfg sc ss) ssd.cur) = step (curCfg sc ss) (view ss) (.thread 0) :=
      e1 ▸ view_caller_step h hecur
    have hR : MReach (curCfg sc ss) (clean (stepCaller (curCfg sc ss) ssd.cur)) := hv1 ▸ h.reach.step _
    obtain ⟨hc, hpd⟩ := callCfg_ok hok ss.k ss.bsBase
    have hne1 : (stepCaller (curCfg sc ss) ssd.cur).pc ≠ .resetAcq := stepCaller_pc_ne_resetAcq _ _
    generalize hs1 : stepCaller (curCfg sc ss) ssd.cur = s1 at hR hne1 hv1
    have hklen : ssd.outs.length = ssd.k := by
      have := hd.klen
      rw [e1, if_neg hnd] at this
      exact this
    -- no switch: the caller moves on within the call, or has finished the last call
    have stay : ∀ outs' : List (Option Outcome),
        (∀ k o, outs'[k]? = some (some o) → ∃ b s, MReach (sc.callCfg k b) s ∧ s.pc = .done ∧ s.outcome = some o) →
        (outs'.length = if s1.pc = .done then ssd.k + 1 else ssd.k) →
        SeqInv sc { ssd with cur := s1, outs := outs' } ∧ ViewStep sc ss { ssd with cur := s1, outs := outs' } :=
      fun outs' ho hl => ⟨⟨ecfg ▸ hR, ho, hl, hd.oldLock, fun i hi => (by rw [e4] at hi; cases hi), hd.oldIds,
        fun hp => absurd hp hne1⟩, .m1l (.thread 0) hv1 e2⟩
    by_cases hdone : s1.pc = .done
    · have hnp1 : s1.pc.preDispatch = false := by rw [hdone]; rfl
      rw [clean_of_not_pre hnp1] at hR hv1
      obtain ⟨hI, _, hI3, hE⟩ := hR.invs hc hpd
      have houts : ∀ k o, (ssd.outs ++ [s1.outcome])[k]? = some (some o) →
          ∃ b s, MReach (sc.callCfg k b) s ∧ s.pc = .done ∧ s.outcome = some o := by
        intro k o hk
        by_cases hlt : k < ssd.outs.length
        · rw [List.getElem?_append_left hlt] at hk
          exact hd.outs k o hk
        · have hge := Nat.le_of_not_lt hlt
          rw [List.getElem?_append_right hge] at hk
          have hk0 : k - ssd.outs.length = 0 := by
            cases hz : k - ssd.outs.length with
            | zero => rfl
            | succ m => rw [hz] at hk; simp at hk
          rw [hk0] at hk
          simp only [List.getElem?_cons_zero, Option.some.injEq] at hk
          have hkk : k = ss.k := by omega
          refine ⟨ss.bsBase, s1, ?_, hdone, hk⟩
          rw [hkk]; exact hR
      by_cases hmore : ssd.k + 1 < sc.calls.length
      · obtain ⟨hsw, hk, ho⟩ := switchCall_inv hd e4 hklen hmore hdone hI hI3 hE houts
        exact ⟨hsw, .next (hv1 ▸ hdone) (hsw.between (by simp [switchCall, hdone, hmore, init])).eq (hk.trans (congrArg (· + 1) e2))
          (by rw [ho, ← hv1, ← e5])⟩
      · unfold switchCall
        simp only [hdone, bne_self_eq_false, Bool.false_eq_true, if_false, hmore]
        exact stay _ houts (by simp [hdone, hklen])
    · have hb : (s1.pc != .done) = true := by simpa using hdone
      unfold switchCall
      simp only [hb, if_true]
      exact stay ssd.outs hd.outs (by simp [hdone, hklen])
  unfold stepCallerS stepCallerCore
  simp only
  split
  · rename_i hdr
    have hne : ss.cur.pc ≠ .resetAcq := by
      intro e; rw [e] at hdr; cases hdr
    by_cases hdrp : (curCfg sc ss).abortDrops = true
    · simp only [hdrp, if_true]
      exact key (dropOld ss) (dropOld_inv h hne) rfl rfl rfl rfl honone
    · simp only [hdrp]
      exact key ss h rfl rfl rfl rfl honone
  · simp only [Bool.false_eq_true, if_false]
    exact key ss h rfl rfl rfl rfl honone

theorem stepS_both {sc : SCfg} {ss : SSt} (hok : SCfgOK sc) (hg : sc.dispatchNewGuard = true) (h : SeqInv sc ss)
    (a : Act) : SeqInv sc (stepS sc ss a) ∧ ViewStep sc ss (stepS sc ss a) := by
  cases a with
  | thread t =>
    cases t with
    | zero =>
      simp only [stepS]
      split
      · rename_i he; exact stepCallerS_both h hok he
      · exact ⟨h, .stutter rfl⟩
    | succ g =>
      simp only [stepS]
      split
      · rename_i hlt
        split
        · rename_i he
          have h' := stepOld_inv h hok hg he
          refine ⟨h', .stutter ?_⟩
          by_cases hst : ss.callBase + ss.cur.callId = (getOld ss g).t.callId
          · obtain ⟨hp, _⟩ := h.fresh_between hok hlt hst
            show clean (stepOld sc g ss).cur = clean ss.cur
            rw [(h'.between ((stepOld_keeps sc g ss).pc.trans hp)).eq, (h.between hp).eq]
          · rw [stepOld_stale hg hst (h.stale_not_holding hok hlt hst) he]; rfl
        · exact ⟨h, .stutter rfl⟩
      · split
        · rename_i he; exact stepCur_both h hok he
        · exact ⟨h, .stutter rfl⟩
  | complete k =>
    simp only [stepS]
    split
    · rename_i g hk
      split
      · rename_i hlt
        have hm : g ∈ parkedIdsS ss := List.mem_of_getElem? hk
        unfold parkedIdsS at hm
        simp only [List.mem_append, List.mem_filter, List.mem_range, beq_iff_eq, List.mem_map] at hm
        rcases hm with hm | ⟨x, _, hx⟩
        · exact ⟨completeOld_inv h hlt hm.2, .stutter rfl⟩
        · omega
      · rename_i hge; exact completeCur_both h hok hk hge
    · exact ⟨h, .stutter rfl⟩

theorem runS_inv {sc : SCfg} (hok : SCfgOK sc) (hg : sc.dispatchNewGuard = true) (sched : List Act) :
    ∀ {ss : SSt}, SeqInv sc ss → SeqInv sc (runS sc ss sched) := by
  induction sched with
  | nil => intro ss h; exact h
  | cons a r ih => intro ss h; exact ih (stepS_both hok hg h a).1

end JoblibModel.ParallelLockSeq
