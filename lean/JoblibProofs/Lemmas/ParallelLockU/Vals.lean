import JoblibProofs.Lemmas.ParallelLockU.Lock
/-!
M1LU proofs — the VALUES invariant: what the consumer has received (`out`) is the concatenation of the task ids of
the delivered trackers, in the order of delivery (`delivered`); a tracker's registered values are its own task ids;
the task ids of a tracker never change.  All modes.
-/
namespace JoblibModel.ParallelLockU
open JoblibModel.ParallelLock (Tid Status CbPc DK DRes Act chunks)

/-- A tracker's registered values are its task ids (the task function is the identity). -/
def TOk (t : Tracker) : Prop := ∀ l, t.result = .vals l → l = t.items

theorem tOk_default : TOk (default : Tracker) := by intro l h; cases h

/-- The tracker table evolves: it only grows, the task ids of an existing tracker never change, `TOk` is kept. -/
structure TabStep (l l' : List Tracker) : Prop where
  len : l.length ≤ l'.length
  items : ∀ i, i < l.length → (getT l' i).items = (getT l i).items
  ok : ∀ i, TOk (getT l i) → TOk (getT l' i)

theorem TabStep.refl (l : List Tracker) : TabStep l l := ⟨Nat.le_refl _, fun _ _ => rfl, fun _ h => h⟩

theorem tabStep_set (l : List Tracker) (i : Nat) (t : Tracker) (hi : t.items = (getT l i).items)
    (hok : TOk (getT l i) → TOk t) : TabStep l (l.set i t) :=
  ⟨by simp, fun j _ => Tab.set (r := fun t t' => t'.items = t.items) (fun _ => rfl) hi j,
   Tab.set (r := fun t t' => TOk t → TOk t') (fun _ => id) hok⟩

theorem tabStep_append (l : List Tracker) (t : Tracker) (hok : TOk t) : TabStep l (l ++ [t]) :=
  ⟨by simp, fun j hj => by rw [getT_append_left _ _ _ hj],
   Tab.append (r := fun t t' => TOk t → TOk t') (fun _ => id) (fun _ => hok)⟩

theorem tabStep_dropParked (l : List Tracker) :
    TabStep l (l.map (fun t => if t.pc == .parked then { t with pc := .dropped } else t)) :=
  ⟨by simp, fun j _ => Tab.map (r := fun t t' => t'.items = t.items) (fun _ => rfl) (fun t => by split <;> rfl) j,
   Tab.map (r := fun t t' => TOk t → TOk t') (fun _ => id) (fun t => by split <;> exact id)⟩

structure ValInv (s : St) : Prop where
  ok : ∀ i, TOk (getT s.trk i)
  bound : ∀ i ∈ s.delivered, i < s.trk.length
  out : s.out = s.delivered.flatMap (fun i => (getT s.trk i).items)

theorem valInv_init : ValInv init := by
  refine ⟨fun i => ?_, ?_, ?_⟩
  · simp only [init, getT, List.getD_eq_getElem?_getD, List.getElem?_nil, Option.getD_none]; exact tOk_default
  · simp [init]
  · simp [init]

/-- A step that hands nothing to the consumer (in particular every step of another thread), as seen by the values
invariant. -/
def VStep (s s' : St) : Prop := TabStep s.trk s'.trk ∧ s'.out = s.out ∧ s'.delivered = s.delivered

theorem ValInv.vstep {s s' : St} (h : ValInv s) (v : VStep s s') : ValInv s' := by
  obtain ⟨ht, ho, hd⟩ := v
  refine ⟨fun i => ht.ok i (h.ok i), ?_, ?_⟩
  · intro i hi; rw [hd] at hi; exact Nat.lt_of_lt_of_le (h.bound i hi) ht.len
  · rw [ho, hd, h.out, List.flatMap_def, List.flatMap_def,
      List.map_congr_left fun i hi => (ht.items i (h.bound i hi)).symm]

theorem ValInv.deliver {s s' : St} (h : ValInv s) (i : Nat) (hi : i < s.trk.length)
    (ht : s'.trk = s.trk) (ho : s'.out = s.out ++ (getT s.trk i).items) (hd : s'.delivered = s.delivered ++ [i]) :
    ValInv s' := by
  refine ⟨fun j => by rw [ht]; exact h.ok j, ?_, ?_⟩
  · intro j hj
    rw [hd] at hj
    rw [ht]
    simp only [List.mem_append, List.mem_singleton] at hj
    rcases hj with hj | hj
    · exact h.bound j hj
    · rw [hj]; exact hi
  · rw [ho, hd, ht, h.out]; simp

theorem RR.tabStep {l : List Tracker} {i : Nat} {t : Tracker} {r : Except Exc (List Nat)} (h : RR (getT l i) t r) :
    TabStep l (l.set i t) := by
  cases h <;> first | exact tabStep_set _ _ _ rfl id | exact tabStep_set _ _ _ rfl (fun _ _ hl => nomatch hl)

theorem ValInv.res {s : St} {i : Nat} {t : Tracker} {l : List Nat} (h : ValInv s) (hr : RR (getT s.trk i) t (.ok l)) :
    i < s.trk.length ∧ (getT (s.trk.set i t) i).items = l := by
  have hv := hr.ok.1
  have hlt := List.lt_length_of_getD (P := fun t : Tracker => t.result = .vals l) hv nofun
  exact ⟨hlt, by rw [getT_set_self hlt, hr.items, ← h.ok i l hv]⟩

theorem DLCase.vstep {c : Cfg} {t : Tid} {bs : Nat} {s : St} {r : St × DRes} (h : DLCase c t bs s r) : VStep s r.1 := by
  cases h with
  | ret => exact ⟨TabStep.refl _, rfl, rfl⟩
  | submit | iterr =>
    exact ⟨tabStep_append _ _ (fun l hl => by cases hl), rfl, rfl⟩

theorem tabStep_setTrk_same (s : St) (i : Nat) (t : Tracker) (hi : t.items = (getT s.trk i).items)
    (hr : t.result = (getT s.trk i).result ∨ ∀ l, t.result ≠ .vals l) : TabStep s.trk (s.trk.set i t) := by
  refine tabStep_set _ _ _ hi ?_
  intro h l hl
  rcases hr with hr | hr
  · rw [hi]; exact h l (hr ▸ hl)
  · exact absurd hl (hr l)

theorem appendOutcome_vstep (c : Cfg) (i : Nat) (s : St) : VStep s (appendOutcome c i s) := by
  unfold appendOutcome; split <;> exact ⟨TabStep.refl _, rfl, rfl⟩

theorem ValInv.callerStep {c : Cfg} {s s' : St} (h : ValInv s) (st : CStep c s s') : ValInv s' := by
  cases st with
  | stay => exact h
  | move | busy hpc | ctlAcq hpc | popOrd i rest hpc | popUn i rest hpc | popKey i rest hpc | finJobsW e rem hpc
  | finSetWSome e rem hpc | finSetWNext i rem hpc | finSetWRet lg hpc | toAcq2 i k x hpc =>
    exact h.vstep ⟨TabStep.refl _, rfl, rfl⟩
  | dAcqSubmit k bs s' j hpc hd | dAcqRet k bs s' j hpc hd =>
    exact h.vstep hd.vstep
  | dSubmit k j hpc | rtLen j hpc | gsStatusExp i k hpc | gsStatusWait i k hpc | toAcq i k hpc =>
    exact h.vstep ⟨tabStep_setTrk_same _ _ _ rfl (Or.inl rfl), rfl, rfl⟩
  | toRel i k hpc => exact h.vstep ⟨tabStep_setTrk_same _ _ _ rfl (Or.inr nofun), rfl, rfl⟩
  | resErr i t e hpc hr | refErr i t e hpc hr | refOk i t l hpc hr | tailErr i rem t e hpc hr =>
    exact h.vstep ⟨hr.tabStep, rfl, rfl⟩
  | resOk i t l lg hpc hr | tailOkNext i i' rem t l lg hpc hr | tailOkRet i t l lg hpc hr =>
    have h1 : ValInv { s with trk := s.trk.set i t } := h.vstep ⟨hr.tabStep, rfl, rfl⟩
    obtain ⟨hlt, hit⟩ := h.res hr
    exact h1.deliver i (by simpa using hlt) rfl (by dsimp only; rw [hit]) rfl
  | abortCall e hpc =>
    refine h.vstep ⟨?_, rfl, rfl⟩
    dsimp only
    split
    · exact tabStep_dropParked _
    · exact TabStep.refl _

theorem thread_val (c : Cfg) (i : Nat) (s : St) (h : ValInv s) : ValInv (stepCb c i s) ∧ ValInv (complete c i s) := by
  have reg : ∀ (s : St) i t, ValInv s → TabStep s.trk (s.trk.set i t) → ValInv (appendOutcome c i (setTrk s i t)) :=
    fun s i t h ht => (h.vstep (s' := setTrk s i t) ⟨ht, rfl, rfl⟩).vstep (appendOutcome_vstep c i _)
  exact thread_inv (fun _ _ _ _ _ _ _ h => ⟨h.ok, h.bound, h.out⟩)
    (fun s i _ _ h => h.vstep ⟨tabStep_setTrk_same s i _ rfl (.inl rfl), rfl, rfl⟩) (fun hd h => h.vstep hd.vstep)
    (fun s i _ _ _ _ h => reg _ i _ ⟨h.ok, h.bound, h.out⟩ (tabStep_setTrk_same _ _ _ rfl (.inr (fun l hl => nomatch hl))))
    (fun s i _ _ _ h => reg _ i _ ⟨h.ok, h.bound, h.out⟩ (tabStep_set _ _ _ rfl (fun _ l hl => (Res.vals.inj hl).symm)))
    i s h

theorem run_val (c : Cfg) (sched : List Act) : ∀ s, ValInv s → ValInv (run c s sched) :=
  run_ind (fun s a h =>
    step_cases c s a h (fun _ => h.callerStep (stepCaller_cases c s)) (fun i _ => (thread_val c i s h).1)
      (fun i _ => (thread_val c i s h).2)) sched

end JoblibModel.ParallelLockU
