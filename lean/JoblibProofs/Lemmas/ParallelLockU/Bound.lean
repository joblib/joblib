import JoblibProofs.Lemmas.ParallelLockU.Lock
/-!
M1LU proofs — the BOUND invariant: every tracker index held in `_jobs`, `_jobs_set`, the local `timeout_control_job`,
the caller's `get_status` program points and the ghost `appended` refers to an existing tracker.
-/
namespace JoblibModel.ParallelLockU
open JoblibModel.ParallelLock (Tid Status CbPc DK DRes Act chunks)

/-- The tracker the caller's `get_status` / `_register_outcome` program point is about. -/
def Pc.carries : Pc → Option Nat
  | .gsStatus i _ | .toAcq i _ | .toRel i _ _ | .toStatus i _ | .toExcW i _ | .toAbortW i _ | .toAcq2 i _
  | .toRel2 i _ | .gsRet i _ => some i
  | _ => none

structure BInv (s : St) : Prop where
  jobs : ∀ j ∈ s.jobs, j < s.trk.length
  set : ∀ j ∈ s.jobsSet, j < s.trk.length
  ctl : ∀ j, s.ctlJob = some j → j < s.trk.length
  pc : ∀ i, s.pc.carries = some i → i < s.trk.length
  app : ∀ j ∈ s.appended, j < s.trk.length

theorem bInv_init : BInv init := by
  refine ⟨?_, ?_, ?_, ?_, ?_⟩ <;> simp [init, Pc.carries]

theorem BInv.next {s s' : St} (h : BInv s) (hlen : s.trk.length ≤ s'.trk.length)
    (hj : ∀ j ∈ s'.jobs, j ∈ s.jobs ∨ j < s'.trk.length)
    (hs : ∀ j ∈ s'.jobsSet, j ∈ s.jobsSet ∨ j < s'.trk.length)
    (hc : ∀ j, s'.ctlJob = some j → s.ctlJob = some j ∨ j < s'.trk.length)
    (hp : ∀ i, s'.pc.carries = some i → s.pc.carries = some i ∨ i < s'.trk.length)
    (ha : ∀ j ∈ s'.appended, j ∈ s.appended ∨ j < s'.trk.length) : BInv s' := by
  refine ⟨?_, ?_, ?_, ?_, ?_⟩
  · intro j hjm; rcases hj j hjm with e | e
    · exact Nat.lt_of_lt_of_le (h.jobs j e) hlen
    · exact e
  · intro j hjm; rcases hs j hjm with e | e
    · exact Nat.lt_of_lt_of_le (h.set j e) hlen
    · exact e
  · intro j hjm; rcases hc j hjm with e | e
    · exact Nat.lt_of_lt_of_le (h.ctl j e) hlen
    · exact e
  · intro j hjm; rcases hp j hjm with e | e
    · exact Nat.lt_of_lt_of_le (h.pc j e) hlen
    · exact e
  · intro j hjm; rcases ha j hjm with e | e
    · exact Nat.lt_of_lt_of_le (h.app j e) hlen
    · exact e

/-- What `BInv` reads besides the pc: a step that only appends existing trackers. -/
structure BFrame (s s' : St) : Prop where
  len : s.trk.length ≤ s'.trk.length
  jobs : ∀ j ∈ s'.jobs, j ∈ s.jobs ∨ j < s'.trk.length
  set : ∀ j ∈ s'.jobsSet, j ∈ s.jobsSet ∨ j < s'.trk.length
  ctl : s'.ctlJob = s.ctlJob
  app : ∀ j ∈ s'.appended, j ∈ s.appended ∨ j < s'.trk.length

theorem BInv.frame {s s' : St} (h : BInv s) (f : BFrame s s') (hp : s'.pc = s.pc) : BInv s' :=
  h.next f.len f.jobs f.set (fun _ hj => Or.inl (f.ctl ▸ hj)) (fun _ hi => Or.inl (hp ▸ hi)) f.app

theorem bframe_of_same {s s0 : St} (h1 : s0.trk = s.trk) (h2 : s0.jobs = s.jobs) (h3 : s0.jobsSet = s.jobsSet)
    (h4 : s0.ctlJob = s.ctlJob) (h5 : s0.appended = s.appended) : BFrame s s0 :=
  ⟨by rw [h1]; exact Nat.le_refl _, fun _ h => Or.inl (h2 ▸ h), fun _ h => Or.inl (h3 ▸ h), h4, fun _ h => Or.inl (h5 ▸ h)⟩

theorem bframe_setTrk (s : St) (i : Nat) (t : Tracker) : BFrame s (setTrk s i t) :=
  ⟨by simp [setTrk], fun _ h => Or.inl h, fun _ h => Or.inl h, rfl, fun _ h => Or.inl h⟩

theorem mem_append_len {l : List Nat} {n j : Nat} (h : j ∈ l ++ [n]) : j ∈ l ∨ j < n + 1 := by
  simp only [List.mem_append, List.mem_singleton] at h
  rcases h with h | h
  · exact Or.inl h
  · right; omega

theorem DLCase.bframe {c : Cfg} {t : Tid} {bs : Nat} {s : St} {r : St × DRes} (h : DLCase c t bs s r) : BFrame s r.1 := by
  have len : ∀ t : Tracker, (s.trk ++ [t]).length = s.trk.length + 1 := fun t => by simp
  cases h with
  | ret => exact bframe_of_same rfl rfl rfl rfl rfl
  | submit _ _ _ _ _ _ _ _ _ _ hj =>
    rcases hj with ⟨_, rfl, rfl⟩ | ⟨_, rfl, rfl⟩
    · exact ⟨by simp, fun _ h => .inl h, fun _ h => len _ ▸ mem_append_len h, rfl, fun _ h => .inl h⟩
    · exact ⟨by simp, fun _ h => len _ ▸ mem_append_len h, fun _ h => .inl h, rfl, fun _ h => .inl h⟩
  | iterr _ _ _ _ _ _ _ _ _ hj =>
    rcases hj with ⟨_, rfl, rfl⟩ | ⟨_, rfl, rfl⟩
    · exact ⟨by simp, fun _ h => len _ ▸ mem_append_len h, fun _ h => len _ ▸ mem_append_len h, rfl,
        fun _ h => len _ ▸ mem_append_len h⟩
    · exact ⟨by simp, fun _ h => len _ ▸ mem_append_len h, fun _ h => .inl h, rfl, fun _ h => .inl h⟩

theorem appendOutcome_bframe (c : Cfg) (i : Nat) (s : St) (hi : i < s.trk.length) : BFrame s (appendOutcome c i s) := by
  unfold appendOutcome
  split
  · refine ⟨Nat.le_refl _, ?_, fun _ h => Or.inl h, rfl, ?_⟩ <;>
    · intro j hj
      simp only [List.mem_append, List.mem_singleton] at hj
      rcases hj with hj | hj
      · exact Or.inl hj
      · right; rw [hj]; exact hi
  · exact bframe_of_same rfl rfl rfl rfl rfl

theorem BInv.reg {c : Cfg} {s : St} {i : Nat} (t : Tracker) (h : BInv s) (hlt : i < s.trk.length) :
    BInv (appendOutcome c i (setTrk s i t)) :=
  (h.frame (bframe_setTrk s i t) rfl).frame (appendOutcome_bframe c i _ (by simpa [setTrk] using hlt)) (appendOutcome_pc ..)

theorem thread_binv (c : Cfg) (i : Nat) (s : St) (h : BInv s) : BInv (stepCb c i s) ∧ BInv (complete c i s) :=
  thread_inv (fun _ _ _ _ _ _ _ h => ⟨h.jobs, h.set, h.ctl, h.pc, h.app⟩)
    (fun s i _ _ h => h.frame (bframe_setTrk s i _) rfl) (fun hd h => h.frame hd.bframe hd.pc_eq)
    (fun _ _ _ _ _ hlt h => BInv.reg _ ⟨h.jobs, h.set, h.ctl, h.pc, h.app⟩ hlt)
    (fun _ _ _ _ hlt h => BInv.reg _ ⟨h.jobs, h.set, h.ctl, h.pc, h.app⟩ hlt) i s h

theorem pickCtl_mem (c : Cfg) (s : St) (j : Nat) (h : pickCtl c s = some j) : j ∈ s.jobsSet := by
  unfold pickCtl at h
  split at h
  · cases h
  · exact List.mem_of_getElem? h

theorem BInv.move {s s' : St} (h : BInv s) (ht : s'.trk.length = s.trk.length) (hj : s'.jobs = s.jobs)
    (hs : s'.jobsSet = s.jobsSet) (hc : s'.ctlJob = s.ctlJob) (ha : s'.appended = s.appended)
    (hp : ∀ i, s'.pc.carries = some i → i < s.trk.length) : BInv s' :=
  ⟨fun j hjm => ht ▸ h.jobs j (hj ▸ hjm), fun j hjm => ht ▸ h.set j (hs ▸ hjm), fun j hjm => ht ▸ h.ctl j (hc ▸ hjm),
   fun i hi => ht ▸ hp i hi, fun j hjm => ht ▸ h.app j (ha ▸ hjm)⟩

theorem Move.carries {c : Cfg} {s : St} {p p' : Pc} {ex ab : Bool} (m : Move c s p p' ex ab) (h : BInv s)
    (hc : ∀ i, p.carries = some i → i < s.trk.length) : ∀ i, p'.carries = some i → i < s.trk.length := by
  induction m
  case rtLenGs j _ _ hj _ | rtLenGsRet j _ _ hj | ctlRelGs j hj _ | ctlRelRet j hj =>
    intro i e; cases e; exact h.ctl _ hj
  case rtHeadGs j r hj _ | rtHeadRet j r hj =>
    intro i e; cases e; exact h.jobs _ (by rw [hj]; exact List.mem_cons_self)
  case gsRetPend | gsRetPop | gsRetCtl => nofun
  all_goals exact hc

theorem BInv.callerStep {c : Cfg} {s s' : St} (h : BInv s) (st : CStep c s s') : BInv s' := by
  cases st with
  | move m hp => exact h.move rfl rfl rfl rfl rfl (m.carries h (fun i e => h.pc i (hp ▸ e)))
  | stay => exact h
  | busy hpc => exact h.move rfl rfl rfl rfl rfl nofun
  | dAcqSubmit k bs s' j hpc hd | dAcqRet k bs s' j hpc hd =>
    have hd := hd.bframe
    exact h.next hd.len hd.jobs hd.set (fun j hj => Or.inl (hd.ctl ▸ hj)) nofun hd.app
  | dSubmit k j hpc | resErr i t e hpc | resOk i t l lg hpc | refErr i t e hpc | refOk i t l hpc | tailErr i rem t e hpc
  | tailOkNext i i' rem t l lg hpc | tailOkRet i t l lg hpc =>
    exact h.move (List.length_set ..) rfl rfl rfl rfl nofun
  | rtLen j hpc =>
    exact ⟨fun j hj => (List.length_set ..).symm ▸ h.jobs j hj, fun j hj => (List.length_set ..).symm ▸ h.set j hj, nofun,
      nofun, fun j hj => (List.length_set ..).symm ▸ h.app j hj⟩
  | ctlAcq hpc => exact ⟨h.jobs, h.set, fun j hj => h.set j (pickCtl_mem c s j hj), nofun, h.app⟩
  | gsStatusExp i k hpc | gsStatusWait i k hpc | toAcq i k hpc | toRel i k hpc =>
    have hi := h.pc i (by rw [hpc]; rfl)
    exact h.move (List.length_set ..) rfl rfl rfl rfl (fun i' e => by cases e; exact hi)
  | toAcq2 i k x hpc hx =>
    have hi := h.pc i (by rw [hpc]; rfl)
    have hx : ∀ j ∈ x, j < s.trk.length := by
      rcases hx with ⟨_, rfl⟩ | ⟨_, rfl⟩
      · intro j hj; cases List.mem_singleton.mp hj; exact hi
      · nofun
    exact ⟨fun j hj => (List.mem_append.mp hj).elim (h.jobs j) (hx j), h.set, h.ctl, fun i' e => by cases e; exact hi,
      fun j hj => (List.mem_append.mp hj).elim (h.app j) (hx j)⟩
  | popOrd i rest hpc hj | popKey i rest hpc hj =>
    exact ⟨fun j hjm => h.jobs j (by rw [hj]; simp [hjm]), h.set, h.ctl, nofun, h.app⟩
  | popUn i rest hpc hj =>
    exact ⟨fun j hjm => h.jobs j (by rw [hj]; simp [hjm]), fun j hjm => h.set j (List.mem_of_mem_erase hjm), h.ctl,
      nofun, h.app⟩
  | abortCall e hpc =>
    refine h.move ?_ rfl rfl rfl rfl nofun
    dsimp only
    split
    · exact List.length_map ..
    · rfl
  | finJobsW e rem hpc => exact ⟨nofun, h.set, h.ctl, nofun, h.app⟩
  | finSetWSome e rem hpc | finSetWNext i rem hpc | finSetWRet lg hpc => exact ⟨h.jobs, nofun, h.ctl, nofun, h.app⟩

theorem step_binv (c : Cfg) (s : St) (h : BInv s) (a : Act) : BInv (step c s a) :=
  step_cases c s a h (fun _ => h.callerStep (stepCaller_cases c s)) (fun i _ => (thread_binv c i s h).1)
    (fun i _ => (thread_binv c i s h).2)

theorem run_binv (c : Cfg) (sched : List Act) : ∀ s, BInv s → BInv (run c s sched) :=
  run_ind (fun s a h => step_binv c s h a) sched

end JoblibModel.ParallelLockU
