import JoblibProofs.Lemmas.ParallelLockU.Basic
/-!
M1LU proofs — ONE characterisation of a step of the caller (`stepCaller_cases`): either a *move* — the step writes only
the caller's program counter and scalar attributes of the `Parallel` object: `Move` says from where to where, under
which guard, and what it leaves in `_exception` and `_aborting`; no invariant reads the other scalars, and the row
`CStep.move` leaves their new values arbitrary — or one of the equations `CStep.busy … CStep.tailOkRet` for the program
points that touch a queue, a tracker, the log, the lock or a ghost field.  Every invariant is preserved by moves for a
reason that only looks at the two program points; the equations carry the real arguments.  Likewise `stepCb_cases` for a step of a
callback thread, and from it `thread_inv`: what every write of such a step keeps, the step and a completion keep.
Then the case analysis of `step` (`step_cases`) and the induction over `run` (`run_ind`) that all invariants share.

An invariant file, in this order (`Bound.lean` is the one to copy): the invariant `XInv`; what a step of another thread
may do as seen by it, `XFrame`, with `XInv.frame`; `DLCase.xframe`; `thread_x` through `thread_inv`; the table check
`Move.x`; `XInv.callerStep` by cases on `CStep`; `step_x` by `step_cases`; `run_x` by `run_ind`.
Irregular names: the frames `AStep`, `VStep`, `LView`, `TView`, whose `XInv.frame` is `AStep.ord`, `ValInv.vstep`,
`LockCore.view`, `TInv.tview`; `Move.x` is named after its classifier (`Move.holding`, `.carries`, `.reg`, `.ord`, `.einv`,
`.tfacts`, `.cinv`, `.uinv`), while `BInv.move`, `EInv.move`, `TInv.move`/`.move'`, `CInv.moveSame` are frames for a step of
the caller, not lemmas about the relation `Move`; a clause about ONE program point comes from inverting `Move` at that
target (`Move.to_refAcq`, `.to_gsStatus`, `.not_toAcq`); a file has the one of `step_x` / `run_x` that is used;
`run_bninv`, `run_bncinv`, `run_uall` run together invariants that need each other.

Against the sister model M1L (`Lemmas/ParallelLock`): there a scalar write is a separate table `Write` with its
post-state, because M1L's invariants read ten of the scalars.  The `CStep` rows of the locked region carry `DLCase`
itself (see Basic).
-/
namespace JoblibModel.ParallelLockU
open JoblibModel.ParallelLock (Tid Status CbPc DK DRes Act chunks)

/-- From `p` in state `s` to `p'`, leaving `_exception = ex` and `_aborting = ab`; one constructor per branch of
`stepCaller` that writes only scalars, with the branch's guard on the state (guards on the configuration alone —
`bsAuto`, `recheck`, `pdMode` — are left out: no invariant depends on which of these branches is taken).
Normal form, here and in `CStep`: every target is a constructor term or an explicit record — `afterDispatch` and
`getStatusEntry` are resolved into one row per value, and what `_return_or_raise` did comes as a case of `RR`. -/
inductive Move (c : Cfg) (s : St) : Pc → Pc → Bool → Bool → Prop
  | resetAcq (h : s.running = false) : Move c s .resetAcq .resetRel s.exception s.aborting
  | resetRel : Move c s .resetRel .wNDisp s.exception s.aborting
  | wNDisp : Move c s .wNDisp .wNComp s.exception s.aborting
  | wNComp : Move c s .wNComp .wExc0 s.exception s.aborting
  | wExc0 : Move c s .wExc0 .wAbort0 false s.aborting
  | wAbort0 : Move c s .wAbort0 .readyAcq s.exception false
  | readyAcq : Move c s .readyAcq .readyRel s.exception s.aborting
  | readyRel : Move c s .readyRel .wOrig s.exception s.aborting
  | wOrig : Move c s .wOrig .wIter0 s.exception s.aborting
  | wIter0 : Move c s .wIter0 (.dPre .first) s.exception s.aborting
  | dPreAbFirst (h : s.aborting = true) : Move c s (.dPre .first) (.dPre .loop) s.exception s.aborting
  | dPreAbAll (h : s.aborting = true) : Move c s (.dPre .loop) .wIterAll s.exception s.aborting
  | dPreAbWait (h : s.aborting = true) : Move c s (.dPre .loop) .wtAbort s.exception s.aborting
  | dPreBs k (h : s.aborting = false) : Move c s (.dPre k) (.dBs k) s.exception s.aborting
  | dPreAcq k (h : s.aborting = false) : Move c s (.dPre k) (.dAcq k (scriptedBs c s)) s.exception s.aborting
  | dBs k : Move c s (.dBs k) (.dAcq k (scriptedBs c s)) s.exception s.aborting
  | dRelIt : Move c s (.dRel .first true) .itAcq s.exception s.aborting
  | dRelFirst : Move c s (.dRel .first false) (.dPre .loop) s.exception s.aborting
  | dRelLoop : Move c s (.dRel .loop true) (.dPre .loop) s.exception s.aborting
  | dRelAll : Move c s (.dRel .loop false) .wIterAll s.exception s.aborting
  | dRelWait : Move c s (.dRel .loop false) .wtAbort s.exception s.aborting
  | itAcq : Move c s .itAcq .itRel s.exception s.aborting
  | itRel : Move c s .itRel (.dPre .loop) s.exception s.aborting
  | wIterAll : Move c s .wIterAll .wtAbort s.exception s.aborting
  | wtAbortT (h : s.aborting = true) : Move c s .wtAbort .rtAbort s.exception s.aborting
  | wtAbortF (h : s.aborting = false) : Move c s .wtAbort .wtIter s.exception s.aborting
  | wtIterT (h : s.iterating = true) : Move c s .wtIter .rtAbort s.exception s.aborting
  | wtIterF (h : s.iterating = false) : Move c s .wtIter .wtNComp s.exception s.aborting
  | wtNComp : Move c s .wtNComp (.wtNDisp s.nCompleted) s.exception s.aborting
  | wtNDispLt nc (h : nc < s.nDispTasks) : Move c s (.wtNDisp nc) .rtAbort s.exception s.aborting
  | wtNDispRe nc (h : ¬ nc < s.nDispTasks) : Move c s (.wtNDisp nc) .wtAbort2 s.exception s.aborting
  | wtNDispFin nc (h : ¬ nc < s.nDispTasks) : Move c s (.wtNDisp nc) (.finExc none) s.exception s.aborting
  | wtAbort2T (h : s.aborting = true) : Move c s .wtAbort2 .rtAbort s.exception s.aborting
  | wtAbort2F (h : s.aborting = false) : Move c s .wtAbort2 (.finExc none) s.exception s.aborting
  | rtAbortT (h : s.aborting = true) : Move c s .rtAbort .refAcq s.exception s.aborting
  | rtAbortF (h : s.aborting = false) : Move c s .rtAbort .rtLen s.exception s.aborting
  | rtLenSleep (hra : c.ra ≠ 2) (hj : s.jobs.length = 0) : Move c s .rtLen .sleep s.exception s.aborting
  | rtLenHead (hra : c.ra ≠ 2) (hj : s.jobs.length ≠ 0) : Move c s .rtLen .rtHead s.exception s.aborting
  | rtLenCtl (hra : c.ra = 2) (hj : s.jobs.length = 0) (hc : s.ctlJob = none) :
      Move c s .rtLen .ctlAcq s.exception s.aborting
  | rtLenGsRet j (hra : c.ra = 2) (hj : s.jobs.length = 0) (hc : s.ctlJob = some j) :
      Move c s .rtLen (.gsRet j .ctl) s.exception s.aborting
  | rtLenGs j (hra : c.ra = 2) (hj : s.jobs.length = 0) (hc : s.ctlJob = some j) (hT : c.timeout.isSome = true) :
      Move c s .rtLen (.gsStatus j .ctl) s.exception s.aborting
  | rtLenPop (hra : c.ra = 2) (hj : s.jobs.length ≠ 0) (hc : s.ctlJob = none) :
      Move c s .rtLen .popAcq s.exception s.aborting
  | rtHeadNil (hj : s.jobs = []) : Move c s .rtHead (.excW .index) s.exception s.aborting
  | rtHeadRet i r (hj : s.jobs = i :: r) : Move c s .rtHead (.gsRet i .head) s.exception s.aborting
  | rtHeadGs i r (hj : s.jobs = i :: r) (hT : c.timeout.isSome = true) :
      Move c s .rtHead (.gsStatus i .head) s.exception s.aborting
  | ctlRelNone (hc : s.ctlJob = none) : Move c s .ctlRel .sleep s.exception s.aborting
  | ctlRelRet j (hc : s.ctlJob = some j) : Move c s .ctlRel (.gsRet j .ctl) s.exception s.aborting
  | ctlRelGs j (hc : s.ctlJob = some j) (hT : c.timeout.isSome = true) :
      Move c s .ctlRel (.gsStatus j .ctl) s.exception s.aborting
  | gsStatusSet i k (h : (getTrk s i).status ≠ .pending) : Move c s (.gsStatus i k) (.gsRet i k) s.exception s.aborting
  | toAcqSet i k (h : (getTrk s i).status ≠ .pending) :
      Move c s (.toAcq i k) (.toRel i k false) s.exception s.aborting
  | toRelF i k : Move c s (.toRel i k false) (.gsRet i k) s.exception s.aborting
  | toStatusErr i k (h : (getTrk s i).status = .error) : Move c s (.toStatus i k) (.toExcW i k) s.exception s.aborting
  | toStatusRet i k (h : (getTrk s i).status ≠ .error) (hra : c.ra ≠ 2) :
      Move c s (.toStatus i k) (.gsRet i k) s.exception s.aborting
  | toStatusAcq i k (h : (getTrk s i).status ≠ .error) (hra : c.ra = 2) :
      Move c s (.toStatus i k) (.toAcq2 i k) s.exception s.aborting
  | toExcW i k : Move c s (.toExcW i k) (.toAbortW i k) true s.aborting
  | toAbortWRet i k (hra : c.ra ≠ 2) : Move c s (.toAbortW i k) (.gsRet i k) s.exception true
  | toAbortWAcq i k (hra : c.ra = 2) : Move c s (.toAbortW i k) (.toAcq2 i k) s.exception true
  | toRel2 i k : Move c s (.toRel2 i k) (.gsRet i k) s.exception s.aborting
  | gsRetPend i (h : (getTrk s i).status = .pending) : Move c s (.gsRet i .head) .sleep s.exception s.aborting
  | gsRetPop i (h : (getTrk s i).status ≠ .pending) : Move c s (.gsRet i .head) .popAcq s.exception s.aborting
  | gsRetCtl i : Move c s (.gsRet i .ctl) .sleep s.exception s.aborting
  | sleep : Move c s .sleep .wtAbort s.exception s.aborting
  | popNil (hj : s.jobs = []) : Move c s .popAcq (.excW .index) s.exception s.aborting
  | popRel i : Move c s (.popRel i) (.resStatus i) s.exception s.aborting
  | refAcq : Move c s .refAcq (.refRel (firstErrorJob s s.jobs)) s.exception s.aborting
  | refRelNone : Move c s (.refRel none) (.finExc none) s.exception s.aborting
  | refRelSome i : Move c s (.refRel (some i)) (.refStatus i) s.exception s.aborting
  | excW e : Move c s (.excW e) (.abortW e) true s.aborting
  | abortWFin e (h : s.aborted = true) : Move c s (.abortW e) (.finExc (some e)) s.exception true
  | abortWCall e (h : s.aborted = false) : Move c s (.abortW e) (.abortCall e) s.exception true
  | finExcT e (h : s.exception = true) : Move c s (.finExc e) (.finJobsW e []) s.exception s.aborting
  | finExcF e (h : s.exception = false) : Move c s (.finExc e) (.finJobsR e) s.exception s.aborting
  | finJobsR e : Move c s (.finJobsR e) (.finJobsW e s.jobs) s.exception s.aborting

/-- What `_return_or_raise` does to the tracker and what it returns or raises. -/
inductive RR (t : Tracker) : Tracker → Except Exc (List Nat) → Prop
  | noRes (h : t.result = .none) : RR t t (.error .attr)
  | vals l (h : t.result = .vals l) (hs : t.status ≠ .error) : RR t { t with result := .none } (.ok l)
  | valsErr l (h : t.result = .vals l) (hs : t.status = .error) : RR t { t with result := .none } (.error .attr)
  | exc e (h : t.result = .exc e) (hs : t.status = .error) : RR t { t with result := .none } (.error e)
  | excOdd e (h : t.result = .exc e) (hs : t.status ≠ .error) : RR t { t with result := .none } (.error .typeErr)

theorem RR.status {t t' : Tracker} {r : Except Exc (List Nat)} (h : RR t t' r) : t'.status = t.status := by
  cases h <;> rfl

theorem RR.items {t t' : Tracker} {r : Except Exc (List Nat)} (h : RR t t' r) : t'.items = t.items := by
  cases h <;> rfl

theorem RR.pc {t t' : Tracker} {r : Except Exc (List Nat)} (h : RR t t' r) : t'.pc = t.pc := by
  cases h <;> rfl

theorem RR.ok {t t' : Tracker} {l : List Nat} (h : RR t t' (.ok l)) : t.result = .vals l ∧ t.status ≠ .error := by
  cases h with
  | vals _ h hs => exact ⟨h, hs⟩

theorem RR.raises {t t' : Tracker} {r : Except Exc (List Nat)} {e : Exc} (h : RR t t' r) (hs : t.status = .error)
    (he : t.result = .exc e) : r = .error e := by
  cases h with
  | noRes h => rw [h] at he; cases he
  | vals _ h | valsErr _ h => rw [h] at he; cases he
  | exc _ h => rw [h] at he; cases he; rfl
  | excOdd _ _ hn => exact absurd hs hn

def NoPull (log lg : List Ev) : Prop := ∀ t id l, Ev.pull t id l ∈ lg → Ev.pull t id l ∈ log

theorem NoPull.of_yields {log lg : List Ev} (h : ∀ e ∈ lg, e ∈ log ∨ ∃ v, e = .yield v) : NoPull log lg :=
  fun _ _ _ hm => (h _ hm).elim id (fun ⟨_, hv⟩ => nomatch hv)

theorem NoPull.of_fin {log lg : List Ev} {out : List Nat} (h : ∀ e ∈ lg, e ∈ log ∨ e = .stop ∨ e = .ret out) :
    NoPull log lg :=
  fun _ _ _ hm => (h _ hm).elim id (fun h => h.elim nofun nofun)

theorem NoPull.trans {a b d : List Ev} (h1 : NoPull a b) (h2 : NoPull b d) : NoPull a d :=
  fun t id l hm => h1 t id l (h2 t id l hm)

inductive CStep (c : Cfg) (s : St) : St → Prop
  | move {p p' : Pc} {ex ab : Bool} (m : Move c s p p' ex ab) (hp : s.pc = p)
      (bsI : Nat) (preLeft : Option Nat) (origAlive : Bool) (ready : List (List Nat)) (nDisp nComp : Nat)
      (iterating aborted running : Bool) (callId clock : Nat) :
      CStep c s { s with pc := p', exception := ex, aborting := ab, bsI := bsI, preLeft := preLeft,
                         origAlive := origAlive, ready := ready, nDispTasks := nDisp, nCompleted := nComp,
                         iterating := iterating, aborted := aborted, running := running, callId := callId,
                         clock := clock }
  | stay (h : s.pc = .done ∨ ∃ k, s.pc = .dIn k) : CStep c s s
  | busy (hpc : s.pc = .resetAcq) (h : s.running = true) :
      CStep c s { s with log := .raise .runtime :: s.log, pc := .done, outcome := some (.raised .runtime) }
  | dAcqSubmit k bs s1 j (hpc : s.pc = .dAcq k bs)
      (hd : DLCase c 0 bs { s with lockOwner := some 0, pc := .dIn k } (s1, .submit j)) :
      CStep c s { s1 with pc := .dSubmit k j }
  | dAcqRet k bs s1 r (hpc : s.pc = .dAcq k bs)
      (hd : DLCase c 0 bs { s with lockOwner := some 0, pc := .dIn k } (s1, .ret r)) :
      CStep c s { s1 with lockOwner := none, pc := .dRel k r }
  | dSubmit k j (hpc : s.pc = .dSubmit k j) :
      CStep c s { s with log := .submit 0 (getT s.trk j).items :: s.log, trk := s.trk.set j { getT s.trk j with pc := .parked },
                         lockOwner := none, pc := .dRel k true }
  | rtLen j (hpc : s.pc = .rtLen) (hra : c.ra = 2) (hj : s.jobs.length ≠ 0) (hc : s.ctlJob = some j) :
      CStep c s { s with trk := s.trk.set j { getT s.trk j with tcnt := none }, ctlJob := none, pc := .popAcq }
  | ctlAcq (hpc : s.pc = .ctlAcq) : CStep c s { s with ctlJob := pickCtl c s, ctlI := s.ctlI + 1, pc := .ctlRel }
  | gsStatusExp i k (hpc : s.pc = .gsStatus i k) (h : (getTrk s i).status = .pending)
      (he : c.timeout.getD 0 < s.clock - (getTrk s i).tcnt.getD s.clock) :
      CStep c s { s with trk := s.trk.set i { getT s.trk i with tcnt := some ((getT s.trk i).tcnt.getD s.clock) },
                         pc := .toAcq i k }
  | gsStatusWait i k (hpc : s.pc = .gsStatus i k) (h : (getTrk s i).status = .pending)
      (he : ¬ c.timeout.getD 0 < s.clock - (getTrk s i).tcnt.getD s.clock) :
      CStep c s { s with trk := s.trk.set i { getT s.trk i with tcnt := some ((getT s.trk i).tcnt.getD s.clock) },
                         pc := .gsRet i k }
  | toAcq i k (hpc : s.pc = .toAcq i k) (h : (getTrk s i).status = .pending) :
      CStep c s { s with trk := s.trk.set i { getT s.trk i with status := .error },
                         toWait := some (i, (getT s.trk i).tcnt.getD s.clock, s.clock), pc := .toRel i k true }
  | toRel i k (hpc : s.pc = .toRel i k true) :
      CStep c s { s with trk := s.trk.set i { getT s.trk i with result := .exc .timeout }, pc := .toStatus i k }
  | toAcq2 i k x (hpc : s.pc = .toAcq2 i k) (hx : (c.ra = 2 ∧ x = [i]) ∨ (c.ra ≠ 2 ∧ x = [])) :
      CStep c s { s with jobs := s.jobs ++ x, appended := s.appended ++ x, pc := .toRel2 i k }
  | popOrd i rest (hpc : s.pc = .popAcq) (hj : s.jobs = i :: rest) (hra : c.ra ≠ 2) :
      CStep c s { s with jobs := rest, nPop := s.nPop + 1, pc := .popRel i }
  | popUn i rest (hpc : s.pc = .popAcq) (hj : s.jobs = i :: rest) (hra : c.ra = 2) (hc : s.jobsSet.contains i = true) :
      CStep c s { s with jobs := rest, jobsSet := s.jobsSet.erase i, nPop := s.nPop + 1, pc := .popRel i }
  | popKey i rest (hpc : s.pc = .popAcq) (hj : s.jobs = i :: rest) (hra : c.ra = 2) (hc : ¬ s.jobsSet.contains i = true) :
      CStep c s { s with jobs := rest, nPop := s.nPop + 1, pc := .excW .key }
  | resErr i t e (hpc : s.pc = .resStatus i) (hr : RR (getT s.trk i) t (.error e)) :
      CStep c s { s with trk := s.trk.set i t, pc := .excW e }
  | resOk i t l lg (hpc : s.pc = .resStatus i) (hr : RR (getT s.trk i) t (.ok l)) (hlg : NoPull s.log lg) :
      CStep c s { s with trk := s.trk.set i t, out := s.out ++ l, delivered := s.delivered ++ [i], log := lg,
                         pc := .wtAbort }
  | refErr i t e (hpc : s.pc = .refStatus i) (hr : RR (getT s.trk i) t (.error e)) :
      CStep c s { s with trk := s.trk.set i t, pc := .excW e }
  | refOk i t l (hpc : s.pc = .refStatus i) (hr : RR (getT s.trk i) t (.ok l)) :
      CStep c s { s with trk := s.trk.set i t, pc := .finExc none }
  | abortCall e (hpc : s.pc = .abortCall e) :
      CStep c s { s with log := .abort :: s.log, trk := if c.abortDrops then (dropParked s).trk else s.trk,
                         aborted := true, pc := .finExc (some e) }
  | finJobsW e rem (hpc : s.pc = .finJobsW e rem) : CStep c s { s with jobs := [], pc := .finSetW e rem }
  | finSetWSome e rem (hpc : s.pc = .finSetW (some e) rem) :
      CStep c s { s with jobsSet := [], running := false, log := .raise e :: s.log, pc := .done,
                         outcome := some (.raised e) }
  | finSetWNext i rem (hpc : s.pc = .finSetW none (i :: rem)) :
      CStep c s { s with jobsSet := [], running := false, pc := .tailStatus i rem }
  | finSetWRet lg (hpc : s.pc = .finSetW none []) (hlg : NoPull s.log lg) :
      CStep c s { s with jobsSet := [], running := false, log := lg, pc := .done, outcome := some (.ret s.out) }
  | tailErr i rem t e (hpc : s.pc = .tailStatus i rem) (hr : RR (getT s.trk i) t (.error e)) :
      CStep c s { s with trk := s.trk.set i t, log := .raise e :: s.log, pc := .done, outcome := some (.raised e) }
  | tailOkNext i i' rem t l lg (hpc : s.pc = .tailStatus i (i' :: rem)) (hr : RR (getT s.trk i) t (.ok l))
      (hlg : NoPull s.log lg) :
      CStep c s { s with trk := s.trk.set i t, out := s.out ++ l, delivered := s.delivered ++ [i], log := lg,
                         pc := .tailStatus i' rem }
  | tailOkRet i t l lg (hpc : s.pc = .tailStatus i []) (hr : RR (getT s.trk i) t (.ok l)) (hlg : NoPull s.log lg) :
      CStep c s { s with trk := s.trk.set i t, out := s.out ++ l, delivered := s.delivered ++ [i], log := lg,
                         pc := .done, outcome := some (.ret (s.out ++ l)) }

theorem of_not_bne {α : Type} [BEq α] [LawfulBEq α] {a b : α} (h : ¬ (a != b) = true) : a = b := by
  simpa using h

theorem opt_prop {P : St → Prop} {o : Option Nat} {a : St} {b : Nat → St} :
    (∀ j, o = some j → P (b j)) → (o = none → P a) → P (match o with | none => a | some j => b j) := by
  intro hb ha
  cases o
  · exact ha rfl
  · exact hb _ rfl

theorem list_prop {P : St → Prop} {l : List Nat} {a : St} {b : Nat → List Nat → St} :
    (l = [] → P a) → (∀ i r, l = i :: r → P (b i r)) → P (match l with | [] => a | i :: r => b i r) := by
  intro ha hb
  cases l
  · exact ha rfl
  · exact hb _ _ rfl

theorem ad_prop {P : Pc → Prop} (c : Cfg) (k : DK) (r : Bool) (h1 : k = .first → r = true → P .itAcq)
    (h2 : k = .first → r = false → P (.dPre .loop)) (h3 : k = .loop → r = true → P (.dPre .loop))
    (h4 : k = .loop → r = false → P .wIterAll) (h5 : k = .loop → r = false → P .wtAbort) : P (afterDispatch c k r) := by
  cases k <;> cases r <;> simp only [afterDispatch]
  · exact h2 rfl rfl
  · exact h1 rfl rfl
  · split
    · exact h4 rfl rfl
    · exact h5 rfl rfl
  · exact h3 rfl rfl

theorem gse_prop {P : Pc → Prop} (c : Cfg) (i : Nat) (k : GK) (h1 : P (.gsRet i k))
    (h2 : c.timeout.isSome = true → P (.gsStatus i k)) : P (getStatusEntry c i k) := by
  unfold getStatusEntry
  split
  · exact h1
  · rename_i h; exact h2 (by rw [h]; rfl)

theorem returnOrRaise_eq {s s1 : St} {i : Nat} {r : Except Exc (List Nat)} (hq : returnOrRaise s i = (s1, r)) :
    ∃ t, RR (getT s.trk i) t r ∧ s1 = { s with trk := s.trk.set i t } := by
  suffices h : ∃ t r, RR (getT s.trk i) t r ∧ returnOrRaise s i = ({ s with trk := s.trk.set i t }, r) by
    obtain ⟨t, r', hr, he⟩ := h
    rw [he] at hq; cases hq
    exact ⟨t, hr, rfl⟩
  unfold returnOrRaise
  dsimp only [getTrk_def]
  cases hr : (getT s.trk i).result with
  | none => exact ⟨_, _, .noRes hr, by rw [set_getT_self]⟩
  | vals l =>
    dsimp only
    by_cases hs : (getT s.trk i).status = .error
    · exact ⟨_, _, .valsErr l hr hs, by rw [if_pos (beq_iff_eq.mpr hs)]; rfl⟩
    · exact ⟨_, _, .vals l hr hs, by rw [if_neg (fun h => hs (eq_of_beq h))]; rfl⟩
  | exc e =>
    dsimp only
    by_cases hs : (getT s.trk i).status = .error
    · exact ⟨_, _, .exc e hr hs, by rw [if_pos (beq_iff_eq.mpr hs)]; rfl⟩
    · exact ⟨_, _, .excOdd e hr hs, by rw [if_neg (fun h => hs (eq_of_beq h))]; rfl⟩

theorem deliverVals_eq (c : Cfg) (s : St) (i : Nat) (l : List Nat) :
    ∃ lg, deliverVals c s i l = { s with out := s.out ++ l, delivered := s.delivered ++ [i], log := lg } ∧
      ∀ e ∈ lg, e ∈ s.log ∨ ∃ v, e = .yield v := by
  unfold deliverVals
  dsimp only
  split
  · refine ⟨_, rfl, fun e he => ?_⟩
    simp only [List.mem_append, List.mem_reverse, List.mem_map] at he
    rcases he with ⟨v, _, hv⟩ | he
    · exact .inr ⟨v, hv.symm⟩
    · exact .inl he
  · exact ⟨_, rfl, fun _ he => .inl he⟩

theorem tailNext_eq (c : Cfg) (s : St) (rem : List Nat) :
    (∃ i r, rem = i :: r ∧ tailNext c s rem = { s with pc := .tailStatus i r }) ∨
    (∃ lg, rem = [] ∧ tailNext c s rem = { s with log := lg, pc := .done, outcome := some (.ret s.out) } ∧
      ∀ e ∈ lg, e ∈ s.log ∨ e = .stop ∨ e = .ret s.out) := by
  cases rem with
  | cons i r => exact .inl ⟨i, r, rfl, rfl⟩
  | nil =>
    refine .inr ?_
    unfold tailNext finishRet ev
    dsimp only
    split
    · exact ⟨_, rfl, rfl, fun e he => (List.mem_cons.mp he).elim (fun h => .inr (.inl h)) .inl⟩
    · exact ⟨_, rfl, rfl, fun e he => (List.mem_cons.mp he).elim (fun h => .inr (.inr h)) .inl⟩

/-! The rows that read a result, proved outside the large goal of `stepCaller_cases` (rewriting there is slow to check). -/
section
variable {c : Cfg} {s s1 : St} {i : Nat}

theorem CStep.resE {e : Exc} (hpc : s.pc = .resStatus i) (hq : returnOrRaise s i = (s1, .error e)) :
    CStep c s { s1 with pc := .excW e } := by
  obtain ⟨t, hr, rfl⟩ := returnOrRaise_eq hq
  exact .resErr i t e hpc hr

theorem CStep.resV {l : List Nat} (hpc : s.pc = .resStatus i) (hq : returnOrRaise s i = (s1, .ok l)) :
    CStep c s { deliverVals c s1 i l with pc := .wtAbort } := by
  obtain ⟨t, hr, rfl⟩ := returnOrRaise_eq hq
  obtain ⟨lg, hd, hlg⟩ := deliverVals_eq c { s with trk := s.trk.set i t } i l
  rw [hd]
  exact .resOk i t l lg hpc hr (.of_yields hlg)

theorem CStep.refE {e : Exc} (hpc : s.pc = .refStatus i) (hq : returnOrRaise s i = (s1, .error e)) :
    CStep c s { s1 with pc := .excW e } := by
  obtain ⟨t, hr, rfl⟩ := returnOrRaise_eq hq
  exact .refErr i t e hpc hr

theorem CStep.refV {l : List Nat} (hpc : s.pc = .refStatus i) (hq : returnOrRaise s i = (s1, .ok l)) :
    CStep c s { s1 with pc := .finExc none } := by
  obtain ⟨t, hr, rfl⟩ := returnOrRaise_eq hq
  exact .refOk i t l hpc hr

theorem CStep.tailE {e : Exc} {rem : List Nat} (hpc : s.pc = .tailStatus i rem) (hq : returnOrRaise s i = (s1, .error e)) :
    CStep c s (finishRaise s1 e) := by
  obtain ⟨t, hr, rfl⟩ := returnOrRaise_eq hq
  exact .tailErr i rem t e hpc hr

theorem CStep.tailV {l rem : List Nat} (hpc : s.pc = .tailStatus i rem) (hq : returnOrRaise s i = (s1, .ok l)) :
    CStep c s (tailNext c (deliverVals c s1 i l) rem) := by
  obtain ⟨t, hr, rfl⟩ := returnOrRaise_eq hq
  obtain ⟨lg, hd, hlg⟩ := deliverVals_eq c { s with trk := s.trk.set i t } i l
  rw [hd]
  rcases tailNext_eq c { s with trk := s.trk.set i t, out := s.out ++ l, delivered := s.delivered ++ [i], log := lg } rem
    with ⟨i', r, rfl, h⟩ | ⟨lg2, rfl, h, hl⟩ <;> rw [h]
  · exact .tailOkNext i i' r t l lg hpc hr (.of_yields hlg)
  · exact .tailOkRet i t l lg2 hpc hr ((NoPull.of_yields hlg).trans (.of_fin hl))

theorem CStep.finSetN {rem : List Nat} (hpc : s.pc = .finSetW none rem) :
    CStep c s (tailNext c { s with jobsSet := [], running := false } rem) := by
  rcases tailNext_eq c { s with jobsSet := [], running := false } rem with ⟨i, r, rfl, h⟩ | ⟨lg, rfl, h, hl⟩ <;> rw [h]
  · exact .finSetWNext i r hpc
  · exact .finSetWRet lg hpc (.of_fin hl)

end


/-- `iteInduction` instead of `split` throughout: `split` on a goal that carries the body of `stepCaller` is slow to check. -/
theorem stepCaller_cases (c : Cfg) (s : St) : CStep c s (stepCaller c s) := by
  unfold stepCaller
  generalize hpc : s.pc = p
  cases p with
  | resetAcq =>
    exact iteInduction (motive := CStep c s) (fun h => .busy hpc h) (fun h => .move (.resetAcq (eq_false_of_ne_true h)) hpc ..)
  | resetRel => exact .move .resetRel hpc ..
  | wNDisp => exact .move .wNDisp hpc ..
  | wNComp => exact .move .wNComp hpc ..
  | wExc0 => exact .move .wExc0 hpc ..
  | wAbort0 => exact .move .wAbort0 hpc ..
  | readyAcq => exact .move .readyAcq hpc ..
  | readyRel => exact .move .readyRel hpc ..
  | wOrig => exact iteInduction (motive := CStep c s) (fun _ => .move .wOrig hpc ..) (fun _ => .move .wOrig hpc ..)
  | wIter0 => exact .move .wIter0 hpc ..
  | dPre k =>
    refine iteInduction (motive := CStep c s) (fun h => ?_) (fun h => ?_)
    · exact ad_prop (P := fun p => CStep c s { s with pc := p }) c k false nofun
        (fun hk _ => .move (.dPreAbFirst h) (hk ▸ hpc) ..) nofun (fun hk _ => .move (.dPreAbAll h) (hk ▸ hpc) ..)
        (fun hk _ => .move (.dPreAbWait h) (hk ▸ hpc) ..)
    have hab : s.aborting = false := eq_false_of_ne_true h
    exact iteInduction (motive := CStep c s) (fun _ => .move (.dPreBs k hab) hpc ..) (fun _ => .move (.dPreAcq k hab) hpc ..)
  | dBs k => exact .move (.dBs k) hpc ..
  | dAcq k bs =>
    dsimp only
    have hd := dispatchLocked_cases c 0 false bs { s with lockOwner := some 0, pc := .dIn k }
    generalize dispatchLocked c 0 false bs { s with lockOwner := some 0, pc := .dIn k } = r at hd
    obtain ⟨s1, x⟩ := r
    cases x with
    | submit j => exact .dAcqSubmit k bs s1 j hpc hd
    | ret r => exact .dAcqRet k bs s1 r hpc hd
  | dIn k => exact .stay (.inr ⟨k, hpc⟩)
  | dSubmit k j => exact .dSubmit k j hpc
  | dRel k r =>
    exact ad_prop (P := fun p => CStep c s { s with pc := p }) c k r
      (fun hk hr => .move .dRelIt (hk ▸ hr ▸ hpc) ..) (fun hk hr => .move .dRelFirst (hk ▸ hr ▸ hpc) ..)
      (fun hk hr => .move .dRelLoop (hk ▸ hr ▸ hpc) ..) (fun hk hr => .move .dRelAll (hk ▸ hr ▸ hpc) ..)
      (fun hk hr => .move .dRelWait (hk ▸ hr ▸ hpc) ..)
  | itAcq => exact .move .itAcq hpc ..
  | itRel => exact .move .itRel hpc ..
  | wIterAll => exact .move .wIterAll hpc ..
  | wtAbort =>
    exact iteInduction (motive := CStep c s) (fun h => .move (.wtAbortT h) hpc ..)
      (fun h => .move (.wtAbortF (eq_false_of_ne_true h)) hpc ..)
  | wtIter =>
    exact iteInduction (motive := CStep c s) (fun h => .move (.wtIterT h) hpc ..)
      (fun h => .move (.wtIterF (eq_false_of_ne_true h)) hpc ..)
  | wtNComp => exact .move .wtNComp hpc ..
  | wtNDisp nc =>
    exact iteInduction (motive := CStep c s) (fun h => .move (.wtNDispLt nc h) hpc ..) (fun h =>
      iteInduction (motive := CStep c s) (fun _ => .move (.wtNDispRe nc h) hpc ..) (fun _ => .move (.wtNDispFin nc h) hpc ..))
  | wtAbort2 =>
    exact iteInduction (motive := CStep c s) (fun h => .move (.wtAbort2T h) hpc ..)
      (fun h => .move (.wtAbort2F (eq_false_of_ne_true h)) hpc ..)
  | rtAbort =>
    exact iteInduction (motive := CStep c s) (fun h => .move (.rtAbortT h) hpc ..)
      (fun h => .move (.rtAbortF (eq_false_of_ne_true h)) hpc ..)
  | rtLen =>
    refine iteInduction (motive := CStep c s) (fun h => ?_) (fun h => ?_)
    · have hra : c.ra ≠ 2 := bne_iff_ne.mp h
      exact iteInduction (motive := CStep c s) (fun hj => .move (.rtLenSleep hra hj) hpc ..)
        (fun hj => .move (.rtLenHead hra hj) hpc ..)
    · have hra : c.ra = 2 := of_not_bne h
      refine iteInduction (motive := CStep c s) (fun hj => ?_) (fun hj => ?_)
      · exact opt_prop (P := CStep c s)
          (fun j h => gse_prop (P := fun p => CStep c s { s with pc := p }) c j .ctl (.move (.rtLenGsRet j hra hj h) hpc ..)
            (fun hT => .move (.rtLenGs j hra hj h hT) hpc ..))
          (fun h => .move (.rtLenCtl hra hj h) hpc ..)
      · exact opt_prop (P := CStep c s) (fun j h => .rtLen j hpc hra hj h) (fun h => .move (.rtLenPop hra hj h) hpc ..)
  | rtHead =>
    exact list_prop (P := CStep c s) (fun h => .move (.rtHeadNil h) hpc ..)
      (fun i r h => gse_prop (P := fun p => CStep c s { s with pc := p }) c i .head (.move (.rtHeadRet i r h) hpc ..)
        (fun hT => .move (.rtHeadGs i r h hT) hpc ..))
  | ctlAcq => exact .ctlAcq hpc
  | ctlRel =>
    exact opt_prop (P := CStep c s)
      (fun j h => gse_prop (P := fun p => CStep c s { s with pc := p }) c j .ctl (.move (.ctlRelRet j h) hpc ..)
        (fun hT => .move (.ctlRelGs j h hT) hpc ..))
      (fun h => .move (.ctlRelNone h) hpc ..)
  | gsStatus i k =>
    exact iteInduction (motive := CStep c s) (fun h => .move (.gsStatusSet i k (bne_iff_ne.mp h)) hpc ..)
      (fun h => iteInduction (motive := CStep c s) (fun he => .gsStatusExp i k hpc (of_not_bne h) he)
        (fun he => .gsStatusWait i k hpc (of_not_bne h) he))
  | toAcq i k =>
    exact iteInduction (motive := CStep c s) (fun h => .move (.toAcqSet i k (bne_iff_ne.mp h)) hpc ..)
      (fun h => .toAcq i k hpc (of_not_bne h))
  | toRel i k reg =>
    cases reg
    · exact .move (.toRelF i k) hpc ..
    · exact .toRel i k hpc
  | toStatus i k =>
    refine iteInduction (motive := CStep c s) (fun h => .move (.toStatusErr i k (eq_of_beq h)) hpc ..) (fun h => ?_)
    have hne : (getTrk s i).status ≠ .error := fun e => h (beq_iff_eq.mpr e)
    exact iteInduction (motive := CStep c s) (fun h => .move (.toStatusRet i k hne (bne_iff_ne.mp h)) hpc ..)
      (fun h => .move (.toStatusAcq i k hne (of_not_bne h)) hpc ..)
  | toExcW i k => exact .move (.toExcW i k) hpc ..
  | toAbortW i k =>
    exact iteInduction (motive := CStep c s) (fun h => .move (.toAbortWRet i k (bne_iff_ne.mp h)) hpc ..)
      (fun h => .move (.toAbortWAcq i k (of_not_bne h)) hpc ..)
  | toAcq2 i k =>
    unfold appendOutcome
    refine iteInduction (motive := fun x : St => CStep c s { x with pc := .toRel2 i k }) (fun h => ?_) (fun h => ?_)
    · exact .toAcq2 i k [i] hpc (.inl ⟨eq_of_beq h, rfl⟩)
    · have := CStep.toAcq2 (c := c) i k [] hpc (.inr ⟨fun e => h (beq_iff_eq.mpr e), rfl⟩)
      simpa only [List.append_nil] using this
  | toRel2 i k => exact .move (.toRel2 i k) hpc ..
  | gsRet i k =>
    cases k
    · exact iteInduction (motive := CStep c s) (fun h => .move (.gsRetPend i (eq_of_beq h)) hpc ..)
        (fun h => .move (.gsRetPop i (fun e => h (beq_iff_eq.mpr e))) hpc ..)
    · exact .move (.gsRetCtl i) hpc ..
  | sleep => exact .move .sleep hpc ..
  | popAcq =>
    refine list_prop (P := CStep c s) (fun h => .move (.popNil h) hpc ..) (fun i r hj => ?_)
    refine iteInduction (motive := CStep c s) (fun h => .popOrd i r hpc hj (bne_iff_ne.mp h)) (fun h => ?_)
    exact iteInduction (motive := CStep c s) (fun hc => .popUn i r hpc hj (of_not_bne h) hc)
      (fun hc => .popKey i r hpc hj (of_not_bne h) hc)
  | popRel i => exact .move (.popRel i) hpc ..
  | resStatus i =>
    dsimp only
    rcases hr : returnOrRaise s i with ⟨s1, e | l⟩
    · exact .resE hpc hr
    · exact .resV hpc hr
  | refAcq => exact .move .refAcq hpc ..
  | refRel e =>
    cases e
    · exact .move .refRelNone hpc ..
    · exact .move (.refRelSome _) hpc ..
  | refStatus i =>
    dsimp only
    rcases hr : returnOrRaise s i with ⟨s1, e | l⟩
    · exact .refE hpc hr
    · exact .refV hpc hr
  | excW e => exact .move (.excW e) hpc ..
  | abortW e =>
    exact iteInduction (motive := CStep c s) (fun h => .move (.abortWFin e h) hpc ..)
      (fun h => .move (.abortWCall e (eq_false_of_ne_true h)) hpc ..)
  | abortCall e =>
    have st := CStep.abortCall (c := c) e hpc
    refine iteInduction (motive := fun x : St => CStep c s { x with aborted := true, pc := .finExc (some e) }) (fun hd => ?_)
      (fun hd => ?_)
    · rw [if_pos hd] at st; exact st
    · rw [if_neg hd] at st; exact st
  | finExc e =>
    exact iteInduction (motive := CStep c s) (fun h => .move (.finExcT e h) hpc ..)
      (fun h => .move (.finExcF e (eq_false_of_ne_true h)) hpc ..)
  | finJobsR e => exact .move (.finJobsR e) hpc ..
  | finJobsW e rem => exact .finJobsW e rem hpc
  | finSetW e rem =>
    -- `{ s with jobsSet := [], running := false }` mentions `s.pc`, which `generalize` has replaced
    cases e <;> dsimp only <;> rw [← hpc]
    · exact .finSetN hpc
    · exact .finSetWSome _ rem hpc
  | tailStatus i rem =>
    dsimp only
    rcases hr : returnOrRaise s i with ⟨s1, e | l⟩
    · exact .tailE hpc hr
    · exact .tailV hpc hr
  | done => exact .stay (.inl hpc)

/-- Steps of a callback thread that only move its program counter (outside the lock). -/
inductive CbMove : CbPc → CbPc → Prop
  | skip : CbMove .acqA (.relA false)
  | relA ok : CbMove (.relA ok) (if ok then .stats else .done false)
  | stats : CbMove .stats .acqC
  | relC : CbMove .relC (.done true)

/-- One row per branch of `stepCb`, in the model's own terms (`setCb`, `cbAfterDispatch`, `cbDispatchResult`,
`doSubmit`), the locked region of `dispatch_one_batch` as a `DLCase`. -/
inductive CbStep (c : Cfg) (i : Nat) (s : St) : St → Prop
  | stay : CbStep c i s s
  | move p' (hm : CbMove (getT s.trk i).pc p') : CbStep c i s (setCb s i p')
  | acqA (hpc : (getT s.trk i).pc = .acqA) : CbStep c i s (setCb { s with lockOwner := some (i + 1) } i .retr)
  | retrSet ok (hpc : (getT s.trk i).pc = .retr) : CbStep c i s (setCb { s with lockOwner := none } i (.relA ok))
  | retrErr id fl (hpc : (getT s.trk i).pc = .retr) (hp : (getT s.trk i).status = .pending) :
      CbStep c i s (appendOutcome c i (setTrk { s with lockOwner := none, exception := true, aborting := true } i
        { getT s.trk i with status := .error, result := .exc (.task id), pc := .relA false, failed := fl }))
  | retrVal fl (hpc : (getT s.trk i).pc = .retr) (hp : (getT s.trk i).status = .pending) :
      CbStep c i s (appendOutcome c i (setTrk { s with lockOwner := none } i
        { getT s.trk i with status := .done, result := .vals (getT s.trk i).items, pc := .relA true, failed := fl }))
  | acqCSkip n (hpc : (getT s.trk i).pc = .acqC) : CbStep c i s (setCb { s with nCompleted := n } i .relC)
  | acqCAbort n (hpc : (getT s.trk i).pc = .acqC) :
      CbStep c i s (cbAfterDispatch i (setCb { s with lockOwner := some (i + 1), nCompleted := n } i .bsC) false)
  | acqCBs n (hpc : (getT s.trk i).pc = .acqC) :
      CbStep c i s (setCb { s with lockOwner := some (i + 1), nCompleted := n } i .bsC)
  | acqCDisp n bs r (hpc : (getT s.trk i).pc = .acqC)
      (hd : DLCase c (i + 1) bs (setCb { s with lockOwner := some (i + 1), nCompleted := n } i .bsC) r) :
      CbStep c i s (cbDispatchResult i r)
  | bsC bs r (hpc : (getT s.trk i).pc = .bsC) (hd : DLCase c (i + 1) bs { s with bsI := s.bsI + 1 } r) :
      CbStep c i s (cbDispatchResult i r)
  | submitC j (hpc : (getT s.trk i).pc = .submitC j) :
      CbStep c i s (cbAfterDispatch i (doSubmit (i + 1) j (setCb s i .bsC)) true)

theorem stepCb_cases (c : Cfg) (i : Nat) (s : St) : CbStep c i s (stepCb c i s) := by
  cases hpc : (getT s.trk i).pc <;> simp only [stepCb, getTrk_def, hpc]
  case acqA =>
    exact iteInduction (fun _ => .move _ (hpc ▸ .skip))
      (fun _ => iteInduction (fun _ => .move _ (hpc ▸ .skip)) (fun _ => .acqA hpc))
  case retr =>
    refine iteInduction (fun _ => .retrSet _ hpc) (fun hn => ?_)
    have hp : (getT s.trk i).status = .pending := of_not_bne hn
    -- `cases` also rewrites the `failed` field of the new tracker: hence `fl` in the rows
    cases (getT s.trk i).failed with
    | some id => exact .retrErr id _ hpc hp
    | none => exact .retrVal _ hpc hp
  case relA ok => exact .move _ (hpc ▸ .relA ok)
  case stats => exact .move _ (hpc ▸ .stats)
  case acqC =>
    refine iteInduction (fun _ => ?_) (fun _ => .acqCSkip _ hpc)
    exact iteInduction (fun _ => .acqCAbort _ hpc) (fun _ => iteInduction (fun _ => .acqCBs _ hpc)
      (fun _ => .acqCDisp _ _ _ hpc (dispatchLocked_cases c (i + 1) true _ _)))
  case bsC => exact .bsC _ _ hpc (dispatchLocked_cases c (i + 1) true _ _)
  case submitC j => exact .submitC j hpc
  case relC => exact .move _ (hpc ▸ .relC)
  all_goals exact .stay

/-- A step of the callback thread of tracker `i` is composed of scalar writes, writes of the `pc` / `failed` fields of
a tracker, the locked region of `dispatch_one_batch` and, at `retr` for a pending tracker, the registration of its
outcome: what each of these keeps, the step keeps; so does a completion by the backend. -/
theorem thread_inv {c : Cfg} {P : St → Prop}
    (scal : ∀ (s : St) log lo nc bsI it oa, P s →
      P { s with log := log, lockOwner := lo, nCompleted := nc, bsI := bsI, iterating := it, origAlive := oa })
    (hkeep : ∀ s i p fl, P s → P (setTrk s i { getT s.trk i with pc := p, failed := fl }))
    (hdl : ∀ {t : Tid} {bs : Nat} {s : St} {r : St × DRes}, DLCase c t bs s r → P s → P r.1)
    (hregE : ∀ (s : St) (i id : Nat) fl, (getT s.trk i).status = .pending → i < s.trk.length → P s →
      P (appendOutcome c i (setTrk { s with lockOwner := none, exception := true, aborting := true } i
        { getT s.trk i with status := .error, result := .exc (.task id), pc := .relA false, failed := fl })))
    (hregV : ∀ (s : St) (i : Nat) fl, (getT s.trk i).status = .pending → i < s.trk.length → P s →
      P (appendOutcome c i (setTrk { s with lockOwner := none } i
        { getT s.trk i with status := .done, result := .vals (getT s.trk i).items, pc := .relA true, failed := fl })))
    (i : Nat) (s : St) (h : P s) : P (stepCb c i s) ∧ P (complete c i s) := by
  have hset : ∀ s i p, P s → P (setCb s i p) := fun s i p => hkeep s i p _
  have lk : ∀ (s : St) lo nc, P s → P { s with lockOwner := lo, nCompleted := nc } := fun s lo nc =>
    scal s s.log lo nc s.bsI s.iterating s.origAlive
  refine ⟨?_, hkeep _ i _ _ (scal s (.complete i (getTrk s i).items :: s.log) s.lockOwner s.nCompleted s.bsI s.iterating
    s.origAlive h)⟩
  have hcad : ∀ s r, P s → P (cbAfterDispatch i s r) := fun s r h => by
    cases r
    · exact hset _ i .relC (scal s s.log none s.nCompleted s.bsI false false h)
    · exact hset _ i .relC (lk s none s.nCompleted h)
  have hres : ∀ {t : Tid} {bs : Nat} {s : St} {r : St × DRes}, DLCase c t bs s r → P s → P (cbDispatchResult i r) := by
    intro t bs s r hd h
    have h1 := hdl hd h
    obtain ⟨s', x⟩ := r
    cases x with
    | submit j => exact hset s' i _ h1
    | ret b => exact hcad s' b h1
  have st := stepCb_cases c i s
  generalize stepCb c i s = s' at st ⊢
  cases st with
  | stay => exact h
  | move p' => exact hset s i p' h
  | acqA | retrSet ok => exact hset _ i _ (lk s _ s.nCompleted h)
  | retrErr id fl hpc hp => exact hregE s i id fl hp (lt_of_pc_ne_idle _ _ (by rw [hpc]; nofun)) h
  | retrVal fl hpc hp => exact hregV s i fl hp (lt_of_pc_ne_idle _ _ (by rw [hpc]; nofun)) h
  | acqCSkip n => exact hset _ i _ (lk s s.lockOwner n h)
  | acqCAbort n => exact hcad _ false (hset _ i .bsC (lk s _ n h))
  | acqCBs n => exact hset _ i .bsC (lk s _ n h)
  | acqCDisp n bs r hpc hd => exact hres hd (hset _ i .bsC (lk s _ n h))
  | bsC bs r hpc hd => exact hres hd (scal s s.log s.lockOwner s.nCompleted (s.bsI + 1) s.iterating s.origAlive h)
  | submitC j =>
    refine hcad _ true (hset _ j .parked (scal _ (.submit (i + 1) (getTrk (setCb s i .bsC) j).items :: (setCb s i .bsC).log)
      _ _ _ _ _ (hset s i .bsC h)))

theorem parkedIds_pc (s : St) (k i : Nat) (h : (parkedIds s)[k]? = some i) : (getT s.trk i).pc = .parked := by
  have hm : i ∈ parkedIds s := List.mem_of_getElem? h
  simp only [parkedIds, List.mem_filter, getTrk_def] at hm
  simpa using hm.2

theorem step_cases {P : St → Prop} (c : Cfg) (s : St) (a : Act) (h : P s)
    (caller : callerEnabled s = true → P (stepCaller c s)) (cb : ∀ i, cbEnabled s i = true → P (stepCb c i s))
    (compl : ∀ i, (getT s.trk i).pc = .parked → P (complete c i s)) : P (step c s a) := by
  cases a with
  | thread t =>
    cases t with
    | zero => exact iteInduction caller (fun _ => h)
    | succ i => exact iteInduction (cb i) (fun _ => h)
  | complete k =>
    simp only [step]
    split
    · exact compl _ (parkedIds_pc s k _ ‹_›)
    · exact h

theorem run_ind {P : St → Prop} {c : Cfg} (hstep : ∀ s a, P s → P (step c s a)) (sched : List Act) :
    ∀ s, P s → P (run c s sched) := by
  induction sched with
  | nil => exact fun _ h => h
  | cons a r ih => exact fun s h => ih _ (hstep s a h)

end JoblibModel.ParallelLockU
