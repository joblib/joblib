import JoblibProofs.Lemmas.ParallelLockU.ErrSurf
/-!
M1LU proofs — ORDERED modes (`Cfg.ra ≠ 2`) with a timeout: once the caller has registered a TimeoutError (ghost
`toWait ≠ none`) it is on a one-way path — `status == TASK_ERROR`, flags, `return self.status`, `popleft` of that very
tracker (it is the head of `_jobs`), `get_result` raises the TimeoutError, `except BaseException`, `finally` — that
ends with `raise TimeoutError`; no step of another thread can take it off that path (TASK_ERROR is final, a registered
result is not overwritten, `_jobs` only grows at the tail).
-/
namespace JoblibModel.ParallelLockU
open JoblibModel.ParallelLock (Tid Status CbPc DK DRes Act chunks)

/-- Program points that only exist in the unordered mode. -/
def Pc.unorderedOnly : Pc → Bool
  | .ctlAcq | .ctlRel | .gsStatus _ .ctl | .toAcq _ .ctl | .toRel _ .ctl _ | .toStatus _ .ctl | .toExcW _ .ctl
  | .toAbortW _ .ctl | .toAcq2 _ _ | .toRel2 _ _ | .gsRet _ .ctl => true
  | _ => false

/-- Tracker `i` carries the registered TimeoutError. -/
def toFacts (l : List Tracker) (i : Nat) : Prop := stErr l i ∧ (getT l i).result = .exc .timeout

/-- Where the caller may be after it has registered a TimeoutError, and what holds there. -/
def chainOK (s : St) : Prop :=
  match s.pc with
  | .toRel i .head true => stErr s.trk i ∧ s.jobs.head? = some i
  | .toStatus i .head | .toExcW i .head | .toAbortW i .head | .gsRet i .head => toFacts s.trk i ∧ s.jobs.head? = some i
  | .popAcq => ∃ i, s.jobs.head? = some i ∧ toFacts s.trk i
  | .popRel i | .resStatus i => toFacts s.trk i
  | .excW e | .abortW e | .abortCall e | .finExc (some e) | .finJobsR (some e) | .finJobsW (some e) _
  | .finSetW (some e) _ => e = .timeout
  | .done => s.outcome = some (.raised .timeout)
  | _ => False

structure CInv (s : St) : Prop where
  ord : s.pc.unorderedOnly = false
  jb : ∀ j ∈ s.jobs, j < s.trk.length
  hd : ∀ i, (s.pc = .gsStatus i .head ∨ s.pc = .toAcq i .head) → s.jobs.head? = some i
  chain : s.toWait ≠ none → chainOK s

theorem cInv_init : CInv init := by
  refine ⟨rfl, ?_, ?_, ?_⟩ <;> simp [init]

/-- What `CInv` reads, for a step of another thread (or a step of the caller that changes none of it). -/
structure CFrame (s s' : St) : Prop where
  err : ∀ i, stErr s.trk i → stErr s'.trk i
  facts : ∀ i, toFacts s.trk i → toFacts s'.trk i
  len : s.trk.length ≤ s'.trk.length
  jobs : ∃ x, s'.jobs = s.jobs ++ x ∧ ∀ j ∈ x, j < s'.trk.length
  wait : s'.toWait = s.toWait
  outcome : s'.outcome = s.outcome

theorem chainOK_frame {s s' : St} (f : CFrame s s') (hp : s'.pc = s.pc) (h : chainOK s) : chainOK s' := by
  obtain ⟨x, hx, _⟩ := f.jobs
  have hd : ∀ {i}, s.jobs.head? = some i → s'.jobs.head? = some i := fun h => by rw [hx, List.head?_append, h]; rfl
  unfold chainOK at h ⊢
  rw [hp]
  -- one case per arm of `chainOK` (`split` treats both occurrences of the match)
  split at h
  · exact ⟨f.err _ h.1, hd h.2⟩  -- toRel
  · exact ⟨f.facts _ h.1, hd h.2⟩  -- toStatus
  · exact ⟨f.facts _ h.1, hd h.2⟩  -- toExcW
  · exact ⟨f.facts _ h.1, hd h.2⟩  -- toAbortW
  · exact ⟨f.facts _ h.1, hd h.2⟩  -- gsRet
  · obtain ⟨i, h1, h2⟩ := h  -- popAcq
    exact ⟨i, hd h1, f.facts i h2⟩
  · exact f.facts _ h  -- popRel
  · exact f.facts _ h  -- resStatus
  · exact h  -- excW
  · exact h  -- abortW
  · exact h  -- abortCall
  · exact h  -- finExc
  · exact h  -- finJobsR
  · exact h  -- finJobsW
  · exact h  -- finSetW
  · rw [f.outcome]; exact h  -- done
  · exact h.elim  -- elsewhere

theorem CInv.frame {s s' : St} (h : CInv s) (f : CFrame s s') (hp : s'.pc = s.pc) : CInv s' := by
  obtain ⟨x, hx, hx'⟩ := f.jobs
  refine ⟨hp ▸ h.ord, fun j hj => ?_, ?_, ?_⟩
  · rw [hx] at hj
    exact (List.mem_append.mp hj).elim (fun hj => Nat.lt_of_lt_of_le (h.jb j hj) f.len) (hx' j)
  · intro i hi
    rw [hx, List.head?_append, h.hd i (hp ▸ hi)]; rfl
  · intro hw
    exact chainOK_frame f hp (h.chain (f.wait ▸ hw))

theorem cframe_setTrk (s : St) (i : Nat) (t : Tracker) (he : stErr s.trk i → t.status = .error)
    (hf : toFacts s.trk i → t.result = .exc .timeout) : CFrame s (setTrk s i t) :=
  ⟨smono_set _ _ _ he,
   Tab.set (r := fun t t' => t.status = .error ∧ t.result = .exc .timeout → t'.status = .error ∧ t'.result = .exc .timeout)
     (fun _ => id) (fun hj => ⟨he hj.1, hf hj⟩),
   by simp [setTrk], ⟨[], by simp [setTrk], by simp⟩, rfl, rfl⟩

theorem cframe_append (s s' : St) (t : Tracker) (ht : s'.trk = s.trk ++ [t]) (hj : s'.jobs = s.jobs ++ [s.trk.length])
    (hw : s'.toWait = s.toWait) (ho : s'.outcome = s.outcome) : CFrame s s' := by
  exact ⟨ht ▸ smono_append _ _,
    ht ▸ Tab.append
      (r := fun t t' => t.status = .error ∧ t.result = .exc .timeout → t'.status = .error ∧ t'.result = .exc .timeout)
      (fun _ => id) (fun h => nomatch h.1),
    by simp [ht], ⟨[s.trk.length], hj, by simp [ht]⟩, hw, ho⟩

theorem DLCase.cframe {c : Cfg} {t : Tid} {bs : Nat} {s : St} {r : St × DRes} (h : DLCase c t bs s r) (hra : c.ra ≠ 2) :
    CFrame s r.1 := by
  cases h with
  | ret => exact ⟨fun _ h => h, fun _ h => h, Nat.le_refl _, ⟨[], (List.append_nil _).symm, nofun⟩, rfl, rfl⟩
  | submit _ _ _ _ _ _ tasks _ _ _ hj =>
    rcases hj with ⟨h, _⟩ | ⟨_, rfl, rfl⟩
    · exact absurd h hra
    · exact cframe_append s _ (newTracker s tasks) rfl rfl rfl rfl
  | iterr sp => exact cframe_append s _ (errTracker s bs sp) rfl rfl rfl rfl

theorem thread_cinv (c : Cfg) (hra : c.ra ≠ 2) (i : Nat) (s : St) (h : CInv s) :
    CInv (stepCb c i s) ∧ CInv (complete c i s) := by
  have reg : ∀ (s : St) i t, CInv s → ¬ stErr s.trk i → CInv (appendOutcome c i (setTrk s i t)) := by
    intro s i t h hnot
    simp only [appendOutcome, beq_eq_false_iff_ne.mpr hra, Bool.false_eq_true, if_false]
    exact h.frame (cframe_setTrk _ i _ (fun he => absurd he hnot) (fun hf => absurd hf.1 hnot)) rfl
  exact thread_inv (fun _ _ _ _ _ _ _ h => ⟨h.ord, h.jb, h.hd, h.chain⟩)
    (fun s i _ _ h => h.frame (cframe_setTrk s i _ id (fun h => h.2)) rfl) (fun hd h => h.frame (hd.cframe hra) hd.pc_eq)
    (fun s i _ _ hp _ h => reg _ i _ ⟨h.ord, h.jb, h.hd, h.chain⟩ (fun he => nomatch he.symm.trans hp))
    (fun s i _ hp _ h => reg _ i _ ⟨h.ord, h.jb, h.hd, h.chain⟩ (fun he => nomatch he.symm.trans hp)) i s h

theorem CInv.moveSame {s s' : St} (h : CInv s) (hc : ¬ chainOK s) (ht : s'.trk.length = s.trk.length)
    (hj : s'.jobs = s.jobs) (hw : s'.toWait = s.toWait) (hord : s'.pc.unorderedOnly = false)
    (hhd : ∀ i, s'.pc ≠ .gsStatus i .head ∧ s'.pc ≠ .toAcq i .head) : CInv s' :=
  ⟨hord, fun j hjm => ht ▸ h.jb j (hj ▸ hjm), fun i hi => hi.elim (absurd · (hhd i).1) (absurd · (hhd i).2),
   fun hw' => absurd (h.chain (hw ▸ hw')) hc⟩

theorem CInv.next {s s' : St} (h : CInv s)
    (hjb : ∀ j ∈ s'.jobs, j < s'.trk.length)
    (hw : s'.toWait = s.toWait)
    (hord : s'.pc.unorderedOnly = false)
    (hhd : ∀ i, (s'.pc = .gsStatus i .head ∨ s'.pc = .toAcq i .head) → s'.jobs.head? = some i)
    (hch : chainOK s → chainOK s') : CInv s' :=
  ⟨hord, hjb, hhd, fun hw' => hch (h.chain (hw ▸ hw'))⟩

theorem Move.cinv {c : Cfg} (hra : c.ra ≠ 2) {s : St} {p p' : Pc} {ex ab : Bool} (m : Move c s p p' ex ab)
    (ho : p.unorderedOnly = false) :
    p'.unorderedOnly = false ∧ (chainOK { s with pc := p } → chainOK { s with pc := p' }) := by
  induction m
  case rtLenCtl | rtLenGs | rtLenGsRet | rtLenPop | toStatusAcq | toAbortWAcq => exact absurd ‹c.ra = 2› hra
  case ctlRelNone | ctlRelGs | ctlRelRet | toRel2 | gsRetCtl => cases ho
  case gsStatusSet i k _ | toAcqSet i k _ | toRelF i k =>
    cases k
    · exact ⟨rfl, False.elim⟩
    · cases ho
  case toStatusErr i k _ | toStatusRet i k _ _ | toExcW i k | toAbortWRet i k _ =>
    cases k
    · exact ⟨rfl, id⟩
    · cases ho
  case popNil hj => exact ⟨rfl, fun ⟨i, hi, _⟩ => nomatch hj ▸ hi⟩
  case gsRetPend i hs => exact ⟨rfl, fun h => nomatch h.1.1.symm.trans hs⟩
  case gsRetPop i _ => exact ⟨rfl, fun h => ⟨i, h.2, h.1⟩⟩
  case popRel | excW | abortWFin | abortWCall => exact ⟨rfl, id⟩
  case finExcT e _ | finExcF e _ | finJobsR e =>
    cases e
    · exact ⟨rfl, False.elim⟩
    · exact ⟨rfl, id⟩
  all_goals exact ⟨rfl, False.elim⟩

/-- `get_status` on the head of `_jobs` is entered only from `self._jobs[0]`; the lock of `_register_outcome` by no move. -/
theorem Move.to_gsStatus {c : Cfg} {s : St} {p : Pc} {i : Nat} {ex ab : Bool} (m : Move c s p (.gsStatus i .head) ex ab) :
    s.jobs.head? = some i := by
  cases m with
  | rtHeadGs _ r hj => rw [hj]; rfl

theorem Move.not_toAcq {c : Cfg} {s : St} {p : Pc} {i : Nat} {k : GK} {ex ab : Bool} (m : Move c s p (.toAcq i k) ex ab) :
    False := by
  cases m

/-- `hb'`, `hn'` are invariants of the SUCCESSOR state, where the sibling theorems take the pre-state: the clause `jb` of
`CInv s'` is `BInv.jobs` of `s'`, and `chainOK s'` reads the tracker inside the caller's `_register_outcome` after the
step, which is `NInv.reg` of `s'`. -/
theorem CInv.callerStep {c : Cfg} {s s' : St} (h : CInv s) (hb' : BInv s') (hn' : NInv s') (hra : c.ra ≠ 2)
    (st : CStep c s s') : CInv s' := by
  have off : ∀ {p : Pc} {Q : Prop}, s.pc = p → ¬ chainOK { s with pc := p } → chainOK s → Q :=
    fun hp hn hc => (hn (hp ▸ hc)).elim
  have notCtl : ∀ {p : Pc} {Q : Prop}, s.pc = p → p.unorderedOnly = true → Q :=
    fun hp hu => nomatch (hp ▸ h.ord).symm.trans hu
  cases st with
  | move m hp =>
    obtain ⟨f1, f3⟩ := m.cinv hra (hp ▸ h.ord)
    refine h.next hb'.jobs rfl f1 (fun i e => ?_) (fun hc => f3 (hp ▸ hc))
    rcases e with e | e <;> dsimp only at e <;> subst e
    · exact m.to_gsStatus
    · exact m.not_toAcq.elim
  | stay => exact h
  | busy hpc | dSubmit k j hpc | refErr i t e hpc | refOk i t l hpc | tailErr i rem t e hpc
  | tailOkNext i i' rem t l lg hpc | tailOkRet i t l lg hpc | finSetWNext i rem hpc | finSetWRet lg hpc =>
    exact h.next hb'.jobs rfl rfl nofun (off hpc id)
  | dAcqSubmit k bs s' j hpc hd | dAcqRet k bs s' j hpc hd =>
    exact h.next hb'.jobs (hd.cframe hra).wait rfl nofun (off hpc id)
  | rtLen j hpc h2 | popUn i rest hpc hj h2 | popKey i rest hpc hj h2 =>
    exact absurd h2 hra
  | ctlAcq hpc | toAcq2 i k x hpc => exact notCtl hpc rfl
  | gsStatusExp i k hpc =>
    cases k
    case ctl => exact notCtl hpc rfl
    exact h.next hb'.jobs rfl rfl (fun i' hi' => by rcases hi' with e | e <;> cases e; exact h.hd i (Or.inl hpc))
      (off hpc id)
  | gsStatusWait i k hpc =>
    cases k
    case ctl => exact notCtl hpc rfl
    exact h.next hb'.jobs rfl rfl nofun (off hpc id)
  | toAcq i k hpc =>
    cases k
    case ctl => exact notCtl hpc rfl
    exact ⟨rfl, hb'.jobs, nofun, fun _ => ⟨(hn'.reg i false rfl).2.1, h.hd i (Or.inr hpc)⟩⟩
  | toRel i k hpc =>
    cases k
    case ctl => exact notCtl hpc rfl
    refine h.next hb'.jobs rfl rfl nofun ?_
    intro hc
    unfold chainOK at hc
    simp only [hpc] at hc
    obtain ⟨_, r2, r3⟩ := hn'.reg i true rfl
    exact ⟨⟨r2, r3 rfl⟩, hc.2⟩
  | popOrd i rest hpc hj =>
    refine h.next hb'.jobs rfl rfl nofun ?_
    intro hc; unfold chainOK at hc ⊢; simp only [hpc] at hc
    obtain ⟨i', hi, hf⟩ := hc
    rw [hj] at hi
    simp only [List.head?_cons, Option.some.injEq] at hi
    subst hi; exact hf
  | resErr i t e hpc hr =>
    refine h.next hb'.jobs rfl rfl nofun ?_
    intro hc; unfold chainOK at hc ⊢; simp only [hpc] at hc
    cases hr.raises hc.1 hc.2
    rfl
  | resOk i t l lg hpc hr =>
    refine h.next hb'.jobs rfl rfl nofun ?_
    intro hc; unfold chainOK at hc; simp only [hpc] at hc
    cases hr.raises hc.1 hc.2
  | abortCall e hpc =>
    refine h.next hb'.jobs rfl rfl nofun ?_
    intro hc; unfold chainOK at hc ⊢; simp only [hpc] at hc; exact hc
  | finJobsW e rem hpc =>
    refine h.next hb'.jobs rfl rfl nofun ?_
    intro hc; unfold chainOK at hc ⊢; simp only [hpc] at hc
    cases e
    · exact hc.elim
    · exact hc
  | finSetWSome e rem hpc =>
    refine h.next hb'.jobs rfl rfl nofun ?_
    intro hc; unfold chainOK at hc ⊢; simp only [hpc] at hc
    dsimp only; rw [hc]

theorem run_bncinv (c : Cfg) (hra : c.ra ≠ 2) (sched : List Act) :
    ∀ s, BInv s → NInv s → CInv s → BInv (run c s sched) ∧ NInv (run c s sched) ∧ CInv (run c s sched) :=
  fun s hb hn h => run_ind (P := fun s => BInv s ∧ NInv s ∧ CInv s) (fun s a ⟨hb, hn, h⟩ =>
    ⟨step_binv c s hb a, step_ninv c s hb hn a,
     step_cases c s a h (fun _ => h.callerStep (hb.callerStep (stepCaller_cases c s))
        (hn.callerStep hb (stepCaller_cases c s)) hra (stepCaller_cases c s))
      (fun i _ => (thread_cinv c hra i s h).1) (fun i _ => (thread_cinv c hra i s h).2)⟩) sched s ⟨hb, hn, h⟩

end JoblibModel.ParallelLockU
