import JoblibProofs.Lemmas.ParallelLockU.Lock
/-!
M1LU proofs — the ORDER invariant of `return_as='generator_unordered'` (`Cfg.ra = 2`): the trackers whose values were
handed to the consumer (`delivered`), then the tracker just popped, then the queue `_jobs` are — in this order — the
sequence of `_jobs.append` calls of `_register_outcome` (`appended`, the registration order of completions); on the
error path and after the `finally` block re-bound `_jobs` only the prefix property remains (`delivered ++ what is still
to be yielded` is a prefix of `appended`).
-/
namespace JoblibModel.ParallelLockU
open JoblibModel.ParallelLock (Tid Status CbPc DK DRes Act chunks)

/-- Class of a program point of the caller with respect to the order invariant. -/
inductive Cls where
  | A (infl : List Nat)      -- in the loop; `infl` = the tracker popped but not yet delivered
  | B (needExc : Bool)       -- on the way out through `except BaseException`
  | C (rest : List Nat)      -- `_remaining_outputs` fixed: what is still to be yielded
deriving DecidableEq

def Pc.cls : Pc → Cls
  | .popRel i | .resStatus i => .A [i]
  | .excW _ => .B false
  | .abortW _ | .abortCall _ | .finExc (some _) => .B true
  | .finJobsW _ rem | .finSetW _ rem => .C rem
  | .tailStatus i rem => .C (i :: rem)
  | .done => .C []
  | _ => .A []

def ordOK (cl : Cls) (jobs appended delivered : List Nat) (exc : Bool) : Prop :=
  match cl with
  | .A infl => delivered ++ infl ++ jobs = appended
  | .B ne => delivered <+: appended ∧ (ne = true → exc = true)
  | .C rest => (delivered ++ rest) <+: appended

def OrdInv (s : St) : Prop := ordOK s.pc.cls s.jobs s.appended s.delivered s.exception

theorem ordInv_init : OrdInv init := by
  simp [OrdInv, init, Pc.cls, ordOK]

theorem ordOK_append {cl : Cls} {jobs app del : List Nat} {exc exc' : Bool} (h : ordOK cl jobs app del exc)
    (x : List Nat) (he : exc = true → exc' = true) : ordOK cl (jobs ++ x) (app ++ x) del exc' := by
  cases cl with
  | A infl => simp only [ordOK] at h ⊢; rw [← h]; simp
  | B ne => exact ⟨List.IsPrefix.trans h.1 (List.prefix_append _ _), fun hn => he (h.2 hn)⟩
  | C rest => exact List.IsPrefix.trans h (List.prefix_append _ _)

theorem ordOK_exc {cl : Cls} {jobs app del : List Nat} {exc exc' : Bool} (h : ordOK cl jobs app del exc)
    (he : exc = true → exc' = true) : ordOK cl jobs app del exc' := by
  have := ordOK_append h [] he
  simpa using this

theorem ordOK_A_prefix {infl jobs app del : List Nat} {exc : Bool} (h : ordOK (.A infl) jobs app del exc) :
    del <+: app := ⟨infl ++ jobs, by simpa [ordOK] using h⟩

theorem ordOK_prefix {cl : Cls} {jobs app del : List Nat} {exc : Bool} (h : ordOK cl jobs app del exc) : del <+: app := by
  cases cl with
  | A infl => exact ordOK_A_prefix h
  | B ne => exact h.1
  | C rest => exact (List.prefix_append _ _).trans h

/-- Another thread's step as seen by the order invariant: something is appended to `_jobs` and to the ghost sequence,
`_exception` only goes up. -/
def AStep (s s' : St) : Prop :=
  ∃ x, s'.jobs = s.jobs ++ x ∧ s'.appended = s.appended ++ x ∧ s'.delivered = s.delivered ∧
    (s.exception = true → s'.exception = true)

theorem AStep.ord {s s' : St} (h : AStep s s') (hp : s'.pc = s.pc) (hi : OrdInv s) : OrdInv s' := by
  obtain ⟨x, a1, a2, a3, a4⟩ := h
  unfold OrdInv at hi ⊢
  rw [hp, a1, a2, a3]
  exact ordOK_append hi x a4

theorem DLCase.astep {c : Cfg} {t : Tid} {bs : Nat} {s : St} {r : St × DRes} (h : DLCase c t bs s r) (hra : c.ra = 2) :
    AStep s r.1 := by
  cases h with
  | ret => exact ⟨[], (List.append_nil _).symm, (List.append_nil _).symm, rfl, id⟩
  | submit _ _ _ _ _ _ _ _ _ _ hj =>
    rcases hj with ⟨_, rfl, rfl⟩ | ⟨h, _⟩
    · exact ⟨[], (List.append_nil _).symm, (List.append_nil _).symm, rfl, id⟩
    · exact absurd hra h
  | iterr _ _ _ _ _ _ _ _ _ hj =>
    rcases hj with ⟨_, rfl, rfl⟩ | ⟨h, _⟩
    · exact ⟨[s.trk.length], rfl, rfl, rfl, fun _ => rfl⟩
    · exact absurd hra h

theorem Move.ord {c : Cfg} {s : St} {p p' : Pc} {ex ab : Bool} (m : Move c s p p' ex ab) {app del : List Nat}
    (h : ordOK p.cls s.jobs app del s.exception) : ordOK p'.cls s.jobs app del ex := by
  induction m
  case rtHeadNil | popNil => exact ⟨ordOK_A_prefix h, nofun⟩
  case excW e => exact ⟨h.1, fun _ => rfl⟩
  case finExcT e hx =>
    have : del <+: app := by
      cases e
      · exact ordOK_A_prefix h
      · exact h.1
    simpa [Pc.cls, ordOK] using this
  case finExcF e hx =>
    cases e
    · exact h
    · rw [h.2 rfl] at hx; cases hx
  case finJobsR e => exact ⟨[], by simpa [Pc.cls, ordOK] using h⟩
  all_goals exact h

theorem OrdInv.callerStep {c : Cfg} {s s' : St} (h : OrdInv s) (hra : c.ra = 2) (st : CStep c s s') : OrdInv s' := by
  unfold OrdInv at h ⊢
  cases st with
  | move m hp => exact m.ord (hp ▸ h)
  | stay => exact h
  | busy hpc =>
    rw [hpc] at h
    show (s.delivered ++ []) <+: s.appended
    rw [List.append_nil]; exact ordOK_A_prefix h
  | dAcqSubmit k bs s' j hpc hd | dAcqRet k bs s' j hpc hd =>
    rw [hpc] at h
    obtain ⟨y, h1, h2, h3, h4⟩ := hd.astep hra
    simp only at h1 h2 h3 h4
    simp only [Pc.cls]
    rw [h1, h2, h3]
    exact ordOK_append h y h4
  | dSubmit k j hpc | rtLen j hpc | ctlAcq hpc | gsStatusExp i k hpc | gsStatusWait i k hpc | toAcq i k hpc
  | toRel i k hpc | abortCall e hpc | finJobsW e rem hpc | refOk i t l hpc | finSetWNext i rem hpc | finSetWRet lg hpc =>
    rw [hpc] at h; exact h
  | toAcq2 i k x hpc hx =>
    rw [hpc] at h
    rcases hx with ⟨_, rfl⟩ | ⟨h2, _⟩
    · exact ordOK_append h [i] id
    · exact absurd hra h2
  | popOrd i rest hpc hj h2 => exact absurd hra h2
  | popUn i rest hpc hj =>
    rw [hpc, hj] at h
    simpa [Pc.cls, ordOK] using h
  | popKey i rest hpc | resErr i t e hpc | refErr i t e hpc => rw [hpc] at h; exact ⟨ordOK_A_prefix h, nofun⟩
  | resOk i t l lg hpc | tailOkNext i i' rem t l lg hpc | tailOkRet i t l lg hpc =>
    rw [hpc] at h
    simpa [Pc.cls, ordOK] using h
  | tailErr i rem t e hpc | finSetWSome e rem hpc =>
    rw [hpc] at h
    show (s.delivered ++ []) <+: s.appended
    rw [List.append_nil]; exact (List.prefix_append _ _).trans h

theorem appendOutcome_astep (c : Cfg) (hra : c.ra = 2) (i : Nat) (s : St) : AStep s (appendOutcome c i s) := by
  refine ⟨[i], ?_, ?_, ?_, ?_⟩ <;> simp [appendOutcome, hra]

theorem thread_ord (c : Cfg) (hra : c.ra = 2) (i : Nat) (s : St) (h : OrdInv s) :
    OrdInv (stepCb c i s) ∧ OrdInv (complete c i s) :=
  thread_inv (P := OrdInv) (fun _ _ _ _ _ _ _ h => h) (fun _ _ _ _ h => h) (fun hd h => (hd.astep hra).ord hd.pc_eq h)
    (fun _ i _ _ _ _ h => (appendOutcome_astep c hra i _).ord (appendOutcome_pc ..) (ordOK_exc h (fun _ => rfl)))
    (fun _ i _ _ _ h => (appendOutcome_astep c hra i _).ord (appendOutcome_pc ..) h) i s h

theorem step_ord (c : Cfg) (hra : c.ra = 2) (s : St) (h : OrdInv s) (a : Act) : OrdInv (step c s a) :=
  step_cases c s a h (fun _ => h.callerStep hra (stepCaller_cases c s)) (fun i _ => (thread_ord c hra i s h).1)
    (fun i _ => (thread_ord c hra i s h).2)

end JoblibModel.ParallelLockU
