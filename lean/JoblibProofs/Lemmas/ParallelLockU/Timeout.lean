import JoblibProofs.Lemmas.ParallelLockU.Lock
/-!
M1LU proofs — the TIMEOUT invariant `TInv`: the code of `get_status`'s timeout branch is only reached with a timeout;
the caller parks at the lock of `_register_outcome(TimeoutError)` only when the counter of that tracker has expired;
and whenever a TimeoutError exists anywhere (in a tracker, in the caller's hands, as the outcome of the call) the ghost
`toWait` records a tracker, the value of its counter and the clock with `timeout < clock - counter`.
-/
namespace JoblibModel.ParallelLockU
open JoblibModel.ParallelLock (Tid Status CbPc DK DRes Act chunks)

/-- Some tracker holds a TimeoutError. -/
def hasTO (l : List Tracker) : Prop := ∃ i, (getT l i).result = .exc .timeout

/-- The caller holds a TimeoutError (about to register it, or on its way out with it). -/
def Pc.carriesTO : Pc → Bool
  | .toRel _ _ true => true
  | .excW .timeout | .abortW .timeout | .abortCall .timeout => true
  | .finExc (some .timeout) | .finJobsR (some .timeout) | .finJobsW (some .timeout) _ | .finSetW (some .timeout) _ => true
  | _ => false

/-- Program points inside `get_status`'s timeout branch / `_register_outcome(TimeoutError)`. -/
def Pc.inGetStatus : Pc → Bool
  | .gsStatus _ _ | .toAcq _ _ | .toRel _ _ _ | .toStatus _ _ | .toExcW _ _ | .toAbortW _ _ | .toAcq2 _ _
  | .toRel2 _ _ => true
  | _ => false

/-- The ghost record of a registered TimeoutError is there and says that the counter had expired. -/
def WaitOK (c : Cfg) (s : St) : Prop :=
  ∃ T i t0 t1, c.timeout = some T ∧ s.toWait = some (i, t0, t1) ∧ T < t1 - t0

/-- A TimeoutError exists somewhere. -/
def Mentions (s : St) : Prop :=
  s.pc.carriesTO = true ∨ hasTO s.trk ∨ s.outcome = some (.raised .timeout)

/-- The tracker whose `_register_outcome(TimeoutError)` the caller is about to enter. -/
def Pc.expired : Pc → Option Nat
  | .toAcq i _ => some i
  | _ => none

structure TInv (c : Cfg) (s : St) : Prop where
  code : s.pc.inGetStatus = true → c.timeout.isSome = true
  exp : ∀ i, s.pc.expired = some i → c.timeout.getD 0 < s.clock - (getT s.trk i).tcnt.getD s.clock
  wait : Mentions s → WaitOK c s

theorem tInv_init (c : Cfg) : TInv c init := by
  refine ⟨nofun, nofun, ?_⟩
  rintro (h | ⟨i, h⟩ | h)
  · simp [init, Pc.carriesTO] at h
  · simp [init, getT] at h
    cases h
  · simp [init] at h

theorem hasTO_of_tab {l l' : List Tracker}
    (h : Tab (fun t t' => t'.result = .exc .timeout → t.result = .exc .timeout) l l') : hasTO l' → hasTO l :=
  fun ⟨j, hj⟩ => ⟨j, h j hj⟩

theorem hasTO_set {l : List Tracker} {i : Nat} {t : Tracker}
    (hr : t.result = .exc .timeout → (getT l i).result = .exc .timeout) : hasTO (l.set i t) → hasTO l :=
  hasTO_of_tab (Tab.set (fun _ => id) hr)

theorem hasTO_set_same {l : List Tracker} {i : Nat} {t : Tracker} (hr : t.result = (getT l i).result) :
    hasTO (l.set i t) → hasTO l :=
  hasTO_set (hr ▸ id)

theorem hasTO_append {l : List Tracker} {t : Tracker} (hr : t.result ≠ .exc .timeout) : hasTO (l ++ [t]) → hasTO l :=
  hasTO_of_tab (Tab.append (fun _ => id) (fun h => absurd h hr))

theorem hasTO_dropParked {l : List Tracker} :
    hasTO (l.map (fun t => if t.pc == .parked then { t with pc := .dropped } else t)) → hasTO l :=
  hasTO_of_tab (Tab.map (fun _ => id) (fun t => by split <;> exact id))

theorem RR.keepsTO {t t' : Tracker} {r : Except Exc (List Nat)} (h : RR t t' r) :
    t'.result = .exc .timeout → t.result = .exc .timeout := by
  cases h <;> first | exact id | nofun

theorem RR.timeout {t t' : Tracker} (h : RR t t' (.error .timeout)) : t.result = .exc .timeout := by
  cases h with
  | exc _ h => exact h

theorem WaitOK.of_toWait_eq {c : Cfg} {s s' : St} (h : WaitOK c s) (hw : s'.toWait = s.toWait) : WaitOK c s' := by
  obtain ⟨T, i, t0, t1, a, b, d⟩ := h
  exact ⟨T, i, t0, t1, a, hw ▸ b, d⟩

theorem TInv.move {c : Cfg} {s s' : St} (h : TInv c s)
    (hcode : s'.pc.inGetStatus = true → c.timeout.isSome = true)
    (hexp : s'.pc.expired = none)
    (hw : s'.toWait = s.toWait)
    (hm : Mentions s' → Mentions s) : TInv c s' := by
  refine ⟨hcode, fun i hp => (by rw [hexp] at hp; cases hp), ?_⟩
  exact fun hm' => (h.wait (hm hm')).of_toWait_eq hw

theorem TInv.move' {c : Cfg} {s s' : St} (h : TInv c s)
    (hcode : s'.pc.inGetStatus = true → c.timeout.isSome = true)
    (hexp : s'.pc.expired = none)
    (hcar : s'.pc.carriesTO = true → s.pc.carriesTO = true)
    (hw : s'.toWait = s.toWait) (ht : hasTO s'.trk → hasTO s.trk)
    (ho : s'.outcome = some (.raised .timeout) → s.outcome = some (.raised .timeout)) : TInv c s' := by
  refine h.move hcode hexp hw ?_
  rintro (hm | hm | hm)
  · exact Or.inl (hcar hm)
  · exact Or.inr (Or.inl (ht hm))
  · exact Or.inr (Or.inr (ho hm))

/-- What the timeout invariant reads, for a step that does not create a TimeoutError. -/
structure TView (s s' : St) : Prop where
  to : hasTO s'.trk → hasTO s.trk
  wait : s'.toWait = s.toWait
  outcome : s'.outcome = s.outcome
  clock : s'.clock = s.clock
  tcnt : ∀ i, (getT s'.trk i).tcnt = (getT s.trk i).tcnt

theorem DLCase.tview {c : Cfg} {t : Tid} {bs : Nat} {s : St} {r : St × DRes} (h : DLCase c t bs s r) : TView s r.1 := by
  cases h with
  | ret => exact ⟨id, rfl, rfl, rfl, fun _ => rfl⟩
  | submit | iterr =>
    exact ⟨hasTO_append (fun h => by cases h), rfl, rfl, rfl, Tab.append (r := fun t t' => t'.tcnt = t.tcnt) (fun _ => rfl) rfl⟩

theorem Move.tfacts {c : Cfg} {s : St} {p p' : Pc} {ex ab : Bool} (m : Move c s p p' ex ab) :
    (p'.inGetStatus = true → p.inGetStatus = true ∨ c.timeout.isSome = true) ∧ p'.expired = none ∧
    (p'.carriesTO = true → p.carriesTO = true) := by
  induction m
  case excW e => exact ⟨nofun, rfl, by cases e <;> exact id⟩
  case abortWFin e _ => exact ⟨nofun, rfl, by cases e <;> exact id⟩
  case abortWCall e _ => exact ⟨nofun, rfl, by cases e <;> exact id⟩
  case finExcT e _ | finExcF e _ | finJobsR e =>
    refine ⟨nofun, rfl, ?_⟩
    cases e with
    | none => exact id
    | some e => cases e <;> exact id
  case rtLenGs hT | rtHeadGs hT | ctlRelGs hT => exact ⟨fun _ => .inr hT, rfl, nofun⟩
  case toAcqSet | toStatusErr | toExcW | toStatusAcq | toAbortWAcq => exact ⟨fun _ => .inl rfl, rfl, nofun⟩
  all_goals exact ⟨Bool.noConfusion, rfl, Bool.noConfusion⟩

theorem TInv.callerStep {c : Cfg} {s s' : St} (h : TInv c s) (st : CStep c s s') : TInv c s' := by
  cases st with
  | move m hp =>
    obtain ⟨f1, f2, f3⟩ := m.tfacts
    exact h.move' (fun hi => (f1 hi).elim (fun hi' => h.code (hp ▸ hi')) id) f2 (fun hc => hp ▸ f3 hc) rfl id id
  | stay => exact h
  | busy hpc | finSetWRet lg hpc => exact h.move' nofun rfl nofun rfl id nofun
  | dAcqSubmit k bs s' j hpc hd | dAcqRet k bs s' j hpc hd =>
    exact h.move' nofun rfl nofun hd.tview.wait hd.tview.to (hd.tview.outcome ▸ id)
  | dSubmit k j hpc | rtLen j hpc | gsStatusWait i k hpc =>
    exact h.move' nofun rfl nofun rfl (hasTO_set_same rfl) id
  | ctlAcq hpc | popOrd i rest hpc | popUn i rest hpc | popKey i rest hpc | finSetWNext i rem hpc =>
    exact h.move' nofun rfl nofun rfl id id
  | gsStatusExp i k hpc _ hexp =>
    have hto : hasTO (s.trk.set i { getT s.trk i with tcnt := some ((getT s.trk i).tcnt.getD s.clock) }) → hasTO s.trk :=
      hasTO_set_same rfl
    refine ⟨fun _ => h.code (by rw [hpc]; rfl), ?_, ?_⟩
    · intro i' hp
      cases hp
      -- an expired counter is a started one: the tracker exists
      have hlt := List.lt_length_of_getD (P := fun t : Tracker => c.timeout.getD 0 < s.clock - t.tcnt.getD s.clock) hexp
        (by simp [show (default : Tracker).tcnt = none from rfl])
      dsimp only; rw [getT_set_self hlt]; exact hexp
    · rintro (hm | hm | hm)
      · cases hm
      · exact h.wait (Or.inr (Or.inl (hto hm)))
      · exact h.wait (Or.inr (Or.inr hm))
  | toAcq i k hpc =>
    have hT := h.code (by rw [hpc]; rfl)
    have hE := h.exp i (by rw [hpc]; rfl)
    refine ⟨fun _ => hT, nofun, ?_⟩
    intro _
    obtain ⟨T, hT'⟩ := Option.isSome_iff_exists.mp hT
    refine ⟨T, i, (getT s.trk i).tcnt.getD s.clock, s.clock, hT', rfl, ?_⟩
    rw [hT'] at hE
    simpa using hE
  | toRel i k hpc =>
    exact ⟨fun _ => h.code (by rw [hpc]; rfl), nofun, fun _ => h.wait (Or.inl (by rw [hpc]; rfl))⟩
  | toAcq2 i k x hpc => exact h.move' (fun _ => h.code (by rw [hpc]; rfl)) rfl nofun rfl id id
  | resErr i t e hpc hr | refErr i t e hpc hr =>
    refine h.move nofun rfl rfl ?_
    rintro (hm | hm | hm)
    · have : e = .timeout := by cases e <;> first | rfl | cases hm
      subst this; exact Or.inr (Or.inl ⟨i, hr.timeout⟩)
    · exact Or.inr (Or.inl (hasTO_set hr.keepsTO hm))
    · exact Or.inr (Or.inr hm)
  | resOk i t l lg hpc hr | refOk i t l hpc hr | tailOkNext i i' rem t l lg hpc hr =>
    exact h.move' nofun rfl nofun rfl (hasTO_set hr.keepsTO) id
  | tailOkRet i t l lg hpc hr => exact h.move' nofun rfl nofun rfl (hasTO_set hr.keepsTO) nofun
  | tailErr i rem t e hpc hr =>
    refine h.move nofun rfl rfl ?_
    rintro (hm | hm | hm)
    · cases hm
    · exact Or.inr (Or.inl (hasTO_set hr.keepsTO hm))
    · cases hm; exact Or.inr (Or.inl ⟨i, hr.timeout⟩)
  | abortCall e hpc =>
    refine h.move' nofun rfl (by rw [hpc]; cases e <;> exact id) rfl ?_ id
    dsimp only
    split
    · exact hasTO_dropParked
    · exact id
  | finJobsW e rem hpc =>
    exact h.move' nofun rfl
      (by rw [hpc]; cases e with | none => exact id | some e => cases e <;> exact id) rfl id id
  | finSetWSome e rem hpc =>
    refine h.move nofun rfl rfl ?_
    rintro (hm | hm | hm)
    · cases hm
    · exact Or.inr (Or.inl hm)
    · cases hm; left; rw [hpc]; rfl

theorem TInv.tview {c : Cfg} {s s' : St} (h : TInv c s) (v : TView s s') (hp : s'.pc = s.pc) : TInv c s' := by
  refine ⟨hp ▸ h.code, ?_, ?_⟩
  · intro i hpc
    rw [v.clock, v.tcnt]
    exact h.exp i (hp ▸ hpc)
  · rintro (hm | hm | hm)
    · exact (h.wait (Or.inl (hp ▸ hm))).of_toWait_eq v.wait
    · exact (h.wait (Or.inr (Or.inl (v.to hm)))).of_toWait_eq v.wait
    · exact (h.wait (Or.inr (Or.inr (v.outcome ▸ hm)))).of_toWait_eq v.wait

theorem tview_setTrk (s : St) (i : Nat) (t : Tracker) (hc : t.tcnt = (getT s.trk i).tcnt)
    (hr : t.result = (getT s.trk i).result ∨ t.result ≠ .exc .timeout) : TView s (setTrk s i t) :=
  ⟨hasTO_set (fun e => hr.elim (fun h => h ▸ e) (fun h => absurd e h)), rfl, rfl, rfl, Tab.set (r := fun t t' => t'.tcnt = t.tcnt) (fun _ => rfl) hc⟩

theorem appendOutcome_tview (c : Cfg) (i : Nat) (s : St) : TView s (appendOutcome c i s) := by
  unfold appendOutcome; split <;> exact ⟨id, rfl, rfl, rfl, fun _ => rfl⟩

theorem thread_tinv (c : Cfg) (i : Nat) (s : St) (h : TInv c s) : TInv c (stepCb c i s) ∧ TInv c (complete c i s) := by
  have reg : ∀ (s : St) i t, TInv c s → t.tcnt = (getT s.trk i).tcnt → t.result ≠ .exc .timeout →
      TInv c (appendOutcome c i (setTrk s i t)) := fun s i t h hc hr =>
    (h.tview (tview_setTrk s i t hc (.inr hr)) rfl).tview (appendOutcome_tview c i _) (appendOutcome_pc ..)
  exact thread_inv (fun _ _ _ _ _ _ _ h => ⟨h.code, h.exp, h.wait⟩)
    (fun s i _ _ h => h.tview (tview_setTrk s i _ rfl (.inl rfl)) rfl) (fun hd h => h.tview hd.tview hd.pc_eq)
    (fun s i _ _ _ _ h => reg _ i _ ⟨h.code, h.exp, h.wait⟩ rfl (fun h => by cases h))
    (fun s i _ _ _ h => reg _ i _ ⟨h.code, h.exp, h.wait⟩ rfl (fun h => by cases h)) i s h

theorem run_tinv (c : Cfg) (sched : List Act) : ∀ s, TInv c s → TInv c (run c s sched) :=
  run_ind (fun s a h =>
    step_cases c s a h (fun _ => h.callerStep (stepCaller_cases c s)) (fun i _ => (thread_tinv c i s h).1)
      (fun i _ => (thread_tinv c i s h).2)) sched

end JoblibModel.ParallelLockU
