import JoblibProofs.Lemmas.ParallelLockU.Bound
/-!
M1LU proofs — a tracker registers its outcome ONCE: the ghost `appended` (the sequence of `_jobs.append` calls of
`_register_outcome`) has no duplicates, and every tracker in it has left TASK_PENDING.
-/
namespace JoblibModel.ParallelLockU
open JoblibModel.ParallelLock (Tid Status CbPc DK DRes Act chunks)

def isPend (l : List Tracker) (i : Nat) : Prop := (getT l i).status = .pending

/-- The caller runs `_register_outcome(TimeoutError)` WITHOUT the lock: after `toAcq` (status test and
`status = TASK_ERROR` under the lock) come `toRel` (`_result = TimeoutError`), `toStatus` (the read of `status`), `toExcW`,
`toAbortW` (the two flags), `toAcq2` (`_jobs.append`).  `reg` gives the tracker and whether the TimeoutError is stored in it
yet; what `NInv.reg` says of it there, in every mode, and no other thread can undo (`Frozen`), stands in for the atomicity
of the callback's `_register_outcome`. -/
def Pc.reg : Pc → Option (Nat × Bool)
  | .toRel i _ true => some (i, false)
  | .toStatus i _ | .toExcW i _ | .toAbortW i _ | .toAcq2 i _ => some (i, true)
  | _ => none

/-- `_register_outcome` appends a tracker at most once, after it has left TASK_PENDING. -/
structure NInv (s : St) : Prop where
  nodup : s.appended.Nodup
  np : ∀ i ∈ s.appended, ¬ isPend s.trk i
  reg : ∀ i b, s.pc.reg = some (i, b) → i ∉ s.appended ∧ (getT s.trk i).status = .error ∧
    (b = true → (getT s.trk i).result = .exc .timeout)

theorem nInv_init : NInv init := by
  refine ⟨?_, ?_, ?_⟩ <;> simp [init, Pc.reg]

/-- A step as seen by `NInv`: trackers only leave TASK_PENDING; what is appended was pending before and is not after. -/
structure NFrame (s s' : St) : Prop where
  mono : ∀ i, ¬ isPend s.trk i → ¬ isPend s'.trk i
  app : ∃ x, s'.appended = s.appended ++ x ∧ x.Nodup ∧ ∀ i ∈ x, isPend s.trk i ∧ ¬ isPend s'.trk i

def Frozen (l l' : List Tracker) : Prop :=
  Tab (fun t t' => t.status = .error → t'.status = .error ∧ t'.result = t.result) l l'

theorem NInv.of_frame {s s' : St} (h : NInv s) (f : NFrame s s')
    (hp : ∀ x, s'.pc.reg = some x → s.pc.reg = some x ∧ ((getT s.trk x.1).status = .error →
      (getT s'.trk x.1).status = .error ∧ (getT s'.trk x.1).result = (getT s.trk x.1).result)) : NInv s' := by
  obtain ⟨x, hx, nx, px⟩ := f.app
  refine ⟨?_, ?_, ?_⟩
  · rw [hx, List.nodup_append]
    exact ⟨h.nodup, nx, fun u hu v hv e => h.np u hu (e ▸ (px v hv).1)⟩
  · intro i hi
    rw [hx] at hi
    exact (List.mem_append.mp hi).elim (fun hi => f.mono i (h.np i hi)) (fun hi => (px i hi).2)
  · intro i b hi
    obtain ⟨hi', hz⟩ := hp _ hi
    obtain ⟨r1, r2, r3⟩ := h.reg i b hi'
    refine ⟨?_, (hz r2).1, fun hb => (hz r2).2 ▸ r3 hb⟩
    rw [hx]
    simp only [List.mem_append, not_or]
    exact ⟨r1, fun hm => nomatch r2.symm.trans (px i hm).1⟩

theorem NInv.frame {s s' : St} (h : NInv s) (f : NFrame s s') (hz : Frozen s.trk s'.trk) (hp : s'.pc = s.pc) :
    NInv s' :=
  h.of_frame f (fun _ hi => ⟨hp ▸ hi, hz _⟩)

theorem nframe_of_same {s s0 : St} (h1 : s0.trk = s.trk) (h2 : s0.appended = s.appended) : NFrame s s0 :=
  ⟨fun _ h => h1 ▸ h, ⟨[], by simp [h2], by simp, by simp⟩⟩

theorem nframe_set {s s' : St} {i : Nat} {t : Tracker} (ht : s'.trk = s.trk.set i t) (ha : s'.appended = s.appended)
    (hs : ¬ isPend s.trk i → t.status ≠ .pending) : NFrame s s' :=
  ⟨by rw [ht]; exact Tab.set (r := fun t t' => ¬ t.status = .pending → ¬ t'.status = .pending) (fun _ => id) hs,
   ⟨[], by simp [ha], by simp, by simp⟩⟩

theorem isPend_append_left (l : List Tracker) (t : Tracker) : ∀ i, ¬ isPend l i → ¬ isPend (l ++ [t]) i :=
  Tab.append (r := fun t t' => ¬ t.status = .pending → ¬ t'.status = .pending) (fun _ => id) (fun h => absurd rfl h)

theorem DLCase.nframe {c : Cfg} {t : Tid} {bs : Nat} {s : St} {r : St × DRes} (h : DLCase c t bs s r) : NFrame s r.1 := by
  cases h with
  | ret => exact nframe_of_same rfl rfl
  | submit => exact ⟨isPend_append_left _ _, [], (List.append_nil _).symm, .nil, nofun⟩
  | iterr sp _ _ _ _ _ _ _ _ hj =>
    have hm : ∀ i, ¬ isPend s.trk i → ¬ isPend (s.trk ++ [errTracker s bs sp]) i :=
      isPend_append_left _ _
    rcases hj with ⟨_, rfl, rfl⟩ | ⟨_, rfl, rfl⟩
    · refine ⟨hm, [s.trk.length], rfl, by simp, fun i hi => ?_⟩
      cases List.mem_singleton.mp hi
      constructor
      · unfold isPend; rw [getT_of_ge _ _ (Nat.le_refl _)]; rfl
      · unfold isPend; rw [getT_append_length]; nofun
    · exact ⟨hm, [], (List.append_nil _).symm, .nil, nofun⟩

theorem DLCase.frozen {c : Cfg} {t : Tid} {bs : Nat} {s : St} {r : St × DRes} (h : DLCase c t bs s r) :
    Frozen s.trk r.1.trk := by
  cases h with
  | ret => exact fun _ h => ⟨h, rfl⟩
  | submit | iterr => exact Tab.append (fun _ h => ⟨h, rfl⟩) nofun

theorem register_nframe (c : Cfg) (i : Nat) (s : St) (t : Tracker) (hlt : i < s.trk.length) (hp : isPend s.trk i)
    (ht : t.status ≠ .pending) : NFrame s (appendOutcome c i (setTrk s i t)) := by
  have hnp : ¬ isPend (s.trk.set i t) i := by
    unfold isPend; rw [getT_set_self hlt]; exact ht
  have hm := (nframe_set (s' := setTrk s i t) rfl rfl (fun _ => ht)).mono
  unfold appendOutcome
  split
  · exact ⟨hm, ⟨[i], rfl, by simp, fun j hj => by simp only [List.mem_singleton] at hj; subst hj; exact ⟨hp, hnp⟩⟩⟩
  · exact ⟨hm, ⟨[], by simp [setTrk], by simp, by simp⟩⟩

theorem appendOutcome_trk (c : Cfg) (i : Nat) (s : St) : (appendOutcome c i s).trk = s.trk := by
  unfold appendOutcome; split <;> rfl

theorem thread_ninv (c : Cfg) (i : Nat) (s : St) (h : NInv s) : NInv (stepCb c i s) ∧ NInv (complete c i s) := by
  have reg : ∀ (s : St) i t, NInv s → (getT s.trk i).status = .pending → i < s.trk.length →
      t.status ≠ .pending → NInv (appendOutcome c i (setTrk s i t)) := fun s i t h hp hlt ht =>
    h.frame (register_nframe c i _ _ hlt hp ht)
      (by rw [appendOutcome_trk]; exact Tab.set (fun _ h => ⟨h, rfl⟩) (fun h => nomatch hp.symm.trans h))
      (appendOutcome_pc ..)
  exact thread_inv (fun _ _ _ _ _ _ _ h => ⟨h.nodup, h.np, h.reg⟩)
    (fun s i _ _ h => h.frame (nframe_set rfl rfl id) (Tab.set (fun _ h => ⟨h, rfl⟩) (fun h => ⟨h, rfl⟩)) rfl)
    (fun hd h => h.frame hd.nframe hd.frozen hd.pc_eq)
    (fun s i _ _ hp hlt h => reg _ i _ ⟨h.nodup, h.np, h.reg⟩ hp hlt nofun)
    (fun s i _ hp hlt h => reg _ i _ ⟨h.nodup, h.np, h.reg⟩ hp hlt nofun) i s h

theorem NInv.out {s s' : St} (h : NInv s) (f : NFrame s s') (hp : s'.pc.reg = none) : NInv s' :=
  h.of_frame f (fun _ hi => nomatch hp.symm.trans hi)

theorem Move.reg {c : Cfg} {s : St} {p p' : Pc} {ex ab : Bool} (m : Move c s p p' ex ab) :
    ∀ x, p'.reg = some x → p.reg = some x := by
  induction m
  case toStatusRet | toAbortWRet => nofun
  all_goals exact fun _ => id

theorem NInv.callerStep {c : Cfg} {s s' : St} (h : NInv s) (hb : BInv s) (st : CStep c s s') : NInv s' := by
  cases st with
  | move m hp => exact ⟨h.nodup, h.np, fun i b hi => h.reg i b (hp ▸ m.reg _ hi)⟩
  | stay => exact h
  | busy hpc | ctlAcq hpc | popOrd i rest hpc | popUn i rest hpc | popKey i rest hpc | finJobsW e rem hpc
  | finSetWSome e rem hpc | finSetWNext i rem hpc | finSetWRet lg hpc =>
    exact h.out (nframe_of_same rfl rfl) rfl
  | dAcqSubmit k bs s' j hpc hd | dAcqRet k bs s' j hpc hd =>
    exact h.out ⟨hd.nframe.mono, hd.nframe.app⟩ rfl
  | dSubmit k j hpc | rtLen j hpc | gsStatusExp i k hpc | gsStatusWait i k hpc =>
    exact h.out (nframe_set rfl rfl id) rfl
  | resErr i t e hpc hr | resOk i t l lg hpc hr | refErr i t e hpc hr | refOk i t l hpc hr | tailErr i rem t e hpc hr
  | tailOkNext i i' rem t l lg hpc hr | tailOkRet i t l lg hpc hr =>
    exact h.out (nframe_set rfl rfl (fun hp => hr.status ▸ hp)) rfl
  | toAcq i k hpc hp =>
    have hlt := hb.pc i (by rw [hpc]; rfl)
    have hni : i ∉ s.appended := fun hm => h.np i hm hp
    have f : NFrame s { s with trk := s.trk.set i { getT s.trk i with status := .error } } :=
      nframe_set rfl rfl (fun _ => nofun)
    refine ⟨h.nodup, fun j hj => f.mono j (h.np j hj), ?_⟩
    intro j b hj
    cases hj
    refine ⟨hni, ?_, nofun⟩
    dsimp only
    rw [getT_set_self hlt]
  | toRel i k hpc =>
    obtain ⟨r1, r2, _⟩ := h.reg i false (by rw [hpc]; rfl)
    have hlt : i < s.trk.length := List.lt_length_of_getD (P := fun t => t.status = .error) r2 nofun
    have f : NFrame s { s with trk := s.trk.set i { getT s.trk i with result := .exc .timeout } } :=
      nframe_set rfl rfl id
    refine ⟨h.nodup, fun j hj => f.mono j (h.np j hj), fun j b hj => ?_⟩
    cases hj
    dsimp only
    rw [getT_set_self hlt]
    exact ⟨r1, r2, fun _ => rfl⟩
  | toAcq2 i k x hpc hx =>
    obtain ⟨r1, r2, _⟩ := h.reg i true (by rw [hpc]; rfl)
    rcases hx with ⟨_, rfl⟩ | ⟨_, rfl⟩
    · refine ⟨?_, ?_, nofun⟩
      · dsimp only
        rw [List.nodup_append]
        exact ⟨h.nodup, by simp, fun u hu v hv e => by simp only [List.mem_singleton] at hv; subst hv; subst e; exact r1 hu⟩
      · intro j hj
        simp only [List.mem_append, List.mem_singleton] at hj
        rcases hj with hj | hj
        · exact h.np j hj
        · subst hj; exact fun hp => nomatch r2.symm.trans hp
    · exact h.out (nframe_of_same rfl (List.append_nil _)) rfl
  | abortCall e hpc =>
    refine h.out ⟨?_, ⟨[], by simp, by simp, by simp⟩⟩ rfl
    dsimp only
    split
    · exact Tab.map (r := fun t t' => ¬ t.status = .pending → ¬ t'.status = .pending) (fun _ => id)
        (fun t => by split <;> exact id)
    · exact fun _ h => h

theorem step_ninv (c : Cfg) (s : St) (hb : BInv s) (h : NInv s) (a : Act) : NInv (step c s a) :=
  step_cases c s a h (fun _ => h.callerStep hb (stepCaller_cases c s)) (fun i _ => (thread_ninv c i s h).1)
    (fun i _ => (thread_ninv c i s h).2)

theorem run_bninv (c : Cfg) (sched : List Act) : ∀ s, BInv s → NInv s → BInv (run c s sched) ∧ NInv (run c s sched) :=
  fun s hb h => run_ind (P := fun s => BInv s ∧ NInv s)
    (fun s a h => ⟨step_binv c s h.1 a, step_ninv c s h.1 h.2 a⟩) sched s ⟨hb, h⟩

end JoblibModel.ParallelLockU
