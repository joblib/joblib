import JoblibProofs.Lemmas.ParallelLockU.Nodup
/-!
M1LU proofs — ERRORS SURFACE in `generator_unordered` mode (`Cfg.ra = 2`): whenever `_aborting` is set while the caller
is in the retrieval loop, a tracker with status TASK_ERROR is in `_jobs` (or has just been popped by the caller, or is
the tracker the caller itself is registering a TimeoutError for and about to append) — so when `_retrieve` has observed
`_aborting` and runs `_raise_error_fast`, the scan of `_jobs` under the lock finds a failed job.  This is what the
callback's lock scope gives: status, flags and `_jobs.append` are one atomic step of the callback thread.
-/
namespace JoblibModel.ParallelLockU
open JoblibModel.ParallelLock (Tid Status CbPc DK DRes Act chunks)

def stErr (l : List Tracker) (j : Nat) : Prop := (getT l j).status = .error

def errIn (l : List Tracker) (jobs : List Nat) : Prop := ∃ j ∈ jobs, stErr l j

inductive ECls where
  | need                 -- in the loop: an error job must be in `_jobs`
  | popped (i : Nat)     -- … or be the tracker `i` the caller has in its hands
  | free                 -- before the reset of the flags / after `_raise_error_fast` took its decision / on the way out
deriving DecidableEq

def Pc.ecls : Pc → ECls
  | .popRel i | .resStatus i | .toAcq2 i _ => .popped i
  | .resetAcq | .resetRel | .wNDisp | .wNComp | .wExc0 | .wAbort0 => .free
  | .refRel _ | .refStatus _ | .excW _ | .abortW _ | .abortCall _ | .finExc _ | .finJobsR _ | .finJobsW _ _
  | .finSetW _ _ | .tailStatus _ _ | .done => .free
  | _ => .need

def eOK (cl : ECls) (l : List Tracker) (jobs : List Nat) (ab : Bool) : Prop :=
  match cl with
  | .free => True
  | .need => ab = true → errIn l jobs
  | .popped i => ab = true → errIn l jobs ∨ stErr l i

/-- Unordered mode: while the caller is in the retrieval loop, `_aborting` implies an error job in `_jobs` (or in the
caller's hands); `_raise_error_fast` is entered with `_aborting` set. -/
structure EInv (s : St) : Prop where
  main : eOK s.pc.ecls s.trk s.jobs s.aborting
  ref : s.pc = .refAcq → s.aborting = true

theorem eInv_init : EInv init := ⟨trivial, nofun⟩

/-- TASK_ERROR is final. -/
def SMono (l l' : List Tracker) : Prop := ∀ j, stErr l j → stErr l' j

theorem SMono.refl (l : List Tracker) : SMono l l := fun _ h => h

theorem smono_set (l : List Tracker) (i : Nat) (t : Tracker) (h : stErr l i → t.status = .error) :
    SMono l (l.set i t) :=
  Tab.set (r := fun t t' => t.status = .error → t'.status = .error) (fun _ => id) h

theorem smono_append (l : List Tracker) (t : Tracker) : SMono l (l ++ [t]) :=
  Tab.append (r := fun t t' => t.status = .error → t'.status = .error) (fun _ => id) nofun

theorem smono_dropParked (l : List Tracker) :
    SMono l (l.map (fun t => if t.pc == .parked then { t with pc := .dropped } else t)) :=
  Tab.map (r := fun t t' => t.status = .error → t'.status = .error) (fun _ => id) (fun t => by split <;> exact id)

theorem errIn_mono {l l' : List Tracker} {jobs : List Nat} (hm : SMono l l') (x : List Nat) (h : errIn l jobs) :
    errIn l' (jobs ++ x) := by
  obtain ⟨j, hj, he⟩ := h
  exact ⟨j, List.mem_append_left _ hj, hm j he⟩

theorem eOK_mono {cl : ECls} {l l' : List Tracker} {jobs : List Nat} {ab : Bool} (hm : SMono l l') (x : List Nat)
    (h : eOK cl l jobs ab) : eOK cl l' (jobs ++ x) ab := by
  cases cl with
  | free => trivial
  | need => intro ha; exact errIn_mono hm x (h ha)
  | popped i =>
    intro ha
    rcases h ha with h1 | h1
    · exact Or.inl (errIn_mono hm x h1)
    · exact Or.inr (hm i h1)

theorem EInv.move {s s' : St} (h : EInv s) (hm : SMono s.trk s'.trk) (hj : s'.jobs = s.jobs)
    (ha : s'.aborting = s.aborting) (hcl : s'.pc.ecls = s.pc.ecls) (href : s'.pc ≠ .refAcq) :
    EInv s' := by
  refine ⟨?_, fun e => absurd e href⟩
  rw [hj, ha, hcl]
  simpa using eOK_mono hm [] h.main

theorem EInv.toFree {s' : St} (hcl : s'.pc.ecls = .free) : EInv s' := by
  refine ⟨by rw [hcl]; trivial, ?_⟩
  intro e; rw [e] at hcl; cases hcl

structure EFrame (s s' : St) : Prop where
  mono : SMono s.trk s'.trk
  jobs : ∃ x, s'.jobs = s.jobs ++ x
  ab : s'.aborting = s.aborting ∨ errIn s'.trk s'.jobs
  up : s.aborting = true → s'.aborting = true

theorem DLCase.eframe {c : Cfg} {t : Tid} {bs : Nat} {s : St} {r : St × DRes} (h : DLCase c t bs s r) (hra : c.ra = 2) :
    EFrame s r.1 := by
  cases h with
  | ret => exact ⟨SMono.refl _, ⟨[], (List.append_nil _).symm⟩, .inl rfl, id⟩
  | submit _ _ _ _ _ _ _ hab _ _ hj =>
    rcases hj with ⟨_, rfl, rfl⟩ | ⟨h, _⟩
    · exact ⟨smono_append _ _, ⟨[], (List.append_nil _).symm⟩, .inl rfl, fun e => nomatch hab.symm.trans e⟩
    · exact absurd hra h
  | iterr =>
    refine ⟨smono_append _ _, ⟨[s.trk.length], rfl⟩, .inr ⟨s.trk.length, by simp, ?_⟩, fun _ => rfl⟩
    unfold stErr
    rw [getT_append_length]; rfl

theorem Move.einv {c : Cfg} (hra : c.ra = 2) {s : St} {p p' : Pc} {ex ab : Bool} (m : Move c s p p' ex ab)
    (hm : eOK p.ecls s.trk s.jobs s.aborting) (hr : ∀ x, p.reg = some x → stErr s.trk x.1) :
    eOK p'.ecls s.trk s.jobs ab := by
  induction m
  case wAbort0 => nofun
  case toStatusAcq i k _ _ => exact fun ha => Or.inl (hm ha)
  case toAbortWRet i k h => exact absurd hra h
  case toAbortWAcq i k _ => exact fun _ => Or.inr (hr (i, true) rfl)
  -- the class stays, or becomes `free`
  all_goals first
    | exact hm
    | trivial

/-- `_raise_error_fast` is entered only from `_retrieve`'s test of `_aborting`. -/
theorem Move.to_refAcq {c : Cfg} {s : St} {p : Pc} {ex ab : Bool} (m : Move c s p .refAcq ex ab) : ab = true := by
  cases m with
  | rtAbortT h => exact h

theorem EInv.callerStep {c : Cfg} {s s' : St} (h : EInv s) (hn : NInv s) (hra : c.ra = 2) (st : CStep c s s') :
    EInv s' := by
  cases st with
  | move m hp =>
    refine ⟨m.einv hra (hp ▸ h.main) (fun x e => (hn.reg x.1 x.2 (hp ▸ e)).2.1), fun e => ?_⟩
    dsimp only at e
    subst e
    exact m.to_refAcq
  | stay => exact h
  | busy hpc | popKey i rest hpc | resErr i t e hpc | refErr i t e hpc | refOk i t l hpc | tailErr i rem t e hpc
  | tailOkNext i i' rem t l lg hpc | tailOkRet i t l lg hpc | abortCall e hpc | finJobsW e rem hpc
  | finSetWSome e rem hpc | finSetWNext i rem hpc | finSetWRet lg hpc =>
    exact EInv.toFree rfl
  | dAcqSubmit k bs s' j hpc hd | dAcqRet k bs s' j hpc hd =>
    have f := hd.eframe hra
    obtain ⟨y, h2⟩ := f.jobs
    have hm := h.main
    rw [hpc] at hm
    refine ⟨fun ha => ?_, nofun⟩
    rcases f.ab with h3 | h3
    · rw [h2]; exact errIn_mono f.mono y (hm (h3 ▸ ha))
    · exact h3
  | dSubmit k j hpc | rtLen j hpc | gsStatusExp i k hpc | gsStatusWait i k hpc | toRel i k hpc =>
    exact h.move (smono_set _ _ _ id) rfl rfl (by rw [hpc]; rfl) nofun
  | ctlAcq hpc => exact h.move (SMono.refl _) rfl rfl (by rw [hpc]; rfl) nofun
  | toAcq i k hpc => exact h.move (smono_set _ _ _ (fun _ => rfl)) rfl rfl (by rw [hpc]; rfl) nofun
  | toAcq2 i k x hpc hx =>
    have hm := h.main
    rw [hpc] at hm
    rcases hx with ⟨_, rfl⟩ | ⟨h2, _⟩
    · refine ⟨fun ha => ?_, nofun⟩
      rcases hm ha with hh | hh
      · exact errIn_mono (SMono.refl _) [i] hh
      · exact ⟨i, by simp, hh⟩
    · exact absurd hra h2
  | popOrd i rest hpc hj h2 => exact absurd hra h2
  | popUn i rest hpc hj =>
    have hm := h.main
    rw [hpc] at hm
    refine ⟨fun ha => ?_, nofun⟩
    obtain ⟨j, hjm, he⟩ := hm ha
    rw [hj] at hjm
    simp only [List.mem_cons] at hjm
    rcases hjm with rfl | hjm
    · exact Or.inr he
    · exact Or.inl ⟨j, hjm, he⟩
  | resOk i t l lg hpc hr =>
    have hm := h.main
    rw [hpc] at hm
    refine ⟨fun ha => ?_, nofun⟩
    rcases hm ha with hh | hh
    · simpa using errIn_mono (smono_set _ _ _ (fun he => hr.status.trans he)) [] hh
    · exact absurd hh hr.ok.2

theorem EInv.frame {s s' : St} (h : EInv s) (f : EFrame s s') (hp : s'.pc = s.pc) : EInv s' := by
  obtain ⟨x, hx⟩ := f.jobs
  refine ⟨?_, ?_⟩
  · rw [hp]
    rcases f.ab with e | e
    · rw [hx, e]; exact eOK_mono f.mono x h.main
    · cases hc : s.pc.ecls with
      | free => trivial
      | need => intro _; exact e
      | popped i => intro _; exact Or.inl e
  · intro e; exact f.up (h.ref (hp ▸ e))

theorem thread_einv (c : Cfg) (hra : c.ra = 2) (i : Nat) (s : St) (h : EInv s) :
    EInv (stepCb c i s) ∧ EInv (complete c i s) := by
  refine thread_inv (fun _ _ _ _ _ _ _ h => ⟨h.main, h.ref⟩)
    (fun s i _ _ h => h.frame ⟨smono_set _ _ _ id, ⟨[], (List.append_nil _).symm⟩, .inl rfl, id⟩ rfl) (fun hd h => h.frame (hd.eframe hra) hd.pc_eq)
    (fun s i id _ _ hlt h => h.frame ?_ (appendOutcome_pc ..)) (fun s i _ hp _ h => h.frame ?_ (appendOutcome_pc ..)) i s h
  · simp only [appendOutcome, hra, beq_self_eq_true, if_true, setTrk]
    refine ⟨smono_set _ _ _ (fun _ => rfl), ⟨[i], rfl⟩, Or.inr ⟨i, by simp, ?_⟩, fun _ => rfl⟩
    unfold stErr
    rw [getT_set_self hlt]
  · simp only [appendOutcome, hra, beq_self_eq_true, if_true, setTrk]
    exact ⟨smono_set _ _ _ (fun he => nomatch he.symm.trans hp), ⟨[i], rfl⟩, Or.inl rfl, id⟩

theorem step_einv (c : Cfg) (hra : c.ra = 2) (s : St) (hn : NInv s) (h : EInv s) (a : Act) : EInv (step c s a) :=
  step_cases c s a h (fun _ => h.callerStep hn hra (stepCaller_cases c s)) (fun i _ => (thread_einv c hra i s h).1)
    (fun i _ => (thread_einv c hra i s h).2)

theorem firstErrorJob_eq_find (s : St) : ∀ l, firstErrorJob s l = l.find? fun i => (getTrk s i).status == .error
  | [] => rfl
  | i :: r => by
    rw [firstErrorJob, List.find?_cons, firstErrorJob_eq_find s r]
    cases (getTrk s i).status == Status.error <;> rfl

/-- The scan of `_raise_error_fast` finds the first job with status TASK_ERROR whenever there is one. -/
theorem firstErrorJob_of_errIn (s : St) (jobs : List Nat) (h : errIn s.trk jobs) :
    ∃ j, firstErrorJob s jobs = some j ∧ j ∈ jobs ∧ stErr s.trk j := by
  obtain ⟨j, hj, hs⟩ := h
  obtain ⟨i, h1, h2, h3⟩ := List.exists_find?_eq_some (p := fun i => (getTrk s i).status == .error)
    ⟨j, hj, beq_iff_eq.mpr hs⟩
  exact ⟨i, firstErrorJob_eq_find s jobs ▸ h1, h2, beq_iff_eq.mp h3⟩

end JoblibModel.ParallelLockU
