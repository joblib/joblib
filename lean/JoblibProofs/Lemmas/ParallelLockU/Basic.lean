import JoblibModel.ParallelLockU
import JoblibProofs.Lemmas.Common
/-!
M1LU proofs — basic facts: the tracker table (`getTrk`/`setTrk`/`setCb`; `Tab`: it changes slot by slot), and ONE
characterisation of the locked region of `dispatch_one_batch` (`dispatchLocked_cases`): which fields it may change and
the three shapes of its result.  This `DLCase` forgets the source position, the look-ahead queue and the link between
`tasks` and the pulled range (M1L's `DLCase` keeps them in `PullFacts`): no M1LU invariant reads them, and so
`dispatchLocked_cases` needs no invariant as hypothesis, where M1L's needs `SrcInv`.
-/
namespace JoblibModel.ParallelLockU
open JoblibModel.ParallelLock (Tid Status CbPc DK DRes Act chunks)

/-- `getTrk` as a function of the table only (the simp-normal form of the proofs). -/
def getT (l : List Tracker) (i : Nat) : Tracker := l.getD i default

@[simp] theorem getTrk_def (s : St) (i : Nat) : getTrk s i = getT s.trk i := rfl

theorem getT_set (l : List Tracker) (i j : Nat) (t : Tracker) :
    getT (l.set i t) j = if j = i ∧ i < l.length then t else getT l j :=
  List.getD_set_eq ..

theorem set_getT_self (l : List Tracker) (i : Nat) : l.set i (getT l i) = l := List.set_getD_self ..

theorem getT_append_left (l l' : List Tracker) (i : Nat) (h : i < l.length) : getT (l ++ l') i = getT l i :=
  List.getD_append_left_of_lt _ _ _ _ h

@[simp] theorem getT_append_length (l : List Tracker) (t : Tracker) : getT (l ++ [t]) l.length = t :=
  List.getD_concat_length ..

theorem getT_of_ge (l : List Tracker) (i : Nat) (h : l.length ≤ i) : getT l i = default :=
  List.getD_of_length_le _ _ _ h

theorem getT_append (l : List Tracker) (t : Tracker) (i : Nat) :
    getT (l ++ [t]) i = if i < l.length then getT l i else if i = l.length then t else default :=
  List.getD_concat_eq ..

theorem getT_map (l : List Tracker) (f : Tracker → Tracker) (i : Nat) (h : i < l.length) :
    getT (l.map f) i = f (getT l i) :=
  List.getD_map_of_lt _ _ _ _ _ h

/-- Every slot of the tracker table changes along `r`.  A slot beyond the end reads `default`, so appending a tracker is
the write of slot `l.length`: `set`, `++ [t]` and `map` are the three ways the model changes the table. -/
def Tab (r : Tracker → Tracker → Prop) (l l' : List Tracker) : Prop := ∀ j, r (getT l j) (getT l' j)

theorem Tab.set {r : Tracker → Tracker → Prop} (hr : ∀ t, r t t) {l : List Tracker} {i : Nat} {t : Tracker}
    (h : r (getT l i) t) : Tab r l (l.set i t) := by
  intro j
  rw [getT_set]; split
  · rename_i hh; rw [hh.1]; exact h
  · exact hr _

theorem Tab.append {r : Tracker → Tracker → Prop} (hr : ∀ t, r t t) {l : List Tracker} {t : Tracker}
    (h : r default t) : Tab r l (l ++ [t]) := by
  intro j
  rw [getT_append]; split
  · exact hr _
  · rw [getT_of_ge l j (by omega)]
    split
    · exact h
    · exact hr _

theorem Tab.map {r : Tracker → Tracker → Prop} (hr : ∀ t, r t t) {l : List Tracker} {f : Tracker → Tracker}
    (h : ∀ t, r t (f t)) : Tab r l (l.map f) := by
  intro j
  by_cases hj : j < l.length
  · rw [getT_map _ _ _ hj]; exact h _
  · rw [getT_of_ge _ _ (by omega), getT_of_ge _ _ (by simpa using hj)]; exact hr _

theorem getT_set_self {l : List Tracker} {i : Nat} (h : i < l.length) (t : Tracker) : getT (l.set i t) i = t := by
  rw [getT_set, if_pos ⟨rfl, h⟩]

theorem lt_of_pc_ne_idle (l : List Tracker) (i : Nat) (h : (getT l i).pc ≠ .idle) : i < l.length :=
  List.lt_length_of_getD (P := fun t => t.pc ≠ .idle) h (fun h => h rfl)

/-- Every entry of `lg` that is not in `s.log` is a `pull` by `t`, stamped with "does `t` own the lock", or `pullraise`. -/
def PullsBy (t : Tid) (s : St) (lg : List Ev) : Prop :=
  ∀ e ∈ lg, e ∈ s.log ∨ (∃ id, e = Ev.pull t id (s.lockOwner == some t)) ∨ e = Ev.pullraise t

theorem pull_eq (c : Cfg) (t : Tid) (f : Bool) (k : Nat) (s : St) :
    ∃ sp sd sr pl lg, (pull c t f k s).1 = { s with srcPos := sp, srcDead := sd, srcRaised := sr, preLeft := pl, log := lg } ∧
      PullsBy t s lg := by
  unfold pull
  simp only
  split
  · exact ⟨_, _, _, _, _, rfl, fun _ he => .inl he⟩
  · refine ⟨_, _, _, _, _, rfl, fun e he => ?_⟩
    simp only [List.mem_append] at he
    rcases he with he | he
    · split at he
      · simp only [List.mem_cons, List.mem_reverse, List.mem_map] at he
        rcases he with he | ⟨id, _, rfl⟩
        · exact Or.inr (Or.inr he)
        · exact Or.inr (Or.inl ⟨id, rfl⟩)
      · simp only [List.mem_reverse, List.mem_map] at he
        obtain ⟨id, _, rfl⟩ := he
        exact Or.inr (Or.inl ⟨id, rfl⟩)
    · exact Or.inl he

/-- The tracker `_dispatch` creates for `tasks`. -/
def newTracker (s : St) (tasks : List Nat) : Tracker :=
  { items := tasks, bsize := tasks.length, callId := s.callId }

/-- The tracker registered for an error of the input iterable at position `pos`. -/
def errTracker (s : St) (bs pos : Nat) : Tracker :=
  { items := [], bsize := bs, callId := s.callId, status := .error, result := .exc (.iter pos) }

/-- The three shapes of the result of the locked region of `dispatch_one_batch`, as updates of `s`: besides the
iterator fields, the look-ahead queue and the log (`sp … rd`), a new tracker `s.trk.length` may be registered —
in `_jobs_set` or `_jobs` (`js`, `jss`), for an error of the iterable also by `_register_outcome` (`ap`). -/
inductive DLCase (c : Cfg) (t : Tid) (bs : Nat) (s : St) : St × DRes → Prop where
  | ret (sp sd sr pl lg rd) (r : Bool) (hlg : PullsBy t s lg) :
      DLCase c t bs s ({ s with srcPos := sp, srcDead := sd, srcRaised := sr, preLeft := pl, log := lg, ready := rd }, .ret r)
  | submit (sp sd sr pl lg rd) (tasks : List Nat) (hab : s.aborting = false) (js jss : List Nat)
      (hj : (c.ra = 2 ∧ js = s.jobs ∧ jss = s.jobsSet ++ [s.trk.length]) ∨
        (c.ra ≠ 2 ∧ js = s.jobs ++ [s.trk.length] ∧ jss = s.jobsSet)) (hlg : PullsBy t s lg) :
      DLCase c t bs s ({ s with srcPos := sp, srcDead := sd, srcRaised := sr, preLeft := pl, log := lg, ready := rd,
                                nDispTasks := s.nDispTasks + tasks.length, trk := s.trk ++ [newTracker s tasks],
                                jobs := js, jobsSet := jss }, .submit s.trk.length)
  | iterr (sp sd sr pl lg rd) (hab : s.aborting = false) (jss ap : List Nat)
      (hj : (c.ra = 2 ∧ jss = s.jobsSet ++ [s.trk.length] ∧ ap = s.appended ++ [s.trk.length]) ∨
        (c.ra ≠ 2 ∧ jss = s.jobsSet ∧ ap = s.appended)) (hlg : PullsBy t s lg) :
      DLCase c t bs s ({ s with srcPos := sp, srcDead := sd, srcRaised := sr, preLeft := pl, log := lg, ready := rd,
                                trk := s.trk ++ [errTracker s bs sp], exception := true, aborting := true,
                                jobs := s.jobs ++ [s.trk.length], jobsSet := jss, appended := ap }, .ret true)

theorem dispatchTasks_case (c : Cfg) (t : Tid) (bs : Nat) (s : St) (sp sd sr pl lg rd) (hlg : PullsBy t s lg)
    (tasks : List Nat) :
    DLCase c t bs s (dispatchTasks c { s with srcPos := sp, srcDead := sd, srcRaised := sr, preLeft := pl, log := lg,
                                              ready := rd } tasks) := by
  unfold dispatchTasks
  split
  · exact .ret _ _ _ _ _ _ _ hlg
  · split
    · exact .ret _ _ _ _ _ _ _ hlg
    · have hab : s.aborting = false := eq_false_of_ne_true ‹_›
      unfold registerNewJob
      split
      · exact .submit _ _ _ _ _ _ tasks hab _ _ (.inl ⟨eq_of_beq ‹_›, rfl, rfl⟩) hlg
      · exact .submit _ _ _ _ _ _ tasks hab _ _ (.inr ⟨fun e => ‹¬ _› (beq_iff_eq.mpr e), rfl, rfl⟩) hlg

theorem dispatchLocked_cases (c : Cfg) (t : Tid) (f : Bool) (bs : Nat) (s : St) :
    DLCase c t bs s (dispatchLocked c t f bs s) := by
  have h0 : PullsBy t s s.log := fun _ he => .inl he
  unfold dispatchLocked
  split
  · exact .ret s.srcPos s.srcDead s.srcRaised s.preLeft s.log s.ready false h0
  · have hab : s.aborting = false := eq_false_of_ne_true ‹_›
    split
    · exact dispatchTasks_case c t bs s s.srcPos s.srcDead s.srcRaised s.preLeft s.log _ h0 _
    · obtain ⟨sp, sd, sr, pl, lg, hp, hlg⟩ := pull_eq c t f (bs * c.nj) s
      simp only
      rw [hp]
      split
      · unfold registerIterError appendOutcome registerNewJob
        dsimp only
        split
        · exact .iterr _ _ _ _ _ _ hab _ _ (.inl ⟨eq_of_beq ‹_›, rfl, rfl⟩) hlg
        · exact .iterr _ _ _ _ _ _ hab _ _ (.inr ⟨fun e => ‹¬ _› (beq_iff_eq.mpr e), rfl, rfl⟩) hlg
      · split
        · exact .ret _ _ _ _ _ s.ready false hlg
        · split
          · exact .ret _ _ _ _ _ s.ready false hlg
          · exact dispatchTasks_case c t bs s _ _ _ _ _ _ hlg _

theorem DLCase.log {c : Cfg} {t : Tid} {bs : Nat} {s : St} {r : St × DRes} (h : DLCase c t bs s r) :
    PullsBy t s r.1.log := by
  cases h <;> assumption

end JoblibModel.ParallelLockU
