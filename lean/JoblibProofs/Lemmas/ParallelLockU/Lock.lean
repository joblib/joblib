import JoblibProofs.Lemmas.ParallelLockU.Step
/-!
M1LU proofs — the lock invariant `LockInv`: the lock is owned exactly by the thread that is inside a lock-protected
segment, the caller never parks at the marker `dIn`, every `pull` in the log was made by the lock owner.
`LockCore`, the four clauses about ownership, is M1L's `LockInv`.  M1L has one transfer lemma for a moving thread (`LockInv.step`) because
two frame lemmas are its only callers; here every row of `CStep`/`CbStep` is a caller, and the special cases
`LockCore.view/.callerAcquire/.released/.cbOwner/.cbRelease` keep each call to a line.  `cbHolding` is M1L's
`CbPc.holding`, defined again because these proofs import only the two models.
-/
namespace JoblibModel.ParallelLockU
open JoblibModel.ParallelLock (Tid Status CbPc DK DRes Act chunks)

/-- The callback thread is inside a lock-protected segment (parked at a backend call while owning the lock). -/
def cbHolding : CbPc → Bool
  | .retr | .bsC | .submitC _ => true
  | _ => false

/-- The caller is inside a lock-protected segment. -/
def Pc.holding : Pc → Bool
  | .dSubmit _ _ | .dIn _ => true
  | _ => false

theorem cbEnabled_of_holding {s : St} {i : Nat} (h : cbHolding (getT s.trk i).pc = true) : cbEnabled s i = true := by
  unfold cbEnabled
  rw [getTrk_def]
  unfold cbHolding at h
  split at h <;> rename_i hp <;> first | (rw [hp]) | cases h

theorem Pc.holding_runnable {p : Pc} (h : p.holding = true) : p.isAcq = false ∧ p ≠ .done := by
  unfold Pc.holding at h
  split at h
  · exact ⟨rfl, nofun⟩
  · exact ⟨rfl, nofun⟩
  · cases h

structure LockInv (s : St) : Prop where
  caller : s.pc.holding = true → s.lockOwner = some 0
  cb : ∀ i, cbHolding (getT s.trk i).pc = true → s.lockOwner = some (i + 1)
  own0 : s.lockOwner = some 0 → s.pc.holding = true
  ownCb : ∀ i, s.lockOwner = some (i + 1) → cbHolding (getT s.trk i).pc = true
  noIn : ∀ k, s.pc ≠ .dIn k
  logLocked : ∀ t id l, Ev.pull t id l ∈ s.log → l = true

theorem lockInv_init : LockInv init := by
  refine ⟨?_, ?_, ?_, ?_, ?_, ?_⟩ <;> simp [init, Pc.holding, getT, cbHolding] <;> rfl

structure LView (s s' : St) : Prop where
  lock : s'.lockOwner = s.lockOwner
  pc : s'.pc.holding = s.pc.holding
  cb : ∀ j, cbHolding (getT s'.trk j).pc = cbHolding (getT s.trk j).pc

structure LockCore (s : St) : Prop where
  caller : s.pc.holding = true → s.lockOwner = some 0
  cb : ∀ i, cbHolding (getT s.trk i).pc = true → s.lockOwner = some (i + 1)
  own0 : s.lockOwner = some 0 → s.pc.holding = true
  ownCb : ∀ i, s.lockOwner = some (i + 1) → cbHolding (getT s.trk i).pc = true

theorem LockInv.core {s : St} (h : LockInv s) : LockCore s := ⟨h.caller, h.cb, h.own0, h.ownCb⟩

theorem LockCore.view {s s' : St} (h : LockCore s) (v : LView s s') : LockCore s' := by
  refine ⟨?_, ?_, ?_, ?_⟩
  · intro hp; rw [v.lock]; exact h.caller (v.pc ▸ hp)
  · intro i hi; rw [v.lock]; exact h.cb i (v.cb i ▸ hi)
  · intro ho; rw [v.pc]; exact h.own0 (v.lock ▸ ho)
  · intro i ho; rw [v.cb]; exact h.ownCb i (v.lock ▸ ho)

theorem LockCore.free {s : St} (h : LockCore s) (hf : s.lockOwner = none) :
    s.pc.holding = false ∧ ∀ i, cbHolding (getT s.trk i).pc = false := by
  constructor
  · cases hp : s.pc.holding
    · rfl
    · have := h.caller hp; rw [hf] at this; cases this
  · intro i
    cases hp : cbHolding (getT s.trk i).pc
    · rfl
    · have := h.cb i hp; rw [hf] at this; cases this

theorem LockCore.callerAcquire {s s' : St} (h : LockCore s) (hf : s.lockOwner = none)
    (hl : s'.lockOwner = some 0) (hp : s'.pc.holding = true)
    (hc : ∀ j, cbHolding (getT s'.trk j).pc = cbHolding (getT s.trk j).pc) : LockCore s' := by
  have ⟨_, f2⟩ := h.free hf
  refine ⟨fun _ => hl, ?_, fun _ => hp, ?_⟩
  · intro i hi; rw [hc, f2] at hi; cases hi
  · intro i ho; rw [hl] at ho; cases ho

theorem LockCore.released {s' : St} (hl : s'.lockOwner = none) (hp : s'.pc.holding = false)
    (hc : ∀ j, cbHolding (getT s'.trk j).pc = false) : LockCore s' := by
  refine ⟨?_, ?_, ?_, ?_⟩
  · intro h; rw [hp] at h; cases h
  · intro i h; rw [hc] at h; cases h
  · intro h; rw [hl] at h; cases h
  · intro i h; rw [hl] at h; cases h

theorem LockCore.others {s : St} (h : LockCore s) {i : Nat} (ho : s.lockOwner = some (i + 1)) :
    s.pc.holding = false ∧ ∀ j, j ≠ i → cbHolding (getT s.trk j).pc = false := by
  constructor
  · cases hp : s.pc.holding
    · rfl
    · have := h.caller hp; rw [ho] at this; cases this
  · intro j hj
    cases hp : cbHolding (getT s.trk j).pc
    · rfl
    · have := h.cb j hp; rw [ho] at this
      simp only [Option.some.injEq, Nat.add_right_cancel_iff] at this
      exact absurd this.symm hj

theorem LockCore.others0 {s : St} (h : LockCore s) (ho : s.lockOwner = some 0) :
    ∀ j, cbHolding (getT s.trk j).pc = false := by
  intro j
  cases hp : cbHolding (getT s.trk j).pc
  · rfl
  · have := h.cb j hp; rw [ho] at this; cases this

theorem LockCore.cbOwner {s' : St} {i : Nat} (hl : s'.lockOwner = some (i + 1)) (hp : s'.pc.holding = false)
    (hi : cbHolding (getT s'.trk i).pc = true) (hc : ∀ j, j ≠ i → cbHolding (getT s'.trk j).pc = false) :
    LockCore s' := by
  refine ⟨?_, ?_, ?_, ?_⟩
  · intro h; rw [hp] at h; cases h
  · intro j h
    by_cases e : j = i
    · subst e; exact hl
    · rw [hc j e] at h; cases h
  · intro h; rw [hl] at h; cases h
  · intro j h
    rw [hl] at h
    simp only [Option.some.injEq, Nat.add_right_cancel_iff] at h
    subst h; exact hi

theorem hold_set (l : List Tracker) (i j : Nat) (t : Tracker) :
    cbHolding (getT (l.set i t) j).pc =
      if j = i ∧ i < l.length then cbHolding t.pc else cbHolding (getT l j).pc := by
  rw [getT_set]; split <;> rfl

theorem hold_set_ne (l : List Tracker) (i j : Nat) (t : Tracker) (h : j ≠ i) :
    cbHolding (getT (l.set i t) j).pc = cbHolding (getT l j).pc := by
  rw [hold_set]; simp [h]

theorem hold_set_same (l : List Tracker) (i j : Nat) (t : Tracker) (h : cbHolding t.pc = cbHolding (getT l i).pc) :
    cbHolding (getT (l.set i t) j).pc = cbHolding (getT l j).pc :=
  Tab.set (r := fun t t' => cbHolding t'.pc = cbHolding t.pc) (fun _ => rfl) h j

theorem DLCase.lview {c : Cfg} {t : Tid} {bs : Nat} {s : St} {r : St × DRes} (h : DLCase c t bs s r) : LView s r.1 := by
  cases h with
  | ret => exact ⟨rfl, rfl, fun _ => rfl⟩
  | submit | iterr =>
    exact ⟨rfl, rfl, Tab.append (r := fun t t' => cbHolding t'.pc = cbHolding t.pc) (fun _ => rfl) rfl⟩

theorem DLCase.pc_eq {c : Cfg} {t : Tid} {bs : Nat} {s : St} {r : St × DRes} (h : DLCase c t bs s r) : r.1.pc = s.pc := by
  cases h <;> rfl

theorem returnOrRaise_pc (s : St) (i : Nat) : (returnOrRaise s i).1.pc = s.pc := by
  obtain ⟨t, _, h⟩ := returnOrRaise_eq (s1 := (returnOrRaise s i).1) (r := (returnOrRaise s i).2) rfl
  rw [h]

theorem Move.holding {c : Cfg} {s : St} {p p' : Pc} {ex ab : Bool} (m : Move c s p p' ex ab) :
    p.holding = false ∧ p'.holding = false := by
  -- `Move` is not recursive and there is no induction hypothesis: `induction m`, here and in every other `Move.x`
  -- table, only splits the table without unifying the indices, which `cases m` pays for
  induction m <;> exact ⟨rfl, rfl⟩

theorem LockCore.callerStep {c : Cfg} {s s' : St} (h : LockCore s) (he : callerEnabled s = true)
    (st : CStep c s s') : LockCore s' := by
  cases st with
  | move m hp => exact h.view ⟨rfl, by rw [hp]; exact m.holding.1.trans m.holding.2.symm ▸ rfl, fun _ => rfl⟩
  | stay => exact h
  | dAcqSubmit k bs s' j hpc hd =>
    have hf : s.lockOwner = none := by
      simpa [callerEnabled, hpc, Pc.isAcq] using he
    exact h.callerAcquire hf hd.lview.lock rfl hd.lview.cb
  | dAcqRet k bs s' r hpc hd =>
    have hf : s.lockOwner = none := by
      simpa [callerEnabled, hpc, Pc.isAcq] using he
    exact LockCore.released rfl rfl (fun j => by rw [hd.lview.cb]; exact (h.free hf).2 j)
  | dSubmit k j hpc =>
    have f := h.others0 (h.caller (by rw [hpc]; rfl))
    refine LockCore.released rfl rfl (fun i => ?_)
    dsimp only
    rw [hold_set]
    split
    · rfl
    · exact f i
  | busy hpc | ctlAcq hpc | popOrd i rest hpc | popUn i rest hpc | popKey i rest hpc | finJobsW e rem hpc
  | finSetWSome e rem hpc | finSetWNext i rem hpc | finSetWRet lg hpc | toAcq2 i k x hpc =>
    exact h.view ⟨rfl, by rw [hpc]; rfl, fun _ => rfl⟩
  | rtLen j hpc | gsStatusExp i k hpc | gsStatusWait i k hpc | toAcq i k hpc | toRel i k hpc =>
    exact h.view ⟨rfl, by rw [hpc]; rfl, fun _ => hold_set_same _ _ _ _ rfl⟩
  | resErr i t e hpc hr | resOk i t l lg hpc hr | refErr i t e hpc hr | refOk i t l hpc hr | tailErr i rem t e hpc hr
  | tailOkNext i i' rem t l lg hpc hr | tailOkRet i t l lg hpc hr =>
    exact h.view ⟨rfl, by rw [hpc]; rfl, fun _ => hold_set_same _ _ _ _ (congrArg cbHolding hr.pc)⟩
  | abortCall e hpc =>
    refine h.view ⟨rfl, by rw [hpc]; rfl, fun j => ?_⟩
    dsimp only
    split
    · exact Tab.map (r := fun t t' => cbHolding t'.pc = cbHolding t.pc) (fun _ => rfl)
        (fun t => by split <;> rename_i h <;> first | rfl | (rw [eq_of_beq h]; rfl)) j
    · rfl

theorem CStep.noIn {c : Cfg} {s s' : St} (st : CStep c s s') (hn : ∀ k, s.pc ≠ .dIn k) : ∀ k, s'.pc ≠ .dIn k := by
  intro k'
  cases st with
  | move m =>
    intro e
    dsimp only at e
    subst e
    cases m.holding.2
  | stay => exact hn k'
  | _ => nofun

theorem appendOutcome_log (c : Cfg) (i : Nat) (s : St) : (appendOutcome c i s).log = s.log := by
  unfold appendOutcome; split <;> rfl

theorem DLCase.pulls_owner {c : Cfg} {tid : Tid} {bs : Nat} {s : St} {r : St × DRes} (hd : DLCase c tid bs s r)
    (ho : s.lockOwner = some tid) {t : Tid} {id : Nat} {l : Bool} :
    Ev.pull t id l ∈ r.1.log → Ev.pull t id l ∈ s.log ∨ l = true := by
  intro hm
  rcases hd.log _ hm with h1 | ⟨id', h2⟩ | h3
  · exact Or.inl h1
  · simp only [Ev.pull.injEq] at h2
    right; rw [h2.2.2, ho]; simp
  · cases h3

theorem CStep.pulls {c : Cfg} {s s' : St} (st : CStep c s s') (t : Tid) (id : Nat) (l : Bool) :
    Ev.pull t id l ∈ s'.log → Ev.pull t id l ∈ s.log ∨ l = true := by
  cases st with
  | dAcqSubmit k bs s' j hpc hd | dAcqRet k bs s' j hpc hd =>
    exact hd.pulls_owner rfl
  | dSubmit k j hpc | busy hpc | finSetWSome e rem hpc | tailErr i rem t' e hpc hr | abortCall e hpc =>
    intro hm
    simp only [List.mem_cons, reduceCtorEq, false_or] at hm
    exact Or.inl hm
  | resOk i t' l' lg hpc hr hlg | tailOkNext i i' rem t' l' lg hpc hr hlg | tailOkRet i t' l' lg hpc hr hlg
  | finSetWRet lg hpc hlg =>
    exact fun hm => Or.inl (hlg _ _ _ hm)
  | _ => exact Or.inl

theorem stepCaller_lockInv (c : Cfg) (s : St) (h : LockInv s) (he : callerEnabled s = true) :
    LockInv (stepCaller c s) := by
  have st := stepCaller_cases c s
  have hc := h.core.callerStep he st
  refine ⟨hc.caller, hc.cb, hc.own0, hc.ownCb, st.noIn h.noIn, ?_⟩
  intro t id l hm
  rcases st.pulls t id l hm with h1 | h1
  · exact h.logLocked t id l h1
  · exact h1

theorem hold_setCb_self (l : List Tracker) (i : Nat) (t : Tracker) (h : cbHolding t.pc = false) :
    cbHolding (getT (l.set i t) i).pc = false := by
  rw [hold_set]
  split
  · exact h
  · rename_i hh
    have : l.length ≤ i := by
      apply Classical.byContradiction; intro hn; exact hh ⟨rfl, by omega⟩
    rw [getT_of_ge l i this]; rfl

theorem LockCore.cbRelease {s s' : St} {i : Nat} (h : LockCore s) (ho : s.lockOwner = some (i + 1))
    (hl : s'.lockOwner = none) (hp : s'.pc.holding = s.pc.holding)
    (hi : cbHolding (getT s'.trk i).pc = false)
    (hc : ∀ j, j ≠ i → cbHolding (getT s'.trk j).pc = cbHolding (getT s.trk j).pc) : LockCore s' := by
  have ⟨f1, f2⟩ := h.others ho
  refine LockCore.released hl (by rw [hp]; exact f1) ?_
  intro j
  by_cases e : j = i
  · subst e; exact hi
  · rw [hc j e]; exact f2 j e

theorem cbAfterDispatch_core {s : St} {i : Nat} (h : LockCore s) (ho : s.lockOwner = some (i + 1)) (r : Bool) :
    LockCore (cbAfterDispatch i s r) := by
  unfold cbAfterDispatch setCb setTrk
  refine h.cbRelease ho ?_ ?_ ?_ ?_
  · rfl
  · simp only; split <;> rfl
  · simp only [getTrk_def]
    split <;> exact hold_setCb_self _ _ _ rfl
  · intro j e
    simp only [getTrk_def]
    split <;> exact hold_set_ne _ _ _ _ e

theorem setCb_lview (s : St) (i : Nat) (p : CbPc) (h : cbHolding p = cbHolding (getT s.trk i).pc) :
    LView s (setCb s i p) :=
  ⟨rfl, rfl, fun j => by simp only [setCb, setTrk, getTrk_def]; exact hold_set_same _ _ _ _ h⟩

theorem cbDispatchResult_core {c : Cfg} {t : Tid} {bs : Nat} {s : St} {i : Nat} (h : LockCore s)
    (ho : s.lockOwner = some (i + 1)) (hi : cbHolding (getT s.trk i).pc = true) {r : St × DRes}
    (hd : DLCase c t bs s r) : LockCore (cbDispatchResult i r) := by
  have v := hd.lview
  obtain ⟨s', x⟩ := r
  have h' : LockCore s' := h.view v
  cases x with
  | submit j =>
    exact h'.view (setCb_lview s' i _ (by rw [v.cb, hi]; rfl))
  | ret r => exact cbAfterDispatch_core h' (v.lock.trans ho) r

theorem cb_enter {s : St} {i : Nat} (h : LockCore s) (hf : s.lockOwner = none) (hlt : i < s.trk.length) (n : Nat)
    (p : CbPc) (hp : cbHolding p = true) :
    LockCore (setCb { s with lockOwner := some (i + 1), nCompleted := n } i p) ∧
    cbHolding (getT (setCb { s with lockOwner := some (i + 1), nCompleted := n } i p).trk i).pc = true := by
  have hi : cbHolding (getT (setCb { s with lockOwner := some (i + 1), nCompleted := n } i p).trk i).pc = true := by
    simp only [setCb, setTrk, getTrk_def]
    rw [hold_set]; simp [hlt, hp]
  refine ⟨LockCore.cbOwner rfl (h.free hf).1 hi (fun j e => ?_), hi⟩
  simp only [setCb, setTrk, getTrk_def]
  rw [hold_set_ne _ _ _ _ e]; exact (h.free hf).2 j

theorem CbMove.holding {p p' : CbPc} (m : CbMove p p') : cbHolding p = false ∧ cbHolding p' = false := by
  cases m with
  | relA ok => cases ok <;> exact ⟨rfl, rfl⟩
  | _ => exact ⟨rfl, rfl⟩

theorem CbStep.core {c : Cfg} {i : Nat} {s s' : St} (st : CbStep c i s s') (h : LockCore s)
    (he : cbEnabled s i = true) : LockCore s' := by
  -- at a lock acquisition the thread is enabled only while the lock is free
  have free : ∀ {p}, (getT s.trk i).pc = p → (p = .acqA ∨ p = .acqC) → s.lockOwner = none ∧ i < s.trk.length := by
    intro p hpc hp
    refine ⟨?_, lt_of_pc_ne_idle _ _ (by rw [hpc]; rcases hp with rfl | rfl <;> nofun)⟩
    unfold cbEnabled at he
    rw [getTrk_def, hpc] at he
    rcases hp with rfl | rfl <;> simpa using he
  have hold : ∀ {p}, (getT s.trk i).pc = p → cbHolding p = true → cbHolding (getT s.trk i).pc = true :=
    fun hpc hp => by rw [hpc]; exact hp
  cases st with
  | stay => exact h
  | move p' hm => exact h.view (setCb_lview s i _ (hm.holding.2.trans hm.holding.1.symm))
  | acqA hpc =>
    obtain ⟨hf, hlt⟩ := free hpc (.inl rfl)
    exact (cb_enter h hf hlt s.nCompleted .retr rfl).1
  | retrSet ok hpc =>
    refine h.cbRelease (h.cb i (hold hpc rfl)) rfl rfl ?_ ?_
    · simp only [setCb, setTrk, getTrk_def]; exact hold_setCb_self _ _ _ rfl
    · intro j e; simp only [setCb, setTrk, getTrk_def]; exact hold_set_ne _ _ _ _ e
  | retrErr id fl hpc | retrVal fl hpc =>
    refine h.cbRelease (h.cb i (hold hpc rfl)) ?_ ?_ ?_ ?_
    · simp only [appendOutcome]; split <;> rfl
    · simp only [appendOutcome]; split <;> rfl
    · simp only [appendOutcome, setTrk]; split <;> exact hold_setCb_self _ _ _ rfl
    · intro j e; simp only [appendOutcome, setTrk]; split <;> exact hold_set_ne _ _ _ _ e
  | acqCSkip n hpc =>
    exact LockCore.view (s := s) h ⟨rfl, rfl, fun j => by
      simp only [setCb, setTrk, getTrk_def]; exact hold_set_same _ _ _ _ (by rw [hpc]; rfl)⟩
  | acqCAbort n hpc =>
    obtain ⟨hf, hlt⟩ := free hpc (.inr rfl)
    exact cbAfterDispatch_core (cb_enter h hf hlt n .bsC rfl).1 rfl false
  | acqCBs n hpc =>
    obtain ⟨hf, hlt⟩ := free hpc (.inr rfl)
    exact (cb_enter h hf hlt n .bsC rfl).1
  | acqCDisp n bs r hpc hd =>
    obtain ⟨hf, hlt⟩ := free hpc (.inr rfl)
    obtain ⟨h1, hi1⟩ := cb_enter h hf hlt n .bsC rfl
    exact cbDispatchResult_core h1 rfl hi1 hd
  | bsC bs r hpc hd =>
    have hi := hold hpc rfl
    exact cbDispatchResult_core (s := { s with bsI := s.bsI + 1 }) (h.view ⟨rfl, rfl, fun _ => rfl⟩) (h.cb i hi) hi hd
  | submitC j hpc =>
    have ⟨f1, f2⟩ := h.others (i := i) (h.cb i (hold hpc rfl))
    refine LockCore.released rfl f1 ?_
    intro j'
    by_cases e : j' = i
    · subst e
      simp only [cbAfterDispatch, setCb, setTrk, getTrk_def]
      exact hold_setCb_self _ _ _ rfl
    · simp only [cbAfterDispatch, setCb, setTrk, getTrk_def, doSubmit, ev, if_true]
      rw [hold_set_ne _ _ _ _ e, hold_set]
      split
      · rfl
      · rw [hold_set_ne _ _ _ _ e]; exact f2 j' e

theorem cbAfterDispatch_log (i : Nat) (s : St) (r : Bool) : (cbAfterDispatch i s r).log = s.log := by
  unfold cbAfterDispatch; simp only [setCb, setTrk]; split <;> rfl

theorem cbDispatchResult_log (i : Nat) (r : St × DRes) : (cbDispatchResult i r).log = r.1.log := by
  obtain ⟨s', x⟩ := r
  cases x with
  | submit j => rfl
  | ret b => exact cbAfterDispatch_log i s' b

theorem CbStep.pulls {c : Cfg} {i : Nat} {s s' : St} (st : CbStep c i s s') (h : LockCore s) (t : Tid) (id : Nat)
    (l : Bool) : Ev.pull t id l ∈ s'.log → Ev.pull t id l ∈ s.log ∨ l = true := by
  cases st with
  | retrErr | retrVal => intro hm; rw [appendOutcome_log] at hm; exact Or.inl hm
  | acqCAbort => intro hm; rw [cbAfterDispatch_log] at hm; exact Or.inl hm
  | acqCDisp n bs r hpc hd => intro hm; rw [cbDispatchResult_log] at hm; exact hd.pulls_owner rfl hm
  | bsC bs r hpc hd =>
    intro hm; rw [cbDispatchResult_log] at hm
    exact hd.pulls_owner (h.cb i (by rw [hpc]; rfl)) hm
  | submitC j hpc =>
    intro hm
    rw [cbAfterDispatch_log] at hm
    simp only [doSubmit, setCb, setTrk, ev, List.mem_cons, reduceCtorEq, false_or] at hm
    exact Or.inl hm
  | _ => exact Or.inl

theorem appendOutcome_pc (c : Cfg) (i : Nat) (s : St) : (appendOutcome c i s).pc = s.pc := by
  unfold appendOutcome; split <;> rfl

theorem stepCb_pc (c : Cfg) (i : Nat) (s : St) : (stepCb c i s).pc = s.pc :=
  (thread_inv (c := c) (P := fun x => x.pc = s.pc) (fun _ _ _ _ _ _ _ h => h) (fun _ _ _ _ h => h)
    (fun hd h => hd.pc_eq.trans h) (fun _ _ _ _ _ _ h => (appendOutcome_pc ..).trans h)
    (fun _ _ _ _ _ h => (appendOutcome_pc ..).trans h) i s rfl).1

theorem stepCb_lockInv (c : Cfg) (i : Nat) (s : St) (h : LockInv s) (he : cbEnabled s i = true) :
    LockInv (stepCb c i s) := by
  have hc := (stepCb_cases c i s).core h.core he
  refine ⟨hc.caller, hc.cb, hc.own0, hc.ownCb, ?_, ?_⟩
  · intro k hk
    exact h.noIn k (stepCb_pc c i s ▸ hk)
  · intro t id l hm
    rcases (stepCb_cases c i s).pulls h.core t id l hm with h1 | h1
    · exact h.logLocked t id l h1
    · exact h1

theorem complete_lockInv (c : Cfg) (i : Nat) (s : St) (h : LockInv s) (hp : (getT s.trk i).pc = .parked) :
    LockInv (complete c i s) := by
  have v : LView s (complete c i s) :=
    ⟨rfl, rfl, fun j => by
      simp only [complete, setTrk, ev, getTrk_def]
      exact hold_set_same _ _ _ _ (by rw [hp]; rfl)⟩
  have hc := h.core.view v
  refine ⟨hc.caller, hc.cb, hc.own0, hc.ownCb, h.noIn, ?_⟩
  intro t id l hm
  simp only [complete, setTrk, ev, List.mem_cons] at hm
  rcases hm with hm | hm
  · cases hm
  · exact h.logLocked t id l hm

theorem step_lockInv (c : Cfg) (s : St) (h : LockInv s) (a : Act) : LockInv (step c s a) :=
  step_cases c s a h (stepCaller_lockInv c s h) (fun i => stepCb_lockInv c i s h) (fun i => complete_lockInv c i s h)

theorem run_lockInv (c : Cfg) (sched : List Act) : ∀ s, LockInv s → LockInv (run c s sched) :=
  run_ind (fun s a h => step_lockInv c s h a) sched

end JoblibModel.ParallelLockU
