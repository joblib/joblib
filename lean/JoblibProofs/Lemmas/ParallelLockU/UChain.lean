import JoblibProofs.Lemmas.ParallelLockU.Order
import JoblibProofs.Lemmas.ParallelLockU.Chain
/-!
M1LU proofs — UNORDERED mode (`Cfg.ra = 2`) with a timeout: once the caller has registered a TimeoutError for its
control job (ghost `toWait ≠ none`) the call can only end by raising: the caller finishes the registration (flags,
`_jobs.append`), sleeps, `_wait_retrieval` sees `_aborting`, `_retrieve` sees `_aborting`, `_raise_error_fast` finds an
error job in `_jobs` (the control job, or a job whose failure was registered before it) that holds an exception, and
`get_result` raises it.
-/
namespace JoblibModel.ParallelLockU
open JoblibModel.ParallelLock (Tid Status CbPc DK DRes Act chunks)

/-- Program points that only exist in the ordered modes. -/
def Pc.orderedOnly : Pc → Bool
  | .rtHead | .gsStatus _ .head | .toAcq _ .head | .toRel _ .head _ | .toStatus _ .head | .toExcW _ .head
  | .toAbortW _ .head | .toAcq2 _ .head | .toRel2 _ .head | .gsRet _ .head => true
  | _ => false

/-- An error tracker holds an exception. -/
def resOK (l : List Tracker) (j : Nat) : Prop := stErr l j → ∃ e, (getT l j).result = .exc e

def uchainOK (s : St) : Prop :=
  match s.pc with
  | .toRel i .ctl true => stErr s.trk i
  | .toStatus _ .ctl | .toExcW _ .ctl | .toAbortW _ .ctl => True
  | .toAcq2 _ .ctl | .toRel2 _ .ctl | .gsRet _ .ctl | .sleep | .wtAbort | .rtAbort | .refAcq => s.aborting = true
  | .refRel (some j) | .refStatus j => stErr s.trk j ∧ ∃ e, (getT s.trk j).result = .exc e
  | .excW _ | .abortW _ | .abortCall _ | .finExc (some _) | .finJobsR (some _) | .finJobsW (some _) _
  | .finSetW (some _) _ => True
  | .done => ∃ e, s.outcome = some (.raised e)
  | _ => False

/-- After `_raise_error_fast` has taken its decision / on the way out the queue is not looked at any more. -/
def Pc.decided : Pc → Bool
  | .refRel _ | .refStatus _ | .excW _ | .abortW _ | .abortCall _ | .finExc _ | .finJobsR _ | .finJobsW _ _
  | .finSetW _ _ | .tailStatus _ _ | .done => true
  | _ => false

/-- Unordered mode: error jobs of `_jobs` hold an exception until `_raise_error_fast` has decided; once the caller has
registered a TimeoutError it is on the path `uchainOK`. -/
structure UInv (s : St) : Prop where
  ord : s.pc.orderedOnly = false
  res : s.pc.decided = false → ∀ j ∈ s.jobs, resOK s.trk j
  chain : s.toWait ≠ none → uchainOK s

theorem uInv_init : UInv init :=
  ⟨rfl, by simp [init], by simp [init]⟩

/-- A step of another thread as seen by `UInv`: error trackers are frozen, what is appended to `_jobs` is coherent,
`_aborting` only goes up. -/
structure UFrame (s s' : St) : Prop where
  frozen : ∀ j, stErr s.trk j → stErr s'.trk j ∧ (getT s'.trk j).result = (getT s.trk j).result
  jobs : ∃ x, s'.jobs = s.jobs ++ x ∧ ∀ j ∈ x, resOK s'.trk j ∧ j < s'.trk.length
  keep : ∀ j, ¬ stErr s.trk j → j < s.trk.length → stErr s'.trk j → j ∈ s'.jobs ∧ resOK s'.trk j
  ab : s.aborting = true → s'.aborting = true
  wait : s'.toWait = s.toWait
  outcome : s'.outcome = s.outcome
  len : s.trk.length ≤ s'.trk.length

theorem resOK_frozen {l l' : List Tracker} {j : Nat} (hf : Frozen l l') (he : stErr l j) (h : resOK l j) :
    resOK l' j := by
  intro _
  obtain ⟨e, he'⟩ := h he
  exact ⟨e, by rw [(hf j he).2]; exact he'⟩

theorem UInv.res_frame {s s' : St} (h : UInv s) (hb : BInv s) (f : UFrame s s') (hd : s.pc.decided = false) :
    ∀ j ∈ s'.jobs, resOK s'.trk j := by
  obtain ⟨x, hx, px⟩ := f.jobs
  have hres := h.res hd
  intro j hj
  rw [hx] at hj
  simp only [List.mem_append] at hj
  rcases hj with hj | hj
  · by_cases he : stErr s.trk j
    · exact resOK_frozen f.frozen he (hres j hj)
    · intro he'
      exact (f.keep j he (hb.jobs j hj) he').2 he'
  · exact (px j hj).1

theorem UInv.frame {s s' : St} (h : UInv s) (hb : BInv s) (f : UFrame s s') (hp : s'.pc = s.pc) : UInv s' := by
  refine ⟨hp ▸ h.ord, fun hdec => h.res_frame hb f (hp ▸ hdec), ?_⟩
  · intro hw
    have hc := h.chain (f.wait ▸ hw)
    unfold uchainOK at hc ⊢
    rw [hp]
    have fr : ∀ {j}, (stErr s.trk j ∧ ∃ e, (getT s.trk j).result = .exc e) →
        stErr s'.trk j ∧ ∃ e, (getT s'.trk j).result = .exc e :=
      fun ⟨a, e', b⟩ => ⟨(f.frozen _ a).1, e', by rw [(f.frozen _ a).2]; exact b⟩
    split at hc
    · exact (f.frozen _ hc).1  -- toRel
    · trivial  -- toStatus
    · trivial  -- toExcW
    · trivial  -- toAbortW
    · exact f.ab hc  -- toAcq2
    · exact f.ab hc  -- toRel2
    · exact f.ab hc  -- gsRet
    · exact f.ab hc  -- sleep
    · exact f.ab hc  -- wtAbort
    · exact f.ab hc  -- rtAbort
    · exact f.ab hc  -- refAcq
    · exact fr hc  -- refRel
    · exact fr hc  -- refStatus
    · trivial  -- excW
    · trivial  -- abortW
    · trivial  -- abortCall
    · trivial  -- finExc
    · trivial  -- finJobsR
    · trivial  -- finJobsW
    · trivial  -- finSetW
    · rw [f.outcome]; exact hc  -- done
    · exact hc.elim  -- elsewhere

theorem uframe_of_same {s s0 : St} (h1 : s0.trk = s.trk) (h2 : s0.jobs = s.jobs) (h3 : s.aborting = true → s0.aborting = true)
    (h4 : s0.toWait = s.toWait) (h5 : s0.outcome = s.outcome) : UFrame s s0 :=
  ⟨fun j hj => ⟨h1 ▸ hj, by rw [h1]⟩, ⟨[], by simp [h2], by simp⟩, fun j hn _ he => absurd (h1 ▸ he) hn, h3, h4, h5,
   by rw [h1]; exact Nat.le_refl _⟩

theorem uframe_setTrk (s : St) (i : Nat) (t : Tracker)
    (hs : stErr s.trk i → t.status = .error ∧ t.result = (getT s.trk i).result)
    (hn : ¬ stErr s.trk i → t.status ≠ .error) : UFrame s (setTrk s i t) := by
  refine ⟨(Tab.set (fun _ h => ⟨h, rfl⟩) hs : Frozen _ _), ⟨[], by simp [setTrk], by simp⟩, ?_, id, rfl, rfl,
    by simp [setTrk]⟩
  · intro j hne _ he
    exfalso
    simp only [setTrk] at he; unfold stErr at *
    rw [getT_set] at he; split at he
    · rename_i hh; rw [hh.1] at hne; exact hn hne he
    · exact hne he

theorem uframe_append (s s' : St) (t : Tracker) (ht : s'.trk = s.trk ++ [t]) (x : List Nat)
    (hj : s'.jobs = s.jobs ++ x) (hx : ∀ j ∈ x, j = s.trk.length)
    (hres : t.status = .error → ∃ e, t.result = .exc e)
    (hab : s.aborting = true → s'.aborting = true) (hw : s'.toWait = s.toWait) (ho : s'.outcome = s.outcome) :
    UFrame s s' := by
  refine ⟨ht ▸ (Tab.append (fun _ h => ⟨h, rfl⟩) nofun : Frozen _ _), ⟨x, hj, ?_⟩, ?_, hab, hw, ho,
    by simp [ht]⟩
  · intro j hjx
    have := hx j hjx
    subst this
    refine ⟨?_, by simp [ht]⟩
    intro he
    unfold stErr at he
    rw [ht, getT_append_length] at he ⊢
    exact hres he
  · intro j hne hl he
    exfalso
    unfold stErr at *
    rw [ht, getT_append_left _ _ _ hl] at he
    exact hne he

theorem DLCase.uframe {c : Cfg} {t : Tid} {bs : Nat} {s : St} {r : St × DRes} (h : DLCase c t bs s r) (hra : c.ra = 2) :
    UFrame s r.1 := by
  cases h with
  | ret => exact uframe_of_same rfl rfl id rfl rfl
  | submit _ _ _ _ _ _ tasks _ _ _ hj =>
    rcases hj with ⟨_, rfl, rfl⟩ | ⟨h, _⟩
    · exact uframe_append s _ (newTracker s tasks) rfl [] (List.append_nil _).symm nofun (fun h => by cases h) id rfl rfl
    · exact absurd hra h
  | iterr sp =>
    exact uframe_append s _ (errTracker s bs sp) rfl [s.trk.length] rfl (fun j hj => List.mem_singleton.mp hj)
      (fun _ => ⟨_, rfl⟩) (fun _ => rfl) rfl rfl

theorem register_uframe (c : Cfg) (hra : c.ra = 2) (i : Nat) (s : St) (t : Tracker) (hlt : i < s.trk.length)
    (hp : ¬ stErr s.trk i) (ht : t.status = .error → ∃ e, t.result = .exc e) :
    UFrame s (appendOutcome c i (setTrk s i t)) := by
  simp only [appendOutcome, hra, beq_self_eq_true, if_true, setTrk]
  refine ⟨(Tab.set (fun _ h => ⟨h, rfl⟩) (fun h => absurd h hp) : Frozen _ _), ⟨[i], rfl, ?_⟩, ?_, id, rfl, rfl,
    by simp⟩
  · intro j hj
    simp only [List.mem_singleton] at hj
    subst hj
    refine ⟨?_, by simp [hlt]⟩
    intro he
    unfold stErr at he
    rw [getT_set_self hlt] at he ⊢
    exact ht he
  · intro j hne hl he
    unfold stErr at *
    rw [getT_set] at he
    split at he
    · rename_i hh
      rw [hh.1]
      refine ⟨by simp, ?_⟩
      intro _
      rw [getT_set_self hlt]
      exact ht he
    · exact absurd he hne

theorem thread_buinv (c : Cfg) (hra : c.ra = 2) (i : Nat) (s : St) (hb : BInv s) (h : UInv s) :
    (BInv (stepCb c i s) ∧ UInv (stepCb c i s)) ∧ (BInv (complete c i s) ∧ UInv (complete c i s)) := by
  have reg : ∀ (s : St) i t, BInv s → UInv s → (getT s.trk i).status = .pending → i < s.trk.length →
      (t.status = .error → ∃ e, t.result = .exc e) → BInv (appendOutcome c i (setTrk s i t)) ∧
      UInv (appendOutcome c i (setTrk s i t)) := fun s i t hb h hp hlt ht =>
    ⟨hb.reg t hlt,
     h.frame hb (register_uframe c hra i _ _ hlt (fun he => nomatch he.symm.trans hp) ht) (appendOutcome_pc ..)⟩
  exact thread_inv (P := fun s => BInv s ∧ UInv s)
    (fun _ _ _ _ _ _ _ ⟨hb, h⟩ => ⟨⟨hb.jobs, hb.set, hb.ctl, hb.pc, hb.app⟩, ⟨h.ord, h.res, h.chain⟩⟩)
    (fun s i _ _ ⟨hb, h⟩ =>
      ⟨hb.frame (bframe_setTrk s i _) rfl, h.frame hb (uframe_setTrk s i _ (fun h => ⟨h, rfl⟩) id) rfl⟩)
    (fun hd ⟨hb, h⟩ => ⟨hb.frame hd.bframe hd.pc_eq, h.frame hb (hd.uframe hra) hd.pc_eq⟩)
    (fun s i _ _ hp hlt ⟨hb, h⟩ =>
      reg { s with lockOwner := none, exception := true, aborting := true } i _ ⟨hb.jobs, hb.set, hb.ctl, hb.pc, hb.app⟩
        (h.frame hb (uframe_of_same rfl rfl (fun _ => rfl) rfl rfl) rfl) hp hlt (fun _ => ⟨_, rfl⟩))
    (fun s i _ hp hlt ⟨hb, h⟩ =>
      reg { s with lockOwner := none } i _ ⟨hb.jobs, hb.set, hb.ctl, hb.pc, hb.app⟩
        ⟨h.ord, h.res, h.chain⟩ hp hlt nofun) i s ⟨hb, h⟩

theorem UInv.next {s s' : St} (h : UInv s)
    (hord : s'.pc.orderedOnly = false)
    (hres : s'.pc.decided = false → ∀ j ∈ s'.jobs, resOK s'.trk j)
    (hw : s'.toWait = s.toWait)
    (hch : uchainOK s → uchainOK s') : UInv s' :=
  ⟨hord, hres, fun hw' => hch (h.chain (hw ▸ hw'))⟩

theorem resOK_set (l : List Tracker) (i j : Nat) (t : Tracker) (hs : t.status = (getT l i).status)
    (hr : t.result = (getT l i).result ∨ (getT l i).status ≠ .error) (h : resOK l j) : resOK (l.set i t) j := by
  unfold resOK stErr at *
  rw [getT_set]; split
  · rename_i hh
    rw [hh.1] at h
    rw [hs]
    rcases hr with hr | hr
    · rw [hr]; exact h
    · exact fun he => absurd he hr
  · exact h

theorem Move.uinv {c : Cfg} (hra : c.ra = 2) {s : St} {p p' : Pc} {ex ab : Bool} (m : Move c s p p' ex ab)
    (ho : p.orderedOnly = false) (hreg : ∀ x, p.reg = some x → stErr s.trk x.1)
    (hE : p = .refAcq → s.aborting = true → errIn s.trk s.jobs)
    (hres : p.decided = false → ∀ j ∈ s.jobs, resOK s.trk j) :
    p'.orderedOnly = false ∧ (p'.decided = false → p.decided = false) ∧
    (uchainOK { s with pc := p } → uchainOK { s with pc := p', aborting := ab }) := by
  induction m
  case rtLenSleep | rtLenHead | toStatusRet | toAbortWRet => exact absurd hra ‹c.ra ≠ 2›
  case rtHeadNil | rtHeadGs | rtHeadRet | gsRetPend | gsRetPop => cases ho
  case gsStatusSet i k _ | toAcqSet i k _ | toRelF i k =>
    cases k
    · cases ho
    · exact ⟨rfl, id, False.elim⟩
  case toStatusErr i k _ | toExcW i k | toRel2 i k =>
    cases k
    · cases ho
    · exact ⟨rfl, id, id⟩
  case toStatusAcq i k hs _ => exact absurd (hreg (i, true) rfl) hs
  case toAbortWAcq i k _ =>
    cases k
    · cases ho
    · exact ⟨rfl, id, fun _ => rfl⟩
  case gsRetCtl | sleep | wtAbortT | rtAbortT | refRelSome | excW | abortWFin | abortWCall =>
    exact ⟨rfl, id, id⟩
  case wtAbortF ha | rtAbortF ha => exact ⟨rfl, id, fun hc => nomatch ha.symm.trans hc⟩
  case refAcq =>
    refine ⟨rfl, nofun, fun hc => ?_⟩
    obtain ⟨j, e1, e2, e3⟩ := firstErrorJob_of_errIn s s.jobs (hE rfl hc)
    unfold uchainOK
    simp only [e1]
    exact ⟨e3, hres rfl j e2 e3⟩
  case wtNDispFin | wtAbort2F | popNil => exact ⟨rfl, nofun, False.elim⟩
  case finExcT e _ | finExcF e _ | finJobsR e =>
    cases e
    · exact ⟨rfl, id, False.elim⟩
    · exact ⟨rfl, id, id⟩
  all_goals exact ⟨rfl, id, False.elim⟩

theorem UInv.callerStep {c : Cfg} {s s' : St} (h : UInv s) (hb : BInv s) (he : EInv s) (ho : OrdInv s) (hn : NInv s)
    (hra : c.ra = 2) (st : CStep c s s') : UInv s' := by
  have off : ∀ {p : Pc} {Q : Prop}, s.pc = p → ¬ uchainOK { s with pc := p } → uchainOK s → Q :=
    fun hp hn hc => (hn (hp ▸ hc)).elim
  have notHead : ∀ {p : Pc} {Q : Prop}, s.pc = p → p.orderedOnly = true → Q :=
    fun hp hu => nomatch (hp ▸ h.ord).symm.trans hu
  have res : ∀ {p : Pc}, s.pc = p → p.decided = false → ∀ j ∈ s.jobs, resOK s.trk j :=
    fun hp hd => h.res (hp ▸ hd)
  cases st with
  | move m hp =>
    obtain ⟨f1, f2, f5⟩ := m.uinv hra (hp ▸ h.ord) (fun x e => (hn.reg x.1 x.2 (hp ▸ e)).2.1)
      (fun e ha => by have := he.main; rw [hp, e] at this; exact this ha) (fun hd => h.res (hp ▸ hd))
    exact h.next f1 (fun hd => h.res (hp ▸ f2 hd)) rfl (fun hc => f5 (hp ▸ hc))
  | stay => exact h
  | busy hpc | popKey i rest hpc | resErr i t e hpc | tailErr i rem t e hpc | tailOkNext i i' rem t l lg hpc
  | tailOkRet i t l lg hpc | finSetWNext i rem hpc | finSetWRet lg hpc =>
    exact h.next rfl nofun rfl (off hpc id)
  | dAcqSubmit k bs s' j hpc hd | dAcqRet k bs s' j hpc hd =>
    have f := hd.uframe hra
    have hr := h.res_frame (s' := s') hb ⟨f.frozen, f.jobs, f.keep, f.ab, f.wait, f.outcome, f.len⟩ (by rw [hpc]; rfl)
    exact h.next rfl (fun _ => hr) f.wait (off hpc id)
  | dSubmit k j hpc | rtLen j hpc =>
    exact h.next rfl (fun _ j' hj' => resOK_set _ _ _ _ rfl (.inl rfl) (res hpc rfl j' hj')) rfl (off hpc id)
  | ctlAcq hpc => exact h.next rfl (fun _ => res hpc rfl) rfl (off hpc id)
  | gsStatusExp i k hpc | gsStatusWait i k hpc =>
    cases k
    · exact notHead hpc rfl
    exact h.next rfl (fun _ j' hj' => resOK_set _ _ _ _ rfl (.inl rfl) (res hpc rfl j' hj')) rfl (off hpc id)
  | toAcq i k hpc hp =>
    cases k
    · exact notHead hpc rfl
    have hr := res hpc rfl
    have hlt := hb.pc i (by rw [hpc]; rfl)
    have hnj : i ∉ s.jobs := by
      intro hm
      have hoo := ho
      unfold OrdInv at hoo
      rw [hpc] at hoo
      simp only [Pc.cls, ordOK] at hoo
      exact hn.np i (by rw [← hoo]; simp [hm]) hp
    have hst : stErr (s.trk.set i { getT s.trk i with status := .error }) i := by
      unfold stErr; rw [getT_set_self hlt]
    refine ⟨rfl, ?_, fun _ => hst⟩
    intro _ j hj
    have hji : j ≠ i := fun e => hnj (e ▸ hj)
    unfold resOK stErr
    dsimp only
    rw [getT_set, if_neg (fun hh => hji hh.1)]
    exact hr j hj
  | toRel i k hpc =>
    cases k
    · exact notHead hpc rfl
    have hr := res hpc rfl
    refine h.next rfl ?_ rfl (fun _ => trivial)
    intro _ j hj
    unfold resOK stErr
    dsimp only
    rw [getT_set]; split
    · intro _; exact ⟨_, rfl⟩
    · exact hr j hj
  | toAcq2 i k x hpc hx =>
    cases k
    · exact notHead hpc rfl
    have hr := res hpc rfl
    have hg := (hn.reg i true (by rw [hpc]; rfl)).2.2 rfl
    rcases hx with ⟨_, rfl⟩ | ⟨h2, _⟩
    · refine h.next rfl ?_ rfl ?_
      · intro _ j hj
        rcases List.mem_append.mp hj with hj | hj
        · exact hr j hj
        · cases List.mem_singleton.mp hj; intro _; exact ⟨_, hg⟩
      · intro hc; unfold uchainOK at hc ⊢; simp only [hpc] at hc; exact hc
    · exact absurd hra h2
  | popOrd i rest hpc hj h2 => exact absurd hra h2
  | popUn i rest hpc hj =>
    exact h.next rfl (fun _ j hjm => res hpc rfl j (by rw [hj]; simp [hjm])) rfl (off hpc id)
  | resOk i t l lg hpc hr =>
    exact h.next rfl (fun _ j hj => resOK_set _ _ _ _ hr.status (.inr hr.ok.2) (res hpc rfl j hj)) rfl
      (off hpc id)
  | refErr j t e hpc hr | abortCall e hpc => exact h.next rfl nofun rfl (fun _ => trivial)
  | refOk j t l hpc hr =>
    refine h.next rfl nofun rfl ?_
    intro hc; unfold uchainOK at hc; simp only [hpc] at hc
    obtain ⟨a, e, b⟩ := hc
    cases hr.raises a b
  | finJobsW e rem hpc =>
    refine h.next rfl nofun rfl ?_
    intro hc; unfold uchainOK at hc ⊢; simp only [hpc] at hc
    cases e
    · exact hc.elim
    · trivial
  | finSetWSome e rem hpc => exact h.next rfl nofun rfl (fun _ => ⟨e, rfl⟩)

structure UAll (s : St) : Prop where
  b : BInv s
  e : EInv s
  o : OrdInv s
  n : NInv s
  u : UInv s

theorem step_uall (c : Cfg) (hra : c.ra = 2) (s : St) (h : UAll s) (a : Act) : UAll (step c s a) := by
  refine ⟨step_binv c s h.b a, step_einv c hra s h.n h.e a, step_ord c hra s h.o a, step_ninv c s h.b h.n a, ?_⟩
  exact step_cases c s a h.u (fun _ => h.u.callerStep h.b h.e h.o h.n hra (stepCaller_cases c s))
    (fun i _ => (thread_buinv c hra i s h.b h.u).1.2) (fun i _ => (thread_buinv c hra i s h.b h.u).2.2)

theorem run_uall (c : Cfg) (hra : c.ra = 2) (sched : List Act) : ∀ s, UAll s → UAll (run c s sched) :=
  run_ind (fun s a h => step_uall c hra s h a) sched

theorem uall_init : UAll init := ⟨bInv_init, eInv_init, ordInv_init, nInv_init, uInv_init⟩

end JoblibModel.ParallelLockU
