import JoblibModel.FuncCodeText
/-! Lemmas for the text layer of `func_code.py` (`JoblibModel.FuncCodeText`), in three groups: `split("\n")` and
`"\n".join`; `"%i" % n` read back by `int()` (`pyInt_showInt`; `pyInt_tracked`: on ASCII text of moderate length the model
of `int()` answers); what `extract_first_line` reads from a header line and whatever follows it (`extractFirstLine_head`),
with `take_three` for where a cut can fall (`C12.torn_reads`; `showNat_length_le` is in C12 too). -/
namespace JoblibModel.FuncCodeText


theorem splitNLAux_ne_nil (t cur : Text) : splitNLAux t cur ≠ [] := by
  induction t generalizing cur with
  | nil => simp [splitNLAux]
  | cons c cs ih => unfold splitNLAux; split <;> simp [ih]

theorem joinNL_cons (l : Text) (ls : List Text) (h : ls ≠ []) : joinNL (l :: ls) = l ++ NL :: joinNL ls := by
  cases ls with
  | nil => exact absurd rfl h
  | cons a as => rfl

theorem joinNL_splitNLAux (t cur : Text) : joinNL (splitNLAux t cur) = cur.reverse ++ t := by
  induction t generalizing cur with
  | nil => simp [splitNLAux, joinNL]
  | cons c cs ih =>
    unfold splitNLAux
    split
    · rename_i h
      rw [joinNL_cons _ _ (splitNLAux_ne_nil _ _), ih]
      simp [h]
    · rw [ih]; simp

/-- `"\n".join(t.split("\n")) == t`. -/
theorem joinNL_splitNL (t : Text) : joinNL (splitNL t) = t := by
  simpa [splitNL] using joinNL_splitNLAux t []

theorem splitNLAux_prefix (a t cur : Text) (ha : NL ∉ a) :
    splitNLAux (a ++ t) cur = splitNLAux t (a.reverse ++ cur) := by
  induction a generalizing cur with
  | nil => rfl
  | cons c cs ih =>
    rw [List.mem_cons, not_or] at ha
    rw [List.cons_append, splitNLAux, if_neg (Ne.symm ha.1), ih _ ha.2]; simp


/-- All characters are ASCII decimal digits. -/
def AllDigits (t : Text) : Prop := ∀ c ∈ t, isDigit c = true

theorem showNat_digits (n : Nat) : AllDigits (showNat n) := by
  fun_induction showNat n with
  | case1 n h => intro c hc; simp at hc; subst hc; simp [isDigit]; omega
  | case2 n h ih =>
    intro c hc
    rcases List.mem_append.1 hc with hc | hc
    · exact ih c hc
    · simp at hc; subst hc; simp [isDigit]; omega

theorem showNat_ne_nil (n : Nat) : showNat n ≠ [] := by
  unfold showNat; split <;> simp

/-- The value of a digit string read from the left with accumulator `acc`. -/
def valueOf (t : Text) (acc : Nat) : Nat := t.foldl (fun a c => a * 10 + (c - 48)) acc

theorem valueOf_showNat (n : Nat) : valueOf (showNat n) 0 = n := by
  fun_induction showNat n with
  | case1 n h => simp [valueOf]
  | case2 n h ih => rw [valueOf] at ih ⊢; rw [List.foldl_append, ih]; simp; omega

/-- On a digit string `parseDigits` is the positional value (it accepts iff the string is non-empty or follows a digit). -/
theorem parseDigits_digits (t : Text) (acc : Nat) (p : Bool) (h : AllDigits t) (hne : t ≠ [] ∨ p = true) :
    parseDigits t acc p = some (valueOf t acc) := by
  induction t generalizing acc p with
  | nil => rcases hne with h' | h'; · exact absurd rfl h'
           · simp [parseDigits, h', valueOf]
  | cons c cs ih =>
    have hc : isDigit c = true := h c (by simp)
    simp only [parseDigits, hc, if_true]
    rw [ih _ _ (fun d hd => h d (by simp [hd])) (Or.inr rfl)]
    simp [valueOf]

theorem parseDigits_showNat (n : Nat) : parseDigits (showNat n) 0 false = some n := by
  rw [parseDigits_digits _ _ _ (showNat_digits n) (Or.inl (showNat_ne_nil n)), valueOf_showNat]

theorem digit_not_space {c : Nat} (h : isDigit c = true) : isSpace c = false := by
  simp [isDigit, isSpace] at *; omega

theorem digit_lt_128 {c : Nat} (h : isDigit c = true) : c < 128 := by
  simp [isDigit] at h; omega

theorem showInt_chars (n : Int) : ∀ c ∈ showInt n, isSpace c = false ∧ c < 128 ∧ c ≠ NL := by
  have dig : ∀ k, ∀ c ∈ showNat k, isSpace c = false ∧ c < 128 ∧ c ≠ NL := fun k c hc =>
    have h := showNat_digits k c hc
    ⟨digit_not_space h, digit_lt_128 h, fun e => by subst e; cases h⟩
  cases n with
  | ofNat k => exact dig k
  | negSucc k =>
    intro c hc
    rcases List.mem_cons.1 hc with rfl | hc
    · decide
    · exact dig _ c hc

/-- The field `_write_func_code` puts after the marker. -/
theorem field_chars (n : Int) : ∀ c ∈ SP :: showInt n, c < 128 ∧ c ≠ NL := by
  intro c hc
  rcases List.mem_cons.1 hc with rfl | hc
  · decide
  · exact (showInt_chars n c hc).2

theorem showInt_ne_nil (n : Int) : showInt n ≠ [] := by
  cases n with
  | ofNat k => exact showNat_ne_nil k
  | negSucc k => simp [showInt]

theorem stripLeft_nonspace (t : Text) (h : ∀ c ∈ t, isSpace c = false) : stripLeft t = t := by
  cases t with
  | nil => rfl
  | cons c cs => simp [stripLeft, h c (by simp)]

theorem strip_nonspace (t : Text) (h : ∀ c ∈ t, isSpace c = false) : strip t = t ∧ strip (SP :: t) = t := by
  have hr : ∀ c ∈ t.reverse, isSpace c = false := fun c hc => h c (List.mem_reverse.1 hc)
  constructor
  · unfold strip; rw [stripLeft_nonspace t h, stripLeft_nonspace _ hr]; simp
  · unfold strip
    have : stripLeft (SP :: t) = t := by
      simp only [stripLeft, show isSpace SP = true by decide, if_true]; exact stripLeft_nonspace t h
    rw [this, stripLeft_nonspace _ hr]; simp

theorem pyInt_showInt_core (n : Int) (t : Text) (hs : strip t = showInt n)
    (ha : ∀ c ∈ t, c < 128) (hl : ¬ 4000 < t.length) : pyInt t = .ok n := by
  have ha : t.any (fun c => decide (128 ≤ c)) = false := by simpa using ha
  unfold pyInt
  simp only [ha, hl, decide_false, Bool.or_false, Bool.false_eq_true, if_false, hs]
  cases n with
  | ofNat k =>
    have hne := showNat_ne_nil k
    have hd := showNat_digits k
    have hp := parseDigits_showNat k
    simp only [showInt]
    cases hsn : showNat k with
    | nil => exact absurd hsn hne
    | cons c cs =>
      have hc : isDigit c = true := hd c (by simp [hsn])
      have h1 : c ≠ MINUS := by simp [isDigit] at hc; simp [MINUS]; omega
      have h2 : c ≠ PLUS := by simp [isDigit] at hc; simp [PLUS]; omega
      simp only [h1, h2, if_false]
      rw [← hsn, hp]; rfl
  | negSucc k =>
    simp only [showInt, if_true]
    rw [parseDigits_showNat]
    simp [Int.negSucc_eq]

/-- `int(" %i" % n) == n` (and `int("%i" % n) == n`). -/
theorem pyInt_showInt (n : Int) (hl : (showInt n).length < 4000) :
    pyInt (SP :: showInt n) = .ok n ∧ pyInt (showInt n) = .ok n := by
  have hp := showInt_chars n
  have hs := strip_nonspace (showInt n) (fun c hc => (hp c hc).1)
  constructor
  · apply pyInt_showInt_core n _ hs.2 (fun c hc => (field_chars n c hc).1)
    simp; omega
  · apply pyInt_showInt_core n _ hs.1 (fun c hc => (hp c hc).2.1); omega

/-- `int()` of an ASCII text of moderate length answers: a value or `ValueError` (the model does not abstain). -/
theorem pyInt_tracked (t : Text) (ha : ∀ c ∈ t, c < 128) (hl : ¬ 4000 < t.length) :
    pyInt t = .valueError ∨ ∃ m, pyInt t = .ok m := by
  have ha : t.any (fun c => decide (128 ≤ c)) = false := by simpa using ha
  unfold pyInt
  simp only [ha, hl, decide_false, Bool.or_false, Bool.false_eq_true, if_false]
  split
  · exact Or.inl rfl -- nothing but white space
  · split
    · split -- a minus sign, then `parseDigits`
      · exact Or.inr ⟨_, rfl⟩
      · exact Or.inl rfl
    · split
      · split -- a plus sign
        · exact Or.inr ⟨_, rfl⟩
        · exact Or.inl rfl
      · split -- no sign
        · exact Or.inr ⟨_, rfl⟩
        · exact Or.inl rfl


/-- In the shape `extractFirstLine_head` and `take_three` take: marker, field, newline, source. -/
theorem writeText_eq (first_line : Int) (func_code : Text) :
    writeText first_line func_code = firstLineText ++ (SP :: showInt first_line) ++ NL :: func_code := by
  simp [writeText]

theorem extractFirstLine_of_not_prefix {p : Text} (h : firstLineText.isPrefixOf p = false) :
    extractFirstLine p = .ok (p, -1) := by
  simp [extractFirstLine, h]

/-- Marker, the rest `q` of the first line, then the end of the text or a newline and the source: the number is
read from `q`, the source is returned whole. -/
theorem extractFirstLine_head (q t : Text) (hq : NL ∉ firstLineText ++ q) (ht : ∀ c ∈ t.head?, c = NL) :
    extractFirstLine (firstLineText ++ q ++ t) =
      match pyInt q with
      | .ok n => .ok (t.tail, n)
      | .valueError => .valueError
      | .untracked => .untracked := by
  unfold extractFirstLine
  rw [if_pos (by rw [List.append_assoc]; exact List.isPrefixOf_iff_prefix.mpr (List.prefix_append _ _)),
    splitNL, splitNLAux_prefix _ _ _ hq]
  cases t with
  | nil => simp [splitNLAux, joinNL]; cases pyInt q <;> rfl
  | cons c r =>
    cases ht c rfl
    simp only [splitNLAux, if_true, List.append_nil, List.reverse_reverse, List.headD_cons, List.tail_cons,
      List.drop_left']
    rw [← splitNL, joinNL_splitNL]
    cases pyInt q <;> rfl

theorem compareStored_same_iff (stored live : Text) :
    compareStored stored live = .same ↔ ∃ m, extractFirstLine stored = .ok (live, m) := by
  unfold compareStored
  split
  · rename_i old m h; rw [h]; split <;> simp_all
  all_goals rename_i h; simp [h]

theorem compareStored_untracked_iff (stored live : Text) :
    compareStored stored live = .untracked ↔ extractFirstLine stored = .untracked := by
  unfold compareStored
  split
  · rename_i h; rw [h]; split <;> simp
  all_goals rename_i h; simp [h]

/-- Where a cut falls in `a ++ b ++ x :: c`: inside `a`, inside `b` (or just after it), or after `x`. -/
theorem take_three {α : Type} (a b : List α) (x : α) (c : List α) (k : Nat)
    (hk : k < (a ++ b ++ x :: c).length) :
    (k < a.length ∧ (a ++ b ++ x :: c).take k = a.take k) ∨
    (∃ j, j ≤ b.length ∧ (a ++ b ++ x :: c).take k = a ++ b.take j) ∨
    (∃ j, j < c.length ∧ (a ++ b ++ x :: c).take k = a ++ b ++ x :: c.take j) := by
  by_cases h1 : k < a.length
  · exact .inl ⟨h1, by rw [List.append_assoc, List.take_append_of_le_length (Nat.le_of_lt h1)]⟩
  · obtain ⟨k', rfl⟩ := Nat.exists_eq_add_of_le (Nat.le_of_not_lt h1)
    rw [List.append_assoc, List.take_length_add_append]
    by_cases h2 : k' ≤ b.length
    · exact .inr (.inl ⟨k', h2, by rw [List.take_append_of_le_length h2]⟩)
    · obtain ⟨j, rfl⟩ := Nat.exists_eq_add_of_lt (Nat.lt_of_not_le h2)
      refine .inr (.inr ⟨j, ?_, ?_⟩)
      · simp only [List.length_append, List.length_cons] at hk; omega
      · rw [Nat.add_assoc, List.take_length_add_append, List.take_succ_cons, List.append_assoc]

end JoblibModel.FuncCodeText
