import JoblibModel.ArrayFormat
/-! In file order. (1) The index arithmetic of `read_array`'s loop, the list `chunks`: one induction principle
(`chunks_induction`) and four facts by it. (2) The loop itself, `readLoop`, in closed form (`readLoop_eq`: it succeeds exactly
when the bytes are there) by a strong induction of its own; what the layout of `write_array` reads back as (`readLoop_spec`,
`skipPadding_written`, `readMmap_some`). (3) Flat indices (`cIndex_reverse`). (4) Byte bounds and strides of the worker path.
(5) The temporary dumps over a history of calls (`runHistory_faithful`).
No lemma relates `readLoop` to `chunks` (the model gives them the same guard; C19 speaks of each apart), nor the two notions of
C / Fortran order, flat index (`cIndex`, `fIndex`) and byte strides (`cStrides`, `fStrides`). `read_append` has no user. -/
namespace JoblibModel.ArrayFormat
open JoblibModel.Generated

/-- `l` is a sequence of consecutive `(start, length)` pieces going from `i` to `j`. -/
def Tiles : List (Nat × Nat) → Nat → Nat → Prop
  | [], i, j => i = j
  | (s, c) :: r, i, j => s = i ∧ Tiles r (i + c) j

theorem chunks_of_ge {m count i : Nat} (h : count ≤ i) : chunks m count i = [] := by
  rw [chunks, dif_neg (fun h' => Nat.not_lt_of_le h h'.1)]

theorem chunks_of_lt {m count i : Nat} (h : i < count) (hm : 0 < m) :
    chunks m count i = (i, min m (count - i)) :: chunks m count (i + m) := by
  rw [chunks, dif_pos ⟨h, hm⟩]

theorem chunks_induction {P : Nat → List (Nat × Nat) → Prop} (m count : Nat) (hm : 0 < m)
    (done : ∀ i, count ≤ i → P i [])
    (last : ∀ i, i < count → count < i + m → P i [(i, count - i)])
    (full : ∀ i l, i + m ≤ count → P (i + m) l → P i ((i, m) :: l)) (i : Nat) : P i (chunks m count i) := by
  induction h : count - i using Nat.strongRecOn generalizing i with
  | _ n ih =>
    subst h
    by_cases hlt : i < count
    · rw [chunks_of_lt hlt hm]
      by_cases hle : i + m ≤ count
      · rw [Nat.min_eq_left (Nat.le_sub_of_add_le' hle)]
        exact full i _ hle (ih _ (by omega) _ rfl)
      · rw [Nat.min_eq_right (by omega), chunks_of_ge (Nat.le_of_not_le hle)]
        exact last i hlt (Nat.lt_of_not_le hle)
    · rw [chunks_of_ge (Nat.le_of_not_lt hlt)]
      exact done i (Nat.le_of_not_lt hlt)

theorem chunks_tiles (m count i : Nat) (hm : 0 < m) (hi : i ≤ count) :
    Tiles (chunks m count i) i count := by
  revert hi
  refine chunks_induction (P := fun i l => i ≤ count → Tiles l i count) m count hm ?_ ?_ ?_ i
  · exact fun i h1 h2 => Nat.le_antisymm h2 h1
  · exact fun i h1 _ _ => ⟨rfl, Nat.add_sub_of_le (Nat.le_of_lt h1)⟩
  · exact fun i l h ih _ => ⟨rfl, ih h⟩

theorem chunks_sum (m count i : Nat) (hm : 0 < m) :
    ((chunks m count i).map (·.2)).sum = count - i := by
  refine chunks_induction (P := fun i l => (l.map (·.2)).sum = count - i) m count hm ?_ ?_ ?_ i
  · exact fun i h => (Nat.sub_eq_zero_of_le h).symm
  · exact fun i _ _ => Nat.add_zero _
  · intro i l h ih
    rw [List.map_cons, List.sum_cons, ih]
    omega

theorem chunks_bounds (m count i : Nat) (hm : 0 < m) :
    ∀ c ∈ chunks m count i, 1 ≤ c.2 ∧ c.2 ≤ m ∧ c.1 + c.2 ≤ count := by
  refine chunks_induction (P := fun _ l => ∀ c ∈ l, 1 ≤ c.2 ∧ c.2 ≤ m ∧ c.1 + c.2 ≤ count) m count hm ?_ ?_ ?_ i
  · exact fun _ _ _ hc => nomatch hc
  · intro i h1 h2 c hc
    rw [List.mem_singleton.mp hc]
    exact ⟨by omega, by omega, by omega⟩
  · intro i l h ih c hc
    rcases List.mem_cons.mp hc with rfl | hc
    · exact ⟨hm, Nat.le_refl _, h⟩
    · exact ih c hc

theorem chunks_length (m count i : Nat) (hm : 0 < m) :
    (chunks m count i).length = (count - i + m - 1) / m := by
  refine chunks_induction (P := fun i l => l.length = (count - i + m - 1) / m) m count hm ?_ ?_ ?_ i
  · intro i h
    rw [Nat.sub_eq_zero_of_le h, Nat.zero_add]
    exact (Nat.div_eq_of_lt (Nat.sub_lt hm Nat.one_pos)).symm
  · intro i h1 h2
    show 1 = _
    exact (Nat.div_eq_of_lt_le (by omega) (by omega)).symm
  · intro i l h ih
    have hx : m ≤ count - i := Nat.le_sub_of_add_le' h
    rw [List.length_cons, ih, ← Nat.add_div_right _ hm, Nat.sub_add_eq, Nat.sub_add_cancel hx,
      Nat.sub_add_comm (Nat.le_trans hm hx)]

theorem read_append (d suf : Bytes) (q n : Nat) (hn : n ≤ d.length) :
    Handle.read ⟨d ++ suf, q⟩ n = (d.take n, ⟨d.drop n ++ suf, q + n⟩) := by
  unfold Handle.read
  rw [List.take_append_of_le_length hn, List.drop_append_of_le_length hn,
    Nat.min_eq_left (Nat.le_trans hn (List.length_append ▸ Nat.le_add_right _ _))]

theorem readBytes_eq (h : Handle) (n : Nat) :
    readBytes h n =
      if n ≤ h.rest.length then .ok (h.rest.take n, ⟨h.rest.drop n, h.pos + n⟩) else .error .eof := by
  unfold readBytes Handle.read
  simp only [List.length_take]
  by_cases hn : n ≤ h.rest.length
  · rw [if_pos (Nat.min_eq_left hn), if_pos hn, Nat.min_eq_left hn]
  · rw [if_neg (by omega), if_neg hn]

/-- The loop of `read_array`, completely: it succeeds exactly when the bytes of the items still to be read are there. -/
theorem readLoop_eq (itemsize m count : Nat) (hm : 0 < m) (i : Nat) (h : Handle) (acc : Bytes) :
    readLoop itemsize m count i h acc =
      if (count - i) * itemsize ≤ h.rest.length then
        .ok (acc ++ h.rest.take ((count - i) * itemsize),
          ⟨h.rest.drop ((count - i) * itemsize), h.pos + (count - i) * itemsize⟩)
      else .error .eof := by
  induction hn : count - i using Nat.strongRecOn generalizing i h acc with
  | _ n ih =>
    subst hn
    rw [readLoop]
    by_cases hlt : i < count
    · have hsplit : (count - i) * itemsize = min m (count - i) * itemsize + (count - (i + m)) * itemsize := by
        rw [← Nat.add_mul, Nat.sub_add_eq]
        rcases Nat.le_total m (count - i) with h | h
        · rw [Nat.min_eq_left h, Nat.add_sub_cancel' h]
        · rw [Nat.min_eq_right h, Nat.sub_eq_zero_of_le h, Nat.add_zero]
      rw [dif_pos ⟨hlt, hm⟩]
      simp only
      rw [readBytes_eq, hsplit]
      generalize min m (count - i) * itemsize = a
      by_cases ha : a ≤ h.rest.length
      · rw [if_pos ha]
        simp only
        rw [ih _ (Nat.sub_lt_sub_left hlt (Nat.lt_add_of_pos_right hm)) _ _ _ rfl]
        generalize (count - (i + m)) * itemsize = b
        simp only [List.length_drop]
        by_cases hb : b ≤ h.rest.length - a
        · rw [if_pos hb, if_pos (Nat.add_le_of_le_sub' ha hb), List.append_assoc, ← List.take_add, List.drop_drop,
            Nat.add_assoc]
        · rw [if_neg hb, if_neg (fun h' => hb (Nat.le_sub_of_add_le' h'))]
      · rw [if_neg ha, if_neg (fun h' => ha (Nat.le_trans (Nat.le_add_right _ _) h'))]
    · rw [dif_neg (fun h' => hlt h'.1), Nat.sub_eq_zero_of_le (Nat.le_of_not_lt hlt), Nat.zero_mul,
        if_pos (Nat.zero_le _), List.take_zero, List.append_nil]
      rfl

theorem readLoop_spec (itemsize m count : Nat) (hm : 0 < m) (i : Nat) (d suf acc : Bytes) (q : Nat)
    (hd : d.length = (count - i) * itemsize) :
    readLoop itemsize m count i ⟨d ++ suf, q⟩ acc = .ok (acc ++ d, ⟨suf, q + d.length⟩) := by
  rw [readLoop_eq _ _ _ hm, ← hd, if_pos (by rw [List.length_append]; exact Nat.le_add_right _ _)]
  simp only [List.take_left, List.drop_left]

theorem skipPadding_written (a p pos : Nat) (rest : Bytes) (hp : 1 ≤ p) :
    skipPadding (some a) ⟨p :: (List.replicate p padValue ++ rest), pos⟩ = ⟨rest, pos + 1 + p⟩ := by
  simp only [skipPadding, Handle.read, List.take_succ_cons, List.take_zero, List.headD_cons,
    List.drop_succ_cons, List.drop_zero, List.length_cons, if_pos (Nat.ne_of_gt hp)]
  rw [List.drop_left' List.length_replicate, List.length_append, List.length_replicate,
    Nat.min_eq_left (Nat.le_add_left 1 _), Nat.min_eq_left (Nat.le_add_right p _)]

theorem readMmap_some (a p : Nat) (body suf : Bytes) (pos cnt itemsize : Nat)
    (hb : body.length = p + cnt * itemsize) :
    readMmap (some a) ⟨p :: (body ++ suf), pos⟩ cnt itemsize
      = ⟨pos + 1 + p, ⟨suf, pos + (body.length + 1)⟩, false⟩ := by
  simp only [readMmap, Handle.read, List.take_succ_cons, List.take_zero, List.headD_cons,
    List.drop_succ_cons, List.drop_zero, List.length_cons, Handle.seekTo, Option.isNone_some,
    Bool.false_and, Mmap.mk.injEq, Handle.mk.injEq, and_true]
  rw [Nat.min_eq_left (Nat.le_add_left 1 _), hb]
  refine ⟨Nat.add_right_comm _ _ _, ?_, by omega⟩
  rw [show pos + p + 1 + cnt * itemsize - (pos + 1) = body.length by omega]
  exact List.drop_left

theorem cIndex_snoc (shape idx : List Nat) (d i : Nat) (h : shape.length = idx.length) :
    cIndex (shape ++ [d]) (idx ++ [i]) = cIndex shape idx * d + i := by
  unfold cIndex
  rw [List.zip_append h]
  simp [List.foldl_append]

theorem cIndex_reverse (shape idx : List Nat) (h : shape.length = idx.length) :
    cIndex shape.reverse idx.reverse = fIndex shape idx := by
  induction shape generalizing idx with
  | nil =>
    cases idx with
    | nil => simp [cIndex, fIndex]
    | cons _ _ => simp at h
  | cons d ds ih =>
    cases idx with
    | nil => simp at h
    | cons i is =>
      simp only [List.reverse_cons]
      rw [cIndex_snoc _ _ _ _ (by simpa using h), ih is (by simpa using h)]
      simp only [fIndex]
      rw [Nat.mul_comm]
      omega

theorem lowAdj_nonneg_strides (shape : List Nat) (strides : List Int) (h : ∀ s ∈ strides, 0 ≤ s) :
    lowAdj shape strides = 0 := by
  induction shape generalizing strides with
  | nil => simp [lowAdj]
  | cons n ns ih =>
    cases strides with
    | nil => simp [lowAdj]
    | cons s ss =>
      have hs : ¬ s < 0 := by have := h s (by simp); omega
      simp only [lowAdj, hs, if_false, Int.zero_add]
      exact ih ss (fun x hx => h x (List.mem_cons_of_mem _ hx))

theorem byteBounds_fst (a : Arr) (h : ∀ s ∈ a.strides, 0 ≤ s) : (byteBounds a).1 = a.ptr := by
  rw [byteBounds, lowAdj_nonneg_strides a.shape a.strides h, Int.add_zero]

theorem adj_bounds (shape : List Nat) (strides : List Int) (hpos : ∀ n ∈ shape, 1 ≤ n) :
    lowAdj shape strides ≤ 0 ∧ 0 ≤ highAdj shape strides := by
  induction shape generalizing strides with
  | nil => exact ⟨Int.le_refl 0, Int.le_refl 0⟩
  | cons n ns ih =>
    cases strides with
    | nil => exact ⟨Int.le_refl 0, Int.le_refl 0⟩
    | cons s ss =>
      have hn : (0 : Int) ≤ n - 1 := by have := hpos n List.mem_cons_self; omega
      obtain ⟨h1, h2⟩ := ih ss (fun x hx => hpos x (List.mem_cons_of_mem _ hx))
      simp only [lowAdj, highAdj]
      by_cases hs : s < 0
      · rw [if_pos hs, if_pos hs]
        exact ⟨Int.add_nonpos (Int.mul_nonpos_of_nonneg_of_nonpos hn (Int.le_of_lt hs)) h1,
          Int.add_nonneg (Int.le_refl 0) h2⟩
      · rw [if_neg hs, if_neg hs]
        exact ⟨Int.add_nonpos (Int.le_refl 0) h1, Int.add_nonneg (Int.mul_nonneg hn (Int.not_lt.mp hs)) h2⟩

theorem cStrides_nonneg (shape : List Nat) (itemsize : Nat) : ∀ s ∈ cStrides shape itemsize, 0 ≤ s := by
  induction shape with
  | nil => simp [cStrides]
  | cons d ds ih =>
    intro s hs
    simp only [cStrides, List.mem_cons] at hs
    rcases hs with rfl | hs
    · exact Int.natCast_nonneg _
    · exact ih s hs

theorem fStridesAux_nonneg (shape : List Nat) (acc : Nat) : ∀ s ∈ fStridesAux shape acc, 0 ≤ s := by
  induction shape generalizing acc with
  | nil => simp [fStridesAux]
  | cons d ds ih =>
    intro s hs
    simp only [fStridesAux, List.mem_cons] at hs
    rcases hs with rfl | hs
    · exact Int.natCast_nonneg _
    · exact ih _ s hs

theorem fStrides_nonneg (shape : List Nat) (itemsize : Nat) : ∀ s ∈ fStrides shape itemsize, 0 ≤ s :=
  fStridesAux_nonneg shape itemsize

theorem dispatchStep_seen (fs : TempFiles) (d : Dispatch)
    (hfs : ∀ v, fs.lookup (d.ctx, d.obj) = some v → v = d.vals) : (dispatchStep fs d).2 = d.vals := by
  unfold dispatchStep
  cases hl : fs.lookup (d.ctx, d.obj) with
  | none => rfl
  | some v => exact hfs v hl

theorem dispatchStep_lookup (fs : TempFiles) (d : Dispatch) (k : Nat × Nat) (v : Nat)
    (h : (dispatchStep fs d).1.lookup k = some v) :
    fs.lookup k = some v ∨ (k = (d.ctx, d.obj) ∧ v = d.vals) := by
  unfold dispatchStep at h
  cases hl : fs.lookup (d.ctx, d.obj) with
  | some w =>
    simp only [hl] at h
    exact Or.inl h
  | none =>
    simp only [hl, List.lookup_cons] at h
    by_cases hk : k = (d.ctx, d.obj)
    · subst hk
      simp at h
      exact Or.inr ⟨rfl, h.symm⟩
    · have : (k == (d.ctx, d.obj)) = false := by simpa using hk
      simp only [this] at h
      exact Or.inl h

theorem runHistory_faithful (h : List Dispatch) : ∀ (fs : TempFiles),
    (∀ d ∈ h, ∀ v, fs.lookup (d.ctx, d.obj) = some v → v = d.vals) →
    (∀ d ∈ h, ∀ e ∈ h, d.ctx = e.ctx → d.obj = e.obj → d.vals = e.vals) →
    runHistory fs h = h.map (·.vals) := by
  induction h with
  | nil => intros; rfl
  | cons d rest ih =>
    intro fs hfs hconst
    have hd0 := hfs d (List.mem_cons_self ..)
    simp only [runHistory, List.map_cons]
    rw [dispatchStep_seen fs d hd0]
    congr 1
    apply ih
    · intro e he v hv
      rcases dispatchStep_lookup fs d (e.ctx, e.obj) v hv with h1 | ⟨hk, hv2⟩
      · exact hfs e (List.mem_cons_of_mem _ he) v h1
      · have hc : e.ctx = d.ctx := congrArg Prod.fst hk
        have ho : e.obj = d.obj := congrArg Prod.snd hk
        rw [hv2]
        exact hconst d (List.mem_cons_self ..) e (List.mem_cons_of_mem _ he) hc.symm ho.symm
    · intro e he f hf
      exact hconst e (List.mem_cons_of_mem _ he) f (List.mem_cons_of_mem _ hf)

theorem nodup_key_eq (h : List Dispatch) (hn : (h.map (fun d => (d.ctx, d.obj))).Nodup) :
    ∀ d ∈ h, ∀ e ∈ h, d.ctx = e.ctx → d.obj = e.obj → d = e := by
  induction h with
  | nil => intro d hd; cases hd
  | cons a rest ih =>
    rw [List.map_cons, List.nodup_cons] at hn
    intro d hd e he hc ho
    rcases List.mem_cons.1 hd with rfl | hd' <;> rcases List.mem_cons.1 he with rfl | he'
    · rfl
    · exact absurd (List.mem_map.2 ⟨e, he', by simp [hc, ho]⟩) hn.1
    · exact absurd (List.mem_map.2 ⟨d, hd', by simp [hc, ho]⟩) hn.1
    · exact ih hn.2 d hd' e he' hc ho

end JoblibModel.ArrayFormat
