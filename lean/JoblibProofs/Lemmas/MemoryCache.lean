import JoblibModel.MemoryCache
import JoblibProofs.Lemmas.HashDecode
import JoblibProofs.Lemmas.FilterArgs
/-! Specification predicates and lemmas for C02 / C06 (`JoblibModel.MemoryCache`).
The key: the dict `filter_args` hands to `hash`, in canonical listing, is Python's binding outside the ignore list,
sorted (`canon_embed`, over `core_eq_bind` of the FilterArgs lemmas); so for two accepted calls of a function the two
dicts are the same Python value iff the bound arguments agree outside the ignore list (`sameValue_embed_iff_agree`);
`encode_inj` (HashDecode) and `encode_reorder` (HashStream) turn it into soundness and completeness of the key.
Histories: `step` is unfolded in its equations only (`step_filterErr`: no key; `step_call_eq`, `step_shelve_eq`, `step_get_eq`,
`step_force_eq`, `step_check_eq`: key known); what a step hands back is read off them (`step_call_cases`, `step_value`).
`step_induction` speaks of the STATE only: every invariant of the cache directory is checked against the elementary `Change`s
of a step: `StoreOK` (C02), `Present`, `EntriesCoded` and the keys of the store (C06).
The file ends with the example data of C02 / C06 (`envEx` … `fnOne`): `histEx` satisfies the hypotheses of the history theorems
(`univOK_histEx`); the digest `hId` is also used in the proof of `C06.key_complete_nonfunction_counterexample`.
To add an operation, touch `Op` and `step` (model), its equation, `Op.callOf`, `Correct`, `Change` with `step_induction`,
`step_value`, `Untouched` and `Op.withEffects`; the invariants follow the constructors of `Change`.
The variant `stepC` / `runC` / `execC` (key of a forced call computed after the body) has no `Change` and no
induction: `stepC_asIs` in the model and two evaluated counterexamples (C02, C06) are all that is said of it. -/
namespace JoblibModel.MemoryCache
open JoblibModel.FilterArgs JoblibModel.HashStream

/-- The canonical listing of a Python value: every set / frozenset / dict part, at every depth, in
sorted order.  Two listings of one Python value (other insertion orders) have the same `canon`. -/
def canon (v : PyVal) : PyVal := canonF (depth v) v

/-- The two listings denote the same Python value. -/
def SameValue (v w : PyVal) : Prop := canon v = canon w

theorem depth_le_depthList {x : PyVal} : ∀ {l : List PyVal}, x ∈ l → depth x ≤ depthList l
  | y :: ys, h => by
    rcases List.mem_cons.mp h with rfl | h
    · exact Nat.le_max_left _ _
    · exact Nat.le_trans (depth_le_depthList h) (Nat.le_max_right _ _)

theorem depth_le_depthItems {kv : PyVal × PyVal} : ∀ {l : List (PyVal × PyVal)}, kv ∈ l →
    depth kv.1 ≤ depthItems l ∧ depth kv.2 ≤ depthItems l
  | (k, v) :: ys, h => by
    rcases List.mem_cons.mp h with rfl | h
    · exact ⟨Nat.le_trans (Nat.le_max_left _ _) (Nat.le_max_left _ _),
        Nat.le_trans (Nat.le_max_right _ _) (Nat.le_max_left _ _)⟩
    · have := depth_le_depthItems h
      exact ⟨Nat.le_trans this.1 (Nat.le_max_right _ _), Nat.le_trans this.2 (Nat.le_max_right _ _)⟩

theorem canonF_list_eq (f : Nat) (l : List PyVal) :
    canonF (f + 1) (.list l) = .list (l.map (canonF f)) := rfl
theorem canonF_tuple_eq (f : Nat) (l : List PyVal) :
    canonF (f + 1) (.tuple l) = .tuple (l.map (canonF f)) := rfl
theorem canonF_set_eq (f : Nat) (l : List PyVal) :
    canonF (f + 1) (.set l) = .set ((sortOn id l).map (canonF f)) := rfl
theorem canonF_frozenset_eq (f : Nat) (l : List PyVal) :
    canonF (f + 1) (.frozenset l) = .frozenset ((sortOn id l).map (canonF f)) := rfl
theorem canonF_dict_eq (f : Nat) (l : List (PyVal × PyVal)) :
    canonF (f + 1) (.dict l) =
      .dict ((sortOn Prod.fst l).map fun kv => (canonF f kv.1, canonF f kv.2)) := rfl

theorem canonF_succ : ∀ (f : Nat) (v : PyVal), depth v ≤ f → canonF (f + 1) v = canonF f v := by
  intro f
  induction f with
  | zero => intro v h; cases v <;> simp [depth] at h
  | succ f ih =>
    intro v h
    -- the parts of a container of depth `≤ f + 1` have depth `≤ f`, also after sorting
    have parts : ∀ {l l' : List PyVal}, depthList l + 1 ≤ f + 1 → l'.Perm l →
        l'.map (canonF (f + 1)) = l'.map (canonF f) := fun hl p =>
      List.map_congr_left fun x hx => ih x (by have := depth_le_depthList (p.subset hx); omega)
    cases v with
    | none | bool | int | float | str | bytes => rfl
    | list l => rw [canonF_list_eq, canonF_list_eq, parts h (.refl l)]
    | tuple l => rw [canonF_tuple_eq, canonF_tuple_eq, parts h (.refl l)]
    | set l => rw [canonF_set_eq, canonF_set_eq, parts h (sortOn_perm id l)]
    | frozenset l => rw [canonF_frozenset_eq, canonF_frozenset_eq, parts h (sortOn_perm id l)]
    | dict l =>
      rw [canonF_dict_eq, canonF_dict_eq, PyVal.dict.injEq]
      refine List.map_congr_left fun x hx => ?_
      have := depth_le_depthItems ((sortOn_perm Prod.fst l).subset hx)
      have h : depthItems l + 1 ≤ f + 1 := h
      rw [ih x.1 (by omega), ih x.2 (by omega)]

theorem canonF_of_le {f : Nat} {v : PyVal} (h : depth v ≤ f) : canonF f v = canon v := by
  obtain ⟨n, rfl⟩ := Nat.exists_eq_add_of_le h
  clear h
  induction n with
  | zero => rfl
  | succ n ih => rw [← Nat.add_assoc, canonF_succ _ _ (by omega), ih]

theorem canon_str (s : Bs) : canon (.str s) = .str s := rfl

theorem canon_dict (items : List (PyVal × PyVal)) :
    canon (.dict items) = .dict ((sortOn Prod.fst items).map fun kv => (canon kv.1, canon kv.2)) := by
  unfold canon
  simp only [depth]; rw [canonF_dict_eq, PyVal.dict.injEq]
  refine List.map_congr_left fun x hx => ?_
  have := depth_le_depthItems ((sortOn_perm Prod.fst items).subset hx)
  rw [canonF_of_le this.1, canonF_of_le this.2]; rfl

theorem canon_list (l : List PyVal) : canon (.list l) = .list (l.map canon) := by
  unfold canon
  simp only [depth]; rw [canonF_list_eq, PyVal.list.injEq]
  exact List.map_congr_left fun x hx => canonF_of_le (depth_le_depthList hx)

def StrKeys (items : List (PyVal × PyVal)) : Prop := ∀ kv ∈ items, ∃ s, kv.1 = .str s

theorem insertOn_map_snd (g : PyVal → PyVal) (x : PyVal × PyVal) : ∀ l : List (PyVal × PyVal),
    insertOn Prod.fst (x.1, g x.2) (l.map fun kv => (kv.1, g kv.2)) =
      (insertOn Prod.fst x l).map fun kv => (kv.1, g kv.2)
  | [] => rfl
  | y :: ys => by
    simp only [List.map_cons, insertOn]
    split
    · rfl
    · simp only [List.map_cons, insertOn_map_snd g x ys]

theorem sortOn_map_snd (g : PyVal → PyVal) : ∀ l : List (PyVal × PyVal),
    sortOn Prod.fst (l.map fun kv => (kv.1, g kv.2)) = (sortOn Prod.fst l).map fun kv => (kv.1, g kv.2)
  | [] => rfl
  | x :: xs => by
    simp only [List.map_cons, sortOn, sortOn_map_snd g xs]
    exact insertOn_map_snd g x _

theorem cmpBs_refl : ∀ a : Bs, cmpBs a a = .eq := fun _ => cmpBs_eq.mpr rfl

theorem strictPair_str {a b : Bs} (h : a ≠ b) : StrictPair (.str a) (.str b) := by
  unfold StrictPair pyCmp
  simp only [toK, cmpK]
  cases hc : cmpBs a b with
  | lt => simp
  | gt => simp
  | eq => exact absurd (cmpBs_eq.mp hc) h

theorem nodup_keys_map {α β κ ν : Type} {f : α → κ} (g : β → ν) (hf : ∀ a b, f a = f b → a = b)
    {l : List (α × β)} (h : (l.map Prod.fst).Nodup) :
    ((l.map fun e => (f e.1, g e.2)).map Prod.fst).Nodup := by
  have : (l.map fun e => (f e.1, g e.2)).map Prod.fst = (l.map Prod.fst).map f := by
    simp [List.map_map, Function.comp_def]
  rw [this]
  exact List.Pairwise.map f (fun a b hne e => hne (hf a b e)) h

/-- The items of a dict with their values in canonical listing (`str` keys are their own listing). -/
def cItems (items : List (PyVal × PyVal)) : List (PyVal × PyVal) := items.map fun kv => (kv.1, canon kv.2)

theorem cItems_keys (items : List (PyVal × PyVal)) : (cItems items).map Prod.fst = items.map Prod.fst := by
  simp [cItems, List.map_map, Function.comp_def]

theorem strictOn_of_strKeys {items : List (PyVal × PyVal)} (hs : StrKeys items)
    (hn : (items.map Prod.fst).Nodup) : StrictOn Prod.fst (cItems items) := by
  unfold StrictOn
  rw [cItems, List.pairwise_map]
  induction items with
  | nil => exact List.Pairwise.nil
  | cons x xs ih =>
    simp only [List.map_cons, List.nodup_cons] at hn
    refine List.pairwise_cons.mpr ⟨fun y hy => ?_, ih (fun kv h => hs kv (List.mem_cons_of_mem _ h)) hn.2⟩
    obtain ⟨a, ea⟩ := hs x List.mem_cons_self
    obtain ⟨b, eb⟩ := hs y (List.mem_cons_of_mem _ hy)
    rw [ea, eb]
    refine strictPair_str fun e => hn.1 ?_
    rw [ea, e, ← eb]
    exact List.mem_map.mpr ⟨y, hy, rfl⟩

theorem canon_strDict {items : List (PyVal × PyVal)} (hs : StrKeys items) :
    canon (.dict items) = .dict (sortOn Prod.fst (cItems items)) := by
  rw [canon_dict, cItems, sortOn_map_snd]
  refine congrArg PyVal.dict (List.map_congr_left fun kv hkv => ?_)
  obtain ⟨s, e⟩ := hs kv ((sortOn_perm Prod.fst items).subset hkv)
  rw [e, canon_str]

/-- Two dicts with distinct `str` keys are the same value iff they hold the same items, the values up to their
listing: distinct strings sort in one way only. -/
theorem sameValue_strDict_iff {i₁ i₂ : List (PyVal × PyVal)} (hs₁ : StrKeys i₁) (hs₂ : StrKeys i₂)
    (hn₁ : (i₁.map Prod.fst).Nodup) : SameValue (.dict i₁) (.dict i₂) ↔ (cItems i₁).Perm (cItems i₂) := by
  rw [SameValue, canon_strDict hs₁, canon_strDict hs₂, PyVal.dict.injEq]
  refine ⟨fun h => (sortOn_perm _ _).symm.trans (by rw [h]; exact sortOn_perm _ _), fun p => sortOn_perm_eq _ p (strictOn_of_strKeys hs₁ hn₁)⟩

theorem canon_of_perm {i₁ i₂ : List (PyVal × PyVal)} (hp : (cItems i₁).Perm (cItems i₂))
    (hn₂ : (i₂.map Prod.fst).Nodup) {k v₁ v₂ : PyVal} (h₁ : (k, v₁) ∈ i₁) (h₂ : (k, v₂) ∈ i₂) :
    canon v₁ = canon v₂ :=
  value_unique (cItems_keys i₂ ▸ hn₂) (hp.subset (List.mem_map.mpr ⟨_, h₁, rfl⟩)) (List.mem_map.mpr ⟨_, h₂, rfl⟩)

/-- The identifiers are interpreted injectively and none of them is `*` or `**`. -/
structure NamesOK (E : Env) : Prop where
  inj : ∀ m n, E.name m = E.name n → m = n
  star : ∀ n, E.name n ≠ [42]
  dstar : ∀ n, E.name n ≠ [42, 42]

def keyBs (E : Env) : Key → Bs
  | .name n => E.name n
  | .star => [42]
  | .dstar => [42, 42]

theorem keyVal_eq (E : Env) (k : Key) : keyVal E k = .str (keyBs E k) := by cases k <;> rfl

section keys
variable {E : Env} {H : Bs → Bs} {cal : Callable} {ig : List Key} {c c₁ c₂ : Call} {d d₁ d₂ : Dict}
  {b b₁ b₂ : List (Nat × Val)}

theorem keyBs_inj (hn : NamesOK E) {k k' : Key} (h : keyBs E k = keyBs E k') : k = k' := by
  cases k <;> cases k' <;> simp only [keyBs] at h
  · rw [hn.inj _ _ h]
  · exact absurd h (hn.star _)
  · exact absurd h (hn.dstar _)
  · exact absurd h.symm (hn.star _)
  · rfl
  · simp at h
  · exact absurd h.symm (hn.dstar _)
  · simp at h
  · rfl

def items (E : Env) (d : Dict) : List (PyVal × PyVal) := d.map fun e => (keyVal E e.1, embedVal E e.2)

theorem embed_eq (E : Env) (d : Dict) : embed E d = .dict (items E d) := rfl

theorem strKeys_items (E : Env) (d : Dict) : StrKeys (items E d) := by
  intro kv h
  obtain ⟨e, _, rfl⟩ := List.mem_map.mp h
  exact ⟨keyBs E e.1, keyVal_eq E e.1⟩

theorem nodup_items (hn : NamesOK E) (hd : (d.map Prod.fst).Nodup) :
    ((items E d).map Prod.fst).Nodup :=
  nodup_keys_map (embedVal E) (fun a b h => by
    rw [keyVal_eq, keyVal_eq, PyVal.str.injEq] at h
    exact keyBs_inj hn h) hd

def kwItems (E : Env) (kv : List (Nat × Nat)) : List (PyVal × PyVal) :=
  kv.map fun e => (.str (E.name e.1), E.val e.2)

theorem embedVal_map (E : Env) (kv : List (Nat × Nat)) : embedVal E (.map kv) = .dict (kwItems E kv) := rfl

theorem strKeys_kwItems (E : Env) (kv : List (Nat × Nat)) : StrKeys (kwItems E kv) := by
  intro x h
  obtain ⟨e, _, rfl⟩ := List.mem_map.mp h
  exact ⟨_, rfl⟩

theorem sameValue_kw_perm (hn : NamesOK E) {a b : List (Nat × Nat)} (hp : a.Perm b)
    (hb : (b.map Prod.fst).Nodup) : SameValue (.dict (kwItems E a)) (.dict (kwItems E b)) :=
  (sameValue_strDict_iff (strKeys_kwItems E a) (strKeys_kwItems E b)
    (nodup_keys_map E.val (fun a b h => hn.inj a b (PyVal.str.inj h))
      ((hp.map Prod.fst).nodup_iff.mpr hb))).mpr ((hp.map _).map _)

theorem sameValue_of_valEq (hn : NamesOK E) {v w : Val} (h : ValEq v w)
    (hw : ∀ m, w = .map m → (m.map Prod.fst).Nodup) : SameValue (embedVal E v) (embedVal E w) := by
  cases v <;> cases w <;> simp only [ValEq] at h
  · subst h; rfl
  · subst h; rfl
  · rw [embedVal_map, embedVal_map]; exact sameValue_kw_perm hn h (hw _ rfl)

theorem SameDict_keys_perm {d X : Dict} (h : SameDict d X) : (d.map Prod.fst).Perm (X.map Prod.fst) :=
  h.keys_perm

/-- The callables whose signature `filter_args` inspects: plain (or `async def`) functions and
bound methods. -/
inductive FuncLike : Callable → Prop
  | func {s : Sig} : WF s → FuncLike (.func s)
  | method {p : Param} {v : Nat} {s : Sig} :
      WF (p :: s) → p.positional = true → p.default = none → FuncLike (.method p v s)

theorem funcLike_core (h : FuncLike cal) (c : Call) :
    ∃ w args, WalkOK w cal.sig ∧ WF cal.sig ∧
      (∀ ig, argDict cal ig c = core w ig args c.kwargs) ∧
      bindOf cal c = bindGo cal.sig args c.kwargs := by
  cases h with
  | func hs => exact ⟨_, c.args, walkOK_walk hs, hs, fun _ => rfl, rfl⟩
  | method hs hp hd => exact ⟨_, _, walkOK_method hs hp hd, hs, fun _ => rfl, rfl⟩

/-- What `filter_args` returns for a call Python accepts: Python's mapping (in `filter_args`'
format) minus the ignored keys — as a dict. -/
theorem argDict_spec (hf : FuncLike cal) (hc : CallWF c) (hd : argDict cal ig c = .ok d) (hb : bindOf cal c = .ok b) :
    SameDict d ((rename cal.sig b).filter fun e => decide (e.1 ∉ ig)) ∧ (d.map Prod.fst).Nodup := by
  obtain ⟨w, args, ok, hwf, ha, hbo⟩ := funcLike_core hf c
  obtain ⟨d₀, h₀, sd⟩ := core_eq_bind hwf ok hc (hbo ▸ hb)
  rw [ha] at hd
  refine ⟨?_, core_nodup hd⟩
  rw [((core_ok_iff h₀ d).mp hd).2.2]
  exact sd.filter fun k => decide (k ∉ ig)

/-- The wrapper accepts what the function accepts (ignore list without repetition, naming
parameters of the function). -/
theorem argDict_ok (hf : FuncLike cal) (hc : CallWF c) (hb : bindOf cal c = .ok b) (hig : ig.Nodup)
    (hkeys : ∀ k ∈ ig, k ∈ (rename cal.sig b).map Prod.fst) : ∃ d, argDict cal ig c = .ok d := by
  obtain ⟨w, args, ok, hwf, ha, hbo⟩ := funcLike_core hf c
  obtain ⟨d₀, h₀, sd⟩ := core_eq_bind hwf ok hc (hbo ▸ hb)
  exact ⟨_, ha ig ▸ (core_ok_iff h₀ _).mpr ⟨hig, fun k hk => sd.keys_perm.mem_iff.mpr (hkeys k hk), rfl⟩⟩

theorem rename_keys (s : Sig) (b : List (Nat × Val)) :
    (rename s b).map Prod.fst = (b.map Prod.fst).map (keyOf s) := by
  simp [rename, List.map_map, Function.comp_def]

theorem bindOf_names (hf : FuncLike cal) (hb : bindOf cal c = .ok b) : b.map Prod.fst = cal.sig.map (·.name) := by
  obtain ⟨w, args, _, hwf, _, hbo⟩ := funcLike_core hf c
  rw [hbo] at hb
  exact (binds_of_bindGo hwf hb).names

theorem bindOf_map_nodup (hf : FuncLike cal) (hc : CallWF c) (hb : bindOf cal c = .ok b) :
    ∀ n m, (n, Val.map m) ∈ b → (m.map Prod.fst).Nodup := by
  obtain ⟨w, args, _, hwf, _, hbo⟩ := funcLike_core hf c
  rw [hbo] at hb
  exact (binds_of_bindGo hwf hb).map_nodup hc

/-- The bound arguments of two calls of one function agree outside the ignore list: the same
parameters, and under every parameter that is not ignored the same Python value (`SameValue`:
equal canonical listings — dict / set arguments may have been built in another order). -/
def AgreeOutside (E : Env) (s : Sig) (ig : List Key) (b₁ b₂ : List (Nat × Val)) : Prop :=
  b₁.map Prod.fst = b₂.map Prod.fst ∧
    ∀ n w₁ w₂, keyOf s n ∉ ig → (n, w₁) ∈ b₁ → (n, w₂) ∈ b₂ →
      SameValue (embedVal E w₁) (embedVal E w₂)

/-- The real `Hasher` produces a stream for the value without ever taking the digest fallback
(`Plain`: at every dict / set node the keys sort directly; lengths fit their 4-byte fields) and
memoises fewer than 2^32 objects — the fragment on which C08 proves the stream injective. -/
def Hashable (H : Bs → Bs) (v : PyVal) : Prop := Plain (depth v) v ∧ memoCount H v ≤ 2 ^ 32

/-- `sorted` is well defined at every dict / set node of the value (C08's `KeysStrict`): the
hypothesis of C08's order-invariance theorem.
`Hashable` and `Sortable` of `embed E d` are NOT derived from the same facts about the argument values (`embed E d`
lies one level above them; `Plain.mono` raises the fuel of `Plain`, no lemma that of `KeysStrict`): they are established
by evaluation on literal values (`univOK_histEx`, the examples of C06). -/
def Sortable (H : Bs → Bs) (v : PyVal) : Prop := KeysStrict H (depth v) v

instance (H : Bs → Bs) (v : PyVal) : Decidable (Hashable H v) := inferInstanceAs (Decidable (_ ∧ _))

instance (H : Bs → Bs) (v : PyVal) : Decidable (Sortable H v) := decKeysStrict H _ v

def NoCollisionOn (H : Bs → Bs) (S : List Bs) : Prop := ∀ x ∈ S, ∀ y ∈ S, H x = H y → x = y

theorem canon_eq_of_stream_eq {v w : PyVal} (hv : Hashable H v) (hw : Hashable H w)
    (h : encode H v = encode H w) : canon v = canon w :=
  encode_inj H v w hv.1 hw.1 hv.2 hw.2 h

theorem stream_eq_of_canon_eq {v w : PyVal} (hv : Sortable H v) (hw : Sortable H w)
    (h : canon v = canon w) : encode H v = encode H w := by
  rw [encode_reorder H v (canon v) (reorder_canonF _ v) hv, encode_reorder H w (canon w) (reorder_canonF _ w) hw, h]

/-- `H` is applied on the fallback path only (`keysOf` / `itemsOf` when the keys are not `orderable`): the
stream of a `Plain` value is the same for every digest. -/
theorem encF_plain_indep (H H' : Bs → Bs) : ∀ (f : Nat) (v : PyVal) (m : Memo), Plain f v →
    encF H .fixed f v m = encF H' .fixed f v m
  | 0, _, _, h => h.elim
  | f + 1, v, m, h => by
    have ih := encF_plain_indep H H' f
    cases v with
    | none | bool | int | float | str | bytes => rfl
    | list l => exact saveList_ext (fun x hx m => ih x m (h x hx)) m
    | tuple l => exact saveTuple_ext (fun x hx m => ih x m (h x hx)) m
    | set l =>
      simp only [encF, keysOf, h.1, if_true]
      exact wrapper_ext _ (fun x hx m => ih x m (h.2 x ((sortOn_perm id l).subset hx))) m
    | frozenset l =>
      simp only [encF, keysOf, h.1, if_true]
      exact wrapper_ext _ (fun x hx m => ih x m (h.2 x ((sortOn_perm id l).subset hx))) m
    | dict items =>
      simp only [encF, itemsOf, h.1, if_true,
        seqKV_ext (sortOn Prod.fst items) fun kv hkv m =>
          ⟨ih _ m (h.2 kv ((sortOn_perm Prod.fst items).subset hkv)).1,
            ih _ m (h.2 kv ((sortOn_perm Prod.fst items).subset hkv)).2⟩]

theorem stream_plain_indep (H H' : Bs → Bs)
    (h : Plain (depth (embed E d)) (embed E d)) : stream H E d = stream H' E d := by
  simp only [stream, encode, encodeV, encF_plain_indep H H' _ _ _ h]

/-- `filter_args` and Python both accept the call: `d` is the dict that is hashed, `b` Python's binding. -/
structure Accepted (cal : Callable) (ig : List Key) (c : Call) (d : Dict) (b : List (Nat × Val)) : Prop where
  wf : CallWF c
  dict : argDict cal ig c = .ok d
  bind : bindOf cal c = .ok b

/-- The body the harness' functions have: return the bound arguments that are not ignored (as
canonical Python values). -/
def canonBody (E : Env) (s : Sig) (ig : List Key) (b : List (Nat × Val)) : List (Nat × PyVal) :=
  b.filterMap fun e => if keyOf s e.1 ∈ ig then none else some (e.1, canon (embedVal E e.2))

theorem canonBody_agree {E : Env} {s : Sig} {ig : List Key} : ∀ {b₁ b₂ : List (Nat × Val)},
    AgreeOutside E s ig b₁ b₂ → canonBody E s ig b₁ = canonBody E s ig b₂
  | [], [], _ => rfl
  | [], _ :: _, h => by have := h.1; simp at this
  | _ :: _, [], h => by have := h.1; simp at this
  | x :: r₁, y :: r₂, h => by
    obtain ⟨hn, hv⟩ := h
    simp only [List.map_cons, List.cons.injEq] at hn
    have tail : AgreeOutside E s ig r₁ r₂ :=
      ⟨hn.2, fun n w₁ w₂ hk m₁ m₂ => hv n w₁ w₂ hk (List.mem_cons_of_mem _ m₁) (List.mem_cons_of_mem _ m₂)⟩
    have ih := canonBody_agree tail
    unfold canonBody at ih ⊢
    simp only [List.filterMap_cons, ← hn.1]
    by_cases hk : keyOf s x.1 ∈ ig
    · simp only [hk, if_true]; exact ih
    · have hh : canon (embedVal E x.2) = canon (embedVal E y.2) :=
        hv x.1 x.2 y.2 hk (by simp) (by rw [hn.1]; simp)
      simp only [hk, if_false, hh, ih]

/-- The item of the canonical listing that an entry of `canonBody` stands for: the parameter under its
`filter_args` key. -/
def keyItem (E : Env) (s : Sig) (e : Nat × PyVal) : PyVal × PyVal := (.str (keyBs E (keyOf s e.1)), e.2)

theorem cItems_rename (E : Env) (s : Sig) (ig : List Key) (b : List (Nat × Val)) :
    cItems (items E ((rename s b).filter fun e => decide (e.1 ∉ ig))) = (canonBody E s ig b).map (keyItem E s) := by
  induction b with
  | nil => rfl
  | cons x r ih =>
    simp only [rename, List.map_cons, List.filter_cons, canonBody, List.filterMap_cons] at ih ⊢
    by_cases hk : keyOf s x.1 ∈ ig
    · simpa [hk] using ih
    · simp only [hk, not_false_eq_true, decide_true, if_true, if_false, List.map_cons, cItems, items] at ih ⊢
      rw [ih, keyVal_eq]; rfl

theorem cItems_entriesEq (hn : NamesOK E) {a X : Dict} (h : EntriesEq a X)
    (hm : ∀ k m, (k, Val.map m) ∈ X → (m.map Prod.fst).Nodup) : cItems (items E a) = cItems (items E X) := by
  refine h.ind (motive := fun a X => (∀ k m, (k, Val.map m) ∈ X → (m.map Prod.fst).Nodup) →
    cItems (items E a) = cItems (items E X)) (fun _ => rfl) (fun x y xs ys hk hv _ ih hm => ?_) hm
  have hv' : canon (embedVal E x.2) = canon (embedVal E y.2) :=
    sameValue_of_valEq hn hv fun m e => hm y.1 m (by rw [← e]; exact List.mem_cons_self)
  have := ih fun k m h => hm k m (List.mem_cons_of_mem _ h)
  simp only [cItems, items, List.map_cons, List.map_map, hk, hv'] at this ⊢
  rw [this]

/-- **What is hashed, in terms of the call.**  The dict `filter_args` hands to `hash`, in canonical listing, is
Python's binding outside the ignore list: every bound argument that is not ignored, as a canonical value
(`canonBody`), under its `filter_args` key (`keyItem`), sorted by key.  The key of a call is a function of this
listing and nothing else of the call; soundness and completeness of the key are the two ways of reading the
equation (`sameValue_embed_iff_agree`). -/
theorem canon_embed (hn : NamesOK E) (hf : FuncLike cal) (h : Accepted cal ig c d b) :
    canon (embed E d) = .dict (sortOn Prod.fst ((canonBody E cal.sig ig b).map (keyItem E cal.sig))) := by
  obtain ⟨⟨d', hp, he⟩, nd⟩ := argDict_spec hf h.wf h.dict h.bind
  -- C07: `d` is, up to order, entry-wise Python's mapping without the ignored keys
  rw [embed_eq, canon_strDict (strKeys_items E d), ← cItems_rename,
    ← cItems_entriesEq hn he fun k m hm => ?_]
  · exact congrArg _ (sortOn_perm_eq _ ((hp.map _).map _)
      (strictOn_of_strKeys (strKeys_items E d) (nodup_items hn nd)))
  · obtain ⟨⟨n, w⟩, hm', e⟩ := List.mem_map.mp (List.mem_filter.mp hm).1
    cases e
    exact bindOf_map_nodup hf h.wf h.bind n m hm'

theorem mem_canonBody {s : Sig} {n : Nat} {w : Val} (hm : (n, w) ∈ b) (hk : keyOf s n ∉ ig) :
    (n, canon (embedVal E w)) ∈ canonBody E s ig b :=
  List.mem_filterMap.mpr ⟨_, hm, by simp [hk]⟩

theorem nodup_keyItems (hn : NamesOK E) (hf : FuncLike cal) (h : Accepted cal ig c d b) :
    (((canonBody E cal.sig ig b).map (keyItem E cal.sig)).map Prod.fst).Nodup := by
  obtain ⟨sd, nd⟩ := argDict_spec hf h.wf h.dict h.bind
  rw [← cItems_rename, cItems_keys]
  exact nodup_items hn (sd.keys_perm.nodup_iff.mp nd)

/-- The key is a function of, and injective on, what the call binds outside the ignore list: with
`canon_eq_of_stream_eq` / `stream_eq_of_canon_eq` the two directions are soundness and completeness of the key. -/
theorem sameValue_embed_iff_agree (hn : NamesOK E) (hf : FuncLike cal) (h₁ : Accepted cal ig c₁ d₁ b₁)
    (h₂ : Accepted cal ig c₂ d₂ b₂) :
    SameValue (embed E d₁) (embed E d₂) ↔ AgreeOutside E cal.sig ig b₁ b₂ := by
  rw [SameValue, canon_embed hn hf h₁, canon_embed hn hf h₂]
  refine ⟨fun h => ⟨by rw [bindOf_names hf h₁.bind, bindOf_names hf h₂.bind], fun n w₁ w₂ hk m₁ m₂ => ?_⟩,
    fun ha => by rw [canonBody_agree ha]⟩
  -- equal sorted listings hold the same items, and a listing has one item per key
  have hp : ((canonBody E cal.sig ig b₁).map (keyItem E cal.sig)).Perm
      ((canonBody E cal.sig ig b₂).map (keyItem E cal.sig)) :=
    (sortOn_perm _ _).symm.trans (by rw [PyVal.dict.inj h]; exact sortOn_perm _ _)
  exact value_unique (nodup_keyItems hn hf h₂)
    (hp.subset (List.mem_map_of_mem (f := keyItem E cal.sig) (mem_canonBody (E := E) m₁ hk)))
    (List.mem_map_of_mem (f := keyItem E cal.sig) (mem_canonBody (E := E) m₂ hk))

/-- The positional tuples and the keyword dicts of two calls are the same Python values. -/
def RawAgree (E : Env) (c₁ c₂ : Call) : Prop :=
  SameValue (.list (c₁.args.map E.val)) (.list (c₂.args.map E.val)) ∧
    SameValue (.dict (kwItems E c₁.kwargs)) (.dict (kwItems E c₂.kwargs))

theorem rawAgree_of_canon_eq (hn : NamesOK E)
    (h : canon (embed E [(.star, .seq c₁.args), (.dstar, .map c₁.kwargs)]) =
      canon (embed E [(.star, .seq c₂.args), (.dstar, .map c₂.kwargs)])) : RawAgree E c₁ c₂ := by
  have hp := (sameValue_strDict_iff (strKeys_items E _) (strKeys_items E _) (nodup_items hn (by simp))).mp h
  have look := fun {k v₁ v₂} => canon_of_perm hp (nodup_items hn (by simp)) (k := k) (v₁ := v₁) (v₂ := v₂)
  exact ⟨look (.head _) (.head _), look (.tail _ (.head _)) (.tail _ (.head _))⟩

/-- The callables the model covers: those of `FuncLike`, and partials. -/
inductive CalOK : Callable → Prop
  | funcLike {cal : Callable} : FuncLike cal → CalOK cal
  | part {s : Sig} {pa : List Nat} {pk : List (Nat × Nat)} : CalOK (.part s pa pk)

/-- "The same arguments" for two calls of a cached callable: for a function or method, the bound
arguments agree outside the ignore list; for a partial (whose signature `filter_args` does not
look at, and whose ignore list is unused) the raw calls agree. -/
def SameArgs (E : Env) (cal : Callable) (ig : List Key) (c₁ c₂ : Call) (b₁ b₂ : List (Nat × Val)) : Prop :=
  match cal with
  | .part _ _ _ => RawAgree E c₁ c₂
  | _ => AgreeOutside E cal.sig ig b₁ b₂

theorem sameArgs_of_stream_eq (hn : NamesOK E) (hok : CalOK cal)
    (h₁ : Accepted cal ig c₁ d₁ b₁) (h₂ : Accepted cal ig c₂ d₂ b₂)
    (hh₁ : Hashable H (embed E d₁)) (hh₂ : Hashable H (embed E d₂))
    (hs : stream H E d₁ = stream H E d₂) : SameArgs E cal ig c₁ c₂ b₁ b₂ := by
  cases hok with
  | funcLike hf =>
    have := (sameValue_embed_iff_agree hn hf h₁ h₂).mp (canon_eq_of_stream_eq hh₁ hh₂ hs)
    cases hf <;> exact this
  | part =>
    have hd₁ := h₁.dict
    have hd₂ := h₂.dict
    simp only [argDict, Except.ok.injEq] at hd₁ hd₂
    subst hd₁ hd₂
    exact rawAgree_of_canon_eq hn (canon_eq_of_stream_eq hh₁ hh₂ hs)

end keys

variable {R : Type}

/-- The function is a pure function of its arguments, and ignores the ignored parameters: calls
with the same arguments (`SameArgs`) have the same result. -/
def Respects (E : Env) (fn : Fn R) : Prop :=
  ∀ c₁ c₂ b₁ b₂, bindOf fn.cal c₁ = .ok b₁ → bindOf fn.cal c₂ = .ok b₂ →
    SameArgs E fn.cal fn.ig c₁ c₂ b₁ b₂ → fn.body b₁ = fn.body b₂

/-- The (function, call) an operation hashes. -/
def Op.callOf : Op R → Option (Fn R × Call)
  | .call fn c _ => some (fn, c)
  | .shelve fn c _ => some (fn, c)
  | .get fn c => some (fn, c)
  | .force fn c => some (fn, c)
  | .check fn c _ => some (fn, c)
  | _ => none

def callsOf (ops : List (Op R)) : List (Fn R × Call) := ops.filterMap Op.callOf

theorem mem_callsOf {ops : List (Op R)} {op : Op R} {p : Fn R × Call} (hop : op ∈ ops) (h : op.callOf = some p) :
    p ∈ callsOf ops :=
  List.mem_filterMap.mpr ⟨op, hop, h⟩

/-- The streams hashed in a universe of calls: finitely many. -/
def streamsOf (H : Bs → Bs) (E : Env) (U : List (Fn R × Call)) : List Bs :=
  U.filterMap fun p =>
    match argDict p.1.cal p.1.ig p.2 with
    | .ok d => some (stream H E d)
    | .error _ => none

theorem mem_streamsOf {H : Bs → Bs} {E : Env} {U : List (Fn R × Call)} {p : Fn R × Call} {d : Dict}
    (hp : p ∈ U) (hd : argDict p.1.cal p.1.ig p.2 = .ok d) : stream H E d ∈ streamsOf H E U :=
  List.mem_filterMap.mpr ⟨p, hp, by simp [hd]⟩

structure UnivOK (H : Bs → Bs) (E : Env) (U : List (Fn R × Call)) : Prop where
  names : NamesOK E
  cal : ∀ p ∈ U, CalOK p.1.cal
  respects : ∀ p ∈ U, Respects E p.1
  /-- one cached function per function identifier (C12 is about the other case) -/
  fids : ∀ p ∈ U, ∀ q ∈ U, p.1.fid = q.1.fid → p.1 = q.1
  calls : ∀ p ∈ U, CallWF p.2
  hashable : ∀ p ∈ U, ∀ d, argDict p.1.cal p.1.ig p.2 = .ok d → Hashable H (embed E d)
  /-- the digest has no collision AMONG THE KEYS OF THE HISTORY -/
  noCollision : NoCollisionOn H (streamsOf H E U)

/-- Two calls of the history filed under one key have the same arguments: no collision among the history's keys,
so the same stream, so `SameArgs`. -/
theorem UnivOK.sameArgs {H : Bs → Bs} {E : Env} {U : List (Fn R × Call)} (hu : UnivOK H E U) {fn : Fn R}
    {c₁ c₂ : Call} {d₁ d₂ : Dict} {b₁ b₂ : List (Nat × Val)} (h₁ : (fn, c₁) ∈ U) (h₂ : (fn, c₂) ∈ U)
    (hd₁ : argDict fn.cal fn.ig c₁ = .ok d₁) (hd₂ : argDict fn.cal fn.ig c₂ = .ok d₂)
    (hb₁ : bindOf fn.cal c₁ = .ok b₁) (hb₂ : bindOf fn.cal c₂ = .ok b₂)
    (hk : H (stream H E d₁) = H (stream H E d₂)) : SameArgs E fn.cal fn.ig c₁ c₂ b₁ b₂ :=
  sameArgs_of_stream_eq hu.names (hu.cal _ h₁) ⟨hu.calls _ h₁, hd₁, hb₁⟩ ⟨hu.calls _ h₂, hd₂, hb₂⟩
    (hu.hashable _ h₁ _ hd₁) (hu.hashable _ h₂ _ hd₂)
    (hu.noCollision _ (mem_streamsOf h₁ hd₁) _ (mem_streamsOf h₂ hd₂) hk)

/-- What C02 demands of one step: a value handed to the caller — by a call, a forced call, or
`.get()` on a shelved reference — is what the plain function returns for those arguments. -/
def Correct : Op R → Out R → Prop
  | .call fn c _, out => ∀ b v x, bindOf fn.cal c = .ok b → out = .value v x → v = fn.body b
  | .get fn c, out => ∀ b v x, bindOf fn.cal c = .ok b → out = .value v x → v = fn.body b
  | .force fn c, out => ∀ b v x, bindOf fn.cal c = .ok b → out = .value v x → v = fn.body b
  | _, _ => True

def AllCorrect (ver : Version) (H : Bs → Bs) (E : Env) : St R → List (Op R) → Prop
  | _, [] => True
  | st, op :: ops => Correct op (step ver H E st op).1 ∧ AllCorrect ver H E (step ver H E st op).2 ops

/-- The invariant: the store is a finite map, and every entry holds the value the plain function
returns for every call of the history that is filed under it. -/
def StoreOK (H : Bs → Bs) (E : Env) (U : List (Fn R × Call)) (st : Store R) : Prop :=
  (st.map Prod.fst).Nodup ∧
    ∀ id v, dget id st = some v → ∀ p ∈ U, p.1.fid = id.1 → ∀ d b,
      argDict p.1.cal p.1.ig p.2 = .ok d → H (stream H E d) = id.2 → bindOf p.1.cal p.2 = .ok b →
      v = p.1.body b

section store
variable {H : Bs → Bs} {E : Env} {U : List (Fn R × Call)} {st : Store R}

theorem storeOK_nil (H : Bs → Bs) (E : Env) (U : List (Fn R × Call)) : StoreOK H E U ([] : Store R) :=
  ⟨by simp, fun id v h => by simp [dget] at h⟩

theorem storeOK_filter (h : StoreOK H E U st) (p : Nat × Bs → Bool) :
    StoreOK H E U (st.filter fun e => p e.1) := by
  refine ⟨h.1.sublist (List.filter_sublist.map _), fun id v hv => ?_⟩
  rw [dget_filter_key] at hv
  split at hv
  · exact h.2 id v hv
  · cases hv

theorem storeOK_dpop (h : StoreOK H E U st) (id : Nat × Bs) : StoreOK H E U (dpop id st) := by
  rw [dpop_eq_filter h.1]
  exact storeOK_filter h fun k => decide (k ≠ id)

theorem storeOK_evictAll : ∀ (ids : List (Nat × Bs)) {st : Store R},
    StoreOK H E U st → StoreOK H E U (evictAll st ids)
  | [], _, h => h
  | id :: r, _, h => storeOK_evictAll r (storeOK_dpop h id)

/-- Storing the result of an executed call keeps the invariant: whatever other call of the history
is filed under the same key has the same arguments (`UnivOK.sameArgs`), so the function returns the
same value for it. -/
theorem storeOK_dset (hu : UnivOK H E U) (h : StoreOK H E U st) {fn : Fn R} {c : Call}
    (hp : (fn, c) ∈ U) {d : Dict} {b : List (Nat × Val)} (hd : argDict fn.cal fn.ig c = .ok d)
    (hb : bindOf fn.cal c = .ok b) : StoreOK H E U (dset (fn.fid, H (stream H E d)) (fn.body b) st) := by
  refine ⟨nodup_keys_dset _ _ h.1, fun id v hv q hq hfid d' b' hd' hk hb' => ?_⟩
  by_cases e : id = (fn.fid, H (stream H E d))
  · subst e
    rw [dget_dset_self] at hv
    cases hv
    obtain ⟨fn', c'⟩ := q
    cases (hu.fids _ hq (fn, c) hp hfid : fn' = fn)
    exact (hu.respects _ hp c' c b' b hb' hb (hu.sameArgs hq hp hd' hd hb' hb hk)).symm
  · rw [dget_dset_ne e] at hv
    exact h.2 id v hv q hq hfid d' b' hd' hk hb'

end store

/-! Whatever every elementary `Change` of an operation preserves, the step preserves (`step_induction`): an
invariant of the cache directory is checked against the six kinds of change, not against `step`. -/

/-- The elementary changes an operation makes to the cache directory: `func_code.py` is written, the
entry the validation callback rejects is deleted, the result of the body is filed under the key of the
call AS PASSED (in a directory that, in the repaired code, has its `func_code.py`), and the three
operations that only delete.  `drop` records which operation deletes, because `Untouched` (defined per operation) has to
exclude it (`present_change`). -/
inductive Change (ver : Version) (H : Bs → Bs) (E : Env) : Op R → St R → St R → Prop
  | code {op} (fid st) : Change ver H E op st { st with coded := fid :: st.coded }
  | drop {op fn c k} (st) : op = .call fn c false ∨ op = .shelve fn c false ∨ op = .check fn c false →
      argsId H E fn.cal fn.ig c = .ok k →
      Change ver H E op st { st with entries := dpop (fn.fid, k) st.entries }
  | store {op fn c k b} (st) : op.callOf = some (fn, c) → argsId H E fn.cal fn.ig c = .ok k →
      bindOf fn.cal c = .ok b → (ver = .fixed → fn.fid ∈ st.coded) →
      Change ver H E op st (afterCall st (fn.fid, k) (fn.effect c) (fn.body b))
  | clearFn (fn st) : Change ver H E (.clearFn fn) st
      { coded := if fn.fid ∈ st.coded then st.coded else fn.fid :: st.coded
        entries := st.entries.filter fun e => decide (e.1.1 ≠ fn.fid) }
  | clearAll (st) : Change ver H E .clearAll st { coded := [], entries := [] }
  | evict (ids st) : Change ver H E (.evict ids) st { st with entries := evictAll st.entries ids }

section step
variable {ver : Version} {H : Bs → Bs} {E : Env} {U : List (Fn R × Call)} {st : St R} {fn : Fn R}
  {c : Call} {k : Bs} {id : Nat × Bs} {cb : Bool} {op : Op R}

theorem afterCall_entries (st : St R) (id : Nat × Bs) (c : Call) (v : R) :
    (afterCall st id c v).entries = dset id v st.entries := rfl

theorem afterCall_coded (st : St R) (id : Nat × Bs) (c : Call) (v : R) : (afterCall st id c v).coded = st.coded := rfl

theorem argsId_ok {cal : Callable} {ig : List Key} {d : Dict} (hd : argDict cal ig c = .ok d) :
    argsId H E cal ig c = .ok (H (stream H E d)) := by
  simp only [argsId, hd]

theorem argDict_of_argsId (h : argsId H E fn.cal fn.ig c = .ok k) :
    ∃ d, argDict fn.cal fn.ig c = .ok d ∧ k = H (stream H E d) := by
  unfold argsId at h
  split at h
  · rename_i d hd; cases h; exact ⟨d, hd, rfl⟩
  · cases h

theorem checkCode_of_mem {fid : Nat} (h : fid ∈ st.coded) : checkCode st fid = (true, st) := by
  simp [checkCode, h]

theorem checkCode_of_not_mem {fid : Nat} (h : fid ∉ st.coded) :
    checkCode st fid = (false, { st with coded := fid :: st.coded }) := by
  simp [checkCode, h]

theorem checkCode_coded_self (st : St R) (fid : Nat) : fid ∈ (checkCode st fid).2.coded := by
  unfold checkCode; split
  · assumption
  · exact List.mem_cons_self

theorem isInCacheAndValid_eq (st : St R) (id : Nat × Bs) (cb : Bool) :
    isInCacheAndValid st id cb =
      if id.1 ∈ st.coded then
        match dget id st.entries with
        | none => (none, st)
        | some r => if cb then (some r, st) else (none, { st with entries := dpop id st.entries })
      else (none, { st with coded := id.1 :: st.coded }) := by
  unfold isInCacheAndValid
  by_cases hc : id.1 ∈ st.coded
  · rw [checkCode_of_mem hc, if_pos hc]; rfl
  · rw [checkCode_of_not_mem hc, if_neg hc]; rfl

/-- What the hit test (`isInCacheAndValid`, `iic` in lemma names) does to the directory: nothing, or it
deletes the entry the validation callback rejects, or it writes the missing `func_code.py`. -/
theorem iic_state_cases (st : St R) (id : Nat × Bs) (cb : Bool) :
    (id.1 ∈ st.coded ∧ (isInCacheAndValid st id cb).2 = st) ∨
    (id.1 ∈ st.coded ∧ cb = false ∧
      (isInCacheAndValid st id cb).2 = { st with entries := dpop id st.entries }) ∨
    (id.1 ∉ st.coded ∧ (isInCacheAndValid st id cb).2 = { st with coded := id.1 :: st.coded }) := by
  rw [isInCacheAndValid_eq]
  split
  · rename_i hc
    split
    · exact .inl ⟨hc, rfl⟩
    · cases cb
      · exact .inr (.inl ⟨hc, rfl, rfl⟩)
      · exact .inl ⟨hc, rfl⟩
  · exact .inr (.inr ⟨‹_›, rfl⟩)

theorem iic_coded (st : St R) (id : Nat × Bs) (cb : Bool) : id.1 ∈ (isInCacheAndValid st id cb).2.coded := by
  rcases iic_state_cases st id cb with ⟨hc, h⟩ | ⟨hc, _, h⟩ | ⟨_, h⟩ <;> rw [h]
  · exact hc
  · exact hc
  · exact List.mem_cons_self

theorem iic_hit {v : R} (hc : id.1 ∈ st.coded) (hv : dget id st.entries = some v) :
    isInCacheAndValid st id true = (some v, st) := by
  simp [isInCacheAndValid_eq, hc, hv]

theorem iic_some {v : R} (h : (isInCacheAndValid st id cb).1 = some v) :
    (isInCacheAndValid st id cb).2 = st ∧ dget id st.entries = some v ∧ cb = true ∧ id.1 ∈ st.coded := by
  rw [isInCacheAndValid_eq] at h ⊢
  by_cases hc : id.1 ∈ st.coded
  · cases hd : dget id st.entries with
    | none => simp [hc, hd] at h
    | some r =>
      cases cb with
      | false => simp [hc, hd] at h
      | true => simp [hc, hd] at h ⊢; exact h
  · simp [hc] at h

theorem cachedCall_eq (hk : argsId H E fn.cal fn.ig c = .ok k) (st : St R) (cb : Bool) :
    cachedCall H E st fn c cb = .ok
      (match (isInCacheAndValid st (fn.fid, k) cb).1, bindOf fn.cal c with
       | some v, _ => (.ok (v, false), (isInCacheAndValid st (fn.fid, k) cb).2)
       | none, .error e => (.error e, (isInCacheAndValid st (fn.fid, k) cb).2)
       | none, .ok b => (.ok (fn.body b, true),
           afterCall (isInCacheAndValid st (fn.fid, k) cb).2 (fn.fid, k) (fn.effect c) (fn.body b))) := by
  simp only [cachedCall, hk, compute]
  cases (isInCacheAndValid st (fn.fid, k) cb).1 <;> cases bindOf fn.cal c <;> rfl

theorem step_call_eq (hk : argsId H E fn.cal fn.ig c = .ok k) (st : St R) (cb : Bool) :
    step ver H E st (.call fn c cb) =
      match (isInCacheAndValid st (fn.fid, k) cb).1, bindOf fn.cal c with
      | some v, _ => (.value v false, (isInCacheAndValid st (fn.fid, k) cb).2)
      | none, .error e => (.raisesBind e, (isInCacheAndValid st (fn.fid, k) cb).2)
      | none, .ok b => (.value (fn.body b) true,
          afterCall (isInCacheAndValid st (fn.fid, k) cb).2 (fn.fid, k) (fn.effect c) (fn.body b)) := by
  simp only [step, cachedCall_eq hk]
  cases (isInCacheAndValid st (fn.fid, k) cb).1 <;> cases bindOf fn.cal c <;> rfl

theorem step_shelve_eq (hk : argsId H E fn.cal fn.ig c = .ok k) (st : St R) (cb : Bool) :
    step ver H E st (.shelve fn c cb) =
      match (isInCacheAndValid st (fn.fid, k) cb).1, bindOf fn.cal c with
      | some _, _ => (.ref false, (isInCacheAndValid st (fn.fid, k) cb).2)
      | none, .error e => (.raisesBind e, (isInCacheAndValid st (fn.fid, k) cb).2)
      | none, .ok b => (.ref true,
          afterCall (isInCacheAndValid st (fn.fid, k) cb).2 (fn.fid, k) (fn.effect c) (fn.body b)) := by
  simp only [step, cachedCall_eq hk]
  cases (isInCacheAndValid st (fn.fid, k) cb).1 <;> cases bindOf fn.cal c <;> rfl

/-- A call whose key is known is served the entry, or raises what the binding raises, or runs the body and
files its result under the key. -/
theorem step_call_cases (hk : argsId H E fn.cal fn.ig c = .ok k) (st : St R) (cb : Bool) :
    (∃ v, (isInCacheAndValid st (fn.fid, k) cb).1 = some v ∧
      step ver H E st (.call fn c cb) = (.value v false, (isInCacheAndValid st (fn.fid, k) cb).2)) ∨
    (∃ e, step ver H E st (.call fn c cb) = (.raisesBind e, (isInCacheAndValid st (fn.fid, k) cb).2)) ∨
    (∃ b, bindOf fn.cal c = .ok b ∧ step ver H E st (.call fn c cb) = (.value (fn.body b) true,
      afterCall (isInCacheAndValid st (fn.fid, k) cb).2 (fn.fid, k) (fn.effect c) (fn.body b))) := by
  rw [step_call_eq hk]
  cases (isInCacheAndValid st (fn.fid, k) cb).1 <;> cases bindOf fn.cal c
  · exact .inr (.inl ⟨_, rfl⟩)
  · exact .inr (.inr ⟨_, rfl, rfl⟩)
  · exact .inl ⟨_, rfl, rfl⟩
  · exact .inl ⟨_, rfl, rfl⟩

theorem step_force_eq (hk : argsId H E fn.cal fn.ig c = .ok k) (st : St R) :
    step ver H E st (.force fn c) =
      match bindOf fn.cal c with
      | .error e => (.raisesBind e, beforeForce ver st fn.fid)
      | .ok b => (.value (fn.body b) true,
          afterCall (beforeForce ver st fn.fid) (fn.fid, k) (fn.effect c) (fn.body b)) := by
  simp only [step, hk, compute]
  cases bindOf fn.cal c <;> rfl

theorem step_get_eq (hk : argsId H E fn.cal fn.ig c = .ok k) (st : St R) :
    step ver H E st (.get fn c) =
      (match dget (fn.fid, k) st.entries with | some v => .value v false | none => .keyError, st) := by
  simp only [step, hk]
  cases dget (fn.fid, k) st.entries <;> rfl

theorem step_filterErr {e : Err} (hop : op.callOf = some (fn, c)) (he : argsId H E fn.cal fn.ig c = .error e)
    (st : St R) : step ver H E st op = (.raisesFilter e, st) := by
  cases op <;> cases hop <;> simp only [step, cachedCall, he]

/-- `check_call_in_cache` and the hit test of a call are the same predicate on the same state. -/
theorem step_check_eq (hk : argsId H E fn.cal fn.ig c = .ok k) (st : St R) (cb : Bool) :
    step ver H E st (.check fn c cb) =
      (.flag (isInCacheAndValid st (fn.fid, k) cb).1.isSome, (isInCacheAndValid st (fn.fid, k) cb).2) := by
  simp only [step, hk]

theorem step_induction {P : St R → Prop} (hP : ∀ s s', Change ver H E op s s' → P s → P s') (h : P st) :
    P (step ver H E st op).2 := by
  have look : ∀ {fn c k} (cb : Bool), argsId H E fn.cal fn.ig c = .ok k →
      (cb = false → op = .call fn c false ∨ op = .shelve fn c false ∨ op = .check fn c false) →
      P (isInCacheAndValid st (fn.fid, k) cb).2 := by
    intro fn c k cb hk hcb
    rcases iic_state_cases st (fn.fid, k) cb with ⟨_, e⟩ | ⟨_, hf, e⟩ | ⟨_, e⟩ <;> rw [e]
    · exact h
    · exact hP _ _ (.drop _ (hcb hf) hk) h
    · exact hP _ _ (.code _ _) h
  cases op with
  | call fn c cb | shelve fn c cb =>
    cases hk : argsId H E fn.cal fn.ig c with
    | error e => rw [step_filterErr rfl hk]; exact h
    | ok k =>
      have h1 := look cb hk (by rintro rfl; simp)
      simp only [step_call_eq hk, step_shelve_eq hk]
      cases (isInCacheAndValid st (fn.fid, k) cb).1 <;> cases hb : bindOf fn.cal c <;> dsimp only
      · exact h1
      · exact hP _ _ (.store _ rfl hk hb fun _ => iic_coded st (fn.fid, k) cb) h1
      · exact h1
      · exact h1
  | get fn c =>
    cases hk : argsId H E fn.cal fn.ig c with
    | error e => rw [step_filterErr rfl hk]; exact h
    | ok k => rw [step_get_eq hk]; exact h
  | force fn c =>
    cases hk : argsId H E fn.cal fn.ig c with
    | error e => rw [step_filterErr rfl hk]; exact h
    | ok k =>
      have hb : P (beforeForce ver st fn.fid) ∧ (ver = .fixed → fn.fid ∈ (beforeForce ver st fn.fid).coded) := by
        cases ver
        · exact ⟨h, fun e => nomatch e⟩
        · simp only [beforeForce, checkCode]
          split
          · exact ⟨h, fun _ => ‹_›⟩
          · exact ⟨hP _ _ (.code _ _) h, fun _ => List.mem_cons_self⟩
      rw [step_force_eq hk]
      cases hbind : bindOf fn.cal c with
      | error e => exact hb.1
      | ok b => exact hP _ _ (.store _ rfl hk hbind hb.2) hb.1
  | check fn c cb =>
    cases hk : argsId H E fn.cal fn.ig c with
    | error e => rw [step_filterErr rfl hk]; exact h
    | ok k => rw [step_check_eq hk]; exact look cb hk (by rintro rfl; simp)
  | clearFn fn => exact hP _ _ (.clearFn fn st) h
  | clearAll => exact hP _ _ (.clearAll st) h
  | evict ids => exact hP _ _ (.evict ids st) h
  | fresh => exact h

theorem exec_induction {P : St R → Prop} : ∀ {ops : List (Op R)} {st : St R},
    (∀ op ∈ ops, ∀ s s', Change ver H E op s s' → P s → P s') → P st → P (exec ver H E st ops)
  | [], _, _, h => h
  | op :: ops, _, hP, h =>
    exec_induction (ops := ops) (fun o ho => hP o (List.mem_cons_of_mem _ ho))
      (step_induction (hP op List.mem_cons_self) h)

theorem step_value {v : R} {x : Bool} (hop : op.callOf = some (fn, c))
    (ho : (step ver H E st op).1 = .value v x) :
    ∃ k, argsId H E fn.cal fn.ig c = .ok k ∧
      (dget (fn.fid, k) st.entries = some v ∨ ∃ b, bindOf fn.cal c = .ok b ∧ v = fn.body b) := by
  cases hk : argsId H E fn.cal fn.ig c with
  | error e => rw [step_filterErr hop hk] at ho; cases ho
  | ok k =>
    refine ⟨k, rfl, ?_⟩
    cases op with
    | call _ _ cb =>
      cases hop
      rcases step_call_cases hk st cb with ⟨w, hi, e⟩ | ⟨_, e⟩ | ⟨b, hb, e⟩ <;> rw [e] at ho <;> cases ho
      · exact .inl (iic_some hi).2.1
      · exact .inr ⟨b, hb, rfl⟩
    | shelve _ _ cb =>
      cases hop
      rw [step_shelve_eq hk] at ho
      split at ho <;> cases ho
    | get =>
      cases hop
      rw [step_get_eq hk] at ho
      cases hd : dget (fn.fid, k) st.entries <;> simp only [hd, Out.value.injEq, reduceCtorEq] at ho
      exact .inl (ho.1 ▸ rfl)
    | force =>
      cases hop
      rw [step_force_eq hk] at ho
      cases hb : bindOf fn.cal c <;> simp only [hb, Out.value.injEq, reduceCtorEq] at ho
      exact .inr ⟨_, rfl, ho.1.symm⟩
    | check => cases hop; rw [step_check_eq hk] at ho; cases ho
    | clearFn | clearAll | evict | fresh => cases hop

theorem storeOK_change (hu : UnivOK H E U) (hop : ∀ p, op.callOf = some p → p ∈ U) {s s' : St R}
    (hc : Change ver H E op s s') (h : StoreOK H E U s.entries) : StoreOK H E U s'.entries := by
  cases hc with
  | code => exact h
  | drop => exact storeOK_dpop h _
  | store _ hcall hk hb =>
    obtain ⟨d, hd, rfl⟩ := argDict_of_argsId hk
    exact storeOK_dset hu h (hop _ hcall) hd hb
  | clearFn fn => exact storeOK_filter h fun k => decide (k.1 ≠ fn.fid)
  | clearAll => exact storeOK_nil H E U
  | evict ids => exact storeOK_evictAll ids h

theorem step_spec (hu : UnivOK H E U) (h : StoreOK H E U st.entries) (op : Op R)
    (hop : ∀ p, op.callOf = some p → p ∈ U) :
    StoreOK H E U (step ver H E st op).2.entries ∧ Correct op (step ver H E st op).1 := by
  refine ⟨step_induction (P := fun s => StoreOK H E U s.entries) (fun _ _ => storeOK_change hu hop) h, ?_⟩
  have key : ∀ fn c, op.callOf = some (fn, c) → ∀ b v x, bindOf fn.cal c = .ok b →
      (step ver H E st op).1 = .value v x → v = fn.body b := by
    intro fn c hcall b v x hb ho
    obtain ⟨k, hk, hv | ⟨b', hb', rfl⟩⟩ := step_value hcall ho
    · obtain ⟨d, hd, rfl⟩ := argDict_of_argsId hk
      exact h.2 _ v hv (fn, c) (hop _ hcall) rfl d b hd rfl hb
    · rw [hb] at hb'; cases hb'; rfl
  cases op <;> first | trivial | exact key _ _ rfl

/-- The operation does not evict, clear or invalidate the entry `id`. -/
def Untouched (H : Bs → Bs) (E : Env) (id : Nat × Bs) : Op R → Prop
  | .call fn c cb => cb = true ∨ argsId H E fn.cal fn.ig c ≠ .ok id.2 ∨ fn.fid ≠ id.1
  | .shelve fn c cb => cb = true ∨ argsId H E fn.cal fn.ig c ≠ .ok id.2 ∨ fn.fid ≠ id.1
  | .check fn c cb => cb = true ∨ argsId H E fn.cal fn.ig c ≠ .ok id.2 ∨ fn.fid ≠ id.1
  | .get _ _ => True
  | .force _ _ => True
  | .fresh => True
  | .clearFn fn => fn.fid ≠ id.1
  | .clearAll => False
  | .evict ids => id ∉ ids

/-- The entry is in the cache directory, beside its function's `func_code.py`.  Presence only, not the value: a forced
call, or a call that runs again, with the same key REPLACES the value, which is why `Untouched` lets them pass and the hit
theorems say `∃ v'`. -/
def Present (id : Nat × Bs) (st : St R) : Prop := id.1 ∈ st.coded ∧ (dget id st.entries).isSome

theorem present_evictAll : ∀ (ids : List (Nat × Bs)) {st : Store R} {id : Nat × Bs},
    (dget id st).isSome → id ∉ ids → (dget id (evictAll st ids)).isSome
  | [], _, _, h, _ => h
  | x :: r, st, id, h, hn => by
    have hx : id ≠ x := fun e => hn (e ▸ List.mem_cons_self)
    refine present_evictAll r ?_ fun hm => hn (List.mem_cons_of_mem _ hm)
    rw [dget_dpop_ne hx]; exact h

theorem present_change (hu : Untouched H E id op) {s s' : St R} (hc : Change ver H E op s s')
    (h : Present id s) : Present id s' := by
  cases hc with
  | code => exact ⟨List.mem_cons_of_mem _ h.1, h.2⟩
  | @drop _ fn c k _ hop hk =>
    have hne : id ≠ (fn.fid, k) := by
      rintro rfl
      rcases hop with rfl | rfl | rfl <;> rcases hu with hu | hu | hu <;>
        first | cases hu | exact hu hk | exact hu rfl
    exact ⟨h.1, by show (dget id (dpop _ _)).isSome; rw [dget_dpop_ne hne]; exact h.2⟩
  | @store _ fn c k =>
    refine ⟨h.1, ?_⟩
    rw [afterCall_entries]
    by_cases e : id = (fn.fid, k)
    · rw [e, dget_dset_self]; rfl
    · rw [dget_dset_ne e]; exact h.2
  | clearFn fn =>
    refine ⟨by split; exact h.1; exact List.mem_cons_of_mem _ h.1, ?_⟩
    show (dget id (s.entries.filter fun e => decide (e.1.1 ≠ fn.fid))).isSome
    rw [dget_filter_key (fun k : Nat × Bs => decide (k.1 ≠ fn.fid)) id s.entries,
      if_pos (decide_eq_true (p := id.1 ≠ fn.fid) fun e => hu e.symm)]
    exact h.2
  | clearAll => exact hu.elim
  | evict ids => exact ⟨h.1, present_evictAll ids h.2 hu⟩

theorem present_exec (ops : List (Op R)) (h : Present id st) (hu : ∀ op ∈ ops, Untouched H E id op) :
    Present id (exec ver H E st ops) :=
  exec_induction (fun op hop _ _ => present_change (hu op hop)) h

theorem present_of_stored {s : St R} (h : id.1 ∈ s.coded) (c : Call) (v : R) : Present id (afterCall s id c v) :=
  ⟨h, by rw [afterCall_entries, dget_dset_self]; rfl⟩

theorem present_after_call {v : R} {x : Bool} (hk : argsId H E fn.cal fn.ig c = .ok k)
    (ho : (step ver H E st (.call fn c cb)).1 = .value v x) :
    Present (fn.fid, k) (step ver H E st (.call fn c cb)).2 := by
  rcases step_call_cases hk st cb with ⟨w, hi, e⟩ | ⟨_, e⟩ | ⟨b, _, e⟩ <;> rw [e] at ho ⊢
  · obtain ⟨h1, h2, _, h4⟩ := iic_some hi
    rw [h1]; exact ⟨h4, by rw [h2]; rfl⟩
  · cases ho
  · exact present_of_stored (iic_coded st (fn.fid, k) cb) (fn.effect c) (fn.body b)

theorem present_after_force {v : R} {x : Bool} (hk : argsId H E fn.cal fn.ig c = .ok k)
    (ho : (step .fixed H E st (.force fn c)).1 = .value v x) :
    Present (fn.fid, k) (step .fixed H E st (.force fn c)).2 := by
  rw [step_force_eq hk] at ho ⊢
  cases hb : bindOf fn.cal c <;> simp only [hb, reduceCtorEq] at ho ⊢
  exact present_of_stored (checkCode_coded_self st fn.fid) _ _

/-- A call whose entry is present (and is not invalidated by the validation callback) is served
from it: the function is not executed and the cache directory is unchanged. -/
theorem call_hit {v : R} (hk : argsId H E fn.cal fn.ig c = .ok k) (hc : fn.fid ∈ st.coded)
    (hv : dget (fn.fid, k) st.entries = some v) :
    step ver H E st (.call fn c true) = (.value v false, st) := by
  rw [step_call_eq hk, iic_hit (id := (fn.fid, k)) hc hv]

theorem served_of_present (hk : argsId H E fn.cal fn.ig c = .ok k) (hp : Present (fn.fid, k) st) :
    ∃ v', step ver H E st (.call fn c true) = (.value v' false, st) ∧
      step ver H E st (.check fn c true) = (.flag true, st) := by
  cases hv : dget (fn.fid, k) st.entries with
  | none => have := hp.2; rw [hv] at this; cases this
  | some v' =>
    refine ⟨v', call_hit hk hp.1 hv, ?_⟩
    rw [step_check_eq hk, iic_hit (id := (fn.fid, k)) hp.1 hv]; rfl

theorem call_returns {b : List (Nat × Val)} (hk : argsId H E fn.cal fn.ig c = .ok k)
    (hb : bindOf fn.cal c = .ok b) : ∃ v x, (step ver H E st (.call fn c cb)).1 = .value v x := by
  rw [step_call_eq hk, hb]
  cases (isInCacheAndValid st (fn.fid, k) cb).1 <;> exact ⟨_, _, rfl⟩

theorem call_not_hit (hk : argsId H E fn.cal fn.ig c = .ok k)
    (hn : (isInCacheAndValid st (fn.fid, k) cb).1 = none) (v : R) :
    (step ver H E st (.call fn c cb)).1 ≠ .value v false := by
  rw [step_call_eq hk, hn]
  cases bindOf fn.cal c <;> simp

/-- Every entry lies in a directory that has its `func_code.py` (true of every state the repaired
code reaches: `entriesCoded_exec`). -/
def EntriesCoded (st : St R) : Prop := ∀ id ∈ st.entries.map Prod.fst, id.1 ∈ st.coded

theorem iic_none_again (hec : EntriesCoded st) (h : (isInCacheAndValid st id cb).1 = none) :
    (isInCacheAndValid (isInCacheAndValid st id cb).2 id cb).1 = none := by
  by_cases hc : id.1 ∈ st.coded
  · -- the code was there: the second test sees the same directory, or one without the entry
    cases hd : dget id st.entries with
    | none => simp [isInCacheAndValid_eq, hc, hd]
    | some r =>
      cases cb with
      | true => simp [isInCacheAndValid_eq, hc, hd] at h
      | false =>
        simp only [isInCacheAndValid_eq, hc, hd, if_true, Bool.false_eq_true, if_false]
        split <;> rfl
  · -- the code was missing: by `EntriesCoded` the directory has no entry
    have hn : dget id st.entries = none := by
      cases hd : dget id st.entries with
      | none => rfl
      | some r =>
        exact absurd (hec id ((dget_isSome_iff id st.entries).mp (by rw [hd]; rfl))) hc
    simp [isInCacheAndValid_eq, hc, hn]

theorem entriesCoded_empty : EntriesCoded (St.empty : St R) := by
  intro id h; simp [St.empty] at h

theorem evictAll_sublist : ∀ (ids : List (Nat × Bs)) (st : Store R), (evictAll st ids).Sublist st
  | [], _ => List.Sublist.refl _
  | id :: r, st => (evictAll_sublist r _).trans (dpop_sublist id st)

theorem entriesCoded_change {s s' : St R} (hc : Change .fixed H E op s s') (h : EntriesCoded s) :
    EntriesCoded s' := by
  intro i hi
  cases hc with
  | code => exact List.mem_cons_of_mem _ (h i hi)
  | drop => exact h i (((dpop_sublist _ _).map _).subset hi)
  | store _ _ _ _ hcoded =>
    rcases mem_keys_dset hi with hi | rfl
    · exact h i hi
    · exact hcoded rfl
  | clearFn fn =>
    have := h i ((List.filter_sublist.map _).subset hi)
    show i.1 ∈ if _ then _ else _
    split
    · exact this
    · exact List.mem_cons_of_mem _ this
  | clearAll => cases hi
  | evict ids => exact h i (((evictAll_sublist ids _).map _).subset hi)

theorem entriesCoded_exec (ops : List (Op R)) (st : St R) (h : EntriesCoded st) :
    EntriesCoded (exec .fixed H E st ops) :=
  exec_induction (fun _ _ _ _ => entriesCoded_change) h

/-- A key of the store after a change was a key before, or is the key — function id, and args id computed
from the ARGUMENTS AS PASSED — of the call the operation makes, whatever the function does to its arguments
(`fn.effect` is arbitrary). -/
theorem mem_keys_change {s s' : St R} (hc : Change ver H E op s s') (h : id ∈ s'.entries.map Prod.fst) :
    id ∈ s.entries.map Prod.fst ∨
      ∃ fn c, op.callOf = some (fn, c) ∧ id.1 = fn.fid ∧ argsId H E fn.cal fn.ig c = .ok id.2 := by
  cases hc with
  | code => exact .inl h
  | drop => exact .inl (((dpop_sublist _ _).map _).subset h)
  | store _ hop hk =>
    rcases mem_keys_dset h with h | rfl
    · exact .inl h
    · exact .inr ⟨_, _, hop, rfl, hk⟩
  | clearFn fn => exact .inl ((List.filter_sublist.map _).subset h)
  | clearAll => cases h
  | evict ids => exact .inl (((evictAll_sublist ids _).map _).subset h)

end step

theorem respects_canonBody (E : Env) (fid : Nat) (s : Sig) (ig : List Key) (eff : Call → Call) :
    Respects E ⟨fid, .func s, ig, canonBody E s ig, eff⟩ :=
  fun _ _ _ _ _ _ h => canonBody_agree h

/-- values: id `i` ↦ the int `i`, except 7 ↦ `{'x': 1, 'y': [2.0]}` and 8 ↦ the same dict built in
the other insertion order; identifiers: id `n` ↦ the letter `chr(97 + n)`. -/
def envEx : Env where
  val := fun i =>
    if i = 7 then .dict [(.str [120], .int 1), (.str [121], .list [.float 0x4000000000000000])]
    else if i = 8 then .dict [(.str [121], .list [.float 0x4000000000000000]), (.str [120], .int 1)]
    else .int i
  name := fun n => [97 + n]

/-- `def f(a, b=5, *args, **kw)` cached with `ignore=['b']`; it returns its bound arguments (as passed),
and it MUTATES a positional dict argument in place (`a['x'] = a.pop('x')`: value 7 becomes value 8, the
same items in the other insertion order). -/
def sigEx : Sig := [⟨0, .posKw, none⟩, ⟨1, .posKw, some 5⟩, ⟨2, .varPos, none⟩, ⟨3, .varKw, none⟩]
def fnEx : Fn (List (Nat × PyVal)) :=
  ⟨0, .func sigEx, [.name 1], canonBody envEx sigEx [.name 1],
    fun c => ⟨c.args.map fun v => if v = 7 then 8 else v, c.kwargs⟩⟩

/-- a digest function that is NOT injective (it keeps 30 bytes) but has no collision among the keys
of `histEx` -/
def hEx : Bs → Bs := fun s => (s.drop 40).take 30

/-- `f(7)`, `f(8, 2)` (a hit: same dict in another order, `b` ignored), `f(a=7, b=9)` shelved and
fetched, `f(1, 2, 3, z=4)` checked, an eviction, a clear, a call again, a fresh process. -/
def histEx : List (Op (List (Nat × PyVal))) :=
  [.call fnEx ⟨[7], []⟩ true, .call fnEx ⟨[8, 2], []⟩ true, .shelve fnEx ⟨[], [(0, 7), (1, 9)]⟩ true,
   .get fnEx ⟨[], [(0, 7), (1, 9)]⟩, .check fnEx ⟨[1, 2, 3], [(25, 4)]⟩ true,
   .call fnEx ⟨[1, 2, 3], [(25, 4)]⟩ false, .clearFn fnEx, .fresh, .call fnEx ⟨[7], []⟩ true, .clearAll]

/-- The hypotheses of the history theorems hold for `histEx`. -/
theorem univOK_histEx : UnivOK hEx envEx (callsOf histEx) := by
  have hfn : ∀ p ∈ callsOf histEx, p.1 = fnEx := fun p hp =>
    List.eq_of_mem_replicate (n := 7) (List.mem_map_of_mem (f := Prod.fst) hp)
  have hh : ∀ p ∈ callsOf histEx, ∀ d ∈ (argDict p.1.cal p.1.ig p.2).toOption,
      Hashable hEx (embed envEx d) := by decide +kernel
  exact {
    names := ⟨fun m n h => by simp [envEx] at h; exact h, fun n h => by simp [envEx] at h; omega,
      fun n h => by simp [envEx] at h⟩
    cal := fun p hp => by rw [hfn p hp]; exact .funcLike (.func (by decide))
    respects := fun p hp => by rw [hfn p hp]; exact respects_canonBody envEx 0 sigEx [.name 1] _
    fids := fun p hp q hq _ => by rw [hfn p hp, hfn q hq]
    calls := by decide +kernel
    hashable := fun p hp d hd => hh p hp d (by rw [hd]; rfl)
    noCollision := by unfold NoCollisionOn; decide +kernel }

theorem hEx_not_injective : hEx [1] = hEx [2] ∧ ([1] : Bs) ≠ [2] := by decide

def Fn.withEffect (fn : Fn R) (e : Call → Call) : Fn R := { fn with effect := e }

def Op.withEffects (e : Fn R → Call → Call) : Op R → Op R
  | .call fn c cb => .call (fn.withEffect (e fn)) c cb
  | .shelve fn c cb => .shelve (fn.withEffect (e fn)) c cb
  | .get fn c => .get (fn.withEffect (e fn)) c
  | .force fn c => .force (fn.withEffect (e fn)) c
  | .check fn c cb => .check (fn.withEffect (e fn)) c cb
  | .clearFn fn => .clearFn (fn.withEffect (e fn))
  | .clearAll => .clearAll
  | .evict ids => .evict ids
  | .fresh => .fresh

/-- `step` only hands `fn.effect c` to `afterCall`, which does not look at it. -/
theorem step_withEffects (ver : Version) (H : Bs → Bs) (E : Env) (st : St R) (e : Fn R → Call → Call)
    (op : Op R) : step ver H E st (op.withEffects e) = step ver H E st op := by
  cases op <;> rfl

/-- values: 0 ↦ `[3, 1, 2]`, 1 ↦ `[1, 2, 3]`, every other id `i` ↦ the int `i`; identifiers as `envEx`. -/
def envMut : Env where
  val := fun i =>
    if i = 0 then .list [.int 3, .int 1, .int 2] else if i = 1 then .list [.int 1, .int 2, .int 3] else .int i
  name := fun n => [97 + n]

/-- `def f(a): r = list(a); a.sort(); return r` — returns its argument AS PASSED and sorts it IN PLACE:
called with `[3, 1, 2]` (value 0) it leaves `[1, 2, 3]` (value 1) in the caller's list. -/
def fnSort : Fn (List (Nat × Val)) :=
  ⟨0, .func [⟨0, .posKw, none⟩], [], fun b => b,
    fun c => ⟨c.args.map fun v => if v = 0 then 1 else v, c.kwargs.map fun kv => (kv.1, if kv.2 = 0 then 1 else kv.2)⟩⟩

/-- an injective digest -/
def hId : Bs → Bs := fun s => s

/-- Dict arguments whose KEYS are only partially ordered (`(1, frozenset)` tuples: `<` on frozensets is set
inclusion): value 0 = `{(1, {1,2}): 'a', (1, {2,3}): 'b', (1, {3}): 'c'}`, value 1 = the SAME dict built in
the reverse insertion order (its frozensets listed in another iteration order as well), value 2 = a
different dict (two values swapped). -/
def envPO : Env where
  val := fun i =>
    if i = 0 then .dict [(.tuple [.int 1, .frozenset [.int 1, .int 2]], .str [97]),
        (.tuple [.int 1, .frozenset [.int 2, .int 3]], .str [98]), (.tuple [.int 1, .frozenset [.int 3]], .str [99])]
    else if i = 1 then .dict [(.tuple [.int 1, .frozenset [.int 3]], .str [99]),
        (.tuple [.int 1, .frozenset [.int 3, .int 2]], .str [98]), (.tuple [.int 1, .frozenset [.int 2, .int 1]], .str [97])]
    else if i = 2 then .dict [(.tuple [.int 1, .frozenset [.int 1, .int 2]], .str [98]),
        (.tuple [.int 1, .frozenset [.int 2, .int 3]], .str [97]), (.tuple [.int 1, .frozenset [.int 3]], .str [99])]
    else .int i
  name := fun n => [97 + n]

/-- one parameter, returns its bound arguments, leaves them alone -/
def fnOne : Fn (List (Nat × Val)) := ⟨0, .func [⟨0, .posKw, none⟩], [], fun b => b, fun c => c⟩

end JoblibModel.MemoryCache
