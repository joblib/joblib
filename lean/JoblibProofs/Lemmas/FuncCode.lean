import JoblibModel.FuncCode
import JoblibProofs.Lemmas.PyDict
/-! Specification predicates and lemmas for C12 (`JoblibModel.FuncCode`).

Contents: the predicates the theorems of C12 are stated with (`Correct`, `NoDelete`, `Canonical`, `QuietAt`, …);
the invariant of the repaired code, `Inv`: `CellInv` of every directory's CELL — what the directory holds
(`func_code.py`, the entries) together with the writer slot of that directory — plus, for every wrapper, "its
cached source belongs to the code object recorded with it" (`InfoOK`, the F38 half) and "its writer key is the
slot of its directory"; `_check_previous_func_code` by its four outcomes
(`checkPrevious_cases`) and what it establishes (`checkPrevious_spec`); one step and whole histories
(`step_spec`, `exec_spec`); the frame (`step_frame`: a step leaves the directories it does not work on alone);
`Intact`; and unchanged code keeping its cache (`quiet_step`, `quiet_hit`, `cache_kept`).
The per-step theorems (`step_spec`, `step_frame`, `intact_step`, `quiet_step`) split `step` by operation: one through a
live wrapper by `step_call` / `step_check` / `step_clearFn`, the others (and "wrapper not alive") by unfolding `step`. A new
`Op` is a case in each of the four, a clause of `QuietAt` (the other predicates end in `| _ => True`) and a case of
`stepF_faulty_cases`. `cell_clearWrite(_ne)` have no user. -/
namespace JoblibModel.FuncCode
open JoblibModel.FilterArgs

variable {R : Type}


theorem ddel_eq_filter {ν : Type} (k : Nat) : ∀ d : List (Nat × ν), ddel k d = d.filter fun e => decide (e.1 ≠ k)
  | [] => rfl
  | (k', v) :: r => by by_cases h : k' = k <;> simp [ddel, h, ddel_eq_filter k r]

theorem dget_ddel_self {ν : Type} (k : Nat) (d : List (Nat × ν)) : dget k (ddel k d) = none := by
  rw [ddel_eq_filter, dget_filter_key fun q => decide (q ≠ k)]; simp

theorem dget_ddel_ne {ν : Type} {k k' : Nat} (h : k' ≠ k) (d : List (Nat × ν)) :
    dget k' (ddel k d) = dget k' d := by
  rw [ddel_eq_filter, dget_filter_key fun q => decide (q ≠ k)]; simp [h]

/-- What the property demands of one step: a call through a live wrapper whose function's CURRENT
code object has source `k` returns the value the code `k` computes on that argument (whether
served from the cache or executed), at whatever location the wrapper caches. -/
def Correct (sem : Src → Nat → R) (st : State R) : Op → Out R → Prop
  | .call w a, out =>
    match lookup st w with
    | some t => out = .value (sem t.cur.2 a) false ∨ out = .value (sem t.cur.2 a) true
    | none => out = .notLive
  | _, _ => True

def AllCorrect (cfg : Cfg) (sem : Src → Nat → R) : State R → List Op → Prop
  | _, [] => True
  | st, op :: ops =>
    Correct sem st op (step cfg sem st op).1 ∧ AllCorrect cfg sem (step cfg sem st op).2 ops

/-- The step does not DELETE a `func_code.py` (truncations are allowed). -/
def NoDelete : Op → Prop
  | .damage _ .delete => False
  | _ => True

/-- Every `Memory` object addresses its directory under the directory's one canonical spelling
(`Memory(d)` and `Memory(d + "/.")` are not both used): the writer key of a new wrapper is the slot
of its directory. -/
def Canonical : Op → Prop
  | .wrap _ _ key dir => key = dir
  | _ => True

/-- The same for any version of the code: the writer key of a new wrapper is the slot of its
directory (always so once the key is the resolved directory). The lemmas take `KeyOK`; C12 states `Canonical` (no `cfg`)
and converts with `keyOK_of_good`. -/
def KeyOK (cfg : Cfg) : Op → Prop
  | .wrap _ _ key dir => wkey cfg key dir = dir
  | _ => True

/-- The step does not touch `func_code.py` of directory `d` from outside. -/
def NoDamageAt (d : Loc) : Op → Prop
  | .damage d' _ => d' ≠ d
  | _ => True

/-- An operation that clears or damages nothing AT DIRECTORY `d` and mentions no other source text
than `k` (other directories may be cleared with `Memory.clear()`, their `func_code.py` truncated, at
will). A new wrapper addresses its directory under the canonical spelling (`Canonical`, F46). `MemorizedFunc.clear`
is excluded through every wrapper: the predicate does not see the state, so it cannot tell the wrapper's directory. -/
def QuietAt (k : Src) (d : Loc) : Op → Prop
  | .define _ k' _ _ => k' = k
  | .wrap _ _ key dir => key = dir
  | .swap _ c => c.2 = k
  | .call _ _ => True
  | .check _ _ => True
  | .fresh => True
  | .clearFn _ => False
  | .clearAll d' => d' ≠ d
  | .damage d' dm => d' ≠ d ∧ dm ≠ .delete

instance (op : Op) : Decidable (NoDelete op) := by
  cases op <;> simp only [NoDelete] <;> try exact inferInstance
  rename_i d; cases d <;> exact inferInstance

instance (op : Op) : Decidable (Canonical op) := by
  cases op <;> simp only [Canonical] <;> exact inferInstance

instance (cfg : Cfg) (op : Op) : Decidable (KeyOK cfg op) := by
  cases op <;> simp only [KeyOK] <;> exact inferInstance

instance (d : Loc) (op : Op) : Decidable (NoDamageAt d op) := by
  cases op <;> simp only [NoDamageAt] <;> exact inferInstance

instance (k : Src) (d : Loc) (op : Op) : Decidable (QuietAt k d op) := by
  cases op <;> simp only [QuietAt] <;> exact inferInstance

instance [DecidableEq R] (sem : Src → Nat → R) (st : State R) (op : Op) (out : Out R) :
    Decidable (Correct sem st op out) := by
  cases op <;> simp only [Correct] <;> try exact inferInstance
  split <;> exact inferInstance

instance instDecidableAllCorrect [DecidableEq R] (cfg : Cfg) (sem : Src → Nat → R) :
    ∀ (st : State R) (ops : List Op), Decidable (AllCorrect cfg sem st ops)
  | _, [] => isTrue trivial
  | st, op :: ops =>
    have := instDecidableAllCorrect cfg sem (step cfg sem st op).2 ops
    show Decidable (_ ∧ _) from inferInstance

/-- The versions of the code the theorems are about: F10 and F38 repaired, the writer key names the
location. -/
structure Good (cfg : Cfg) : Prop where
  wc : cfg.writerCheck = true
  iu : cfg.infoIdUpdate = true
  kl : cfg.writerKeyHasLocation = true

theorem good_fixed : Good Cfg.fixed := ⟨rfl, rfl, rfl⟩
theorem good_resolved : Good Cfg.resolved := ⟨rfl, rfl, rfl⟩

theorem wkey_self {cfg : Cfg} (hg : Good cfg) (l : Loc) : wkey cfg l l = l := by
  simp [wkey, hg.kl]

theorem keyOK_of_good {cfg : Cfg} (hg : Good cfg) {op : Op} (h : Canonical op) : KeyOK cfg op := by
  cases op with
  | wrap w o key dir => exact h ▸ wkey_self hg _
  | _ => trivial

theorem keyOK_resolved (op : Op) : KeyOK Cfg.resolved op := by
  cases op <;> simp [KeyOK, wkey, Cfg.resolved]


/-- What directory `d` holds, and the writer recorded for it. -/
structure Cell (R : Type) where
  code : CodeFile
  entries : List (Nat × R)
  writer : Option (Obj × CodeId)

def cell (st : State R) (d : Loc) : Cell R :=
  ⟨(dirAt st d).code, (dirAt st d).entries, dget d st.writers⟩

theorem dirAt_set {st st' : State R} {d : Loc} {x : Dir R} (h : st'.disk = dset d x st.disk) :
    dirAt st' d = x := by
  unfold dirAt; rw [h, dget_dset_self]; rfl

theorem dirAt_set_ne {st st' : State R} {d d' : Loc} {x : Dir R} (h : st'.disk = dset d x st.disk)
    (hne : d' ≠ d) : dirAt st' d' = dirAt st d' := by
  unfold dirAt; rw [h, dget_dset_ne hne]

/-- * no `func_code.py` ⇒ no entry in the function's directory, no recorded writer;
* every entry holds the value the STORED source computes, and the value the recorded writer's code
  computes; the two agree. -/
structure CellInv (sem : Src → Nat → R) (c : Cell R) : Prop where
  missing : c.code = .missing → c.entries = [] ∧ c.writer = none
  stored : ∀ s, c.code = .ok s → ∀ a r, dget a c.entries = some r → r = sem s a
  writer : ∀ o k, c.writer = some (o, k) → ∀ a r, dget a c.entries = some r → r = sem k.2 a
  agree : ∀ s o k, c.code = .ok s → c.writer = some (o, k) → k.2 = s

/-- A wrapper's cached source belongs to the code object recorded with it. -/
def InfoOK (ic : InfoCache) : Prop :=
  (ic.1 = none → ic.2 = none) ∧ ∀ c s, ic.1 = some c → ic.2 = some s → s = c.2

/-- The invariant of the repaired code, per location: every directory's cell has `CellInv`; every
wrapper's cached source is the source of the code object recorded with it, and its writer key is
the slot of its directory. Nothing about `table` (`_FUNCTION_HASHES`): with `writerCheck` the writer slot alone
justifies the shortcut (`shortcut_post`); `table` only decides how often it is taken. -/
structure Inv (cfg : Cfg) (sem : Src → Nat → R) (st : State R) : Prop where
  dirs : ∀ d, CellInv sem (cell st d)
  wraps : ∀ w W, dget w st.wraps = some W → InfoOK W.ic ∧ wkey cfg W.key W.dir = W.dir

/-- The two facts about a resolved wrapper the proofs use. -/
def TOK (cfg : Cfg) (t : Target) : Prop := InfoOK t.ic ∧ wkey cfg t.key t.dir = t.dir

variable {cfg : Cfg} {sem : Src → Nat → R} {st : State R} {t : Target}

def WrapsOK (cfg : Cfg) (ws : List (Nat × Wrapper)) : Prop :=
  ∀ w W, dget w ws = some W → InfoOK W.ic ∧ wkey cfg W.key W.dir = W.dir

theorem cellInv_empty (sem : Src → Nat → R) : CellInv sem (⟨.missing, [], none⟩ : Cell R) :=
  ⟨fun _ => ⟨rfl, rfl⟩, fun _ => nofun, fun _ _ => nofun, fun _ _ _ => nofun⟩

theorem CellInv.dropWriter {c : Cell R} (h : CellInv sem c) :
    CellInv sem ⟨c.code, c.entries, none⟩ :=
  ⟨fun hm => ⟨(h.missing hm).1, rfl⟩, h.stored, fun _ _ => nofun, fun _ _ _ _ => nofun⟩

theorem inv_init (cfg : Cfg) (sem : Src → Nat → R) : Inv cfg sem (init : State R) :=
  ⟨fun _ => cellInv_empty sem, fun _ _ => nofun⟩

theorem infoOK_none : InfoOK (none, none) := ⟨fun _ => rfl, fun _ _ => nofun⟩

/-- The repaired `func_code_info` returns the source of the CURRENT code object. -/
theorem funcCodeInfo_fixed (hiu : cfg.infoIdUpdate = true) {cur : CodeId} {ic : InfoCache}
    (h : InfoOK ic) :
    (funcCodeInfo cfg cur ic).1 = cur.2 ∧ InfoOK (funcCodeInfo cfg cur ic).2 := by
  obtain ⟨_ | c0, i2⟩ := ic
  · cases h.1 rfl
    simp [funcCodeInfo, InfoOK]
  · by_cases e : c0 = cur
    · subst e
      cases i2 with
      | none => simp [funcCodeInfo, InfoOK]
      | some s => cases h.2 c0 s rfl rfl; simp [funcCodeInfo, InfoOK]
    · simp [funcCodeInfo, e, hiu, InfoOK]

theorem WrapsOK.dset {ws : List (Nat × Wrapper)} (hw : WrapsOK cfg ws) (w : Nat)
    {W : Wrapper} (hW : InfoOK W.ic ∧ wkey cfg W.key W.dir = W.dir) : WrapsOK cfg (dset w W ws) := by
  intro w' W' h
  rcases dget_dset_cases h with ⟨_, rfl⟩ | ⟨_, h⟩
  · exact hW
  · exact hw w' W' h

/-- After the code check the directory belongs to the current code object's source. -/
structure Post (sem : Src → Nat → R) (c : Cell R) (cur : CodeId) : Prop where
  vals : ∀ a r, dget a c.entries = some r → r = sem cur.2 a
  code : ∀ s, c.code = .ok s → s = cur.2
  wr : ∀ o k, c.writer = some (o, k) → k.2 = cur.2
  present : c.code ≠ .missing

theorem CellInv.post {c : Cell R} (h : CellInv sem c) {cur : CodeId}
    (hc : c.code = .ok cur.2) : Post sem c cur :=
  ⟨h.stored _ hc, fun s hs => by rw [hc] at hs; cases hs; rfl, fun o k => h.agree _ o k hc,
    fun hm => by rw [hc] at hm; cases hm⟩

theorem cellInv_written (sem : Src → Nat → R) (o : Obj) (cur : CodeId) (named : Bool) :
    CellInv sem (⟨.ok cur.2, [], if named then some (o, cur) else none⟩ : Cell R) := by
  refine ⟨nofun, fun _ _ _ _ => nofun, fun _ _ _ _ _ => nofun, fun s o' k h1 h2 => ?_⟩
  cases h1
  cases named <;> cases h2
  rfl


/-- The state once `func_code_info` of the wrapper `t.w` was read (every path through a wrapper other
than the shortcut starts with it). -/
def refresh (cfg : Cfg) (st : State R) (t : Target) : State R :=
  { st with wraps := dset t.w (t.wrapper (funcCodeInfo cfg t.cur t.ic).2) st.wraps }

theorem refresh_spec (hg : Good cfg) (hi : Inv cfg sem st) (ht : TOK cfg t) :
    (funcCodeInfo cfg t.cur t.ic).1 = t.cur.2 ∧ Inv cfg sem (refresh cfg st t) :=
  have h := funcCodeInfo_fixed hg.iu (cur := t.cur) ht.1
  ⟨h.1, hi.dirs, WrapsOK.dset hi.wraps t.w (W := t.wrapper _) ⟨h.2, ht.2⟩⟩

theorem dirAt_clearWrite_ne (cfg : Cfg) (st : State R) (t : Target) (src : Src) {d : Loc} (h : d ≠ t.dir) :
    dirAt (clearWrite cfg st t src) d = dirAt st d :=
  (dirAt_set_ne rfl h).trans (dirAt_set_ne rfl h)

theorem cell_write (st : State R) (hk : wkey cfg t.key t.dir = t.dir) (src : Src) :
    cell (writeFuncCode cfg st t src) t.dir =
      ⟨.ok src, (dirAt st t.dir).entries, if t.named then some (t.o, t.cur) else none⟩ := by
  cases hn : t.named <;> simp [cell, writeFuncCode, dirAt, hk, hn, dget_dset_self, dget_ddel_self]

theorem cell_write_ne (st : State R) (hk : wkey cfg t.key t.dir = t.dir) (src : Src)
    {d : Loc} (h : d ≠ t.dir) : cell (writeFuncCode cfg st t src) d = cell st d := by
  cases hn : t.named <;>
    simp [cell, writeFuncCode, dirAt, hk, hn, dget_dset_ne h, dget_ddel_ne h]

theorem cell_clearWrite {cfg : Cfg} (st : State R) {t : Target} (hk : wkey cfg t.key t.dir = t.dir) (src : Src) :
    cell (clearWrite cfg st t src) t.dir =
      ⟨.ok src, [], if t.named then some (t.o, t.cur) else none⟩ := by
  rw [clearWrite, cell_write _ hk, dirAt_set rfl]

theorem cell_clearWrite_ne {cfg : Cfg} (st : State R) {t : Target} (hk : wkey cfg t.key t.dir = t.dir) (src : Src)
    {d : Loc} (h : d ≠ t.dir) : cell (clearWrite cfg st t src) d = cell st d := by
  rw [clearWrite, cell_write_ne _ hk _ h]
  unfold cell; rw [dirAt_set_ne rfl h]

theorem inv_write (hd : ∀ d, d ≠ t.dir → CellInv sem (cell st d)) (hw : WrapsOK cfg st.wraps)
    (hk : wkey cfg t.key t.dir = t.dir) (he : (dirAt st t.dir).entries = []) :
    Inv cfg sem (writeFuncCode cfg st t t.cur.2) ∧
      Post sem (cell (writeFuncCode cfg st t t.cur.2) t.dir) t.cur := by
  have hc := cell_write st hk t.cur.2
  rw [he] at hc
  have hwr := cellInv_written sem t.o t.cur t.named
  refine ⟨⟨fun d => ?_, hw⟩, ?_⟩
  · by_cases e : d = t.dir
    · subst e; rw [hc]; exact hwr
    · rw [cell_write_ne st hk _ e]; exact hd d e
  · rw [hc]; exact hwr.post rfl

theorem inv_clearWrite (hi : Inv cfg sem st) (hk : wkey cfg t.key t.dir = t.dir) :
    Inv cfg sem (clearWrite cfg st t t.cur.2) ∧
      Post sem (cell (clearWrite cfg st t t.cur.2) t.dir) t.cur := by
  refine inv_write (fun d e => ?_) hi.wraps hk (by rw [dirAt_set rfl])
  unfold cell; rw [dirAt_set_ne rfl e]; exact hi.dirs d

/-- The repaired shortcut is sound: the directory belongs to this code object. -/
theorem shortcut_post (hg : Good cfg) (hi : Inv cfg sem st) (hk : wkey cfg t.key t.dir = t.dir)
    (h : shortcut cfg st t = true) : Post sem (cell st t.dir) t.cur := by
  unfold shortcut at h
  split at h
  · simp [hg.wc, hk] at h
    have hw : (cell st t.dir).writer = some (t.o, t.cur) := h.2
    have hc := hi.dirs t.dir
    refine ⟨hc.writer t.o t.cur hw, fun s hs => (hc.agree s t.o t.cur hs hw).symm, fun o' k hk' => ?_, fun hm => ?_⟩
    · rw [hw] at hk'; cases hk'; rfl
    · have := (hc.missing hm).2; rw [hw] at this; cases this
  · cases h

/-- The four ways through `_check_previous_func_code`: the shortcut answers; the stored text is the
source `func_code_info` returns; no `func_code.py` (it is written); anything else (clear, then write). -/
theorem checkPrevious_cases (cfg : Cfg) (st : State R) (t : Target) :
    (shortcut cfg st t = true ∧ checkPrevious cfg st t = (true, st)) ∨
    ((dirAt st t.dir).code = .ok (funcCodeInfo cfg t.cur t.ic).1 ∧
      checkPrevious cfg st t = (true, refresh cfg st t)) ∨
    ((dirAt st t.dir).code = .missing ∧
      checkPrevious cfg st t = (false, writeFuncCode cfg (refresh cfg st t) t (funcCodeInfo cfg t.cur t.ic).1)) ∨
    ((dirAt st t.dir).code ≠ .missing ∧ (dirAt st t.dir).code ≠ .ok (funcCodeInfo cfg t.cur t.ic).1 ∧
      checkPrevious cfg st t = (false, clearWrite cfg (refresh cfg st t) t (funcCodeInfo cfg t.cur t.ic).1)) := by
  unfold checkPrevious refresh
  cases shortcut cfg st t with
  | true => exact .inl ⟨rfl, rfl⟩
  | false =>
    right
    cases (dirAt st t.dir).code with
    | missing => exact .inr (.inl ⟨rfl, rfl⟩)
    | unreadable | other => exact .inr (.inr ⟨nofun, nofun, rfl⟩)
    | ok old =>
      by_cases e : old = (funcCodeInfo cfg t.cur t.ic).1
      · exact .inl ⟨by rw [e], by simp [e]⟩
      · exact .inr (.inr ⟨nofun, fun h => e (CodeFile.ok.inj h), by simp [e]⟩)

theorem checkPrevious_spec (hg : Good cfg) (hi : Inv cfg sem st) (ht : TOK cfg t) :
    Inv cfg sem (checkPrevious cfg st t).2 ∧ Post sem (cell (checkPrevious cfg st t).2 t.dir) t.cur ∧
      (checkPrevious cfg st t).2.live = st.live := by
  obtain ⟨hsrc, hi1⟩ := refresh_spec hg hi ht
  have hcases := checkPrevious_cases cfg st t
  rw [hsrc] at hcases
  rcases hcases with ⟨hs, e⟩ | ⟨hc, e⟩ | ⟨hc, e⟩ | ⟨_, _, e⟩ <;> rw [e]
  · exact ⟨hi, shortcut_post hg hi ht.2 hs, rfl⟩
  · exact ⟨hi1, (hi.dirs t.dir).post hc, rfl⟩
  · have := inv_write (fun d _ => hi1.dirs d) hi1.wraps ht.2 ((hi.dirs t.dir).missing hc).1
    exact ⟨this.1, this.2, rfl⟩
  · have := inv_clearWrite hi1 ht.2
    exact ⟨this.1, this.2, rfl⟩


theorem lookup_spec {w : Nat} (h : lookup st w = some t) :
    t.w = w ∧ dget w st.wraps = some ⟨t.o, t.key, t.dir, t.ic⟩ ∧
      dget t.o st.live = some (t.cur, t.named) := by
  unfold lookup at h
  split at h
  · cases h
  · rename_i W hW
    split at h
    · cases h
    · rename_i cur named hl
      cases h
      exact ⟨rfl, hW, hl⟩

theorem lookup_tok (hi : Inv cfg sem st) {w : Nat} (h : lookup st w = some t) : TOK cfg t :=
  hi.wraps w _ (lookup_spec h).2.1

theorem lookup_live {w : Nat} (h : lookup st w = some t) :
    dget t.o st.live = some (t.cur, t.named) := (lookup_spec h).2.2

/-- What a call that executes does last: `v` stored for argument `a` in directory `d`. -/
def store (st : State R) (d : Loc) (a : Nat) (v : R) : State R :=
  { st with disk := dset d { dirAt st d with entries := dset a v (dirAt st d).entries } st.disk }

theorem dirAt_store_self (st : State R) (d : Loc) (a : Nat) (v : R) :
    dirAt (store st d a v) d = { dirAt st d with entries := dset a v (dirAt st d).entries } :=
  dirAt_set rfl

theorem dirAt_store_ne (st : State R) {d d' : Loc} (h : d' ≠ d) (a : Nat) (v : R) :
    dirAt (store st d a v) d' = dirAt st d' :=
  dirAt_set_ne rfl h

theorem code_store (st : State R) (d d' : Loc) (a : Nat) (v : R) :
    (dirAt (store st d a v) d').code = (dirAt st d').code := by
  by_cases e : d' = d
  · subst e; rw [dirAt_store_self]
  · rw [dirAt_store_ne st e]

theorem step_call (cfg : Cfg) (sem : Src → Nat → R) {w : Nat} (hl : lookup st w = some t) (a : Nat) :
    (∃ v, (checkPrevious cfg st t).1 = true ∧
        dget a (dirAt (checkPrevious cfg st t).2 t.dir).entries = some v ∧
        step cfg sem st (.call w a) = (.value v false, (checkPrevious cfg st t).2)) ∨
    (((checkPrevious cfg st t).1 = true → dget a (dirAt (checkPrevious cfg st t).2 t.dir).entries = none) ∧
        step cfg sem st (.call w a) =
          (.value (sem t.cur.2 a) true, store (checkPrevious cfg st t).2 t.dir a (sem t.cur.2 a))) := by
  simp only [step, hl, isInCache]
  cases (checkPrevious cfg st t).1 with
  | false => exact .inr ⟨nofun, rfl⟩
  | true =>
    cases h : dget a (dirAt (checkPrevious cfg st t).2 t.dir).entries with
    | some v => exact .inl ⟨v, rfl, rfl, rfl⟩
    | none => exact .inr ⟨fun _ => rfl, rfl⟩

theorem step_check (cfg : Cfg) (sem : Src → Nat → R) {w : Nat} (hl : lookup st w = some t) (a : Nat) :
    step cfg sem st (.check w a) = (.flag (isInCache cfg st t a).1.isSome, (checkPrevious cfg st t).2) := by
  simp only [step, hl, isInCache]

theorem step_clearFn (cfg : Cfg) (sem : Src → Nat → R) {w : Nat} (hl : lookup st w = some t) :
    step cfg sem st (.clearFn w) =
      (.done, clearWrite cfg (refresh cfg st t) t (funcCodeInfo cfg t.cur t.ic).1) := by
  obtain ⟨rfl, _⟩ := lookup_spec hl
  simp only [step, hl, refresh]

theorem inv_store (hi : Inv cfg sem st) {d : Loc} {cur : CodeId} (hp : Post sem (cell st d) cur) (a : Nat) :
    Inv cfg sem (store st d a (sem cur.2 a)) := by
  have key : ∀ a' r, dget a' (dset a (sem cur.2 a) (dirAt st d).entries) = some r → r = sem cur.2 a' := by
    intro a' r h
    rcases dget_dset_cases h with ⟨rfl, rfl⟩ | ⟨_, h⟩
    · rfl
    · exact hp.vals a' r h
  refine ⟨fun d' => ?_, hi.wraps⟩
  by_cases e : d' = d
  · subst e
    unfold cell; rw [dirAt_store_self]
    refine ⟨fun h => absurd h hp.present, fun s hs a' r h => ?_, fun o k hw a' r h => ?_, (hi.dirs d').agree⟩
    · rw [hp.code s hs]; exact key a' r h
    · rw [hp.wr o k hw]; exact key a' r h
  · unfold cell; rw [dirAt_store_ne st e]; exact hi.dirs d'

theorem cellInv_damage {c : Cell R} (h : CellInv sem c) {dm : Damage}
    (hd : dm ≠ .delete) : CellInv sem ⟨applyDamage c.code dm, c.entries, c.writer⟩ := by
  cases hc : c.code with
  | missing => simpa [applyDamage, ← hc] using h
  | _ =>
    cases dm with
    | delete => exact absurd rfl hd
    | _ => exact ⟨nofun, fun _ => nofun, h.writer, fun _ _ _ => nofun⟩

theorem step_spec (hg : Good cfg) (hi : Inv cfg sem st) (op : Op) (hnd : NoDelete op) (hk : KeyOK cfg op) :
    Inv cfg sem (step cfg sem st op).2 ∧ Correct sem st op (step cfg sem st op).1 := by
  cases op with
  | define o k named loc =>
    exact ⟨⟨hi.dirs, WrapsOK.dset hi.wraps o (W := ⟨o, loc, loc, (none, none)⟩) ⟨infoOK_none, wkey_self hg loc⟩⟩,
      trivial⟩
  | wrap w o key dir =>
    simp only [step]
    split
    · exact ⟨⟨hi.dirs, WrapsOK.dset hi.wraps w (W := ⟨o, key, dir, (none, none)⟩) ⟨infoOK_none, hk⟩⟩, trivial⟩
    · exact ⟨hi, trivial⟩
  | swap o c =>
    simp only [step]
    split <;> exact ⟨⟨hi.dirs, hi.wraps⟩, trivial⟩
  | call w a =>
    cases hl : lookup st w with
    | none => simp only [step, Correct, hl]; exact ⟨hi, trivial⟩
    | some t =>
      obtain ⟨h1, h2, _⟩ := checkPrevious_spec hg hi (lookup_tok hi hl)
      simp only [Correct, hl]
      rcases step_call cfg sem hl a with ⟨v, _, hv, e⟩ | ⟨_, e⟩ <;> rw [e]
      · exact ⟨h1, .inl (by rw [h2.vals a v hv])⟩
      · exact ⟨inv_store h1 h2 a, .inr rfl⟩
  | check w a =>
    cases hl : lookup st w with
    | none => simp only [step, hl]; exact ⟨hi, trivial⟩
    | some t =>
      rw [step_check cfg sem hl]
      exact ⟨(checkPrevious_spec hg hi (lookup_tok hi hl)).1, trivial⟩
  | clearFn w =>
    cases hl : lookup st w with
    | none => simp only [step, hl]; exact ⟨hi, trivial⟩
    | some t =>
      obtain ⟨hsrc, hi1⟩ := refresh_spec hg hi (lookup_tok hi hl)
      rw [step_clearFn cfg sem hl, hsrc]
      exact ⟨(inv_clearWrite hi1 (lookup_tok hi hl).2).1, trivial⟩
  | clearAll d =>
    -- `Memory.clear()` of one location empties both process-global tables: every other cell only loses its writer
    refine ⟨⟨fun d' => ?_, hi.wraps⟩, trivial⟩
    by_cases e : d' = d
    · subst e; unfold cell; rw [dirAt_set rfl]; exact cellInv_empty sem
    · unfold cell; rw [dirAt_set_ne rfl e]; exact (hi.dirs d').dropWriter
  | damage d dm =>
    refine ⟨⟨fun d' => ?_, hi.wraps⟩, trivial⟩
    by_cases e : d' = d
    · subst e; unfold cell; rw [dirAt_set rfl]
      exact cellInv_damage (hi.dirs d') fun h => by subst h; exact hnd
    · unfold cell; rw [dirAt_set_ne rfl e]; exact hi.dirs d'
  | fresh =>
    refine ⟨⟨fun d' => (hi.dirs d').dropWriter, fun _ _ => nofun⟩, trivial⟩

theorem exec_spec (hg : Good cfg) :
    ∀ (ops : List Op) (st : State R), Inv cfg sem st →
    (∀ op ∈ ops, NoDelete op) → (∀ op ∈ ops, KeyOK cfg op) →
    AllCorrect cfg sem st ops ∧ Inv cfg sem (exec cfg sem st ops)
  | [], _, hi, _, _ => ⟨trivial, hi⟩
  | op :: ops, _, hi, hnd, hk =>
    have ⟨hnd1, hnd⟩ := List.forall_mem_cons.mp hnd
    have ⟨hk1, hk⟩ := List.forall_mem_cons.mp hk
    have h := step_spec hg hi op hnd1 hk1
    have ih := exec_spec hg ops _ h.1 hnd hk
    ⟨⟨h.2, ih.1⟩, ih.2⟩

theorem exec_append (cfg : Cfg) (sem : Src → Nat → R) : ∀ (a b : List Op) (st : State R),
    exec cfg sem st (a ++ b) = exec cfg sem (exec cfg sem st a) b
  | [], _, _ => rfl
  | _ :: a, b, _ => exec_append cfg sem a b _

theorem quiet_noDelete {k : Src} {d : Loc} {op : Op} (h : QuietAt k d op) : NoDelete op := by
  cases op with
  | damage d' dm =>
    cases dm with
    | delete => exact h.2 rfl
    | _ => trivial
  | _ => trivial

theorem quiet_keyOK (hg : Good cfg) {k : Src} {d : Loc} {op : Op} (h : QuietAt k d op) : KeyOK cfg op :=
  keyOK_of_good hg (by
    cases op with
    | wrap w o key dir => exact h
    | _ => trivial)


theorem dirAt_checkPrevious_ne (cfg : Cfg) (st : State R) (t : Target) {d : Loc} (h : d ≠ t.dir) :
    dirAt (checkPrevious cfg st t).2 d = dirAt st d := by
  rcases checkPrevious_cases cfg st t with ⟨_, e⟩ | ⟨_, e⟩ | ⟨_, e⟩ | ⟨_, _, e⟩ <;> rw [e]
  · rfl
  · exact dirAt_set_ne rfl h
  · exact dirAt_clearWrite_ne cfg _ t _ h

theorem step_frame (cfg : Cfg) (sem : Src → Nat → R) (st : State R) (op : Op) (d : Loc)
    (h : opDir st op ≠ some d) : dirAt (step cfg sem st op).2 d = dirAt st d := by
  have hne : ∀ {w t}, lookup st w = some t → opDir st op = (lookup st w).map (·.dir) → d ≠ t.dir :=
    fun hl ho e => h (by rw [ho, hl, e]; rfl)
  cases op with
  | define _ _ _ _ | fresh => rfl
  | wrap _ _ _ _ | swap _ _ => simp only [step]; split <;> rfl
  | call w a =>
    cases hl : lookup st w with
    | none => simp only [step, hl]
    | some t =>
      rcases step_call cfg sem hl a with ⟨v, _, _, e⟩ | ⟨_, e⟩ <;> rw [e]
      · exact dirAt_checkPrevious_ne cfg st t (hne hl rfl)
      · rw [dirAt_store_ne _ (hne hl rfl)]; exact dirAt_checkPrevious_ne cfg st t (hne hl rfl)
  | check w a =>
    cases hl : lookup st w with
    | none => simp only [step, hl]
    | some t => rw [step_check cfg sem hl]; exact dirAt_checkPrevious_ne cfg st t (hne hl rfl)
  | clearFn w =>
    cases hl : lookup st w with
    | none => simp only [step, hl]
    | some t => rw [step_clearFn cfg sem hl]; exact dirAt_clearWrite_ne cfg _ t _ (hne hl rfl)
  | clearAll d' =>
    exact dirAt_set_ne rfl fun e => h (by rw [e]; rfl)
  | damage d' dm =>
    exact dirAt_set_ne rfl fun e => h (by rw [e]; rfl)


/-- `func_code.py` of directory `d` is absent or holds a source text (it was not truncated). -/
def Intact (st : State R) (d : Loc) : Prop :=
  (dirAt st d).code = .missing ∨ ∃ s, (dirAt st d).code = .ok s

theorem intact_init (d : Loc) : Intact (init : State R) d := .inl rfl

theorem code_write (cfg : Cfg) (st : State R) (t : Target) (src : Src) :
    (dirAt (writeFuncCode cfg st t src) t.dir).code = .ok src := by
  rw [dirAt_set rfl]

theorem intact_checkPrevious (cfg : Cfg) (st : State R) (t : Target) (d : Loc) (h : Intact st d) :
    Intact (checkPrevious cfg st t).2 d := by
  by_cases e : d = t.dir
  · subst e
    rcases checkPrevious_cases cfg st t with ⟨_, e⟩ | ⟨_, e⟩ | ⟨_, e⟩ | ⟨_, _, e⟩ <;> rw [e]
    · exact h
    · exact h
    · exact .inr ⟨_, code_write cfg _ t _⟩
    · exact .inr ⟨_, code_write cfg _ t _⟩
  · unfold Intact; rw [dirAt_checkPrevious_ne cfg st t e]; exact h

theorem intact_step (cfg : Cfg) (sem : Src → Nat → R) (st : State R) (op : Op) (d : Loc)
    (h : Intact st d) (hn : NoDamageAt d op) : Intact (step cfg sem st op).2 d := by
  cases op with
  | define _ _ _ _ | fresh => exact h
  | wrap _ _ _ _ | swap _ _ => simp only [step]; split <;> exact h
  | call w a =>
    cases hl : lookup st w with
    | none => simp only [step, hl]; exact h
    | some t =>
      have h1 := intact_checkPrevious cfg st t d h
      rcases step_call cfg sem hl a with ⟨v, _, _, e⟩ | ⟨_, e⟩ <;> rw [e]
      · exact h1
      · unfold Intact; rw [code_store]; exact h1
  | check w a =>
    cases hl : lookup st w with
    | none => simp only [step, hl]; exact h
    | some t => rw [step_check cfg sem hl]; exact intact_checkPrevious cfg st t d h
  | clearFn w =>
    cases hl : lookup st w with
    | none => simp only [step, hl]; exact h
    | some t =>
      rw [step_clearFn cfg sem hl]
      by_cases e : d = t.dir
      · subst e; exact .inr ⟨_, code_write cfg _ t _⟩
      · unfold Intact; rw [dirAt_clearWrite_ne cfg _ t _ e]; exact h
  | clearAll d' =>
    by_cases e : d = d'
    · subst e; exact .inl (by rw [dirAt_set rfl])
    · unfold Intact; rw [dirAt_set_ne rfl e]; exact h
  | damage d' dm =>
    unfold Intact; rw [dirAt_set_ne rfl fun e => hn e.symm]; exact h

theorem intact_exec (cfg : Cfg) (sem : Src → Nat → R) (d : Loc) : ∀ (ops : List Op) (st : State R),
    Intact st d → (∀ op ∈ ops, NoDamageAt d op) → Intact (exec cfg sem st ops) d
  | [], _, h, _ => h
  | op :: ops, st, h, hn =>
    have ⟨hn1, hn⟩ := List.forall_mem_cons.mp hn
    intact_exec cfg sem d ops _ (intact_step cfg sem st op d h hn1) hn


/-- All live functions run code with source `k`, and the stored code of directory `d` (if any) is `k`. -/
def AllSrc (k : Src) (d : Loc) (st : State R) : Prop :=
  (∀ o c n, dget o st.live = some (c, n) → c.2 = k) ∧
    ((dirAt st d).code = .missing ∨ (dirAt st d).code = .ok k)

theorem allSrc_init (k : Src) (d : Loc) : AllSrc k d (init : State R) :=
  ⟨fun _ _ _ => nofun, .inl rfl⟩

/-- Under `hc` the check never takes its clear-and-write branch. -/
theorem checkPrevious_keep (hg : Good cfg) (hi : Inv cfg sem st) (ht : TOK cfg t)
    (hc : (dirAt st t.dir).code = .missing ∨ (dirAt st t.dir).code = .ok t.cur.2) :
    (dirAt (checkPrevious cfg st t).2 t.dir).entries = (dirAt st t.dir).entries ∧
      (dirAt (checkPrevious cfg st t).2 t.dir).code = .ok t.cur.2 ∧
      ((dirAt st t.dir).code = .ok t.cur.2 →
        (checkPrevious cfg st t).1 = true ∧ (checkPrevious cfg st t).2.disk = st.disk) := by
  have hcases := checkPrevious_cases cfg st t
  rw [(refresh_spec hg hi ht).1] at hcases
  rcases hcases with ⟨hs, e⟩ | ⟨hc', e⟩ | ⟨hm, e⟩ | ⟨h1, h2, _⟩
  · rw [e]
    exact ⟨rfl, hc.resolve_left (shortcut_post hg hi ht.2 hs).present, fun _ => ⟨rfl, rfl⟩⟩
  · rw [e]; exact ⟨rfl, hc', fun _ => ⟨rfl, rfl⟩⟩
  · rw [e]
    exact ⟨by rw [dirAt_set rfl]; rfl, code_write cfg _ t _, fun h => by rw [hm] at h; cases h⟩
  · exact (hc.elim h1 h2).elim

theorem quiet_step (hg : Good cfg) {k : Src} {d : Loc}
    (hi : Inv cfg sem st) (hs : AllSrc k d st) {op : Op} (hq : QuietAt k d op) :
    AllSrc k d (step cfg sem st op).2 ∧
      ∀ a r, dget a (dirAt st d).entries = some r → dget a (dirAt (step cfg sem st op).2 d).entries = some r := by
  -- `chk`: a code check through any wrapper (at `d`: `checkPrevious_keep`; elsewhere: the frame); `framed`: an operation on
  -- another directory that leaves `live` alone; `live`: a definition or swap with source `k` keeps the first half of `AllSrc`
  have chk : ∀ {w t}, lookup st w = some t →
      AllSrc k d (checkPrevious cfg st t).2 ∧
        (dirAt (checkPrevious cfg st t).2 d).entries = (dirAt st d).entries := by
    intro w t hl
    obtain ⟨_, _, hlive⟩ := checkPrevious_spec hg hi (lookup_tok hi hl)
    rw [AllSrc, hlive]
    by_cases e : d = t.dir
    · subst e
      have hk : t.cur.2 = k := hs.1 t.o t.cur t.named (lookup_live hl)
      obtain ⟨k1, k2, _⟩ := checkPrevious_keep hg hi (lookup_tok hi hl) (hk ▸ hs.2)
      exact ⟨⟨hs.1, .inr (hk ▸ k2)⟩, k1⟩
    · rw [dirAt_checkPrevious_ne cfg st t e]; exact ⟨hs, rfl⟩
  have framed : (step cfg sem st op).2.live = st.live → opDir st op ≠ some d →
      AllSrc k d (step cfg sem st op).2 ∧ ∀ a r, dget a (dirAt st d).entries = some r →
        dget a (dirAt (step cfg sem st op).2 d).entries = some r := by
    intro hlive hf
    rw [AllSrc, hlive, step_frame cfg sem st op d hf]; exact ⟨hs, fun _ _ h => h⟩
  have live : ∀ {o : Obj} {c : CodeId} {n : Bool}, c.2 = k →
      ∀ o' c' n', dget o' (dset o (c, n) st.live) = some (c', n') → c'.2 = k := by
    intro o c n hc o' c' n' h
    rcases dget_dset_cases h with ⟨_, e⟩ | ⟨_, h'⟩
    · cases e; exact hc
    · exact hs.1 o' c' n' h'
  cases op with
  | define o k' named loc => exact ⟨⟨live hq, hs.2⟩, fun a r h => h⟩
  | wrap w o key dir =>
    simp only [step]
    split <;> exact ⟨hs, fun a r h => h⟩
  | swap o c =>
    simp only [step]
    split
    · exact ⟨⟨live hq, hs.2⟩, fun a r h => h⟩
    · exact ⟨hs, fun a r h => h⟩
  | call w a =>
    cases hl : lookup st w with
    | none => simp only [step, hl]; exact ⟨hs, fun a r h => h⟩
    | some t =>
      obtain ⟨hs1, he1⟩ := chk hl
      rcases step_call cfg sem hl a with ⟨v, _, _, e⟩ | ⟨_, e⟩ <;> rw [e]
      · exact ⟨hs1, fun a' r h => by rw [he1]; exact h⟩
      · refine ⟨⟨hs1.1, by rw [code_store]; exact hs1.2⟩, fun a' r h => ?_⟩
        rw [← he1] at h
        by_cases e : d = t.dir
        · subst e
          rw [dirAt_store_self]
          exact dget_dset_keep ((checkPrevious_spec hg hi (lookup_tok hi hl)).2.1.vals a) h
        · rw [dirAt_store_ne _ e]; exact h
  | check w a =>
    cases hl : lookup st w with
    | none => simp only [step, hl]; exact ⟨hs, fun a r h => h⟩
    | some t =>
      rw [step_check cfg sem hl]
      exact ⟨(chk hl).1, fun a' r h => by rw [(chk hl).2]; exact h⟩
  | clearFn w => cases hq
  | clearAll d' => exact framed rfl (fun e => hq (Option.some.inj e))
  | damage d' dm => exact framed rfl (fun e => hq.1 (Option.some.inj e))
  | fresh => exact ⟨⟨fun _ _ _ => nofun, hs.2⟩, fun a r h => h⟩

theorem quiet_exec (hg : Good cfg) {k : Src} {d : Loc} :
    ∀ (ops : List Op) (st : State R), Inv cfg sem st →
    AllSrc k d st → (∀ op ∈ ops, QuietAt k d op) →
    Inv cfg sem (exec cfg sem st ops) ∧ AllSrc k d (exec cfg sem st ops) ∧
      ∀ a r, dget a (dirAt st d).entries = some r →
        dget a (dirAt (exec cfg sem st ops) d).entries = some r
  | [], _, hi, hs, _ => ⟨hi, hs, fun _ _ h => h⟩
  | op :: ops, st, hi, hs, hq => by
    obtain ⟨hq1, hq⟩ := List.forall_mem_cons.mp hq
    obtain ⟨s1, k1⟩ := quiet_step hg hi hs hq1
    obtain ⟨i2, s2, k2⟩ := quiet_exec hg ops _
      (step_spec hg hi op (quiet_noDelete hq1) (quiet_keyOK hg hq1)).1 s1 hq
    exact ⟨i2, s2, fun a r h => k2 a r (k1 a r h)⟩

theorem call_hit (hg : Good cfg) (hi : Inv cfg sem st) {w : Nat} {a : Nat} {r : R}
    (hl : lookup st w = some t) (hc : (dirAt st t.dir).code = .ok t.cur.2)
    (he : dget a (dirAt st t.dir).entries = some r) :
    (step cfg sem st (.call w a)).1 = .value r false ∧
      (step cfg sem st (.call w a)).2.disk = st.disk := by
  obtain ⟨k1, _, k3⟩ := checkPrevious_keep hg hi (lookup_tok hi hl) (.inr hc)
  rw [← k1] at he
  rcases step_call cfg sem hl a with ⟨v, _, hv, e⟩ | ⟨hn, e⟩ <;> rw [e]
  · rw [he] at hv; cases hv; exact ⟨rfl, (k3 hc).2⟩
  · rw [hn (k3 hc).1] at he; cases he

theorem call_entry (hg : Good cfg) (hi : Inv cfg sem st) {w : Nat} (hl : lookup st w = some t) (a : Nat) :
    dget a (dirAt (step cfg sem st (.call w a)).2 t.dir).entries = some (sem t.cur.2 a) := by
  obtain ⟨_, h2, _⟩ := checkPrevious_spec hg hi (lookup_tok hi hl)
  rcases step_call cfg sem hl a with ⟨v, _, hv, e⟩ | ⟨_, e⟩ <;> rw [e]
  · rw [← h2.vals a v hv]; exact hv
  · rw [dirAt_store_self]; exact dget_dset_self ..

theorem quiet_hit (hg : Good cfg) {k : Src} {d : Loc} (hi : Inv cfg sem st)
    (hs : AllSrc k d st) {a : Nat} {r : R} (he : dget a (dirAt st d).entries = some r) {mid : List Op}
    (hmid : ∀ op ∈ mid, QuietAt k d op) {w : Nat}
    (hl : lookup (exec cfg sem st mid) w = some t) (hd : t.dir = d) :
    (step cfg sem (exec cfg sem st mid) (.call w a)).1 = .value r false ∧
      (step cfg sem (exec cfg sem st mid) (.call w a)).2.disk =
        (exec cfg sem st mid).disk := by
  obtain ⟨hi2, hs2, keep⟩ := quiet_exec hg mid st hi hs hmid
  subst hd
  have he2 := keep a r he
  refine call_hit hg hi2 hl ?_ he2
  rw [hs2.1 t.o t.cur t.named (lookup_live hl)]
  refine hs2.2.resolve_left fun hm => ?_
  have h0 : (dirAt (exec cfg sem st mid) t.dir).entries = [] := ((hi2.dirs t.dir).missing hm).1
  rw [h0] at he2; cases he2

/-- Unchanged code keeps its cache, from any state with the invariant in which every live function, and
directory `d` if it holds code, has source `k`: after a call with `a` through a wrapper at `d` and any quiet
history, a call with `a` through any live wrapper at `d` is served from the cache. -/
theorem cache_kept (hg : Good cfg) {k : Src} (hi : Inv cfg sem st) (hs : AllSrc k t.dir st) {w : Nat} {a : Nat}
    (hl : lookup st w = some t) {mid : List Op} (hmid : ∀ op ∈ mid, QuietAt k t.dir op) {w' : Nat} {t' : Target}
    (hl' : lookup (exec cfg sem (step cfg sem st (.call w a)).2 mid) w' = some t') (hd' : t'.dir = t.dir) :
    (step cfg sem (exec cfg sem (step cfg sem st (.call w a)).2 mid) (.call w' a)).1 = .value (sem k a) false ∧
      (step cfg sem (exec cfg sem (step cfg sem st (.call w a)).2 mid) (.call w' a)).2.disk =
        (exec cfg sem (step cfg sem st (.call w a)).2 mid).disk := by
  -- the first call leaves `sem k a` in `d`; `mid` keeps it there
  have hent := call_entry hg hi hl a
  rw [hs.1 t.o t.cur t.named (lookup_live hl)] at hent
  exact quiet_hit hg (step_spec hg hi (.call w a) trivial trivial).1
    (quiet_step hg hi hs (op := .call w a) trivial).1 hent hmid hl' hd'

end JoblibModel.FuncCode
