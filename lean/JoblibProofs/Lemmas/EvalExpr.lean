import JoblibModel.EvalExpr
import JoblibModel.ParallelProto
/-! `JoblibModel.EvalExpr`, in four parts.
* Which exceptions get out of `eval_expr`: where an outcome that is not a value comes from (`evalRaw_origin`, for any interpretation)
  and what the model's operator functions raise (`RaisesOnly`), together `evalExpr_raise_class`.
* Soundness on integers: `intDenote` is the mathematical value, `IntOr` says "that integer, or the model abstained"; `pyDivMod_eq` and
  `pyPowNat_eq` set CPython's algorithms against `Int.fdiv`, `Int.fmod`, `^`.
* `str(n)` lexes back to `n` (`strInt_nat`, `lexFuel_int`), for `resolve_common_texts`; nothing general is proved about `lex` or `parse`.
* `UserCfg`, the link to M1's `Cfg` and the reason for the second import.
In between, `isliceStop_*` and floor division for `C09.resolve_numbers` / `floor_semantics`.
`wrap_untracked` and `intToFlt_not_untracked`, the companions of `wrap_ok` and `intToFlt_raise`, have no user. -/
namespace JoblibModel.EvalExpr

theorem wrap_ok {α : Type} {r : Res α} {v : α} : wrap r = .ok v ↔ r = .ok v := by
  unfold wrap
  split <;> simp_all

theorem wrap_untracked {α : Type} {r : Res α} : wrap r = .untracked ↔ r = .untracked := by
  unfold wrap
  split <;> simp_all

theorem evalRaw_ok_isArith {α : Type} (ops : Ops α) :
    ∀ (e : Ast) (v : α), evalRaw ops e = .ok v → isArith e = true := by
  intro e
  fun_induction evalRaw ops e
  all_goals intro v h
  -- the branches that return no value
  all_goals try cases h
  · rfl  -- const
  · rename_i hf _ hl _ hr ihl ihr; simp [isArith, hf, ihl _ hl, ihr _ hr]  -- binOp, the call
  · rename_i he ih; exact ih _ he  -- usub, the call

/-- `r` is the result of one call of an operator function (`operators[…](a, b)` or `op.neg(a)`). -/
def OpCall {α : Type} (ops : Ops α) (r : Res α) : Prop :=
  (∃ f a b, ops.apply f a b = r) ∨ (∃ a, ops.neg a = r)

/-- Where an outcome of `evalRaw` that is not a value comes from: `TypeError` (a node of another class), `KeyError` (an operator
outside the table), or one call of an operator function. -/
theorem evalRaw_origin {α : Type} (ops : Ops α) :
    ∀ e : Ast, (∃ v, evalRaw ops e = .ok v) ∨ evalRaw ops e = .raise .TypeError ∨
      evalRaw ops e = .raise .KeyError ∨ OpCall ops (evalRaw ops e) := by
  intro e
  -- a failing operand hands its own outcome on
  fun_induction evalRaw ops e
  · exact .inl ⟨_, rfl⟩  -- const
  · exact .inr (.inr (.inl rfl))  -- binOp, no such operator
  · exact .inr (.inr (.inr (.inl ⟨_, _, _, rfl⟩)))  -- binOp, both operands evaluated: the call
  · rename_i h _ ih; exact h ▸ ih  -- binOp, right operand raised
  · rename_i h _ ih; exact h ▸ ih  -- binOp, right operand untracked
  · rename_i h ih; exact h ▸ ih  -- binOp, left operand raised
  · rename_i h ih; exact h ▸ ih  -- binOp, left operand untracked
  · exact .inr (.inr (.inr (.inr ⟨_, rfl⟩)))  -- usub: the call
  · rename_i h ih; exact h ▸ ih  -- usub, operand raised
  · rename_i h ih; exact h ▸ ih  -- usub, operand untracked
  · exact .inr (.inr (.inl rfl))  -- uadd
  · exact .inr (.inr (.inl rfl))  -- not
  · exact .inr (.inr (.inl rfl))  -- invert
  · exact .inr (.inl rfl)  -- other

def RaisesOnly {α : Type} (S : Exc → Prop) (r : Res α) : Prop := ∀ x, r = .raise x → S x

namespace RaisesOnly
variable {α : Type} {S T : Exc → Prop}

theorem ok {v : α} : RaisesOnly S (.ok v) := fun _ h => nomatch h

theorem untracked : RaisesOnly S (.untracked : Res α) := fun _ h => nomatch h

theorem raise {x : Exc} (h : S x) : RaisesOnly S (.raise x : Res α) := fun _ e => by cases e; exact h

theorem ite {c : Prop} [Decidable c] {a b : Res α} (ha : RaisesOnly S a) (hb : RaisesOnly S b) :
    RaisesOnly S (if c then a else b) := by
  split <;> assumption

theorem mono {r : Res α} (h : RaisesOnly S r) (hST : ∀ x, S x → T x) : RaisesOnly T r :=
  fun x e => hST x (h x e)

end RaisesOnly

-- The body of each operator function is walked once, along its `if`s and `match`es; at the leaves one of `ok`, `untracked`,
-- `raise` applies.
theorem intToFlt_raise {n : Int} : RaisesOnly (· = .OverflowError) (intToFlt n) := by
  unfold intToFlt
  split
  · exact .raise rfl
  · exact .raise rfl
  · exact .ok

theorem intToFlt_not_untracked {n : Int} : intToFlt n ≠ .untracked := by
  unfold intToFlt
  split <;> simp

theorem toFlt_raise {a : Num} : RaisesOnly (· = .OverflowError) a.toFlt := by
  cases a
  · exact intToFlt_raise
  · exact .ok

/-- The exception classes the model's operator functions can raise. -/
def ArithExc (x : Exc) : Prop := x = .TypeError ∨ x = .ZeroDivisionError ∨ x = .OverflowError

theorem withFloats_raise {a b : Num} {k : Flt → Flt → Res Val} (hk : ∀ u v, RaisesOnly ArithExc (k u v)) :
    RaisesOnly ArithExc (withFloats a b k) := by
  have conv : ∀ {c : Num} {x}, c.toFlt = .raise x → ArithExc x := fun h => .inr (.inr (toFlt_raise _ h))
  unfold withFloats
  split
  · split
    · exact hk _ _
    · rename_i h; exact .raise (conv h)
    · exact .untracked
  · rename_i h; exact .raise (conv h)
  · exact .untracked

theorem powGeneral_raise {neg : Bool} {mv ev mw ew : Int} :
    RaisesOnly (· = .OverflowError) (powGeneral neg mv ev mw ew) := by
  unfold powGeneral
  refine .ite .untracked (.ite .untracked (.ite (.raise rfl) ?_))
  split
  · exact .ite .ok .untracked
  · exact .untracked

theorem floatPow_raise {iv iw : Flt} :
    RaisesOnly (fun x => x = .ZeroDivisionError ∨ x = .OverflowError) (floatPow iv iw) := by
  unfold floatPow
  refine .ite .ok ?_
  split
  · exact .ok
  · exact .ok
  · exact .ite .ok (.ite .ok .ok)
  · exact .ite .ok (.ite .ok .ok)
  · exact .ite .ok .ok
  · exact .ite .ok .ok
  · exact .ite (.ite (.raise (.inl rfl)) .ok) (.ite .untracked (.ite .ok (powGeneral_raise.mono fun _ => .inr)))

theorem fltRes_raise {S : Exc → Prop} {r : Res Flt} (h : RaisesOnly S r) : RaisesOnly S (fltRes r) := by
  intro x hx
  cases r <;> cases hx
  exact h _ rfl

theorem applyNum_raise {f : Fn} {a b : Num} : RaisesOnly ArithExc (applyNum f a b) := by
  have pow : ∀ u v, RaisesOnly ArithExc (fltRes (floatPow u v)) := fun u v =>
    fltRes_raise (floatPow_raise.mono fun _ => .inr)
  have zdiv : ∀ {g : Flt → Flt → Flt} (u v : Flt), RaisesOnly ArithExc
      (if v.isZero then .raise .ZeroDivisionError else .ok (Const.flt (g u v))) := fun _ _ =>
    .ite (.raise (.inr (.inl rfl))) .ok
  unfold applyNum
  split
  · split  -- two ints
    · exact .ok  -- add
    · exact .ok  -- sub
    · exact .ok  -- mul
    · refine .ite (.raise (.inr (.inl rfl))) ?_  -- truediv
      split
      · exact .raise (.inr (.inr rfl))
      · exact .raise (.inr (.inr rfl))
      · exact .ok
    · exact .ite (.raise (.inr (.inl rfl))) .ok  -- floordiv
    · exact .ite (.raise (.inr (.inl rfl))) .ok  -- mod
    · exact .ite (.ite .ok .untracked) (withFloats_raise pow)  -- pow
  · split  -- a float among them
    · exact withFloats_raise fun _ _ => .ok  -- add
    · exact withFloats_raise fun _ _ => .ok  -- sub
    · exact withFloats_raise fun _ _ => .ok  -- mul
    · exact withFloats_raise zdiv  -- truediv
    · exact withFloats_raise zdiv  -- floordiv
    · exact withFloats_raise zdiv  -- mod
    · exact withFloats_raise pow  -- pow

theorem negVal_raise {a : Val} : RaisesOnly (· = .TypeError) (negVal a) := by
  cases a
  all_goals first | exact .ok | exact .raise rfl

theorem applyVal_raise {f : Fn} {a b : Val} : RaisesOnly ArithExc (applyVal f a b) := by
  unfold applyVal
  refine .ite .untracked ?_
  split
  · exact applyNum_raise  -- two numbers
  · split
    · exact .untracked  -- `str % …`
    · exact .untracked  -- `bytes % …`
    · exact .ok  -- `str + str`
    · exact .ok  -- `bytes + bytes`
    -- `seq * n`, `n * seq`: a `TypeError` unless `n` is an int or a bool
    iterate 4
      split
      · split
        · exact .ok
        · exact .untracked
      · exact .raise (.inl rfl)
    · exact .raise (.inl rfl)  -- anything else

theorem pyOps_opCall_raise {r : Res Val} (h : OpCall pyOps r) : RaisesOnly ArithExc r := by
  rcases h with ⟨f, a, b, rfl⟩ | ⟨a, rfl⟩
  · exact applyVal_raise
  · exact negVal_raise.mono fun _ => .inl

theorem tmod_nonpos_of_nonpos {a : Int} (b : Int) (h : a ≤ 0) : Int.tmod a b ≤ 0 := by
  have h1 : 0 ≤ Int.tmod (-a) b := Int.tmod_nonneg b (by omega)
  rw [Int.neg_tmod] at h1
  omega

/-- `l_divmod` (truncate, then fix the signs) computes the floor quotient and the remainder with the sign of the
divisor. -/
theorem pyDivMod_eq (a b : Int) (hb : b ≠ 0) : pyDivMod a b = (Int.fdiv a b, Int.fmod a b) := by
  rw [Int.fdiv_eq_tdiv, Int.fmod_eq_tmod, pyDivMod]
  by_cases hd : b ∣ a
  · simp [Int.dvd_iff_tmod_eq_zero.1 hd, hd]
  · have hne : Int.tmod a b ≠ 0 := fun h0 => hd (Int.dvd_iff_tmod_eq_zero.2 h0)
    have hpos := @Int.tmod_nonneg a b
    have hneg := @tmod_nonpos_of_nonpos a b
    by_cases ha : 0 ≤ a <;> by_cases hb0 : 0 ≤ b
    · have : ¬ Int.tmod a b < 0 := by have := hpos ha; omega
      have : ¬ b < 0 := by omega
      simp [*]
    · have : ¬ Int.tmod a b < 0 := by have := hpos ha; omega
      have : b < 0 := by omega
      simp [*]
    · have : Int.tmod a b < 0 := by have := hneg (by omega); omega
      have hbp : 0 < b := by omega
      have : ¬ b < 0 := by omega
      simp [Int.sign_eq_one_of_pos hbp, *]; omega
    · have : Int.tmod a b < 0 := by have := hneg (by omega); omega
      have hbn : b < 0 := by omega
      simp [Int.sign_eq_neg_one_of_neg hbn, *]; omega

/-- The square-and-multiply loop of `long_pow`. -/
def powStep (a : Int) (z : Int) (b : Bool) : Int := if b then z * z * a else z * z

theorem pyPowNat_fold (a : Int) (f n : Nat) (acc : List Bool) (h : n < 2 ^ f) :
    (bitsMsb f n acc).foldl (powStep a) 1 = acc.foldl (powStep a) (a ^ n) := by
  fun_induction bitsMsb f n acc
  · rename_i n acc
    have : n = 0 := by simpa using h
    simp [this]
  · simp [*]
  · rename_i f n acc hn ih
    rw [ih (by omega), List.foldl_cons]
    congr 1
    conv => rhs; rw [show n = n / 2 + n / 2 + n % 2 by omega]
    rcases Nat.mod_two_eq_zero_or_one n with h | h <;> simp [powStep, h, Int.pow_add, Int.pow_succ]

theorem pyPowNat_eq (a : Int) (n : Nat) : pyPowNat a n = a ^ n :=
  pyPowNat_fold a (n.log2 + 1) n [] Nat.lt_log2_self

/-- Mathematical value of an expression of the integer fragment: integer constants, `+ - *`, `//` and `%` with Lean's
floor division `Int.fdiv` / `Int.fmod` (non-zero divisor), `**` with a non-negative exponent, unary minus.
`none` = outside the fragment (or division by zero / negative exponent). -/
def intDenote : Ast → Option Int
  | .const (.int n) => some n
  | .const _ => none
  | .binOp op l r =>
    match intDenote l, intDenote r with
    | some a, some b =>
      match op with
      | .add => some (a + b)
      | .sub => some (a - b)
      | .mult => some (a * b)
      | .floorDiv => if b = 0 then none else some (Int.fdiv a b)
      | .mod => if b = 0 then none else some (Int.fmod a b)
      | .pow => if 0 ≤ b then some (a ^ b.toNat) else none
      | _ => none
    | _, _ => none
  | .unaryOp .usub e => (intDenote e).map (fun a => -a)
  | .unaryOp _ _ => none
  | .other _ => none

/-- Every integer power inside `e` stays within the size up to which the model computes powers
(`intPowBitBound` bits; beyond it the model abstains). -/
def powWithinBound : Ast → Bool
  | .binOp op l r =>
    powWithinBound l && powWithinBound r &&
      (match op, intDenote l, intDenote r with
       | .pow, some a, some b =>
         decide (a = 0 ∨ a = 1 ∨ a = -1 ∨ (a.natAbs.log2 + 1) * b.toNat ≤ intPowBitBound)
       | _, _, _ => true)
  | .unaryOp _ e => powWithinBound e
  | _ => true

/-- `r` is the integer `n`, or the model abstained — which it did not if `P`. -/
def IntOr (P : Prop) (r : Res Val) (n : Int) : Prop :=
  (P → r = .ok (.int n)) ∧ (r = .ok (.int n) ∨ r = .untracked)

theorem IntOr.ok {P : Prop} {n : Int} : IntOr P (.ok (.int n)) n := ⟨fun _ => rfl, .inl rfl⟩

theorem evalRaw_binOp_intOr {op : BinOp} {f : Fn} {l r : Ast} {a b n : Int} {P Q R : Prop} (hf : binFn? op = some f)
    (hl : IntOr P (evalRaw pyOps l) a) (hr : IntOr Q (evalRaw pyOps r) b)
    (ho : IntOr R (applyNum f (.i a) (.i b)) n) : IntOr ((P ∧ Q) ∧ R) (evalRaw pyOps (.binOp op l r)) n := by
  rw [IntOr, evalRaw, hf]
  rcases hl.2 with el | el
  · rcases hr.2 with er | er
    · simp only [el, er]; exact ⟨fun h => ho.1 h.2, ho.2⟩
    · simp only [el, er]; exact ⟨fun h => (nomatch (hr.1 h.1.2).symm.trans er), .inr trivial⟩
  · simp only [el]; exact ⟨fun h => (nomatch (hl.1 h.1.1).symm.trans el), .inr trivial⟩

/-- On the integer fragment the model returns the mathematical value — or abstains, and it abstains only when some
power exceeds `intPowBitBound` bits. -/
theorem evalRaw_int_sound : ∀ (e : Ast) (n : Int), intDenote e = some n →
    IntOr (powWithinBound e = true) (evalRaw pyOps e) n := by
  intro e
  induction e with
  | const c => intro n h; cases c <;> cases h; exact IntOr.ok
  | binOp op l r ihl ihr =>
    intro n h
    unfold intDenote at h
    cases hl : intDenote l with
    | none => simp [hl] at h
    | some a =>
      cases hr : intDenote r with
      | none => simp [hl, hr] at h
      | some b =>
        simp only [hl, hr] at h
        simp only [powWithinBound, Bool.and_eq_true, hl, hr]
        have go : ∀ f {R}, binFn? op = some f → IntOr R (applyNum f (.i a) (.i b)) n →
            IntOr ((powWithinBound l = true ∧ powWithinBound r = true) ∧ R) (evalRaw pyOps (.binOp op l r)) n :=
          fun f _ hf ho => evalRaw_binOp_intOr hf (ihl a hl) (ihr b hr) ho
        cases op <;> simp only [] at h ⊢
        case add => cases h; exact go .add rfl IntOr.ok
        case sub => cases h; exact go .sub rfl IntOr.ok
        case mult => cases h; exact go .mul rfl IntOr.ok
        case floorDiv =>
          split at h <;> cases h
          exact go .floordiv rfl (by simp only [applyNum, if_neg ‹_›, pyDivMod_eq a b ‹_›]; exact IntOr.ok)
        case mod =>
          split at h <;> cases h
          exact go .mod rfl (by simp only [applyNum, if_neg ‹_›, pyDivMod_eq a b ‹_›]; exact IntOr.ok)
        case pow =>
          split at h <;> cases h
          refine go .pow rfl ?_
          simp only [applyNum, if_pos ‹0 ≤ b›, pyPowNat_eq, decide_eq_true_eq]
          split
          · exact IntOr.ok
          · exact ⟨fun hp => absurd hp ‹_›, .inr rfl⟩
        all_goals cases h
  | unaryOp op e ih =>
    intro n h
    cases op <;> simp only [intDenote] at h
    case usub =>
      cases he : intDenote e with
      | none => rw [he] at h; cases h
      | some a =>
        rw [he] at h; cases h
        obtain ⟨i1, i2⟩ := ih a he
        rw [powWithinBound, evalRaw]
        rcases i2 with e1 | e1
        · rw [e1]; exact IntOr.ok
        · rw [e1]; exact ⟨fun hp => (nomatch (i1 hp).symm.trans e1), .inr rfl⟩
    all_goals cases h
  | other k => intro n h; cases h

theorem isliceStop_neg {n : Int} (h : n < 0) : isliceStop n = .raise .ValueError := by
  simp [isliceStop, h]

theorem isliceStop_big {n : Int} (h : (maxsize : Int) < n) : isliceStop n = .raise .ValueError := by
  simp [isliceStop, h]

theorem isliceStop_ok {n : Int} (h0 : 0 ≤ n) (h1 : n ≤ (maxsize : Int)) : isliceStop n = .amount n.toNat := by
  have : ¬ (n < 0 ∨ (maxsize : Int) < n) := by omega
  simp [isliceStop, this]

theorem isliceStop_amount {n : Int} {k : Nat} (h : isliceStop n = .amount k) : n = (k : Int) ∧ k ≤ maxsize := by
  unfold isliceStop at h
  split at h
  · simp at h
  · have hk : n.toNat = k := by simpa using h
    omega

/-- `eval_expr` of the model lets three exception classes out: `ValueError` (its own re-labelling of `TypeError` /
`KeyError`), `ZeroDivisionError`, `OverflowError`. -/
theorem evalExpr_raise_class {e : Ast} {x : Exc} (h : evalExpr e = .raise x) :
    x = .ValueError ∨ x = .ZeroDivisionError ∨ x = .OverflowError := by
  unfold evalExpr evalExprWith at h
  have hy : ∀ y, evalRaw pyOps e = .raise y → y = .TypeError ∨ y = .KeyError ∨ ArithExc y := by
    intro y hy
    rcases evalRaw_origin pyOps e with ⟨v, hv⟩ | h1 | h1 | h1
    · rw [hv] at hy; cases hy
    · rw [h1] at hy; cases hy; exact .inl rfl
    · rw [h1] at hy; cases hy; exact .inr (.inl rfl)
    · exact .inr (.inr (pyOps_opCall_raise h1 y hy))
  cases hr : evalRaw pyOps e with
  | ok v => rw [hr] at h; cases h
  | untracked => rw [hr] at h; cases h
  | raise y =>
    rw [hr] at h
    -- `wrap` re-labels `TypeError` and `KeyError`, and passes the other two on
    rcases hy y hr with rfl | rfl | rfl | rfl | rfl <;> cases h <;> decide

/-- Lean's `Int.fdiv` / `Int.fmod` are Python's `//` and `%`: `a = b·q + r` with `0 ≤ r < b` or `b < r ≤ 0`. -/
theorem fdiv_fmod_floor (a b : Int) :
    a = b * Int.fdiv a b + Int.fmod a b ∧ (0 < b → 0 ≤ Int.fmod a b ∧ Int.fmod a b < b) ∧
    (b < 0 → b < Int.fmod a b ∧ Int.fmod a b ≤ 0) := by
  refine ⟨(Int.mul_fdiv_add_fmod a b).symm, fun h => ⟨Int.fmod_nonneg_of_pos a h, Int.fmod_lt_of_pos a h⟩, fun h => ?_⟩
  -- the mirror image of the positive case: `(-a).fmod (-b) = -(a.fmod b)`
  have hb : 0 < -b := by omega
  have h1 := Int.fmod_nonneg_of_pos (-a) hb
  have h2 := Int.fmod_lt_of_pos (-a) hb
  rw [Int.neg_fmod_neg] at h1 h2
  omega

theorem tdiv_eq_zero_iff (a : Int) {d : Nat} (hd : 0 < d) : Int.tdiv a d = 0 ↔ a.natAbs < d := by
  rw [← Int.natAbs_eq_zero, Int.natAbs_tdiv, Int.natAbs_natCast]
  exact Nat.div_eq_zero_iff.trans ⟨fun h => h.resolve_left (by omega), .inr⟩

theorem finRat_den_pos (m e : Int) : 0 < (finRat m e).2 := by
  unfold finRat
  split
  · simp
  · exact Nat.pow_pos (by decide)

theorem digitChar_facts : ∀ d, d < 10 → isDigit (digitChar d) = true ∧ hexVal? (digitChar d) = some d ∧
    (d ≠ 0 → (digitChar d == '0') = false) ∧
    (126 < (digitChar d).toNat || ((digitChar d).toNat < 32 && digitChar d != '\t')) = false := by decide +kernel

theorem isDigit_ne {c d : Char} (hc : isDigit c = true) (hd : isDigit d = false) : (c == d) = false := by
  cases h : c == d
  · rfl
  · rw [eq_of_beq h, hd] at hc; cases hc

def decVal (l : List Nat) : Nat := l.foldl (fun v d => v * 10 + d) 0

theorem decVal_snoc (l : List Nat) (d : Nat) : decVal (l ++ [d]) = decVal l * 10 + d := by
  simp [decVal, List.foldl_append]

/-- `ds` are the decimal digits of `n ≥ 1`, most significant first. -/
structure Decimal (ds : List Nat) (n : Nat) : Prop where
  val : decVal ds = n
  lt : ∀ d ∈ ds, d < 10
  ne : ds ≠ []
  nz : ds.head? ≠ some 0

theorem digitsFuel_spec : ∀ (f n : Nat) (acc : Text), 0 < n → n < 10 ^ f →
    ∃ ds, digitsFuel f n acc = ds.map digitChar ++ acc ∧ Decimal ds n ∧ ds.length ≤ f := by
  intro f
  induction f with
  | zero => intro n acc hp h; omega
  | succ f ih =>
    intro n acc hp h
    unfold digitsFuel
    by_cases h0 : n / 10 = 0
    · have hm : n % 10 = n := by omega
      exact ⟨[n], by simp [h0, hm], ⟨by simp [decVal], by simp; omega, by simp, by simp; omega⟩, by simp⟩
    · obtain ⟨ds, e1, ⟨e2, e3, e4, e5⟩, e6⟩ :=
        ih (n / 10) (digitChar (n % 10) :: acc) (by omega) (by rw [Nat.pow_succ] at h; omega)
      simp only [h0, if_false]
      refine ⟨ds ++ [n % 10], by rw [e1]; simp, ⟨?_, ?_, by simp, ?_⟩, by simp; omega⟩
      · rw [decVal_snoc, e2]; omega
      · intro d hd
        rcases List.mem_append.1 hd with hd | hd
        · exact e3 d hd
        · simp at hd; omega
      · cases ds with
        | nil => exact absurd rfl e4
        | cons x xs => simpa using e5

theorem strInt_nat (n : Nat) (hp : 0 < n) :
    ∃ ds, strInt (n : Int) = ds.map digitChar ∧ Decimal ds n ∧ ds.length ≤ n.log2 + 2 := by
  have hlt : n < 10 ^ (n.log2 + 2) := by
    have h1 : n < 2 ^ (n.log2 + 1) := Nat.lt_log2_self
    have h2 : 2 ^ (n.log2 + 1) ≤ 10 ^ (n.log2 + 1) := Nat.pow_le_pow_left (by decide) _
    have h3 : 10 ^ (n.log2 + 1) ≤ 10 ^ (n.log2 + 2) := Nat.pow_le_pow_right (by decide) (by omega)
    omega
  obtain ⟨ds, e1, e2, e3⟩ := digitsFuel_spec (n.log2 + 2) n [] hp hlt
  have hn : ¬ ((n : Int) < 0) := by omega
  exact ⟨ds, by simp only [strInt, hn, if_false, Int.natAbs_natCast, e1, List.append_nil], e2, e3⟩

/-- `rest` ends a decimal integer literal: the digit loop stops in front of it, and none of the fraction, exponent,
`j` and end-of-number tests of `lexAfterInt` takes anything of it. -/
structure EndsInt (rest : Text) : Prop where
  digits : ∀ v k, digitsTail 10 rest v k false = some (v, k, rest)
  after : ∀ v, lexAfterInt v rest false = .ok (.num (.int v), rest)

theorem EndsInt.nil : EndsInt [] := ⟨fun _ _ => rfl, fun _ => rfl⟩
theorem EndsInt.star (r : Text) : EndsInt ('*' :: r) := ⟨fun _ _ => rfl, fun _ => rfl⟩
theorem EndsInt.space (r : Text) : EndsInt (' ' :: r) := ⟨fun _ _ => rfl, fun _ => rfl⟩

theorem digitsTail_digits {rest : Text} (hrest : ∀ v k, digitsTail 10 rest v k false = some (v, k, rest)) :
    ∀ (ds : List Nat) (v k : Nat) (need : Bool), (∀ d ∈ ds, d < 10) → ds ≠ [] →
    digitsTail 10 (ds.map digitChar ++ rest) v k need =
      some (ds.foldl (fun v d => v * 10 + d) v, k + ds.length, rest) := by
  intro ds
  induction ds with
  | nil => intro v k need _ h; exact absurd rfl h
  | cons d ds ih =>
    intro v k need hall _
    have hd : d < 10 := hall d (by simp)
    obtain ⟨f1, f2, _⟩ := digitChar_facts d hd
    simp only [List.map_cons, List.cons_append, digitsTail, isDigit_ne f1 (d := '_') rfl, f2]
    simp only [Bool.false_eq_true, if_false, hd, if_true]
    cases ds with
    | nil => exact hrest _ _
    | cons d' ds' =>
      rw [ih (v * 10 + d) (k + 1) false (fun x hx => hall x (by simp [hx])) (by simp)]
      simp [Nat.add_assoc, Nat.add_comm]

theorem lexFuel_digit (f : Nat) {c : Char} (cs : Text) (acc : List Tok) (hc : isDigit c = true) :
    lexFuel (f + 1) (c :: cs) acc =
      match lexNumber c cs with
      | .ok (t, r) => lexFuel f r (t :: acc)
      | .syntaxError => .syntaxError
      | .abstain => .abstain := by
  -- the unfolded head is stated by hand: `rw [lexFuel]` would go through the equation lemmas of `lexFuel`, one per
  -- arm of its character match, and pay for all of them
  show (if (c == ' ' || c == '\t') = true then _ else if (c == '#') = true then _ else if isDigit c = true then _ else _) = _
  rw [isDigit_ne hc (d := ' ') rfl, isDigit_ne hc (d := '\t') rfl, isDigit_ne hc (d := '#') rfl, hc]
  rfl

theorem lexFuel_int {rest : Text} (hrest : EndsInt rest) {ds : List Nat} {n : Nat} (h : Decimal ds n) (f : Nat)
    (acc : List Tok) :
    lexFuel (f + 1) (ds.map digitChar ++ rest) acc = lexFuel f rest (.num (.int n) :: acc) := by
  obtain ⟨hv, hall, hne, hnz0⟩ := h
  cases ds with
  | nil => exact absurd rfl hne
  | cons d ds =>
    obtain ⟨hdig, _, hnz, _⟩ := digitChar_facts d (hall d (by simp))
    have hdt := digitsTail_digits hrest.digits (d :: ds) 0 0 true hall hne
    have hnum : lexNumber (digitChar d) (ds.map digitChar ++ rest) = .ok (.num (.int n), rest) := by
      show (if (digitChar d == '0') = true then _ else
        match digitsTail 10 (digitChar d :: (ds.map digitChar ++ rest)) 0 0 true with
        | none => _ | some (v, _, r) => lexAfterInt v r false) = _
      rw [hnz fun h => hnz0 (by simp [h]), if_neg Bool.false_ne_true, ← hv]
      exact hdt ▸ hrest.after _
    show lexFuel (f + 1) (digitChar d :: (ds.map digitChar ++ rest)) acc = _
    rw [lexFuel_digit f _ acc hdig, hnum]

theorem lexFuel_int_end {ds : List Nat} {n : Nat} (h : Decimal ds n) {f : Nat} (hf : ds.length ≤ f)
    (acc : List Tok) : lexFuel (f + 1) (ds.map digitChar) acc = .ok (Tok.num (.int n) :: acc).reverse := by
  obtain ⟨f, rfl⟩ : ∃ f', f = f' + 1 := ⟨f - 1, by have := List.length_pos_iff.2 h.ne; omega⟩
  have := lexFuel_int .nil h (f + 1) acc
  rwa [List.append_nil] at this

theorem lexFuel_space (f : Nat) (cs : Text) (acc : List Tok) :
    lexFuel (f + 1) (' ' :: cs) acc = lexFuel f cs acc := rfl

/-- `*` in front of a digit is the multiplication sign (in front of another `*` it would be half of `**`): the ten
digits one by one. -/
theorem lexFuel_star_digit {ds : List Nat} {n : Nat} (h : Decimal ds n) (f : Nat) (acc : List Tok) :
    lexFuel (f + 1) ('*' :: ds.map digitChar) acc = lexFuel f (ds.map digitChar) (.bin .mult :: acc) := by
  cases ds with
  | nil => exact absurd rfl h.ne
  | cons d ds =>
    show lexFuel (f + 1) ('*' :: digitChar d :: _) acc = lexFuel f (digitChar d :: _) _
    unfold digitChar
    split <;> rfl

theorem parse_of_lex {c : Char} {cs : Text} {toks : List Tok} {e : Ast} (hc : isDigit c = true)
    (hlen : (c :: cs).length ≤ maxTextLen)
    (hplain : (c :: cs).any (fun c => (126 < c.toNat) || (c.toNat < 32 && c != '\t')) = false)
    (hlex : lex (c :: cs) = .ok toks)
    (hp : parseLevel (16 * (toks.length + 2)) 0 toks = .ok (e, [])) : parse (c :: cs) = .ok e := by
  unfold parse
  have h1 : ¬ (maxTextLen < (c :: cs).length) := by omega
  simp only [h1, if_false, hplain, Bool.false_eq_true]
  split
  · rename_i h; cases h; exact absurd hc (by decide)
  · rename_i h; cases h; exact absurd hc (by decide)
  · simp only [hlex, hp]

theorem digits_plain (ds : List Nat) (hall : ∀ d ∈ ds, d < 10) :
    (ds.map digitChar).any (fun c => (126 < c.toNat) || (c.toNat < 32 && c != '\t')) = false := by
  rw [List.any_eq_false]
  intro c hc
  obtain ⟨d, hd, rfl⟩ := List.mem_map.1 hc
  simp [(digitChar_facts d (hall d hd)).2.2.2]

theorem log2_le_of_le_maxsize {n : Nat} (h : n ≤ maxsize) : n.log2 ≤ 62 := by
  by_cases h0 : n = 0
  · subst h0; decide
  · have : n.log2 < 63 := (Nat.log2_lt h0).2 (by unfold maxsize at h; omega)
    omega

theorem resolvePreDispatch_str {s t : Text} {n : Int} {e : Ast} (hne : s ≠ allText)
    (hsub : substitute s n = t) (hparse : parse t = .ok e) : resolvePreDispatch (.str s) n = resolveAst e := by
  simp only [resolvePreDispatch, hne, if_false, hsub, hparse]

/-- `'n_jobs'`, `'2*n_jobs'` and the default `'2 * n_jobs'` mean what they say, for EVERY `n_jobs ≥ 1` (up to
`sys.maxsize`): the text is substituted, lexed, parsed and evaluated to `n_jobs`, resp. `2·n_jobs`.
A further text goes like the second case: `substitute` and the parse are `rfl`, the lexing a chain of one-token steps; `lexFuel_int` wants
an `EndsInt` for the character after the digits (`⟨fun _ _ => rfl, fun _ => rfl⟩` for an operator character), an operator in front of
them a lemma like `lexFuel_star_digit`, a text that does not begin with a digit its own `parse_of_lex`. Where `str(n)` is not last, bring
the fuel to the form `f + k` before the concrete tail closes by `rfl`. -/
theorem resolve_common_texts (n : Nat) (h1 : 1 ≤ n) :
    (n ≤ maxsize → resolvePreDispatch (.str "n_jobs".toList) n = .amount n) ∧
    (2 * n ≤ maxsize → resolvePreDispatch (.str "2*n_jobs".toList) n = .amount (2 * n)) ∧
    (2 * n ≤ maxsize → resolvePreDispatch (.str "2 * n_jobs".toList) n = .amount (2 * n)) := by
  obtain ⟨ds, e1, hds, e6⟩ := strInt_nat n h1
  have hval : ∀ k : Nat, k ≤ maxsize → isliceStop (k : Int) = .amount k := fun k hk => by
    rw [isliceStop_ok (by omega) (by omega)]; simp
  have hlen : n ≤ maxsize → (ds.map digitChar).length + 4 ≤ maxTextLen := fun hm => by
    have := log2_le_of_le_maxsize hm
    simp only [List.length_map, maxTextLen]; omega
  have hplain := digits_plain ds hds.lt
  have last : ∀ acc, lexFuel ((ds.map digitChar).length + 1) (ds.map digitChar) acc =
      .ok (Tok.num (.int n) :: acc).reverse := lexFuel_int_end hds (by simp)
  have twice : 2 * n ≤ maxsize →
      resolveAst (.binOp .mult (.const (.int 2)) (.const (.int n))) = .amount (2 * n) := fun hm => by
    have := hval (2 * n) hm
    rwa [Int.natCast_mul] at this
  have two : Decimal [2] 2 := ⟨rfl, by decide, by decide, by decide⟩
  repeat rw [String.toList_ofList]
  refine ⟨fun hm => ?_, fun hm => ?_, fun hm => ?_⟩
  · have hsub : substitute ['n', '_', 'j', 'o', 'b', 's'] (n : Int) = ds.map digitChar :=
      (rfl : _ = strInt n ++ []).trans (by rw [List.append_nil, e1])
    obtain ⟨d, ds', rfl⟩ := List.exists_cons_of_ne_nil hds.ne
    rw [resolvePreDispatch_str (by decide) hsub (parse_of_lex (digitChar_facts d (hds.lt d (by simp))).1
      (by have := hlen hm; simp only [List.map_cons, List.length_cons] at this ⊢; omega) hplain (last []) rfl)]
    exact hval n hm
  · have hsub : substitute ['2', '*', 'n', '_', 'j', 'o', 'b', 's'] (n : Int) = '2' :: '*' :: ds.map digitChar :=
      (rfl : _ = '2' :: '*' :: (strInt n ++ [])).trans (by rw [List.append_nil, e1])
    have hlex : lex ('2' :: '*' :: ds.map digitChar) = .ok [.num (.int 2), .bin .mult, .num (.int n)] :=
      (lexFuel_int (.star _) two _ _).trans ((lexFuel_star_digit hds _ _).trans (last _))
    rw [resolvePreDispatch_str (by decide) hsub (parse_of_lex rfl
      (by have := hlen (by omega); simp only [List.length_cons]; omega) (by simp [List.any_cons, hplain]) hlex rfl)]
    exact twice hm
  · have hsub : substitute ['2', ' ', '*', ' ', 'n', '_', 'j', 'o', 'b', 's'] (n : Int) =
        '2' :: ' ' :: '*' :: ' ' :: ds.map digitChar :=
      (rfl : _ = '2' :: ' ' :: '*' :: ' ' :: (strInt n ++ [])).trans (by rw [List.append_nil, e1])
    have star : ∀ f cs acc, lexFuel (f + 1) ('*' :: ' ' :: cs) acc = lexFuel f (' ' :: cs) (.bin .mult :: acc) :=
      fun _ _ _ => rfl
    have hlex : lex ('2' :: ' ' :: '*' :: ' ' :: ds.map digitChar) = .ok [.num (.int 2), .bin .mult, .num (.int n)] :=
      (lexFuel_int (.space _) two _ _).trans <| (lexFuel_space ..).trans <| (star ..).trans <|
        (lexFuel_space ..).trans (last _)
    rw [resolvePreDispatch_str (by decide) hsub (parse_of_lex rfl
      (by have := hlen (by omega); simp only [List.length_cons]; omega) (by simp [List.any_cons, hplain]) hlex rfl)]
    exact twice hm

/-- The M1 configuration `c` (`JoblibModel.ParallelProto.Cfg`: `nj`, `pdMode`, `pd`) is the one `Parallel.__call__`
derives from the user's `pre_dispatch` and the effective `n_jobs`: `'all'` ⇒ mode 1, otherwise `pd` is the amount
handed to `islice`; a resolution that raises (or on which the model abstains) corresponds to no configuration. -/
def UserCfg (c : JoblibModel.ParallelProto.Cfg) (pre_dispatch : PreDispatch) (n_jobs : Nat) : Prop :=
  c.nj = n_jobs ∧
    match resolvePreDispatch pre_dispatch n_jobs with
    | .all => c.pdMode = 1
    | .amount a => c.pdMode ≠ 1 ∧ c.pd = a
    | _ => False

end JoblibModel.EvalExpr
