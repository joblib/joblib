import JoblibProofs.Lemmas.TrackerClient.Ops
