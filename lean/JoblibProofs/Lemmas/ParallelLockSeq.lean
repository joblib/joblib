import JoblibProofs.Lemmas.ParallelLockSeq.Steps
