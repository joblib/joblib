import JoblibModel.ParallelStartup
import JoblibProofs.Lemmas.ParallelCalls
import JoblibProofs.Lemmas.ParallelSeq
/-!
Start-up failures of a `Parallel` call (F52): what `failedStart` leaves behind, with and without the guard of
`Parallel.__call__`; with no fault placed the scenario runners are those of `ParallelProto` / `ParallelSeq`.
-/
namespace JoblibModel.ParallelStartup
open JoblibModel.ParallelProto JoblibModel.ParallelSeq

theorem resetRun_eq (s : St) : resetRun s = resetState s := rfl

theorem failedStart_eq (c : Cfg) (guard : Bool) (f : Fault) (base : Nat) (spec : CallSpec) (s : St) :
    failedStart c guard f base spec s =
      if f.kind == 1 then guardCleanup guard (resetState s)
      else if f.kind == 2 then guardCleanup guard (configured c (resetState s))
      else if f.kind == 3 then guardCleanup guard { configured c (resetState s) with ready := [] }
      else if f.kind == 4 then guardCleanup guard (ev { configured c (resetState s) with ready := [] } "start_call")
      else if f.kind == 5 then
        guardCleanup guard { ev { configured c (resetState s) with ready := [] } "start_call" with calling := true }
      else guardCleanup guard
        { ev { configured c (resetState s) with ready := [] } "start_call" with
          calling := true, base := base, spec := spec, srcPos := 0, srcDead := false, origAlive := true } := rfl

/-- The guard: `_running = False`, then `_terminate_and_reset` (`stop_call` if `_calling`, `_calling = False`,
`terminate` unless managed) — nothing else of the object is touched. -/
theorem guardCleanup_true (X : St) (hr : X.running = true) :
    ∃ lg, guardCleanup true X = { X with running := false, calling := false, log := lg } ∧
      lg = (if X.managed then [] else ["terminate"]) ++ (if X.calling then ["stop_call"] else []) ++ X.log := by
  refine ⟨_, ?_, rfl⟩
  unfold guardCleanup
  rw [hr]
  show terminateAndReset _ = _
  unfold terminateAndReset ev
  cases X.calling <;> cases X.managed <;> rfl

theorem guardCleanup_false (X : St) : guardCleanup false X = X := by
  simp [guardCleanup]

/-- The state in which the failing statement of `_start_call` is reached (before the guard), relative to the idle
state `s` the call started from: a new call id was drawn, the counters and flags were reset, `_running` is set;
nothing was dispatched (tracker table, job queues untouched), the backend only lost parked batches of earlier calls
(completed as no-ops during `configure`). -/
structure Pre (s X : St) : Prop where
  running : X.running = true
  jobs : X.jobs = s.jobs
  jobsSet : X.jobsSet = s.jobsSet
  trk : X.trk = s.trk
  failIds : X.failIds = s.failIds
  hung : X.hung = s.hung
  managed : X.managed = s.managed
  now : X.now = s.now
  callId : X.callId = s.callCtr + 1
  callCtr : X.callCtr = s.callCtr + 1
  parked : X.parked.Sublist s.parked
  sched : X.sched.length ≤ s.sched.length
  zero : X.nDispTasks = 0 ∧ X.nDispBatches = 0 ∧ X.nCompleted = 0 ∧ X.nbConsumed = 0
  flags : X.aborting = false ∧ X.exception = false ∧ X.aborted = false

/-- The state a failed start-up leaves (with the guard): what `Pre` says, with `_running` and `_calling` cleared. (In
this namespace the name hides `ParallelProto.Post`, the predicate about `_start`.) -/
structure Post (s s' : St) : Prop where
  running : s'.running = false
  calling : s'.calling = false
  jobs : s'.jobs = s.jobs
  jobsSet : s'.jobsSet = s.jobsSet
  trk : s'.trk = s.trk
  failIds : s'.failIds = s.failIds
  hung : s'.hung = s.hung
  managed : s'.managed = s.managed
  now : s'.now = s.now
  callId : s'.callId = s.callCtr + 1
  callCtr : s'.callCtr = s.callCtr + 1
  parked : s'.parked.Sublist s.parked
  sched : s'.sched.length ≤ s.sched.length
  zero : s'.nDispTasks = 0 ∧ s'.nDispBatches = 0 ∧ s'.nCompleted = 0 ∧ s'.nbConsumed = 0
  flags : s'.aborting = false ∧ s'.exception = false ∧ s'.aborted = false

theorem Pre.post {s X : St} (h : Pre s X) : Post s (guardCleanup true X) := by
  obtain ⟨lg, e, _⟩ := guardCleanup_true X h.running
  rw [e]
  exact { h with running := rfl, calling := rfl }

/-- Whatever the fault, the statement it breaks is reached in a `Pre` state; from `iter(iterable)` on (kinds 5–7)
`_calling` is set there, and `start_call` was the last thing the backend was told. -/
theorem failedStart_pre (c : Cfg) (guard : Bool) (f : Fault) (base : Nat) (spec : CallSpec) {s : St} (hi : Idle s) :
    ∃ X, failedStart c guard f base spec s = guardCleanup guard X ∧ Pre s X ∧
      (5 ≤ f.kind → X.calling = true ∧ X.log.head? = some "start_call") := by
  have hP1 : Pre s (resetState s) :=
    ⟨rfl, rfl, rfl, rfl, rfl, rfl, rfl, rfl, rfl, rfl, List.Sublist.refl _, Nat.le_refl _, ⟨rfl, rfl, rfl, rfl⟩,
      ⟨rfl, rfl, rfl⟩⟩
  have hP2 : Pre s (configured c (resetState s)) := by
    obtain ⟨lg, pk, sc, ib, eC, hpk, hsc⟩ := configured_stale c hi.reset_stale
    rw [eC]
    exact { hP1 with parked := hpk, sched := hsc }
  -- the later statements write `ready`, the log, `_calling` and the input fields, none of which `Pre` reads
  rw [failedStart_eq]
  by_cases h1 : (f.kind == 1) = true
  · rw [if_pos h1]
    exact ⟨_, rfl, hP1, fun h => by have := eq_of_beq h1; omega⟩
  rw [if_neg h1]
  by_cases h2 : (f.kind == 2) = true
  · rw [if_pos h2]
    exact ⟨_, rfl, hP2, fun h => by have := eq_of_beq h2; omega⟩
  rw [if_neg h2]
  by_cases h3 : (f.kind == 3) = true
  · rw [if_pos h3]
    exact ⟨_, rfl, { hP2 with }, fun h => by have := eq_of_beq h3; omega⟩
  rw [if_neg h3]
  by_cases h4 : (f.kind == 4) = true
  · rw [if_pos h4]
    exact ⟨_, rfl, { hP2 with }, fun h => by have := eq_of_beq h4; omega⟩
  rw [if_neg h4]
  by_cases h5 : (f.kind == 5) = true
  · rw [if_pos h5]
    exact ⟨_, rfl, { hP2 with }, fun _ => ⟨rfl, rfl⟩⟩
  rw [if_neg h5]
  exact ⟨_, rfl, { hP2 with }, fun _ => ⟨rfl, rfl⟩⟩

theorem Post.idle {s s' : St} (h : Post s s') (hi : Idle s) : Idle s' :=
  hi.restarted h.running h.jobs h.jobsSet h.trk h.callCtr h.callId h.parked

theorem Post.clean {s s' : St} (h : Post s s') (hi : Idle s) : Clean s' :=
  ⟨h.running, by rw [h.jobs]; exact hi.jobs, by rw [h.jobsSet]; exact hi.jobsSet, h.calling⟩

theorem failedStart_post (c : Cfg) (f : Fault) (base : Nat) (spec : CallSpec) {s : St} (hi : Idle s) :
    Post s (failedStart c true f base spec s) := by
  obtain ⟨X, e, hP, _⟩ := failedStart_pre c true f base spec hi
  rw [e]
  exact hP.post

/-- FAILED START, without the guard (the code before the F52 repair): `_running` stays set. -/
theorem failedStart_unguarded_running (c : Cfg) (f : Fault) (base : Nat) (spec : CallSpec) {s : St} (hi : Idle s) :
    (failedStart c false f base spec s).running = true := by
  obtain ⟨X, e, hP, _⟩ := failedStart_pre c false f base spec hi
  rw [e, guardCleanup_false]
  exact hP.running

theorem reached_none (s : St) : reached {} s = false := by
  simp [reached, reachedCommon]

theorem reachedCommon_none (s : St) : reachedCommon {} s = false := by
  simp [reachedCommon]

theorem runCallF_nofault (c : Cfg) (guard : Bool) (fuel base : Nat) (spec : CallSpec) (s : St) :
    runCallF c guard fuel base spec {} s =
      if isGen c then runCallGen c fuel base spec s else runCallList c fuel base spec s := by
  unfold runCallF
  rw [reached_none]
  simp

theorem runCallsF_nofault (c : Cfg) (guard : Bool) (fuel : Nat) :
    ∀ (calls : List CallSpec) (k base : Nat) (s : St),
      runCallsF c guard fuel k base (calls.map (fun cs => (cs, ({} : Fault)))) s = runCalls c fuel k base calls s := by
  intro calls
  induction calls with
  | nil => intro k base s; rfl
  | cons spec rest ih =>
    intro k base s
    simp only [List.map_cons, runCallsF, runCalls]
    by_cases hh : s.hung = true
    · simp [hh]
    · simp only [hh, if_false, Bool.false_eq_true]
      rw [runCallF_nofault, ih]

theorem map_fst_nofault (calls : List CallSpec) :
    (calls.map (fun cs => (cs, ({} : Fault)))).map (·.1) = calls := by
  rw [List.map_map]; exact List.map_id _

theorem runScenarioF_nofault (c : Cfg) (guard : Bool) (calls : List CallSpec) (sched : List (List Nat)) :
    runScenarioF c guard {} (calls.map (fun cs => (cs, ({} : Fault)))) sched = runScenario c calls sched := by
  unfold runScenarioF runScenario enterBlock
  simp only [map_fst_nofault, runCallsF_nofault]
  simp

theorem seqRunCallF_nofault (c : Cfg) (guard : Bool) (fuel base : Nat) (spec : CallSpec) (s : St) :
    seqRunCallF c guard fuel base spec {} s =
      if isGen c then seqRunCallGen c fuel base spec s else seqRunCallList c fuel base spec s := by
  unfold seqRunCallF
  rw [reachedCommon_none]
  simp

theorem seqRunCallsF_nofault (c : Cfg) (guard : Bool) (fuel : Nat) :
    ∀ (calls : List CallSpec) (k base : Nat) (s : St),
      seqRunCallsF c guard fuel k base (calls.map (fun cs => (cs, ({} : Fault)))) s = seqRunCalls c fuel k base calls s := by
  intro calls
  induction calls with
  | nil => intro k base s; rfl
  | cons spec rest ih =>
    intro k base s
    simp only [List.map_cons, seqRunCallsF, seqRunCalls]
    rw [seqRunCallF_nofault, ih]

theorem runScenarioSeqF_nofault (c : Cfg) (guard : Bool) (calls : List CallSpec) (sched : List (List Nat)) :
    runScenarioSeqF c guard {} (calls.map (fun cs => (cs, ({} : Fault)))) sched = runScenarioSeq c calls sched := by
  unfold runScenarioSeqF runScenarioSeq enterBlock
  simp only [map_fst_nofault, seqRunCallsF_nofault]
  simp

/-- The states a `Parallel` object can be in after any history, starting from `s₀`, of list-mode calls (any input:
failing tasks, failing iterator step, timeout, any schedule; the call may return or raise), failed start-ups (any fault,
code with the guard) and hook points between calls (late completions of earlier calls). -/
inductive Reach (c : Cfg) (s₀ : St) : St → Prop
  | start : Reach c s₀ s₀
  | call {s : St} (fuel base : Nat) (spec : CallSpec) : Reach c s₀ s →
      2 * spec.n + s.sched.length + s.parked.length + 2 ≤ fuel → Reach c s₀ (callList c fuel base spec s).1
  | failed {s : St} (f : Fault) (base : Nat) (spec : CallSpec) : Reach c s₀ s →
      Reach c s₀ (failedStart c true f base spec s)
  | between {s : St} : Reach c s₀ s → Reach c s₀ (hook c false s)

theorem Reach.idle {c : Cfg} (hc : CfgOK c) (hpd : c.pdMode = 1 ∨ 1 ≤ c.pd) {s₀ s : St} (hi : Idle s₀)
    (hh : s₀.hung = false) (hr : Reach c s₀ s) : Idle s ∧ s.hung = false ∧ s.failIds = s₀.failIds := by
  induction hr with
  | start => exact ⟨hi, hh, rfl⟩
  | call fuel base spec _ hfuel ih =>
    obtain ⟨_, h1, _, h3, h4⟩ := callList_ends hc (base := base) (spec := spec) ih.1 ih.2.1 hpd hfuel
    exact ⟨h1, h3, h4.trans ih.2.2⟩
  | failed f base spec _ ih =>
    have hP := failedStart_post c f base spec ih.1
    exact ⟨hP.idle ih.1, hP.hung.trans ih.2.1, hP.failIds.trans ih.2.2⟩
  | between _ ih =>
    obtain ⟨h1, h2, h3⟩ := hook_between_keeps c ih.1
    exact ⟨h1, h2.trans ih.2.1, h3.trans ih.2.2⟩

/-- The sequential path: `iter(iterable)` raising inside the output generator (`failed`) leaves the object idle. -/
theorem seq_iter_fault_idle (c : Cfg) (base : Nat) (spec : CallSpec) {s : St} (hi : Idle s) :
    ∃ s1 bs, seqStart c base spec s = (s1, { bs := bs }, none) ∧ Idle (failed s1) ∧ (failed s1).exception = true ∧
      (failed s1).nCompleted = 0 ∧ (failed s1).calling = s.calling := by
  obtain ⟨s1, bs, he, _, hS⟩ := seqStart_spec c base spec hi
  exact ⟨s1, bs, he, idle_after hi hS { SKeep.refl s1 with } rfl, rfl, hS.zero.1, hS.calling⟩

end JoblibModel.ParallelStartup
