import JoblibProofs.Lemmas.StoreCall
/-! Facts about a call of a fresh process that C05 and C11 share. What survives a kill at any point of a solo run of own calls
(C05; a torn call is an own call too, `ownG_tear`): `Inv` (`crash_inv`), `CrashOK` — kept by every allowed, code-safe call
(`crashOK_apply`, `crash_crashOK`) — and the order of stamps and values `StampOK` (`stampOK_apply`, `crash_stampOK`); which value the call returns from a
`CrashOK` directory (`recover_value`). Under interleaving (C11): `callProc_env`, `call_correct_env`. Also the invariant of the
empty directory (`inv_empty`), complete final names (`inv_final_names`) and "no excuse to raise" (`OutSat.ok_of`). -/
namespace JoblibModel.Store

variable {π : Par}

theorem inv_empty (π : Par) (s : Bool) : Inv π s FS.empty := by
  have g : ∀ {p : Path} {nd : Node}, FS.empty.get p = some nd → p = [] ∧ nd = .dir 0 := by
    intro p nd h
    by_cases hp : p = []
    · subst hp; simp [FS.get] at h; exact ⟨rfl, h.symm⟩
    · simp [FS.get, FS.empty, hp, lookup] at h
  refine ⟨⟨fun p q i c c' h => (by cases (g h).2), fun p i c h => (by cases (g h).2), fun q i c h => by simp [FS.empty] at h,
      fun p i c q c' h => (by cases (g h).2)⟩, fun p j h => (g h).1 ▸ nil_not_file, fun p i c h => (by cases (g h).2),
    fun a i d h => (by cases (g h).2), fun a i d h => (by cases (g h).2), fun p hp h => ?_⟩
  cases hg : FS.empty.get p with
  | none => rw [hg] at h; cases h
  | some nd => exact absurd (g hg).1 hp
theorem inv_final_names {s : Bool} {fs : FS} (h : Inv π s fs) :
    (∀ a d, fs.dataAt (pOut a) = some d → ∃ v g, d = π.cd.pickle ⟨v, a, g⟩) ∧
    (∀ a d, fs.dataAt (pMeta a) = some d → ∃ g, d = π.cd.metaText g) := by
  refine ⟨fun a d hd => ?_, fun a d hd => ?_⟩
  · obtain ⟨i, hi⟩ := dataAt_eq hd
    obtain ⟨v, g, hv, _⟩ := h.out a i d hi
    exact ⟨v, g, hv⟩
  · obtain ⟨i, hi⟩ := dataAt_eq hd
    exact h.metaOk a i d hi

/-- hypotheses on the comparison of `func_code.py` with the live source: the text joblib writes is not empty, and no
strict prefix of it compares equal to the live source -/
structure CodeOK (π : Par) : Prop where
  nonempty : π.cd.codeText π.ver ≠ []
  prefix_differs : ∀ d, d <+: π.cd.codeText π.ver → d ≠ π.cd.codeText π.ver → π.cd.checkCode π.ver d ≠ .same

/-- What every crash state satisfies: complete final names (possibly of an older source) and — if `func_code.py`
compares equal to the live source — only results of the live source. -/
def CrashOK (π : Par) (fs : FS) : Prop := Inv π false fs ∧ TrustK π false fs

theorem crashOK_iff {fs : FS} : CrashOK π fs ↔ StartOK π false False fs :=
  ⟨fun h => ⟨h.1, h.2, False.elim⟩, fun h => ⟨h.1, h.2.1⟩⟩

theorem codeSafe_tear {fs : FS} {o : Op} (n : Nat) (h : CodeSafe π fs o) : CodeSafe π fs (tear n o) := by
  rcases tear_eq n o with e | ⟨p, i, d, rfl, e⟩
  · rw [e]; exact h
  · rw [e]
    intro p1 i1 d1 c e1 hg
    cases e1
    rcases h p i d c rfl hg with hl | ⟨hc, hp, hne⟩
    · exact Or.inl hl
    · refine Or.inr ⟨hc, (List.take_prefix n d).trans hp, fun e2 => ?_⟩
      -- a prefix of a strict prefix is strict
      have l1 := (List.take_prefix n d).length_le
      have l2 := hp.length_le
      have : d = π.cd.codeText π.ver := hp.eq_of_length (by rw [← e2] at l2 ⊢; omega)
      exact hne this

/-- if `func_code.py` compares equal to the live source afterwards, it was left as it was, or completed — and then only results
of the live source are present (`CodeSafe`) -/
theorem crashOK_apply (hco : CodeOK π) {lvl : Level} {who : Nat → Prop} {fs : FS} {o : Op}
    (h : CrashOK π fs) (ha : Allowed π lvl who fs o) (hs : CodeSafe π fs o) : CrashOK π (apply o fs).2 := by
  refine ⟨inv_apply h.1 ha, fun _ i d hg hsame => ?_⟩
  have notFinal : ∀ c, ¬ Final π pCode c := fun c hf => by
    obtain ⟨a, e | e⟩ := hf.sealed <;> simp [pCode, pOut, pMeta] at e
  cases ha.touch pCode with
  | same e => rw [e] at hg; exact inv_apply (h.2 rfl i d hg hsame) ha
  | mkdir hd _ _ => exact absurd FileShaped.code (dir_not_file hd)
  | creat _ _ _ e =>
    -- truncated: the empty text does not match
    rw [e] at hg; cases hg
    exact absurd hsame (hco.prefix_differs [] List.nil_prefix (fun e => hco.nonempty e.symm))
  | write p j c0 dd ho hb _ e =>
    rw [e] at hg; cases hg
    rcases hs p i dd c0 ho hb with hl | ⟨rfl, hp, hne⟩
    · exact inv_apply (inv_true_of_live h.1 hl) ha
    · rw [overwrite_nil] at hsame
      exact absurd hsame (hco.prefix_differs _ hp hne)
  | movedAway _ _ _ _ e => rw [e] at hg; cases hg
  | movedOnto _ _ c _ _ _ hf _ _ _ => exact absurd hf (notFinal c)
  | unlink _ _ _ _ _ _ _ e => rw [e] at hg; cases hg
  | rmdir _ _ _ _ e => rw [e] at hg; cases hg

theorem crash_all {α : Type} (p : Prog α) : ∀ fs, crash (steps p fs) none p fs = (run p fs).2 := by
  induction p with
  | ret a => intro fs; rfl
  | raise e => intro fs; rfl
  | op o k ih =>
    intro fs
    show crash (steps (k (apply o fs).1) (apply o fs).2 + 1) none (.op o k) fs = _
    unfold crash
    cases hst : steps (k (apply o fs).1) (apply o fs).2 with
    | zero => simp only; rw [← hst]; exact ih _ _
    | succ n => simp only; rw [← hst]; exact ih _ _

theorem run_tryCatch {α : Type} (p : Prog α) (hd : Err → Prog α) :
    ∀ fs, run (p.tryCatch hd) fs =
      match (run p fs).1 with
      | .ok a => (.ok a, (run p fs).2)
      | .raised e => run (hd e) (run p fs).2 := by
  induction p with
  | ret a => intro fs; rfl
  | raise e => intro fs; rfl
  | op o k ih => intro fs; exact ih _ _

theorem run_bind_ok {α β : Type} {p : Prog α} {f : α → Prog β} {fs : FS} {v : β} (h : (run (p.bind f) fs).1 = .ok v) :
    ∃ x, (run p fs).1 = .ok x ∧ (run (f x) (run p fs).2).1 = .ok v := by
  rw [run_bind] at h
  cases hp : (run p fs).1 with
  | ok x => rw [hp] at h; exact ⟨x, rfl, h⟩
  | raised e => rw [hp] at h; cases h

theorem OutSat.ok_of {α : Type} {Q : α → FS → Prop} {lvl : Level} {c : Cfg} {out : Outcome α} {fs : FS}
    (hl : lvl ≠ .clear) (hsh : c.shelve = false) (h : OutSat Q (EC lvl c) out fs) : ∃ v, out = .ok v ∧ Q v fs := by
  cases out with
  | ok v => exact ⟨v, rfl, h⟩
  | raised e =>
    rcases h with h | h
    · exact absurd h hl
    · rw [hsh] at h; cases h

theorem world_env (lvl : Level) (me : Nat) : World π true lvl me (Env π lvl me) False :=
  ⟨fun _ _ h => h, nofun, False.elim⟩

theorem pre_true (fs : FS) (hi : Inv π true fs) : StartOK π true True fs :=
  ⟨hi, (fun h => by cases h), (fun _ h => by cases h)⟩

/-- `callProc_sat` read for a run interleaved with any steps of other participants, at any level … -/
theorem callProc_env {lvl : Level} {me : Nat} {c : Cfg} {a : Nat} (hc : CfgBase π me c)
    (hU : π.cd.RoundTrip) {fs fs' : FS} {tr : List (FS × Op)} {out : Outcome Val}
    (hi : Inv π true fs) (hr : Runs (Env π lvl me) (callProc c a) fs tr out fs') :
    (∀ x ∈ tr, OwnG π me True False c.gen x.1 x.2) ∧ OutSat (CallPost π true True c a) (EC lvl c) out fs' :=
  (callProc_sat (strong := True) (quiet := False) (world_env lvl me) c hc False.elim a hU).sound hr (good_init (world_env lvl me)).stable (pre_true fs hi)

/-- … at a level below `clear` it returns `f(a)`. -/
theorem call_correct_env {lvl : Level} (hl : lvl ≠ .clear) {me : Nat} {c : Cfg} {a : Nat} (hc : CfgBase π me c)
    (hsh : c.shelve = false) (hU : π.cd.RoundTrip) {fs fs' : FS} {tr : List (FS × Op)}
    {out : Outcome Val} (hi : Inv π true fs) (hr : Runs (Env π lvl me) (callProc c a) fs tr out fs') :
    ∃ g, out = .ok ⟨π.ver, a, g⟩ := by
  obtain ⟨v, rfl, h⟩ := OutSat.ok_of hl hsh (callProc_env hc hU hi hr).2
  exact (h.2.2 hsh).imp fun g hg => by rw [hg]

theorem run_bind_ret_ne {α : Type} (p : Prog α) (fs : FS) :
    (run (p.bind fun _ => Prog.ret false) fs).1 ≠ .ok true := by
  rw [run_bind]
  cases (run p fs).1 with
  | ok a => simp [run]
  | raised e => simp

theorem checkPrevious_noop (c : Cfg) (fs : FS) (h : (run (checkPrevious c) fs).1 = .ok true) :
    (run (checkPrevious c) fs).2 = fs := by
  unfold checkPrevious at h ⊢
  have e1 : (apply (.openr pCode) fs).2 = fs := reads_noop rfl fs
  simp only [run, e1] at h ⊢
  generalize (apply (.openr pCode) fs).1 = r at h ⊢
  cases r with
  | fd i =>
    simp only [run, apply] at h ⊢
    cases hc : c.codec.checkCode c.ver (fs.readData pCode i) with
    | same => rfl
    | differs => rw [hc] at h; exact absurd h (run_bind_ret_ne _ _)
    | valueError =>
      rw [hc] at h
      simp only at h
      by_cases hl : c.legacy = true
      · rw [if_pos hl] at h; simp [run] at h
      · rw [if_neg hl] at h; exact absurd h (run_bind_ret_ne _ _)
  | _ => exact absurd h (run_bind_ret_ne _ _)

theorem run_getMetadata (c : Cfg) (a : Nat) (fs : FS) :
    run (getMetadata c a) fs = (.ok ((fs.dataAt (pMeta a)).bind c.codec.metaStamp), fs) := by
  unfold getMetadata FS.dataAt
  simp only [run, apply]
  cases hg : fs.get (pMeta a) with
  | none => rfl
  | some nd =>
    cases nd with
    | dir j => rfl
    | file i d => simp [apply, run, FS.readData, hg]

theorem isInCacheAndValid_true (c : Cfg) (a : Nat) (fs : FS) (h : (run (isInCacheAndValid c a) fs).1 = .ok true) :
    (run (isInCacheAndValid c a) fs).2 = fs ∧
    (c.skipCallbackWithoutMetadata = false → c.callback ≠ .none →
      ∃ t, (fs.dataAt (pMeta a)).bind c.codec.metaStamp = some t ∧ c.callback.accepts t = true) := by
  generalize hr : run (isInCacheAndValid c a) fs = r at h ⊢
  obtain ⟨out, s'⟩ := r
  simp only at h ⊢
  subst h
  unfold isInCacheAndValid at hr
  rw [run_bind] at hr
  cases hcp : (run (checkPrevious c) fs).1 with
  | raised e => rw [hcp] at hr; cases hr
  | ok b =>
    rw [hcp] at hr
    cases b with
    | false => simp [run] at hr
    | true =>
      have ex : ∀ p, run (exists_ p) fs = (.ok ((apply (.stat p) fs).1 == .yes), fs) := fun p => rfl
      rw [checkPrevious_noop c fs hcp] at hr
      simp only [Bool.not_true, Bool.false_eq_true, if_false] at hr
      rw [run_bind, ex] at hr
      simp only at hr
      cases he : ((apply (.stat (pOut a)) fs).1 == .yes) with
      | false => rw [he] at hr; simp [run] at hr
      | true =>
        rw [he] at hr
        simp only [Bool.not_true, Bool.false_eq_true, if_false] at hr
        have rej : ∀ s', run (if c.keepRejected = true then Prog.ret false else (clearItem c a).bind fun _ => Prog.ret false)
            fs ≠ (.ok true, s') := by
          intro s' e
          by_cases hk : c.keepRejected = true
          · rw [if_pos hk] at e; cases e
          · rw [if_neg hk] at e; exact run_bind_ret_ne _ _ (congrArg Prod.fst e)
        by_cases hs : (c.skipCallbackWithoutMetadata && c.callback == Callback.none) = true
        · rw [if_pos hs] at hr
          cases hr
          exact ⟨rfl, fun h1 => by rw [h1] at hs; cases hs⟩
        · rw [if_neg hs, run_bind, run_getMetadata] at hr
          simp only at hr
          split at hr
          · next hcb => cases hr; exact ⟨rfl, fun _ hn => absurd hcb hn⟩
          · split at hr
            · next hst =>
              by_cases hsk : c.skipCallbackWithoutMetadata = true
              · rw [if_pos hsk] at hr; cases hr; exact ⟨rfl, fun h1 => by rw [h1] at hsk; cases hsk⟩
              · rw [if_neg hsk] at hr
                by_cases hl : c.legacy = true
                · rw [if_pos hl] at hr; cases hr
                · rw [if_neg hl] at hr; exact absurd hr (rej _)
            · next t hst =>
              by_cases hacc : c.callback.accepts t = true
              · rw [if_pos hacc] at hr; cases hr; exact ⟨rfl, fun _ _ => ⟨t, hst, hacc⟩⟩
              · rw [if_neg hacc] at hr; exact absurd hr (rej _)
theorem run_loadItem (c : Cfg) (a : Nat) (fs : FS) :
    (run (loadItem c a) fs).2 = fs ∧
    ∀ v, (run (loadItem c a) fs).1 = .ok v → (fs.dataAt (pOut a)).bind c.codec.unpickle = some v := by
  unfold loadItem exists_ FS.dataAt
  cases hg : fs.get (pOut a) with
  | none => simp [Prog.bind, run, apply, hg]
  | some nd =>
    cases nd with
    | dir j => simp [Prog.bind, run, apply, hg]
    | file i d =>
      simp only [Prog.bind, run, apply, hg, Option.isSome_some, if_true, beq_self_eq_true, Bool.not_true,
        Bool.false_eq_true, if_false, FS.readData]
      cases hu : c.codec.unpickle d with
      | none => exact ⟨rfl, fun v h => by cases h⟩
      | some w => exact ⟨rfl, fun v h => by cases h; exact hu⟩

theorem computeAndStore_ok (c : Cfg) (a : Nat) (fs : FS) (hsh : c.shelve = false) (v : Val)
    (h : (run (computeAndStore c a) fs).1 = .ok v) : v = ⟨c.ver, a, c.gen⟩ := by
  unfold computeAndStore at h
  obtain ⟨_, -, h⟩ := run_bind_ok h
  rw [hsh] at h
  cases h; rfl

theorem cachedCall_value (c : Cfg) (a : Nat) (fs : FS) (hsh : c.shelve = false) (v : Val)
    (h : (run (cachedCall c a) fs).1 = .ok v) :
    v = ⟨c.ver, a, c.gen⟩ ∨
      ((run (isInCacheAndValid c a) fs).1 = .ok true ∧ (fs.dataAt (pOut a)).bind c.codec.unpickle = some v) := by
  unfold cachedCall at h
  obtain ⟨valid, hv, h⟩ := run_bind_ok h
  cases valid with
  | false => exact Or.inl (computeAndStore_ok c a _ hsh v h)
  | true =>
    rw [(isInCacheAndValid_true c a fs hv).1] at h
    simp only [if_true, hsh, Bool.false_eq_true, if_false] at h
    rw [run_bind, run_tryCatch, run_bind, (run_loadItem c a fs).1] at h
    cases hl : (run (loadItem c a) fs).1 with
    | ok w =>
      rw [hl] at h
      cases h
      exact Or.inr ⟨hv, (run_loadItem c a fs).2 _ hl⟩
    | raised e =>
      rw [hl] at h
      exact Or.inl (computeAndStore_ok c a _ hsh v h)

theorem solo {s : Bool} {me : Nat} {quiet : Prop} : World π s .calls me (fun _ _ => False) quiet :=
  ⟨fun _ _ h => h.elim, fun _ _ _ h => h, fun _ => ⟨fun _ _ h => h, rfl⟩⟩

theorem callProc_solo {me : Nat} {strong : Prop} (hU : π.cd.RoundTrip) (c : Cfg)
    (hc : CfgBase π me c) (hsh : c.shelve = false) (a : Nat) {fs : FS} (h : StartOK π false strong fs) :
    ∃ g, (run (callProc c a) fs).1 = .ok ⟨π.ver, a, g⟩ ∧ (strong → Inv π true (run (callProc c a) fs).2) := by
  have ho := (callProc_sat (strong := strong) (quiet := False) solo c hc False.elim a hU).run_sound h
  obtain ⟨v, hv, hq⟩ := OutSat.ok_of (by decide) hsh ho
  obtain ⟨g, rfl⟩ := hq.2.2 hsh
  exact ⟨g, hv, fun hst => hq.2.1 hst rfl⟩

/-- A fresh process calling `f(a)` on a `CrashOK` directory returns a value of the live source that it computed — of its
own generation — or found in `output.pkl` next to a `metadata.json` whose stamp the callback, if any, accepted. -/
theorem recover_value {me : Nat} (hU : π.cd.RoundTrip) (c : Cfg)
    (hc : CfgBase π me c) (hsh : c.shelve = false) (a : Nat) {fs : FS} (h : CrashOK π fs) :
    ∃ g, (run (callProc c a) fs).1 = .ok ⟨π.ver, a, g⟩ ∧
      (g = c.gen ∨ ((fs.dataAt (pOut a)).bind π.cd.unpickle = some ⟨π.ver, a, g⟩ ∧
        (c.callback ≠ .none →
          ∃ t, (fs.dataAt (pMeta a)).bind π.cd.metaStamp = some t ∧ c.callback.accepts t = true))) := by
  obtain ⟨g, hv, -⟩ := callProc_solo hU c hc hsh a (crashOK_iff.mp h)
  refine ⟨g, hv, ?_⟩
  -- the call is `Memory(location)`, `memory.cache(f)` — which leave the results alone — and then `_cached_call`
  rw [callProc_eq] at hv
  have keep : ∀ p, Sealed p → (run ((configure c).bind fun _ => ensureFuncDir) fs).2.dataAt p = fs.dataAt p :=
    fun p hp => Sat.run_frame (I := fun s => s.dataAt p = fs.dataAt p)
      (fun s o hg hs => (builds_keeps_final hg.1.allowed hg.2 hp).trans hs)
      (enter_sat (s := false) (me := me) (strong := False) (quiet := False) (ownB_up (strong := False) (quiet := False) (τ := 0)) solo c) ⟨h.1, h.2, False.elim⟩ rfl
  obtain ⟨_, -, hv⟩ := run_bind_ok hv
  rcases cachedCall_value c a _ hsh _ hv with e | ⟨hacc, hld⟩
  · exact Or.inl (congrArg Val.gen e)
  · rw [keep _ ⟨a, Or.inl rfl⟩, hc.cd] at hld
    refine Or.inr ⟨hld, fun hcb => ?_⟩
    have := (isInCacheAndValid_true c a _ hacc).2 hc.skipcb hcb
    rwa [keep _ ⟨a, Or.inr rfl⟩, hc.cd] at this

theorem codeOK_of_prefixes (n : Nat) (hlen : (π.cd.codeText π.ver).length = n) (hn : 0 < n)
    (all : ∀ m, m < n → π.cd.checkCode π.ver ((π.cd.codeText π.ver).take m) ≠ .same) : CodeOK π := by
  refine ⟨fun e => by rw [e] at hlen; subst hlen; exact absurd hn (Nat.lt_irrefl 0), fun d hp hne => ?_⟩
  obtain ⟨m, rfl⟩ : ∃ m, d = (π.cd.codeText π.ver).take m := ⟨d.length, List.prefix_iff_eq_take.mp hp⟩
  refine all m ?_
  rcases Nat.lt_or_ge m n with h | h
  · exact h
  · exact absurd (List.take_of_length_le (hlen ▸ h)) hne

theorem inv_false_ver {s : Bool} {fs : FS} (v : Nat) (h : Inv π s fs) : Inv ⟨π.cd, v⟩ false fs :=
  ⟨h.wf, h.typD, h.typF, fun a i d hg => by
    obtain ⟨w, g, hd, _⟩ := h.out a i d hg
    exact ⟨w, g, hd, fun e => by cases e⟩, h.metaOk, h.up⟩

section Stamps
variable {lvl : Level} {who : Nat → Prop} {fs : FS} {o : Op} {q : Path}

/-- No value and no stamp is of a generation later than `B`, and `metadata['time']` of an entry (what `expires_after` compares
with now) is not later than the execution that produced the `output.pkl` next to it: an entry never looks newer than it is. -/
def StampOK (cd : Codec) (B : Nat) (fs : FS) : Prop :=
  ∀ a, (∀ d v, fs.dataAt (pOut a) = some d → cd.unpickle d = some v → v.gen ≤ B) ∧
       (∀ e t, fs.dataAt (pMeta a) = some e → cd.metaStamp e = some t → t ≤ B) ∧
       (∀ e d, fs.dataAt (pMeta a) = some e → fs.dataAt (pOut a) = some d →
         ∀ t v, cd.metaStamp e = some t → cd.unpickle d = some v → t ≤ v.gen)

theorem StampOK.mono {cd : Codec} {B B' : Nat} (hB : B ≤ B') (h : StampOK cd B fs) : StampOK cd B' fs := fun a =>
  ⟨fun d v hd hv => Nat.le_trans ((h a).1 d v hd hv) hB, fun e t he ht => Nat.le_trans ((h a).2.1 e t he ht) hB, (h a).2.2⟩

theorem stampOK_empty (cd : Codec) (B : Nat) : StampOK cd B FS.empty := fun a => by
  have de : ∀ p, FS.empty.dataAt p = none := fun p => by
    unfold FS.dataAt FS.get; by_cases h : p = [] <;> simp [h, FS.empty, lookup]
  rw [de, de]; exact ⟨nofun, nofun, nofun⟩

/-- `numpy_pickle.load(numpy_pickle.dump(v)) = v`, and `get_metadata` reads back the `'time'` that `store_metadata` wrote -/
structure CodecStamp (cd : Codec) : Prop where
  load : cd.RoundTrip
  stamp : ∀ g, cd.metaStamp (cd.metaText g) = some g

/-- at `B = τ`: the process whose renames are `StampSafe` is of a generation not older than anything in the directory -/
theorem stampOK_apply {τ : Nat} (hcd : CodecStamp π.cd) (h : StampOK π.cd τ fs)
    (ha : Allowed π lvl who fs o) (hs : ∀ t f, o = .rename t f → (apply o fs).2 ≠ fs → StampSafe π τ fs t f) :
    StampOK π.cd τ (apply o fs).2 := by
  by_cases hsame : (apply o fs).2 = fs
  · rw [hsame]; exact h
  intro a
  have hO := ha.sealed_data (q := pOut a) ⟨a, Or.inl rfl⟩
  have hM := ha.sealed_data (q := pMeta a) ⟨a, Or.inr rfl⟩
  obtain ⟨h1, h2, h3⟩ := h a
  have stampIn : ∀ t e, o = .rename t (pMeta a) → fs.dataAt t = some e → e = π.cd.metaText τ ∧ OutFresh π τ a fs :=
    fun t e eo he => (hs t _ eo hsame).meta e he
  have valIn : ∀ t d v, o = .rename t (pOut a) → fs.dataAt t = some d → π.cd.unpickle d = some v → v.gen = τ :=
    fun t d v eo hd hv => by rw [(hs t _ eo hsame).out d hd, hcd.load] at hv; cases hv; rfl
  rcases hO with eO | ⟨-, eO | ⟨t, eo, eO⟩⟩
  · rcases hM with eM | ⟨-, eM | ⟨t, eo, eM⟩⟩
    · rw [eO, eM]; exact h a
    · rw [eO, eM]; exact ⟨fun d v hd hv => h1 d v hd hv, nofun, nofun⟩
    · rw [eO, eM]
      refine ⟨fun d v hd hv => h1 d v hd hv, fun e t' he ht => ?_, fun e d he hd t' v ht hv => ?_⟩
      · obtain ⟨rfl, _⟩ := stampIn t e eo he
        rw [hcd.stamp] at ht; cases ht; exact Nat.le_refl _
      · obtain ⟨rfl, hfresh⟩ := stampIn t e eo he
        rw [hfresh d hd, hcd.load] at hv
        rw [hcd.stamp] at ht
        cases ht; cases hv; exact Nat.le_refl _
  · rw [eO]
    refine ⟨nofun, fun e t' he ht => ?_, nofun⟩
    rcases hM with eM | ⟨-, eM | ⟨t, eo, eM⟩⟩
    · rw [eM] at he; exact h2 e t' he ht
    · rw [eM] at he; cases he
    · rw [eM] at he
      obtain ⟨rfl, _⟩ := stampIn t e eo he
      rw [hcd.stamp] at ht; cases ht; exact Nat.le_refl _
  · have eM : (apply o fs).2.dataAt (pMeta a) = fs.dataAt (pMeta a) ∨ (apply o fs).2.dataAt (pMeta a) = none := by
      rcases hM with eM | ⟨-, eM | ⟨t', eo', _⟩⟩
      · exact Or.inl eM
      · exact Or.inr eM
      · rw [eo] at eo'; simp [pOut, pMeta] at eo'
    rw [eO]
    refine ⟨fun d v hd hv => Nat.le_of_eq (valIn t d v eo hd hv), fun e t' he ht => ?_, fun e d he hd t' v ht hv => ?_⟩
    · rcases eM with eM | eM <;> rw [eM] at he
      · exact h2 e t' he ht
      · cases he
    · rcases eM with eM | eM <;> rw [eM] at he
      · rw [valIn t d v eo hd hv]; exact h2 e t' he ht
      · cases he

end Stamps

section Kills
variable {α : Type} {me τ : Nat} {strong quiet : Prop} {P : FS → Prop} {p : Prog α} {Q : α → FS → Prop} {E : Err → FS → Prop}
  {fs : FS} {o : Op}

/-- a call cut short by the kill is guaranteed as the whole one is: only a `write` is cut, to a prefix -/
theorem ownG_tear (n : Nat) (h : OwnG π me strong quiet τ fs o) : OwnG π me strong quiet τ fs (tear n o) :=
  ⟨h.allowed.tear n, fun hs => codeSafe_tear n (h.codeSafe hs), fun hq t f e hne => by cases tear_rename e; exact h.stampSafe hq t f rfl hne⟩

theorem crash_inv {s : Bool} (hs : Sat (fun _ _ => False) (OwnG π me strong quiet τ) P p Q E) (h0 : P fs) (hi : Inv π s fs)
    (k : Nat) (torn : Option Nat) : Inv π s (crash k torn p fs) :=
  Sat.crash (fun _ _ => ownG_tear) (fun _ _ hg hi => inv_apply hi hg.allowed) k torn hs h0 hi

/-- `strong = True`: the calls are `CodeSafe`. (The derivations it is used with, `C05.workload_sat`, start from `P = C05.CacheOK`: a
workload started in a crash state — a second kill before any recovery — is outside it.) -/
theorem crash_crashOK (hco : CodeOK π) (hs : Sat (fun _ _ => False) (OwnG π me True quiet τ) P p Q E) (h0 : P fs)
    (hi : CrashOK π fs) (k : Nat) (torn : Option Nat) : CrashOK π (crash k torn p fs) :=
  Sat.crash (fun _ _ => ownG_tear) (fun _ _ hg hi => crashOK_apply hco hi hg.allowed (hg.codeSafe trivial)) k torn hs h0 hi

/-- **The stamps stay in order**: after a kill at any point of a solo run of own calls whose renames are `StampSafe` for a
generation `τ` not older than anything in the directory, no stamp is newer than the value next to it. (`output.pkl` is
installed before `metadata.json`; installed the other way round, the kill between the two leaves the new stamp next to the old
value.) -/
theorem crash_stampOK (hcd : CodecStamp π.cd) (hs : Sat (fun _ _ => False) (OwnG π me strong True τ) P p Q E) (h0 : P fs)
    (hst : StampOK π.cd τ fs) (k : Nat) (torn : Option Nat) : StampOK π.cd τ (crash k torn p fs) :=
  Sat.crash (fun _ _ => ownG_tear) (fun _ _ hg hi => stampOK_apply hcd hi hg.allowed (hg.stampSafe trivial)) k torn hs h0 hst

end Kills

end JoblibModel.Store
