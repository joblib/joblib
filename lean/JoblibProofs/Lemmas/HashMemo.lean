import JoblibModel.HashMemo
/-! The memo numbering (C08, shared references): the i-th `memoize` of a dump gets index i (`indices_foldl`, from any memo).
`HashMemo.Memo`, the list of `(id(obj), index)`, and `HashStream.Memo`, a counter with three class slots, are two separate
models of `self.memo`: no theorem relates `(run objs).length` to `HashStream.Memo.next`. -/
namespace JoblibModel.HashMemo

theorem indices_foldl (objs : List Nat) (m : Memo) :
    indices (objs.foldl memoize m) = indices m ++ List.range' m.length objs.length := by
  induction objs generalizing m with
  | nil => simp [indices]
  | cons o os ih =>
    rw [List.foldl_cons, ih]
    simp [indices, memoize, List.range'_succ]

theorem indices_run (objs : List Nat) : indices (run objs) = List.range objs.length := by
  have h := indices_foldl objs []
  rw [run, h]
  simp [indices, List.range_eq_range']

theorem length_run (objs : List Nat) : (run objs).length = objs.length := by
  have h := congrArg List.length (indices_run objs)
  simpa [indices] using h

theorem mem_owners {m : Memo} {k o : Nat} : o ∈ owners m k ↔ (o, k) ∈ m := by
  simp [owners]

theorem owners_length (m : Memo) (k : Nat) : (owners m k).length = (indices m).count k := by
  rw [owners, indices, List.length_map, List.count, List.countP_map, List.countP_eq_length_filter]
  rfl

end JoblibModel.HashMemo
