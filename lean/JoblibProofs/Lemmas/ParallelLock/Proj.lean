import JoblibProofs.Lemmas.ParallelLock.Basic
/-! GENERATED by builders_notes/m1l_gen_proj.py (projection lemmas of the state constructors used by the M1L proofs; every one is `rfl`). -/
namespace JoblibModel.ParallelLock

@[simp] theorem mkDisp_log (s : St) (tasks : List Nat) : (mkDisp s tasks).log = s.log := rfl
@[simp] theorem mkDisp_lockOwner (s : St) (tasks : List Nat) : (mkDisp s tasks).lockOwner = s.lockOwner := rfl
@[simp] theorem mkDisp_pc (s : St) (tasks : List Nat) : (mkDisp s tasks).pc = s.pc := rfl
@[simp] theorem mkDisp_out (s : St) (tasks : List Nat) : (mkDisp s tasks).out = s.out := rfl
@[simp] theorem mkDisp_outcome (s : St) (tasks : List Nat) : (mkDisp s tasks).outcome = s.outcome := rfl
@[simp] theorem mkDisp_bsI (s : St) (tasks : List Nat) : (mkDisp s tasks).bsI = s.bsI := rfl
@[simp] theorem mkDisp_srcPos (s : St) (tasks : List Nat) : (mkDisp s tasks).srcPos = s.srcPos := rfl
@[simp] theorem mkDisp_srcDead (s : St) (tasks : List Nat) : (mkDisp s tasks).srcDead = s.srcDead := rfl
@[simp] theorem mkDisp_srcRaised (s : St) (tasks : List Nat) : (mkDisp s tasks).srcRaised = s.srcRaised := rfl
@[simp] theorem mkDisp_preLeft (s : St) (tasks : List Nat) : (mkDisp s tasks).preLeft = s.preLeft := rfl
@[simp] theorem mkDisp_origAlive (s : St) (tasks : List Nat) : (mkDisp s tasks).origAlive = s.origAlive := rfl
@[simp] theorem mkDisp_ready (s : St) (tasks : List Nat) : (mkDisp s tasks).ready = s.ready := rfl
@[simp] theorem mkDisp_jobs (s : St) (tasks : List Nat) : (mkDisp s tasks).jobs = s.jobs ++ [s.trk.length] := rfl
@[simp] theorem mkDisp_trk (s : St) (tasks : List Nat) : (mkDisp s tasks).trk = s.trk ++ [{ items := tasks, bsize := tasks.length, callId := s.callId }] := rfl
@[simp] theorem mkDisp_nDispTasks (s : St) (tasks : List Nat) : (mkDisp s tasks).nDispTasks = s.nDispTasks + tasks.length := rfl
@[simp] theorem mkDisp_nCompleted (s : St) (tasks : List Nat) : (mkDisp s tasks).nCompleted = s.nCompleted := rfl
@[simp] theorem mkDisp_iterating (s : St) (tasks : List Nat) : (mkDisp s tasks).iterating = s.iterating := rfl
@[simp] theorem mkDisp_aborting (s : St) (tasks : List Nat) : (mkDisp s tasks).aborting = s.aborting := rfl
@[simp] theorem mkDisp_aborted (s : St) (tasks : List Nat) : (mkDisp s tasks).aborted = s.aborted := rfl
@[simp] theorem mkDisp_exception (s : St) (tasks : List Nat) : (mkDisp s tasks).exception = s.exception := rfl
@[simp] theorem mkDisp_running (s : St) (tasks : List Nat) : (mkDisp s tasks).running = s.running := rfl
@[simp] theorem mkDisp_callId (s : St) (tasks : List Nat) : (mkDisp s tasks).callId = s.callId := rfl
@[simp] theorem mkDisp_nPop (s : St) (tasks : List Nat) : (mkDisp s tasks).nPop = s.nPop := rfl

@[simp] theorem mkPull_log (s : St) (m : Nat) (evs : List Ev) (dead raised : Bool) (pl : Option Nat) : (mkPull s m evs dead raised pl).log = evs ++ s.log := rfl
@[simp] theorem mkPull_lockOwner (s : St) (m : Nat) (evs : List Ev) (dead raised : Bool) (pl : Option Nat) : (mkPull s m evs dead raised pl).lockOwner = s.lockOwner := rfl
@[simp] theorem mkPull_pc (s : St) (m : Nat) (evs : List Ev) (dead raised : Bool) (pl : Option Nat) : (mkPull s m evs dead raised pl).pc = s.pc := rfl
@[simp] theorem mkPull_out (s : St) (m : Nat) (evs : List Ev) (dead raised : Bool) (pl : Option Nat) : (mkPull s m evs dead raised pl).out = s.out := rfl
@[simp] theorem mkPull_outcome (s : St) (m : Nat) (evs : List Ev) (dead raised : Bool) (pl : Option Nat) : (mkPull s m evs dead raised pl).outcome = s.outcome := rfl
@[simp] theorem mkPull_bsI (s : St) (m : Nat) (evs : List Ev) (dead raised : Bool) (pl : Option Nat) : (mkPull s m evs dead raised pl).bsI = s.bsI := rfl
@[simp] theorem mkPull_srcPos (s : St) (m : Nat) (evs : List Ev) (dead raised : Bool) (pl : Option Nat) : (mkPull s m evs dead raised pl).srcPos = s.srcPos + m := rfl
@[simp] theorem mkPull_srcDead (s : St) (m : Nat) (evs : List Ev) (dead raised : Bool) (pl : Option Nat) : (mkPull s m evs dead raised pl).srcDead = dead := rfl
@[simp] theorem mkPull_srcRaised (s : St) (m : Nat) (evs : List Ev) (dead raised : Bool) (pl : Option Nat) : (mkPull s m evs dead raised pl).srcRaised = raised := rfl
@[simp] theorem mkPull_preLeft (s : St) (m : Nat) (evs : List Ev) (dead raised : Bool) (pl : Option Nat) : (mkPull s m evs dead raised pl).preLeft = pl := rfl
@[simp] theorem mkPull_origAlive (s : St) (m : Nat) (evs : List Ev) (dead raised : Bool) (pl : Option Nat) : (mkPull s m evs dead raised pl).origAlive = s.origAlive := rfl
@[simp] theorem mkPull_ready (s : St) (m : Nat) (evs : List Ev) (dead raised : Bool) (pl : Option Nat) : (mkPull s m evs dead raised pl).ready = s.ready := rfl
@[simp] theorem mkPull_jobs (s : St) (m : Nat) (evs : List Ev) (dead raised : Bool) (pl : Option Nat) : (mkPull s m evs dead raised pl).jobs = s.jobs := rfl
@[simp] theorem mkPull_trk (s : St) (m : Nat) (evs : List Ev) (dead raised : Bool) (pl : Option Nat) : (mkPull s m evs dead raised pl).trk = s.trk := rfl
@[simp] theorem mkPull_nDispTasks (s : St) (m : Nat) (evs : List Ev) (dead raised : Bool) (pl : Option Nat) : (mkPull s m evs dead raised pl).nDispTasks = s.nDispTasks := rfl
@[simp] theorem mkPull_nCompleted (s : St) (m : Nat) (evs : List Ev) (dead raised : Bool) (pl : Option Nat) : (mkPull s m evs dead raised pl).nCompleted = s.nCompleted := rfl
@[simp] theorem mkPull_iterating (s : St) (m : Nat) (evs : List Ev) (dead raised : Bool) (pl : Option Nat) : (mkPull s m evs dead raised pl).iterating = s.iterating := rfl
@[simp] theorem mkPull_aborting (s : St) (m : Nat) (evs : List Ev) (dead raised : Bool) (pl : Option Nat) : (mkPull s m evs dead raised pl).aborting = s.aborting := rfl
@[simp] theorem mkPull_aborted (s : St) (m : Nat) (evs : List Ev) (dead raised : Bool) (pl : Option Nat) : (mkPull s m evs dead raised pl).aborted = s.aborted := rfl
@[simp] theorem mkPull_exception (s : St) (m : Nat) (evs : List Ev) (dead raised : Bool) (pl : Option Nat) : (mkPull s m evs dead raised pl).exception = s.exception := rfl
@[simp] theorem mkPull_running (s : St) (m : Nat) (evs : List Ev) (dead raised : Bool) (pl : Option Nat) : (mkPull s m evs dead raised pl).running = s.running := rfl
@[simp] theorem mkPull_callId (s : St) (m : Nat) (evs : List Ev) (dead raised : Bool) (pl : Option Nat) : (mkPull s m evs dead raised pl).callId = s.callId := rfl
@[simp] theorem mkPull_nPop (s : St) (m : Nat) (evs : List Ev) (dead raised : Bool) (pl : Option Nat) : (mkPull s m evs dead raised pl).nPop = s.nPop := rfl

@[simp] theorem setReady_log (s : St) (r : List (List Nat)) : (setReady s r).log = s.log := rfl
@[simp] theorem setReady_lockOwner (s : St) (r : List (List Nat)) : (setReady s r).lockOwner = s.lockOwner := rfl
@[simp] theorem setReady_pc (s : St) (r : List (List Nat)) : (setReady s r).pc = s.pc := rfl
@[simp] theorem setReady_out (s : St) (r : List (List Nat)) : (setReady s r).out = s.out := rfl
@[simp] theorem setReady_outcome (s : St) (r : List (List Nat)) : (setReady s r).outcome = s.outcome := rfl
@[simp] theorem setReady_bsI (s : St) (r : List (List Nat)) : (setReady s r).bsI = s.bsI := rfl
@[simp] theorem setReady_srcPos (s : St) (r : List (List Nat)) : (setReady s r).srcPos = s.srcPos := rfl
@[simp] theorem setReady_srcDead (s : St) (r : List (List Nat)) : (setReady s r).srcDead = s.srcDead := rfl
@[simp] theorem setReady_srcRaised (s : St) (r : List (List Nat)) : (setReady s r).srcRaised = s.srcRaised := rfl
@[simp] theorem setReady_preLeft (s : St) (r : List (List Nat)) : (setReady s r).preLeft = s.preLeft := rfl
@[simp] theorem setReady_origAlive (s : St) (r : List (List Nat)) : (setReady s r).origAlive = s.origAlive := rfl
@[simp] theorem setReady_ready (s : St) (r : List (List Nat)) : (setReady s r).ready = r := rfl
@[simp] theorem setReady_jobs (s : St) (r : List (List Nat)) : (setReady s r).jobs = s.jobs := rfl
@[simp] theorem setReady_trk (s : St) (r : List (List Nat)) : (setReady s r).trk = s.trk := rfl
@[simp] theorem setReady_nDispTasks (s : St) (r : List (List Nat)) : (setReady s r).nDispTasks = s.nDispTasks := rfl
@[simp] theorem setReady_nCompleted (s : St) (r : List (List Nat)) : (setReady s r).nCompleted = s.nCompleted := rfl
@[simp] theorem setReady_iterating (s : St) (r : List (List Nat)) : (setReady s r).iterating = s.iterating := rfl
@[simp] theorem setReady_aborting (s : St) (r : List (List Nat)) : (setReady s r).aborting = s.aborting := rfl
@[simp] theorem setReady_aborted (s : St) (r : List (List Nat)) : (setReady s r).aborted = s.aborted := rfl
@[simp] theorem setReady_exception (s : St) (r : List (List Nat)) : (setReady s r).exception = s.exception := rfl
@[simp] theorem setReady_running (s : St) (r : List (List Nat)) : (setReady s r).running = s.running := rfl
@[simp] theorem setReady_callId (s : St) (r : List (List Nat)) : (setReady s r).callId = s.callId := rfl
@[simp] theorem setReady_nPop (s : St) (r : List (List Nat)) : (setReady s r).nPop = s.nPop := rfl

@[simp] theorem registerIterError_log (bs : Nat) (s : St) : (registerIterError bs s).log = s.log := rfl
@[simp] theorem registerIterError_lockOwner (bs : Nat) (s : St) : (registerIterError bs s).lockOwner = s.lockOwner := rfl
@[simp] theorem registerIterError_pc (bs : Nat) (s : St) : (registerIterError bs s).pc = s.pc := rfl
@[simp] theorem registerIterError_out (bs : Nat) (s : St) : (registerIterError bs s).out = s.out := rfl
@[simp] theorem registerIterError_outcome (bs : Nat) (s : St) : (registerIterError bs s).outcome = s.outcome := rfl
@[simp] theorem registerIterError_bsI (bs : Nat) (s : St) : (registerIterError bs s).bsI = s.bsI := rfl
@[simp] theorem registerIterError_srcPos (bs : Nat) (s : St) : (registerIterError bs s).srcPos = s.srcPos := rfl
@[simp] theorem registerIterError_srcDead (bs : Nat) (s : St) : (registerIterError bs s).srcDead = s.srcDead := rfl
@[simp] theorem registerIterError_srcRaised (bs : Nat) (s : St) : (registerIterError bs s).srcRaised = s.srcRaised := rfl
@[simp] theorem registerIterError_preLeft (bs : Nat) (s : St) : (registerIterError bs s).preLeft = s.preLeft := rfl
@[simp] theorem registerIterError_origAlive (bs : Nat) (s : St) : (registerIterError bs s).origAlive = s.origAlive := rfl
@[simp] theorem registerIterError_ready (bs : Nat) (s : St) : (registerIterError bs s).ready = s.ready := rfl
@[simp] theorem registerIterError_jobs (bs : Nat) (s : St) : (registerIterError bs s).jobs = s.jobs ++ [s.trk.length] := rfl
@[simp] theorem registerIterError_trk (bs : Nat) (s : St) : (registerIterError bs s).trk = s.trk ++ [{ items := [], bsize := bs, callId := s.callId, status := .error, result := .exc (.iter s.srcPos) }] := rfl
@[simp] theorem registerIterError_nDispTasks (bs : Nat) (s : St) : (registerIterError bs s).nDispTasks = s.nDispTasks := rfl
@[simp] theorem registerIterError_nCompleted (bs : Nat) (s : St) : (registerIterError bs s).nCompleted = s.nCompleted := rfl
@[simp] theorem registerIterError_iterating (bs : Nat) (s : St) : (registerIterError bs s).iterating = s.iterating := rfl
@[simp] theorem registerIterError_aborting (bs : Nat) (s : St) : (registerIterError bs s).aborting = true := rfl
@[simp] theorem registerIterError_aborted (bs : Nat) (s : St) : (registerIterError bs s).aborted = s.aborted := rfl
@[simp] theorem registerIterError_exception (bs : Nat) (s : St) : (registerIterError bs s).exception = true := rfl
@[simp] theorem registerIterError_running (bs : Nat) (s : St) : (registerIterError bs s).running = s.running := rfl
@[simp] theorem registerIterError_callId (bs : Nat) (s : St) : (registerIterError bs s).callId = s.callId := rfl
@[simp] theorem registerIterError_nPop (bs : Nat) (s : St) : (registerIterError bs s).nPop = s.nPop := rfl

@[simp] theorem setTrk_log (s : St) (i : Nat) (t : Tracker) : (setTrk s i t).log = s.log := rfl
@[simp] theorem setTrk_lockOwner (s : St) (i : Nat) (t : Tracker) : (setTrk s i t).lockOwner = s.lockOwner := rfl
@[simp] theorem setTrk_pc (s : St) (i : Nat) (t : Tracker) : (setTrk s i t).pc = s.pc := rfl
@[simp] theorem setTrk_out (s : St) (i : Nat) (t : Tracker) : (setTrk s i t).out = s.out := rfl
@[simp] theorem setTrk_outcome (s : St) (i : Nat) (t : Tracker) : (setTrk s i t).outcome = s.outcome := rfl
@[simp] theorem setTrk_bsI (s : St) (i : Nat) (t : Tracker) : (setTrk s i t).bsI = s.bsI := rfl
@[simp] theorem setTrk_srcPos (s : St) (i : Nat) (t : Tracker) : (setTrk s i t).srcPos = s.srcPos := rfl
@[simp] theorem setTrk_srcDead (s : St) (i : Nat) (t : Tracker) : (setTrk s i t).srcDead = s.srcDead := rfl
@[simp] theorem setTrk_srcRaised (s : St) (i : Nat) (t : Tracker) : (setTrk s i t).srcRaised = s.srcRaised := rfl
@[simp] theorem setTrk_preLeft (s : St) (i : Nat) (t : Tracker) : (setTrk s i t).preLeft = s.preLeft := rfl
@[simp] theorem setTrk_origAlive (s : St) (i : Nat) (t : Tracker) : (setTrk s i t).origAlive = s.origAlive := rfl
@[simp] theorem setTrk_ready (s : St) (i : Nat) (t : Tracker) : (setTrk s i t).ready = s.ready := rfl
@[simp] theorem setTrk_jobs (s : St) (i : Nat) (t : Tracker) : (setTrk s i t).jobs = s.jobs := rfl
@[simp] theorem setTrk_trk (s : St) (i : Nat) (t : Tracker) : (setTrk s i t).trk = s.trk.set i t := rfl
@[simp] theorem setTrk_nDispTasks (s : St) (i : Nat) (t : Tracker) : (setTrk s i t).nDispTasks = s.nDispTasks := rfl
@[simp] theorem setTrk_nCompleted (s : St) (i : Nat) (t : Tracker) : (setTrk s i t).nCompleted = s.nCompleted := rfl
@[simp] theorem setTrk_iterating (s : St) (i : Nat) (t : Tracker) : (setTrk s i t).iterating = s.iterating := rfl
@[simp] theorem setTrk_aborting (s : St) (i : Nat) (t : Tracker) : (setTrk s i t).aborting = s.aborting := rfl
@[simp] theorem setTrk_aborted (s : St) (i : Nat) (t : Tracker) : (setTrk s i t).aborted = s.aborted := rfl
@[simp] theorem setTrk_exception (s : St) (i : Nat) (t : Tracker) : (setTrk s i t).exception = s.exception := rfl
@[simp] theorem setTrk_running (s : St) (i : Nat) (t : Tracker) : (setTrk s i t).running = s.running := rfl
@[simp] theorem setTrk_callId (s : St) (i : Nat) (t : Tracker) : (setTrk s i t).callId = s.callId := rfl
@[simp] theorem setTrk_nPop (s : St) (i : Nat) (t : Tracker) : (setTrk s i t).nPop = s.nPop := rfl

@[simp] theorem setCb_log (s : St) (i : Nat) (p : CbPc) : (setCb s i p).log = s.log := rfl
@[simp] theorem setCb_lockOwner (s : St) (i : Nat) (p : CbPc) : (setCb s i p).lockOwner = s.lockOwner := rfl
@[simp] theorem setCb_pc (s : St) (i : Nat) (p : CbPc) : (setCb s i p).pc = s.pc := rfl
@[simp] theorem setCb_out (s : St) (i : Nat) (p : CbPc) : (setCb s i p).out = s.out := rfl
@[simp] theorem setCb_outcome (s : St) (i : Nat) (p : CbPc) : (setCb s i p).outcome = s.outcome := rfl
@[simp] theorem setCb_bsI (s : St) (i : Nat) (p : CbPc) : (setCb s i p).bsI = s.bsI := rfl
@[simp] theorem setCb_srcPos (s : St) (i : Nat) (p : CbPc) : (setCb s i p).srcPos = s.srcPos := rfl
@[simp] theorem setCb_srcDead (s : St) (i : Nat) (p : CbPc) : (setCb s i p).srcDead = s.srcDead := rfl
@[simp] theorem setCb_srcRaised (s : St) (i : Nat) (p : CbPc) : (setCb s i p).srcRaised = s.srcRaised := rfl
@[simp] theorem setCb_preLeft (s : St) (i : Nat) (p : CbPc) : (setCb s i p).preLeft = s.preLeft := rfl
@[simp] theorem setCb_origAlive (s : St) (i : Nat) (p : CbPc) : (setCb s i p).origAlive = s.origAlive := rfl
@[simp] theorem setCb_ready (s : St) (i : Nat) (p : CbPc) : (setCb s i p).ready = s.ready := rfl
@[simp] theorem setCb_jobs (s : St) (i : Nat) (p : CbPc) : (setCb s i p).jobs = s.jobs := rfl
@[simp] theorem setCb_trk (s : St) (i : Nat) (p : CbPc) : (setCb s i p).trk = s.trk.set i { getTrk s i with pc := p } := rfl
@[simp] theorem setCb_nDispTasks (s : St) (i : Nat) (p : CbPc) : (setCb s i p).nDispTasks = s.nDispTasks := rfl
@[simp] theorem setCb_nCompleted (s : St) (i : Nat) (p : CbPc) : (setCb s i p).nCompleted = s.nCompleted := rfl
@[simp] theorem setCb_iterating (s : St) (i : Nat) (p : CbPc) : (setCb s i p).iterating = s.iterating := rfl
@[simp] theorem setCb_aborting (s : St) (i : Nat) (p : CbPc) : (setCb s i p).aborting = s.aborting := rfl
@[simp] theorem setCb_aborted (s : St) (i : Nat) (p : CbPc) : (setCb s i p).aborted = s.aborted := rfl
@[simp] theorem setCb_exception (s : St) (i : Nat) (p : CbPc) : (setCb s i p).exception = s.exception := rfl
@[simp] theorem setCb_running (s : St) (i : Nat) (p : CbPc) : (setCb s i p).running = s.running := rfl
@[simp] theorem setCb_callId (s : St) (i : Nat) (p : CbPc) : (setCb s i p).callId = s.callId := rfl
@[simp] theorem setCb_nPop (s : St) (i : Nat) (p : CbPc) : (setCb s i p).nPop = s.nPop := rfl

@[simp] theorem ev_log (s : St) (e : Ev) : (ev s e).log = e :: s.log := rfl
@[simp] theorem ev_lockOwner (s : St) (e : Ev) : (ev s e).lockOwner = s.lockOwner := rfl
@[simp] theorem ev_pc (s : St) (e : Ev) : (ev s e).pc = s.pc := rfl
@[simp] theorem ev_out (s : St) (e : Ev) : (ev s e).out = s.out := rfl
@[simp] theorem ev_outcome (s : St) (e : Ev) : (ev s e).outcome = s.outcome := rfl
@[simp] theorem ev_bsI (s : St) (e : Ev) : (ev s e).bsI = s.bsI := rfl
@[simp] theorem ev_srcPos (s : St) (e : Ev) : (ev s e).srcPos = s.srcPos := rfl
@[simp] theorem ev_srcDead (s : St) (e : Ev) : (ev s e).srcDead = s.srcDead := rfl
@[simp] theorem ev_srcRaised (s : St) (e : Ev) : (ev s e).srcRaised = s.srcRaised := rfl
@[simp] theorem ev_preLeft (s : St) (e : Ev) : (ev s e).preLeft = s.preLeft := rfl
@[simp] theorem ev_origAlive (s : St) (e : Ev) : (ev s e).origAlive = s.origAlive := rfl
@[simp] theorem ev_ready (s : St) (e : Ev) : (ev s e).ready = s.ready := rfl
@[simp] theorem ev_jobs (s : St) (e : Ev) : (ev s e).jobs = s.jobs := rfl
@[simp] theorem ev_trk (s : St) (e : Ev) : (ev s e).trk = s.trk := rfl
@[simp] theorem ev_nDispTasks (s : St) (e : Ev) : (ev s e).nDispTasks = s.nDispTasks := rfl
@[simp] theorem ev_nCompleted (s : St) (e : Ev) : (ev s e).nCompleted = s.nCompleted := rfl
@[simp] theorem ev_iterating (s : St) (e : Ev) : (ev s e).iterating = s.iterating := rfl
@[simp] theorem ev_aborting (s : St) (e : Ev) : (ev s e).aborting = s.aborting := rfl
@[simp] theorem ev_aborted (s : St) (e : Ev) : (ev s e).aborted = s.aborted := rfl
@[simp] theorem ev_exception (s : St) (e : Ev) : (ev s e).exception = s.exception := rfl
@[simp] theorem ev_running (s : St) (e : Ev) : (ev s e).running = s.running := rfl
@[simp] theorem ev_callId (s : St) (e : Ev) : (ev s e).callId = s.callId := rfl
@[simp] theorem ev_nPop (s : St) (e : Ev) : (ev s e).nPop = s.nPop := rfl

@[simp] theorem doSubmit_log (t : Tid) (j : Nat) (s : St) : (doSubmit t j s).log = Ev.submit t (getTrk s j).items :: s.log := rfl
@[simp] theorem doSubmit_lockOwner (t : Tid) (j : Nat) (s : St) : (doSubmit t j s).lockOwner = s.lockOwner := rfl
@[simp] theorem doSubmit_pc (t : Tid) (j : Nat) (s : St) : (doSubmit t j s).pc = s.pc := rfl
@[simp] theorem doSubmit_out (t : Tid) (j : Nat) (s : St) : (doSubmit t j s).out = s.out := rfl
@[simp] theorem doSubmit_outcome (t : Tid) (j : Nat) (s : St) : (doSubmit t j s).outcome = s.outcome := rfl
@[simp] theorem doSubmit_bsI (t : Tid) (j : Nat) (s : St) : (doSubmit t j s).bsI = s.bsI := rfl
@[simp] theorem doSubmit_srcPos (t : Tid) (j : Nat) (s : St) : (doSubmit t j s).srcPos = s.srcPos := rfl
@[simp] theorem doSubmit_srcDead (t : Tid) (j : Nat) (s : St) : (doSubmit t j s).srcDead = s.srcDead := rfl
@[simp] theorem doSubmit_srcRaised (t : Tid) (j : Nat) (s : St) : (doSubmit t j s).srcRaised = s.srcRaised := rfl
@[simp] theorem doSubmit_preLeft (t : Tid) (j : Nat) (s : St) : (doSubmit t j s).preLeft = s.preLeft := rfl
@[simp] theorem doSubmit_origAlive (t : Tid) (j : Nat) (s : St) : (doSubmit t j s).origAlive = s.origAlive := rfl
@[simp] theorem doSubmit_ready (t : Tid) (j : Nat) (s : St) : (doSubmit t j s).ready = s.ready := rfl
@[simp] theorem doSubmit_jobs (t : Tid) (j : Nat) (s : St) : (doSubmit t j s).jobs = s.jobs := rfl
@[simp] theorem doSubmit_trk (t : Tid) (j : Nat) (s : St) : (doSubmit t j s).trk = s.trk.set j { getTrk s j with pc := .parked } := rfl
@[simp] theorem doSubmit_nDispTasks (t : Tid) (j : Nat) (s : St) : (doSubmit t j s).nDispTasks = s.nDispTasks := rfl
@[simp] theorem doSubmit_nCompleted (t : Tid) (j : Nat) (s : St) : (doSubmit t j s).nCompleted = s.nCompleted := rfl
@[simp] theorem doSubmit_iterating (t : Tid) (j : Nat) (s : St) : (doSubmit t j s).iterating = s.iterating := rfl
@[simp] theorem doSubmit_aborting (t : Tid) (j : Nat) (s : St) : (doSubmit t j s).aborting = s.aborting := rfl
@[simp] theorem doSubmit_aborted (t : Tid) (j : Nat) (s : St) : (doSubmit t j s).aborted = s.aborted := rfl
@[simp] theorem doSubmit_exception (t : Tid) (j : Nat) (s : St) : (doSubmit t j s).exception = s.exception := rfl
@[simp] theorem doSubmit_running (t : Tid) (j : Nat) (s : St) : (doSubmit t j s).running = s.running := rfl
@[simp] theorem doSubmit_callId (t : Tid) (j : Nat) (s : St) : (doSubmit t j s).callId = s.callId := rfl
@[simp] theorem doSubmit_nPop (t : Tid) (j : Nat) (s : St) : (doSubmit t j s).nPop = s.nPop := rfl

@[simp] theorem dropParked_log (s : St) : (dropParked s).log = s.log := rfl
@[simp] theorem dropParked_lockOwner (s : St) : (dropParked s).lockOwner = s.lockOwner := rfl
@[simp] theorem dropParked_pc (s : St) : (dropParked s).pc = s.pc := rfl
@[simp] theorem dropParked_out (s : St) : (dropParked s).out = s.out := rfl
@[simp] theorem dropParked_outcome (s : St) : (dropParked s).outcome = s.outcome := rfl
@[simp] theorem dropParked_bsI (s : St) : (dropParked s).bsI = s.bsI := rfl
@[simp] theorem dropParked_srcPos (s : St) : (dropParked s).srcPos = s.srcPos := rfl
@[simp] theorem dropParked_srcDead (s : St) : (dropParked s).srcDead = s.srcDead := rfl
@[simp] theorem dropParked_srcRaised (s : St) : (dropParked s).srcRaised = s.srcRaised := rfl
@[simp] theorem dropParked_preLeft (s : St) : (dropParked s).preLeft = s.preLeft := rfl
@[simp] theorem dropParked_origAlive (s : St) : (dropParked s).origAlive = s.origAlive := rfl
@[simp] theorem dropParked_ready (s : St) : (dropParked s).ready = s.ready := rfl
@[simp] theorem dropParked_jobs (s : St) : (dropParked s).jobs = s.jobs := rfl
@[simp] theorem dropParked_trk (s : St) : (dropParked s).trk = s.trk.map (fun t => if t.pc == .parked then { t with pc := .dropped } else t) := rfl
@[simp] theorem dropParked_nDispTasks (s : St) : (dropParked s).nDispTasks = s.nDispTasks := rfl
@[simp] theorem dropParked_nCompleted (s : St) : (dropParked s).nCompleted = s.nCompleted := rfl
@[simp] theorem dropParked_iterating (s : St) : (dropParked s).iterating = s.iterating := rfl
@[simp] theorem dropParked_aborting (s : St) : (dropParked s).aborting = s.aborting := rfl
@[simp] theorem dropParked_aborted (s : St) : (dropParked s).aborted = s.aborted := rfl
@[simp] theorem dropParked_exception (s : St) : (dropParked s).exception = s.exception := rfl
@[simp] theorem dropParked_running (s : St) : (dropParked s).running = s.running := rfl
@[simp] theorem dropParked_callId (s : St) : (dropParked s).callId = s.callId := rfl
@[simp] theorem dropParked_nPop (s : St) : (dropParked s).nPop = s.nPop := rfl

end JoblibModel.ParallelLock
