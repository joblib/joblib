import JoblibProofs.Lemmas.ParallelLock.Inv2
/-!
M1L proofs — preservation of `Inv2` (given `Inv`) by a step of the caller (`CStep.inv2`): a move
keeps everything but `LocOK` because the phase classifiers are monotone along it (`Move.mono2`), and `Move.locOK` is the
table of what the caller knows at the target of each move; the writes (`Inv2.writeStep`), `dispatch_one_batch`
(`Inv2.dAcqStep`) and the caller's reads of a tracker (`Inv2.ror`, `Inv2.consume`) carry the rest.  Likewise for a step
of a callback thread (`CbStep.inv2`) and the environment action `complete`; hence for every action (`step_inv2`).
-/
namespace JoblibModel.ParallelLock

theorem scriptedBs_pos {c : Cfg} (hc : CfgOK c) (s : St) : 1 ≤ scriptedBs c s := by
  rcases List.getD_mem_or_eq c.bs (min s.bsI (c.bs.length - 1)) 1 with h | h
  · exact hc.bs _ h
  · exact Nat.le_of_eq h.symm

/-- `dispatch_one_batch` returned False although no error was flagged: the input is exhausted. -/
theorem DLCase.ret_false {c : Cfg} {t : Tid} {fo : Bool} {bs : Nat} {s s' : St}
    (hcase : DLCase c t fo bs s s' (.ret false)) (hlim : 1 ≤ pullLim fo (bs * c.nj) s) (ha : s'.aborting = false) :
    s'.ready = [] ∧ s'.srcDead = true ∧ s'.trk = s.trk := by
  cases hcase with
  | aborting ha' => rw [ha'] at ha; cases ha
  | empty evs dead raised pl ha' hr hf =>
    exact ⟨hr, hf.short (by omega), rfl⟩

-- Not used by any proof of this development.
macro "pcmove" h2:ident hpc:ident : tactic => `(tactic|
  (apply Inv2.pcMove $h2 <;>
   first | exact ⟨rfl, rfl, rfl, rfl, rfl, rfl, rfl, rfl, rfl, rfl⟩ | simp [$hpc:ident, unread, LocOK, Pc.inAbort, Pc.inExc, Pc.excPath, Pc.beforeFinW, Pc.afterFirst, Pc.preDispatch,
     Pc.firstPhase, Pc.pastWOrig, Pc.postLoop] <;>
   try (first | (intro h1; exact Or.inl h1) | (intro h1 h2; exact Or.inl h2))))

theorem range'_cons_inv {a n i : Nat} {rest : List Nat} (h : List.range' a n = i :: rest) :
    i = a ∧ rest = List.range' (a + 1) (n - 1) ∧ 0 < n := by
  obtain ⟨rfl, hn, rfl⟩ := List.range'_eq_cons_iff.mp h
  exact ⟨rfl, rfl, hn⟩

theorem firstErrorJob_eq_find (s : St) : ∀ l, firstErrorJob s l = l.find? fun i => (getTrk s i).status == .error
  | [] => rfl
  | i :: r => by
    rw [firstErrorJob, List.find?_cons, firstErrorJob_eq_find s r]
    cases (getTrk s i).status == Status.error <;> rfl

theorem firstErrorJob_spec (s : St) (l : List Nat) (h : ∃ j ∈ l, (getTrk s j).status = .error) :
    ∃ i, firstErrorJob s l = some i ∧ i ∈ l ∧ (getTrk s i).status = .error := by
  obtain ⟨j, hj, hs⟩ := h
  obtain ⟨i, h1, h2, h3⟩ := List.exists_find?_eq_some (p := fun i => (getTrk s i).status == .error)
    ⟨j, hj, beq_iff_eq.mpr hs⟩
  exact ⟨i, firstErrorJob_eq_find s l ▸ h1, h2, beq_iff_eq.mp h3⟩

-- ten field equations (of `Core2Eq`, of `CbRel.ofSet`, of `Inv2.cbPc`) that all hold by `rfl`
macro "fr10" : term => `(⟨rfl, rfl, rfl, rfl, rfl, rfl, rfl, rfl, rfl, rfl⟩)

/-- Every move is monotone for the phase classifiers of `Inv2` (`Pc.mono2`), except that the loop of `_start` is left
early when `_aborting` is seen, and between `popRel` and `resStatus` (where `unread` is `nPop - 1`). -/
theorem Move.mono2 {c : Cfg} {s : St} {p p' : Pc} (m : Move c s p p') :
    p.mono2 p' = true ∨ (s.aborting = true ∧ ∃ k, p = .dPre k) ∨ ∃ i, p = .popRel i := by
  cases m
  case dPreAbFirst h | dPreAbAll h _ | dPreAbInt h _ => exact .inr (.inl ⟨h, _, rfl⟩)
  case dPreBs k _ _ | dPreAcq k _ _ => cases k <;> exact .inl rfl
  case finExcT e _ | finExcF e _ | finJobsR e => cases e <;> exact .inl rfl
  case popRel i => exact .inr (.inr ⟨i, rfl⟩)
  all_goals exact .inl rfl

theorem Fresh.pc {s : St} (f : Fresh s) (p : Pc) : Fresh { s with pc := p } := ⟨f.trk, f.ready, f.src, f.lock, f.jobs, f.cnt⟩

theorem Move.locOK {c : Cfg} {s : St} {p p' : Pc} (m : Move c s p p') (hc : CfgOK c) (h : Inv c s) (h2 : Inv2 c s)
    (hpc : s.pc = p) : LocOK c { s with pc := p' } := by
  have hL := h2.L.at hpc
  have hj : p.beforeFinW = true → s.jobs = List.range' s.nPop (s.trk.length - s.nPop) := hpc ▸ h2.D.jobs
  cases m
  case readyRel => exact hL
  case dPreAbFirst ha =>
    have : s.aborting = false := hL.2.2.1
    rw [this] at ha; cases ha
  case dPreAbAll hm | dRelLoopAll hm => exact hm
  case dPreBs k _ _ => cases k <;> first | trivial | exact ⟨hL.1.pc _, hL.2⟩
  case dPreAcq k _ _ =>
    cases k
    · exact ⟨⟨hL.1.pc _, hL.2⟩, scriptedBs_pos hc s⟩
    · exact scriptedBs_pos hc s
  case wtIterF hit => exact h2.I.afterFirst (by rw [hpc]; rfl) hit
  case wtNComp => exact ⟨hL, Nat.le_refl _⟩
  case wtNDispRe nc hlt _ => exact (⟨quiet_of_counts h h2 hL.2 hlt hL.1, hL.1⟩ : Exited s)
  case wtNDispFin nc hlt hrc =>
    have hE : Exited s := ⟨quiet_of_counts h h2 hL.2 hlt hL.1, hL.1⟩
    have hN : Safe c → NoErr s := fun hs => noErr_of_shape h fun t _ h1 => by
      have := h1.2.2.2
      rw [hs.resolve_left (by simp [hrc])] at this; cases this
    exact ⟨hE, hN⟩
  case wtAbort2F hab =>
    have hN : Safe c → NoErr s := fun _ => noErr_of_shape h fun t ht h1 => by
      simpa [hab] using (h2.F.errFlags t ht h1.2.1).1
    exact ⟨hL, hN⟩
  case rtAbortT hab => exact hab
  case rtLenHead hjl =>
    have hjl' := hjl
    rw [hj rfl, List.length_range'] at hjl'
    show s.nPop < s.trk.length
    omega
  case rtHeadCons i r hjj =>
    obtain ⟨e1, _, _⟩ := range'_cons_inv ((hj rfl).symm.trans hjj)
    exact ⟨e1, show i < s.trk.length by omega⟩
  case rtStatusSet i hst =>
    have e1 : i = s.nPop := hL.1
    have e2 : i < s.trk.length := hL.2
    subst e1
    exact ⟨e2, hst⟩
  case popRel i => exact hL
  case refAcq =>
    -- `_aborting` was observed: some tracker carries an error, and it is still in `_jobs`
    have herr : ∃ j ∈ s.jobs, (getTrk s j).status = .error := by
      rcases h2.F.aborting hL with ⟨t, ht, hs⟩ | h3
      · obtain ⟨j, hjl, e⟩ := (mem_iff_getT _ _).mp ht
        refine ⟨j, ?_, by rw [getTrk_def, e]; exact hs⟩
        rw [hj rfl, List.mem_range'_1]
        have hge : s.nPop ≤ j := by
          apply Nat.le_of_not_lt
          intro hlt
          have := h2.D.prefixDone (by rw [hpc]; rfl) j (by simpa [unread, hpc] using hlt) hjl
          rw [e, hs] at this; cases this
        omega
      · rw [hpc] at h3; cases h3
    obtain ⟨i, h1, h3, h4⟩ := firstErrorJob_spec s s.jobs herr
    show LocOK c { s with pc := .refRel (firstErrorJob s s.jobs) }
    rw [h1]
    rw [hj rfl, List.mem_range'_1] at h3
    exact ⟨h3.1, show i < s.trk.length by omega, h4⟩
  case refRelNone => exact absurd hL id
  case refRelSome i => exact hL
  case finExcT e hx =>
    cases e with
    | some e => exact hL
    | none =>
      refine ⟨hL.1, hL.2, Or.inl rfl, fun hs => ?_⟩
      rw [(exit_all h h2 (by rw [hpc]; rfl) hs).2.2.2.1] at hx; cases hx
  case finExcF e _ => cases e <;> exact hL
  case finJobsR e =>
    cases e with
    | some e => exact hL
    | none => exact ⟨hL.1, hL.2, Or.inr (hj rfl), fun _ => hj rfl⟩
  case rtHeadNil hjj =>
    have hL : s.nPop < s.trk.length := hL
    have := congrArg List.length ((hj rfl).symm.trans hjj)
    simp at this; omega
  case popNil hjj =>
    have hL : s.nPop < s.trk.length := hL.1
    have := congrArg List.length ((hj rfl).symm.trans hjj)
    simp at this; omega
  all_goals trivial

theorem unread_pc {s s' : St} (h : s.pc.plainUnread = true) (h' : s'.pc.plainUnread = true)
    (hn : s'.nPop = s.nPop := by rfl) : unread s' = unread s := by
  rw [unread_plain h', unread_plain h, hn]

theorem Inv2.moveStep {c : Cfg} {s : St} {p p' : Pc} (hc : CfgOK c) (h : Inv c s) (h2 : Inv2 c s) (m : Move c s p p')
    (hpc : s.pc = p) : Inv2 c { s with pc := p' } := by
  have hloc := m.locOK hc h h2 hpc
  have e10 : Core2Eq s { s with pc := p' } := fr10
  rcases m.mono2 with hm | ⟨ha, k, rfl⟩ | ⟨i, rfl⟩
  · exact h2.plainMove rfl (hpc ▸ hm) hloc
  · cases m
    case dPreBs hf _ | dPreAcq hf _ => rw [hf] at ha; cases ha
    case dPreAbFirst =>
      have : s.aborting = false := (h2.L.at hpc).2.2.1
      rw [this] at ha; cases ha
    all_goals
      exact h2.kMove e10 (by rw [hpc]; rfl) id Or.inl id Or.inl (unread_pc (by rw [hpc]; rfl) rfl)
        (fun _ hi => .inl ⟨by rw [hpc]; rfl, hi⟩) (fun _ h1 => by rw [ha] at h1; cases h1) hloc
  · cases m
    exact h2.kMove e10 (by rw [hpc]; rfl) id Or.inl id Or.inl (by simp only [unread, hpc])
      (fun _ hi => .inl ⟨by rw [hpc]; rfl, hi⟩) (fun _ _ _ => .inl (by rw [hpc]; rfl)) hloc

/-- During the set-up (up to the lock acquisition of the first `dispatch_one_batch`) nothing has been
dispatched and `Inv2` only records what the set-up has done (`Inv2.ofFresh`); later writes keep `core2Of`. -/
theorem Inv2.writeStep {c : Cfg} {s s1 : St} {p p' : Pc} (hc : CfgOK c) (h : Inv c s) (h2 : Inv2 c s)
    (hI : Inv c { s1 with pc := p' }) (w : Write c s p p' s1) (hpc : s.pc = p) : Inv2 c { s1 with pc := p' } := by
  have hL := h2.L.at hpc
  have hpre := fun hp => h2.pre h (hpc ▸ hp)
  cases w
  case resetAcq | wNDisp | wNComp =>
    obtain ⟨ha, hx, ho⟩ := hpre rfl
    exact .ofFresh (hI.P rfl) (.inl rfl) ha hx ho h2.I.allMode (fun _ hp => by cases hp) (fun hp => by cases hp) trivial
  case wExc0 =>
    obtain ⟨ha, hx, ho⟩ := hpre rfl
    exact .ofFresh (hI.P rfl) (.inl rfl) ha rfl ho h2.I.allMode (fun _ hp => by cases hp) (fun hp => by cases hp) rfl
  case wAbort0 =>
    obtain ⟨ha, hx, ho⟩ := hpre rfl
    exact .ofFresh (hI.P rfl) (.inl rfl) rfl hx ho h2.I.allMode (fun _ hp => by cases hp) (fun hp => by cases hp) ⟨rfl, hx⟩
  case readyAcq =>
    obtain ⟨ha, hx, ho⟩ := hpre rfl
    exact .ofFresh (hI.P rfl) (.inl rfl) ha hx ho h2.I.allMode (fun _ hp => by cases hp) (fun hp => by cases hp) ⟨ha, hx⟩
  case wOrigAll hm =>
    obtain ⟨ha, hx, ho⟩ := hpre rfl
    exact .ofFresh (hI.P rfl) (.inl rfl) ha hx ho (fun _ => rfl) (fun _ _ => rfl) (fun _ h1 => absurd hm h1)
      ⟨ha, hx, fun _ => rfl, fun h1 => absurd hm h1⟩
  case wOrig hm =>
    obtain ⟨ha, hx, ho⟩ := hpre rfl
    exact .ofFresh (hI.P rfl) (.inl rfl) ha hx ho (fun h1 => absurd h1 hm) (fun h1 => absurd h1 hm) (fun _ _ => rfl)
      ⟨ha, hx, fun h1 => absurd h1 hm, fun _ => ⟨rfl, rfl⟩⟩
  case wIter0 =>
    obtain ⟨ha, hx, ho⟩ := hpre rfl
    have f := h.P (hpc ▸ rfl)
    have f' : Fresh { s with iterating := false, pc := .dPre .first } := ⟨f.trk, f.ready, f.src, f.lock, f.jobs, f.cnt⟩
    exact .ofFresh f' (.inr rfl) ha hx ho h2.I.allMode (fun h1 _ => hL.2.2.1 h1) (fun _ h1 => (hL.2.2.2 h1).1)
      ⟨f', rfl, ha, hx, hL.2.2⟩
  case dBs k =>
    cases k with
    | first =>
      obtain ⟨f, hit, ha, hx, hp0⟩ := hL
      have ho := h2.O.noOutcome (by rw [hpc]; nofun)
      have f' : Fresh { s with bsI := s.bsI + 1, pc := Pc.dAcq DK.first (scriptedBs c s) } :=
        ⟨f.trk, f.ready, f.src, f.lock, f.jobs, f.cnt⟩
      exact .ofFresh f' (.inr rfl) ha hx ho h2.I.allMode (fun h1 _ => hp0.1 h1) (fun _ h1 => (hp0.2 h1).1)
        ⟨⟨f', hit, ha, hx, hp0⟩, scriptedBs_pos hc s⟩
    | loop => exact h2.plainMove rfl (by rw [hpc]; rfl) (scriptedBs_pos hc s)
  case itAcq =>
    exact h2.kMove fr10 (by rw [hpc]; rfl) id Or.inl id Or.inl
      (unread_pc (by rw [hpc]; rfl) rfl) (fun _ hi => .inr (.inl hi)) (fun hp => by cases hp) trivial
  case wIterAll =>
    exact h2.kMove fr10 (by rw [hpc]; rfl) id Or.inl id Or.inl
      (unread_pc (by rw [hpc]; rfl) rfl) (fun _ _ => .inr (.inl (h2.I.allMode hL))) (fun _ _ _ => .inl (by rw [hpc]; rfl))
      trivial
  case excW e => exact h2.flagMove rfl (by rw [hpc]; rfl) id Or.inl (fun _ => rfl) (fun _ => Or.inr rfl) hL
  case abortWFin e _ | abortWCall e _ =>
    exact h2.flagMove rfl (by rw [hpc]; rfl) (fun _ => rfl) (fun _ => Or.inr rfl) id Or.inl hL

/-- The caller's `dispatch_one_batch`, from the lock acquisition to `submit` or to the release. -/
theorem Inv2.dAcqStep {c : Cfg} {s s1 : St} {k : DK} {bs : Nat} {r : DRes} (hc : CfgOK c) (hpd : PdOK c) (h : Inv c s)
    (h2 : Inv2 c s) (he : callerEnabled s = true) (hpc : s.pc = .dAcq k bs)
    (hd : dispatchLocked c 0 false bs { s with lockOwner := some 0, pc := .dIn k } = (s1, r)) :
    Inv2 c (match r with
      | .submit j => { s1 with pc := .dSubmit k j }
      | .ret b => { s1 with lockOwner := none, pc := .dRel k b }) := by
  have hL := h2.L.at hpc
  have hbs : 1 ≤ bs := by
    cases k with
    | first => exact hL.2
    | loop => exact hL
  obtain ⟨hlk, h0, hcase⟩ := h.dAcq he hpc hd
  have h20 : Inv2 c { s with lockOwner := some 0, pc := .dIn k } :=
    h2.kMove fr10 (by rw [hpc]; rfl) id Or.inl id Or.inl
      (unread_pc (by rw [hpc]; rfl) rfl) (fun hp => by cases hp) (fun hp => by cases hp) trivial
  obtain ⟨h1, -, -⟩ := hcase.inv h0 rfl
  obtain ⟨h21, K⟩ := hcase.inv2 h0 h20 (Or.inl ⟨rfl, k, rfl⟩)
  have hp' : s1.pc = .dIn k := hcase.pc
  -- `_iterating` cleared ⇒ nothing can be dispatched any more, carried across the marker pc (loop case)
  have Kloop : k = .loop → s1.iterating = false → s1.origAlive = false ∨ Stuck s1 := by
    intro hk
    subst hk
    apply K
    intro hi
    have := h2.I.afterFirst (by rw [hpc]; rfl) hi
    rcases this with h3 | h3
    · exact Or.inl h3
    · exact Or.inr (h3.congr rfl rfl rfl)
  cases r with
  | submit j =>
    refine h21.kMove fr10 (by rw [hp']; rfl) id Or.inl id Or.inl
      (unread_pc (by rw [hp']; rfl) rfl) ?_ (fun hp => by cases hp) trivial
    cases k with
    | first => exact fun hp => by cases hp
    | loop => exact fun _ hi => Or.inr (Kloop rfl hi)
  | ret b =>
    refine h21.kMove fr10 (by rw [hp']; rfl) id Or.inl id Or.inl
      (unread_pc (by rw [hp']; rfl) rfl) ?c_first ?c_loop trivial
    case c_first =>
      cases k with
      | loop => intro _ hi; exact Or.inr (Kloop rfl hi)
      | first =>
        cases b with
        | true => exact fun hp => by cases hp
        | false =>
          intro _ _
          -- the very first `dispatch_one_batch` found nothing: the input is empty
          obtain ⟨⟨f, hit, ha, hx, hp0⟩, _⟩ := hL
          have hlim : 1 ≤ pullLim false (bs * c.nj) { s with lockOwner := some 0, pc := .dIn DK.first } := by
            unfold pullLim
            simp only [Bool.false_eq_true, if_false]
            by_cases hm : c.pdMode = 1
            · rw [hp0.1 hm]; exact Nat.mul_pos hbs hc.nj
            · rw [(hp0.2 hm).2]
              have : 1 ≤ c.pd := by
                rcases hpd with h3 | h3
                · exact absurd h3 hm
                · exact h3
              exact Nat.le_min.mpr ⟨Nat.mul_pos hbs hc.nj, this⟩
          have hab' : s1.aborting = false := by
            cases hcase with
            | aborting ha' => exact absurd ha' (by simp [show s.aborting = false from ha])
            | empty evs dead raised pl ha' hr hf => exact ha
          obtain ⟨g1, g2, g3⟩ := hcase.ret_false hlim hab'
          refine Or.inr (Or.inr ⟨?_, g1, g2⟩)
          simp only [allItems, g3, show s.trk = [] from f.trk]; rfl
    case c_loop =>
      intro hpl ha' hm
      cases k with
      | first => cases hpl
      | loop =>
        cases b with
        | true => cases hpl
        | false =>
          have hpre : s.preLeft = none := h2.I.allPre hm (by rw [hpc]; rfl)
          have hlim : 1 ≤ pullLim false (bs * c.nj) { s with lockOwner := some 0, pc := .dIn DK.loop } := by
            unfold pullLim
            simp only [Bool.false_eq_true, if_false, hpre]
            exact Nat.mul_pos hbs hc.nj
          obtain ⟨g1, g2, _⟩ := hcase.ret_false hlim ha'
          exact Or.inr ⟨g1, g2⟩

theorem Inv2.ror {c : Cfg} {s s1 : St} {i : Nat} {r : Except Exc (List Nat)} (h2 : Inv2 c s)
    (hx : s.pc.excPath = false) (hun : unread s ≤ i) (hil : i < s.trk.length)
    (hnp : (getT s.trk i).status ≠ .pending) (hr : returnOrRaise s i = (s1, r)) :
    s1 = setTrk s i { getTrk s i with result := .none } ∧
      (((getT s.trk i).status = .done ∧ r = .ok (getT s.trk i).items) ∨
       ((getT s.trk i).status = .error ∧ ∃ e, r = .error e ∧ LegitErr c e)) := by
  cases hst : (getT s.trk i).status with
  | pending => exact absurd hst hnp
  | done =>
    rw [returnOrRaise_done hst (h2.R.done hx i hun hil hst)] at hr
    cases hr
    exact ⟨rfl, .inl ⟨rfl, rfl⟩⟩
  | error =>
    obtain ⟨e, hres, hleg⟩ := h2.R.error hx i hun hil hst
    rw [returnOrRaise_error hst hres] at hr
    cases hr
    exact ⟨rfl, .inr ⟨rfl, e, rfl, hleg⟩⟩

theorem late2Of_deliverVals (c : Cfg) (s : St) (l : List Nat) : late2Of (deliverVals c s l) = late2Of s := by
  rw [deliverVals_eq]; rfl

/-- The consumer takes the values of tracker `i`, the next unread one, and goes on to `p'` (in the retrieval loop or in
the tail loop). -/
theorem Inv2.consume {c : Cfg} {s : St} {i : Nat} (h2 : Inv2 c s) (hx : s.pc.excPath = false) (hun : unread s = i)
    (hil : i < s.trk.length) (hst : (getT s.trk i).status = .done) (p' : Pc) (hm : s.pc.late2 p' = true)
    (hun' : unread { deliverVals c (setTrk s i { getTrk s i with result := .none }) (getT s.trk i).items with
      pc := p' } = i + 1)
    (r_jobs : p'.beforeFinW = true → s.jobs = List.range' s.nPop (s.trk.length - s.nPop))
    (hloc : LocOK c { deliverVals c (setTrk s i { getTrk s i with result := .none }) (getT s.trk i).items with
      pc := p' }) :
    Inv2 c { deliverVals c (setTrk s i { getTrk s i with result := .none }) (getT s.trk i).items with pc := p' } := by
  refine h2.lateMove ((TrkRel.setResult s i .none).trans_eq (deliverVals_trk ..)) (late2Of_deliverVals ..)
    (deliverVals_outcome ..) hm ?_ (fun _ => by rw [hun, hun']; omega) ?_ ?_ ?_ ?_ hloc
  · intro _ j hj
    rw [hun'] at hj
    simp only [deliverVals_trk]
    simp [getT_set_ne _ _ _ _ (show j ≠ i by omega)]
  · intro _ j h1 h3 _
    rw [hun] at h1; rw [hun'] at h3
    have : j = i := by omega
    subst this; exact hst
  · intro _
    rw [hun', flatten_take_succ _ _ hil]
    simp only [deliverVals_out, setTrk_out]
    rw [h2.D.out hx, hun]
  · show (deliverVals c _ _).nPop ≤ _
    rw [deliverVals_nPop]; exact h2.D.nPopLe
  · intro hp
    show (deliverVals c _ _).jobs = List.range' (deliverVals c _ _).nPop _
    rw [deliverVals_jobs, deliverVals_nPop]; exact r_jobs hp

/-- `hI`, `Inv` of the SUCCESSOR, is used by `Inv2.writeStep` only (`Fresh` after a write of the set-up). -/
theorem CStep.inv2 {c : Cfg} {s s' : St} (st : CStep c s s') (hc : CfgOK c) (hpd : PdOK c) (h : Inv c s)
    (h2 : Inv2 c s) (he : callerEnabled s = true) (hI : Inv c s') : Inv2 c s' := by
  have hL : ∀ {p}, s.pc = p → LocOK c { s with pc := p } := h2.L.at
  have hj : ∀ {p : Pc}, s.pc = p → p.beforeFinW = true → s.jobs = List.range' s.nPop (s.trk.length - s.nPop) :=
    fun hpc => hpc ▸ h2.D.jobs
  -- in the tail loop every batch has been counted: tracker `i` is settled
  have tailFacts : ∀ {i rem}, s.pc = .tailStatus i rem →
      Exited s ∧ i < s.trk.length ∧ (getT s.trk i).status ≠ .pending := fun {i rem} hpc => by
    obtain ⟨hE, _, hrr⟩ := hL hpc
    have hE : Exited s := hE
    have hrr : i :: rem = List.range' i (s.trk.length - i) := hrr
    obtain ⟨_, _, hpos⟩ := range'_cons_inv hrr.symm
    have hil : i < s.trk.length := by omega
    have hmem := getT_mem s.trk i hil
    refine ⟨hE, hil, ?_⟩
    by_cases hne : (getT s.trk i).items = []
    · rcases (h.T _ hmem).shape with h1 | h1
      · exact absurd hne h1.1
      · rw [h1.2.1]; nofun
    · have h0 := (h.T _ hmem).pcst
      rcases hE.1 _ hmem hne with hp | hp <;> rw [hp] at h0 <;> rw [show _ = Status.done from h0] <;> nofun
  cases st with
  | move m hp => exact h2.moveStep hc h m hp
  | write w hp => exact h2.writeStep hc h hI w hp
  | stay hs =>
    rcases hs with hs | ⟨k, hs⟩
    · rw [callerEnabled, hs] at he; simp at he
    · exact h2
  | busy hpc hr =>
    have := hL hpc
    exact absurd hr (by simp [show s.running = false from this])
  | dAcqSubmit k bs s1 j hpc hd => exact h2.dAcqStep hc hpd h he hpc hd
  | dAcqRet k bs s1 r hpc hd => exact h2.dAcqStep hc hpd h he hpc hd
  | dSubmit k j hpc =>
    have hnd : s.pc ≠ .done := by rw [hpc]; nofun
    have hpend := h.U.caller k j hpc
    have hidle : (getT s.trk j).pc = .idle := hpend.2.1
    have htrk : ({ doSubmit 0 j { s with pc := Pc.dIn k } with lockOwner := none, pc := Pc.dRel k true } : St).trk =
        s.trk.set j { getT s.trk j with pc := .parked } := rfl
    have hu : unread ({ doSubmit 0 j { s with pc := Pc.dIn k } with lockOwner := none, pc := Pc.dRel k true } : St) =
        unread s := unread_pc (by rw [hpc]; rfl) rfl
    refine h2.move (r := TrkRel.submit hidle htrk) (e_dead := rfl) (e_raised := rfl) (e_ready := rfl) (e_orig := rfl)
      (e_pre := rfl) (t_res := fun _ i _ => submit_result htrk i) (a_up := id) (a_new := Or.inl) (x_up := id)
      (x_new := Or.inl) (c_abort := fun hp => by rw [hpc] at hp; cases hp) (c_exc := fun hp => by rw [hpc] at hp; cases hp)
      (c_path := fun _ => by rw [hpc]; rfl) (c_unread := fun _ => Nat.le_of_eq hu.symm)
      (r_prefix := fun _ i h1 h3 => absurd (hu ▸ h3) (Nat.not_lt.mpr h1))
      (r_out := fun _ => by rw [hu]; exact h2.D.out (by rw [hpc]; rfl)) (r_npop := h2.D.nPopLe)
      (r_jobs := fun _ => h2.D.jobs (by rw [hpc]; rfl)) (c_first := ?cf) (c_orig := fun _ => by rw [hpc]; rfl)
      (c_loop := ?cl) (o_ret := fun l hl => Or.inl hl)
      (o_raised := fun x hx => Or.inl hx) (o_none := fun _ => h2.O.noOutcome hnd) (hloc := trivial)
    case cf =>
      cases k with
      | first => exact fun hp => by cases hp
      | loop => exact fun _ hi => Or.inl ⟨by rw [hpc]; rfl, hi⟩
    case cl => cases k <;> exact fun hp => by cases hp
  | pop i rest hpc hjj =>
    have hL := hL hpc
    have hj := hj hpc rfl
    rw [hjj] at hj
    obtain ⟨e1, e2, _⟩ := range'_cons_inv hj.symm
    have hun : unread { s with jobs := rest, nPop := s.nPop + 1, pc := Pc.popRel i } = unread s := by
      rw [unread_plain (s := s) (by rw [hpc]; rfl)]; rfl
    refine h2.lateMove (TrkRel.of_eq rfl) rfl rfl (by rw [hpc]; rfl) (fun _ _ _ => rfl)
      (fun _ => by rw [hun]; exact Nat.le_refl _) (fun _ j h1 h3 => by rw [hun] at h3; omega)
      (fun hp => by rw [hun]; exact h2.D.out (by rw [hpc]; rfl)) (by show s.nPop + 1 ≤ _; have := hL.1; omega) ?_ ?_
    · intro _; show rest = _; rw [e2]; congr 1
    · subst e1; exact ⟨rfl, hL.1, hL.2⟩
  | resErr i s1 e hpc hr =>
    obtain ⟨e1, hil, hnp⟩ := hL hpc
    obtain ⟨rfl, ⟨_, he⟩ | ⟨_, e', he, hleg⟩⟩ :=
      h2.ror (hpc ▸ rfl) (by simp only [unread, hpc]; have : i + 1 = s.nPop := e1; omega) hil hnp hr
    · cases he
    · cases he
      exact h2.excMove ((TrkRel.setResult s i .none).trans_eq rfl) rfl rfl (by rw [hpc]; rfl) rfl hleg
  | resOk i s1 l hpc hr =>
    obtain ⟨e1, hil, hnp⟩ := hL hpc
    have e1 : i + 1 = s.nPop := e1
    have hun : unread s = i := by simp only [unread, hpc]; omega
    obtain ⟨rfl, ⟨hst, he⟩ | ⟨_, e', he, _⟩⟩ := h2.ror (hpc ▸ rfl) (Nat.le_of_eq hun) hil hnp hr
    · cases he
      exact h2.consume (hpc ▸ rfl) hun hil hst .wtAbort (by rw [hpc]; rfl) (by simp [unread, e1])
        (fun _ => h2.D.jobs (by rw [hpc]; rfl)) trivial
    · cases he
  | refErr i s1 e hpc hr =>
    obtain ⟨e1, hil, hst⟩ := hL hpc
    obtain ⟨rfl, ⟨_, he⟩ | ⟨_, e', he, hleg⟩⟩ :=
      h2.ror (hpc ▸ rfl) (by simp only [unread, hpc]; exact e1) hil (by rw [show _ = Status.error from hst]; nofun) hr
    · cases he
    · cases he
      exact h2.excMove ((TrkRel.setResult s i .none).trans_eq rfl) rfl rfl (by rw [hpc]; rfl) rfl hleg
  | refOk i s1 l hpc hr =>
    obtain ⟨e1, hil, hst⟩ := hL hpc
    have hst : (getT s.trk i).status = .error := hst
    obtain ⟨rfl, ⟨hd, _⟩ | ⟨_, e', he, _⟩⟩ :=
      h2.ror (hpc ▸ rfl) (by simp only [unread, hpc]; exact e1) hil (by rw [hst]; nofun) hr
    · rw [hst] at hd; cases hd
    · cases he
  | abortCall e hpc =>
    have hL := hL hpc
    have hr : TrkRel s (if c.abortDrops = true then dropParked (ev s .abort) else ev s .abort) ∧
        late2Of (if c.abortDrops = true then dropParked (ev s .abort) else ev s .abort) = late2Of s ∧
        ((if c.abortDrops = true then dropParked (ev s .abort) else ev s .abort).outcome,
          (if c.abortDrops = true then dropParked (ev s .abort) else ev s .abort).nPop,
          (if c.abortDrops = true then dropParked (ev s .abort) else ev s .abort).jobs) = (s.outcome, s.nPop, s.jobs) := by
      split
      · exact ⟨(TrkRel.drop (ev s .abort)).congr rfl rfl, rfl, rfl⟩
      · exact ⟨TrkRel.of_eq rfl, rfl, rfl⟩
    generalize (if c.abortDrops = true then dropParked (ev s .abort) else ev s .abort) = X at hr
    exact h2.excMove (hr.1.trans_eq rfl) hr.2.1 hr.2.2 (by rw [hpc]; rfl) rfl hL
  | finRaise e rem hpc =>
    have hL := hL hpc
    exact h2.finish (TrkRel.of_eq rfl) rfl (by rw [hpc]; rfl) rfl h2.D.nPopLe (fun l hl => by simp at hl)
      (fun x hx => by simp at hx; subst hx; exact hL)
  | finTail rem hpc =>
    obtain ⟨hE, hNE, hrem, hremS⟩ := hL hpc
    have hE : Exited s := hE
    have hNE : Safe c → NoErr s := hNE
    have hun : unread s = s.nPop := by simp only [unread, hpc]
    cases rem with
    | nil =>
      refine h2.returns h (by rw [hpc]; rfl) (TrkRel.of_eq rfl) rfl h2.D.nPopLe s.nPop
        ((h2.D.out (by rw [hpc]; rfl)).trans (by rw [hun])) (fun hs => ?_)
      have := congrArg List.length (hremS hs)
      simp at this; omega
    | cons i rest =>
      simp only [tailNext]
      have hrr : i :: rest = List.range' s.nPop (s.trk.length - s.nPop) := hrem.resolve_left nofun
      obtain ⟨ei, _, _⟩ := range'_cons_inv hrr.symm
      have hun' : unread { s with jobs := [], running := false, pc := Pc.tailStatus i rest } = s.nPop := ei
      refine h2.lateMove (TrkRel.of_eq rfl) rfl rfl (by rw [hpc]; rfl) (fun _ _ _ => rfl)
        (fun _ => by rw [hun, hun']; exact Nat.le_refl _)
        (fun _ j h1 h3 => by rw [hun] at h1; rw [hun'] at h3; omega)
        (fun _ => by rw [hun', ← hun]; exact h2.D.out (by rw [hpc]; rfl)) h2.D.nPopLe
        (fun hp => by cases hp) ?_
      exact ⟨(TrkRel.of_eq rfl).exited rfl rfl rfl hE, hNE, by subst ei; exact hrr⟩
  | tailErr i rem s1 e hpc hr =>
    obtain ⟨hE, hil, hnp⟩ := tailFacts hpc
    obtain ⟨rfl, ⟨_, he⟩ | ⟨_, e', he, hleg⟩⟩ :=
      h2.ror (hpc ▸ rfl) (by simp only [unread, hpc]; exact Nat.le_refl _) hil hnp hr
    · cases he
    · cases he
      exact h2.finish ((TrkRel.setResult s i .none).trans_eq rfl) rfl (by rw [hpc]; rfl) rfl h2.D.nPopLe
        (fun l hl => by simp at hl) (fun x hx => by simp at hx; subst hx; exact hleg)
  | tailOk i rem s1 l hpc hr =>
    obtain ⟨hE, hil, hnp⟩ := tailFacts hpc
    obtain ⟨_, hNE, hrr⟩ := hL hpc
    have hNE : Safe c → NoErr s := hNE
    have hrr : i :: rem = List.range' i (s.trk.length - i) := hrr
    have hun : unread s = i := by simp only [unread, hpc]
    obtain ⟨_, erem, _⟩ := range'_cons_inv hrr.symm
    obtain ⟨rfl, ⟨hst, he⟩ | ⟨_, e', he, _⟩⟩ := h2.ror (hpc ▸ rfl) (Nat.le_of_eq hun) hil hnp hr
    · cases he
      have hrel : TrkRel s (deliverVals c (setTrk s i { getTrk s i with result := .none }) (getT s.trk i).items) :=
        (TrkRel.setResult s i .none).trans_eq (deliverVals_trk ..)
      cases rem with
      | nil =>
        refine h2.returns h (by rw [hpc]; rfl) hrel (late2Of_deliverVals ..)
          (by rw [deliverVals_nPop]; exact h2.D.nPopLe) (i + 1) ?_ (fun _ => ?_)
        · rw [deliverVals_out, flatten_take_succ _ _ hil, ← hun, ← h2.D.out (by rw [hpc]; rfl)]; rfl
        · have := congrArg List.length hrr
          simp at this; omega
      | cons i' rest =>
        obtain ⟨ei, erest, _⟩ := range'_cons_inv erem.symm
        refine h2.consume (hpc ▸ rfl) hun hil hst (.tailStatus i' rest) (by rw [hpc]; rfl) ei nofun ?_
        refine ⟨(hrel.trans_eq rfl).exited (deliverVals_ready ..) (deliverVals_srcDead ..) (deliverVals_origAlive ..) hE,
          fun hs => (hrel.trans_eq rfl).noErr (hNE hs), ?_⟩
        show i' :: rest = List.range' i' ((deliverVals c _ _).trk.length - i')
        rw [hrel.len]
        subst ei
        rw [erem]
        congr 1
    · cases he

theorem stepCaller_inv2 {c : Cfg} {s : St} (hc : CfgOK c) (hpd : PdOK c) (h : Inv c s) (h2 : Inv2 c s)
    (he : callerEnabled s = true) : Inv2 c (stepCaller c s) :=
  (stepCaller_cases c s).inv2 hc hpd h h2 he (stepCaller_inv h he)

/-- `Inv2` does not read `bsI`; `Inv` and `s.trk ≠ []` are needed only to carry `LocOK` over (`LocOK.stable`). -/
theorem Inv2.bsI {c : Cfg} {s : St} (h : Inv c s) (h2 : Inv2 c s) (hne : s.trk ≠ []) (b : Nat) :
    Inv2 c { s with bsI := b } := by
  have g : Guar s { s with bsI := b } :=
    ⟨rfl, rfl, rfl, Nat.le_refl _, fun _ _ _ => rfl, Nat.le_refl _, id, fun x => ⟨x.1, x.2.1, x.2.2⟩,
      fun x => ⟨⟨x.1, x.2.imp id (fun y => ⟨y.1, y.2.1, y.2.2⟩)⟩, rfl, id⟩, id⟩
  exact ⟨⟨h2.F.errFlags, h2.F.aborting, h2.F.exception, h2.F.raised⟩, ⟨h2.R.done, h2.R.error⟩,
    ⟨h2.D.prefixDone, h2.D.out, h2.D.nPopLe, h2.D.jobs⟩,
    ⟨h2.I.allMode, h2.I.allPre,
      fun hp hi => (h2.I.afterFirst hp hi).imp id (fun y => ⟨y.1, y.2.1, y.2.2⟩),
      h2.I.origDead, h2.I.allDead, h2.I.bsC⟩,
    LocOK.stable h h2.L g hne,
    ⟨fun l hl => ⟨⟨(h2.O.ret l hl).1.1, (h2.O.ret l hl).1.2.imp id (fun y => ⟨y.1, y.2.1, y.2.2⟩)⟩,
        fun hs => (h2.O.ret l hl).2 hs⟩,
      h2.O.raised, h2.O.noOutcome⟩⟩

/-- `CbRel` for a state whose table is `s.trk` with tracker `i` replaced by `t'`. -/
theorem CbRel.ofSet {c : Cfg} {s s' : St} {i : Nat} (hi : i < s.trk.length) (t' : Tracker)
    (htrk : s'.trk = s.trk.set i t')
    (fr : s'.pc = s.pc ∧ s'.out = s.out ∧ s'.outcome = s.outcome ∧ s'.srcDead = s.srcDead ∧
      s'.srcRaised = s.srcRaised ∧ s'.ready = s.ready ∧ s'.jobs = s.jobs ∧ s'.nPop = s.nPop ∧
      s'.preLeft = s.preLeft ∧ s'.running = s.running)
    (hit : t'.items = (getT s.trk i).items) (hnorm : (getT s.trk i).items ≠ [])
    (status :
      (t'.status = (getT s.trk i).status ∧ t'.result = (getT s.trk i).result ∧
        s'.aborting = s.aborting ∧ s'.exception = s.exception) ∨
      ((getT s.trk i).status = .pending ∧ t'.status = .done ∧
        t'.result = .vals (getT s.trk i).items ∧ s'.aborting = s.aborting ∧ s'.exception = s.exception) ∨
      ((getT s.trk i).status = .pending ∧ t'.status = .error ∧
        (∃ e, t'.result = .exc e ∧ LegitErr c e) ∧ s'.aborting = true ∧ s'.exception = true))
    (ncomp : s.nCompleted ≤ s'.nCompleted)
    (origIter : (s'.origAlive = s.origAlive ∧ s'.iterating = s.iterating) ∨
      (s'.origAlive = false ∧ s'.iterating = false ∧
        (∀ j, j ≠ i → j < s.trk.length → (getT s.trk j).pc.inNext = false) ∧
        (s'.aborting = false → c.pdMode ≠ 1 → s.ready = [] ∧ s.srcDead = true)))
    (quietKeep : ((getT s.trk i).pc = .relC ∨ (getT s.trk i).pc = .done true) → (t'.pc = .relC ∨ t'.pc = .done true))
    (bsC : t'.pc.inNext = true → s'.origAlive = true) : CbRel c s s' i := by
  obtain ⟨f1, f2, f3, f4, f5, f6, f7, f8, f9, f10⟩ := fr
  have hg : getT s'.trk i = t' := by rw [htrk]; exact getT_set_self _ _ _ hi
  refine ⟨hi, f1, f2, f3, f4, f5, f6, f7, f8, f9, f10, by rw [htrk]; simp, ?_, by rw [hg]; exact hit, hnorm,
    by rw [hg]; exact status, ncomp, origIter, by rw [hg]; exact quietKeep, by rw [hg]; exact bsC⟩
  intro j hj; rw [htrk]; exact getT_set_ne _ _ _ _ hj



/-- A pc-only move of the callback thread of tracker `i` (status, result, flags unchanged). -/
theorem Inv2.cbPc {c : Cfg} {s s' : St} {i : Nat} (h : Inv c s) (h2 : Inv2 c s) (hi : i < s.trk.length) (p : CbPc)
    (htrk : s'.trk = s.trk.set i { getT s.trk i with pc := p })
    (fr : s'.pc = s.pc ∧ s'.out = s.out ∧ s'.outcome = s.outcome ∧ s'.srcDead = s.srcDead ∧
      s'.srcRaised = s.srcRaised ∧ s'.ready = s.ready ∧ s'.jobs = s.jobs ∧ s'.nPop = s.nPop ∧
      s'.preLeft = s.preLeft ∧ s'.running = s.running)
    (fl : s'.aborting = s.aborting ∧ s'.exception = s.exception ∧ s'.origAlive = s.origAlive ∧
      s'.iterating = s.iterating)
    (hact : (getT s.trk i).pc ≠ .idle) (ncomp : s.nCompleted ≤ s'.nCompleted)
    (quietKeep : ((getT s.trk i).pc = .relC ∨ (getT s.trk i).pc = .done true) → (p = .relC ∨ p = .done true))
    (bsC : p.inNext = true → s.origAlive = true) : Inv2 c s' := by
  have h0 := h.T _ (getT_mem _ _ hi)
  exact h2.cbMove h (CbRel.ofSet hi _ htrk fr rfl (trk_normal h0 hact).1 (Or.inl ⟨rfl, rfl, fl.1, fl.2.1⟩) ncomp
    (Or.inl ⟨fl.2.2.1, fl.2.2.2⟩) quietKeep (fun hb => by rw [fl.2.2.1]; exact bsC hb))

theorem cbFinish_inv2 {c : Cfg} {s : St} {i : Nat} (h : Inv c s) (h2 : Inv2 c s) (hi : i < s.trk.length)
    (hpc : (getT s.trk i).pc = .bsC) (r : Bool)
    (hclear : r = false → s.aborting = false → c.pdMode ≠ 1 → s.ready = [] ∧ s.srcDead = true) :
    Inv2 c (cbAfterDispatch i s r) := by
  have h0 := h.T _ (getT_mem _ _ hi)
  have hl : s.lockOwner = some (i + 1) := h.L.cb i hi (by rw [getTrk_def, hpc]; rfl)
  unfold cbAfterDispatch
  cases r with
  | true =>
    exact h2.cbPc h hi .relC rfl fr10 ⟨rfl, rfl, rfl, rfl⟩ (by rw [hpc]; simp) (Nat.le_refl _)
      (by rw [hpc]; simp) (by simp [CbPc.inNext])
  | false =>
    refine h2.cbMove h (CbRel.ofSet hi { getT s.trk i with pc := .relC } rfl fr10 rfl
      (trk_normal h0 (by rw [hpc]; simp)).1 (Or.inl ⟨rfl, rfl, rfl, rfl⟩) (Nat.le_refl _)
      (Or.inr ⟨rfl, rfl, ?_, hclear rfl⟩) (by rw [hpc]; simp) (by simp [CbPc.inNext]))
    intro j hji hj
    cases hn : (getT s.trk j).pc.inNext with
    | false => rfl
    | true =>
      exfalso
      have hh : (getTrk s j).pc.holding = true := by
        rw [getTrk_def]
        cases hp : (getT s.trk j).pc <;> first | rfl | (rw [hp] at hn; cases hn)
      have := h.L.cb j hj hh
      rw [hl] at this
      exact hji (by simpa using this.symm)


theorem DLCase.origAlive {c : Cfg} {t : Tid} {fo : Bool} {bs : Nat} {s s' : St} {r : DRes}
    (hc : DLCase c t fo bs s s' r) : s'.origAlive = s.origAlive := by
  cases hc <;> rfl

theorem cbDispatch_inv2 {c : Cfg} {s : St} {i : Nat} (hc : CfgOK c) (h : Inv c s) (h2 : Inv2 c s)
    (hi : i < s.trk.length) (hpc : (getT s.trk i).pc = .bsC) (hl : s.lockOwner = some (i + 1)) (bs : Nat)
    (hbs : 1 ≤ bs) : Inv2 c (cbDispatchResult i (dispatchLocked c (i + 1) true bs s)) := by
  obtain ⟨s', r, d⟩ := h.cbDisp hi hpc hl bs
  rw [d.eq]
  have hmem := getT_mem _ _ hi
  have ho : s.origAlive = true := h2.I.bsC _ hmem (by rw [hpc]; rfl)
  have hnorm := trk_normal (h.T _ hmem) (by rw [hpc]; simp)
  obtain ⟨h21, _⟩ := d.cases.inv2 h h2 (Or.inr ⟨rfl, ho, i, hi, hnorm.1⟩)
  have hpc2 : (getT s'.trk i).pc = .bsC := d.slot ▸ hpc
  cases r with
  | submit j =>
    simp only [cbDispatchResult]
    exact h21.cbPc d.inv d.lt (.submitC j) rfl fr10 ⟨rfl, rfl, rfl, rfl⟩ (by rw [hpc2]; simp) (Nat.le_refl _)
      (by rw [hpc2]; simp) (fun _ => by rw [d.cases.origAlive]; exact ho)
  | ret b =>
    simp only [cbDispatchResult]
    refine cbFinish_inv2 d.inv h21 d.lt hpc2 b ?_
    intro hb ha _
    subst hb
    have hlim : 1 ≤ pullLim true (bs * c.nj) s := by
      unfold pullLim; simp only [if_true]; exact Nat.mul_pos hbs hc.nj
    obtain ⟨g1, g2, _⟩ := d.cases.ret_false hlim ha
    exact ⟨g1, g2⟩

theorem complete_inv2 {c : Cfg} {s : St} {i : Nat} (h : Inv c s) (h2 : Inv2 c s) (hi : i < s.trk.length)
    (hpc : (getTrk s i).pc = .parked) : Inv2 c (complete c i s) := by
  have hpc' : (getT s.trk i).pc = .parked := hpc
  unfold complete
  simp only
  have h0 := h.T _ (getT_mem _ _ hi)
  exact h2.cbMove h (CbRel.ofSet hi _ rfl fr10 rfl (trk_normal h0 (by rw [hpc']; simp)).1
    (Or.inl ⟨rfl, rfl, rfl, rfl⟩) (Nat.le_refl _) (Or.inl ⟨rfl, rfl⟩) (by rw [hpc']; simp) (by simp [CbPc.inNext]))

theorem CbStep.inv2 {c : Cfg} {s s' : St} {i : Nat} (st : CbStep c i s s') (hc : CfgOK c) (h : Inv c s) (h2 : Inv2 c s)
    (he : cbEnabled s i = true) : Inv2 c s' := by
  have hi := cbEnabled_lt he
  have hmem := getT_mem _ _ hi
  have h0 := h.T _ hmem
  have plain : ∀ {p : CbPc} (p' : CbPc), (getT s.trk i).pc = p → p ≠ .idle → (p = .relC ∨ p = .done true → p' = .done true) →
      p'.inNext = false → Inv2 c (setCb s i p') := fun {p} p' hpc hact hq hn =>
    h2.cbPc h hi p' rfl fr10 ⟨rfl, rfl, rfl, rfl⟩ (hpc ▸ hact) (Nat.le_refl _) (fun hk => .inr (hq (hpc ▸ hk)))
      (fun hb => by rw [hn] at hb; cases hb)
  cases st with
  | stay => exact h2
  | move m hpc => cases m <;> exact plain _ hpc nofun (by first | exact fun _ => rfl | nofun) rfl
  | acqASkip hpc => exact plain _ hpc nofun nofun rfl
  | acqA hpc =>
    exact h2.cbPc h hi .retr rfl fr10 ⟨rfl, rfl, rfl, rfl⟩ (by rw [hpc]; nofun) (Nat.le_refl _) (by rw [hpc]; nofun) nofun
  | retrSet hpc hne =>
    have := h0.pcst; rw [hpc] at this
    exact absurd this hne
  | retrErr id hpc hst hf =>
    have hid : id ∈ c.fails := by simpa using List.find?_some ((h0.failed (by rw [hpc]; rfl)).symm.trans hf)
    exact h2.cbMove h (CbRel.ofSet hi _ rfl fr10 rfl (trk_normal h0 (by rw [hpc]; nofun)).1
      (Or.inr (Or.inr ⟨hst, rfl, ⟨_, rfl, Or.inl ⟨id, rfl, hid⟩⟩, rfl, rfl⟩)) (Nat.le_refl _) (Or.inl ⟨rfl, rfl⟩)
      (by rw [hpc]; nofun) nofun)
  | retrOk hpc hst hf =>
    exact h2.cbMove h (CbRel.ofSet hi _ rfl fr10 rfl (trk_normal h0 (by rw [hpc]; nofun)).1
      (Or.inr (Or.inl ⟨hst, rfl, rfl, rfl, rfl⟩)) (Nat.le_refl _) (Or.inl ⟨rfl, rfl⟩) (by rw [hpc]; nofun) nofun)
  | acqCSkip hpc =>
    exact h2.cbPc h hi .relC rfl fr10 ⟨rfl, rfl, rfl, rfl⟩ (by rw [hpc]; nofun) (Nat.le_add_right _ _)
      (fun _ => .inl rfl) nofun
  | acqCAbort hpc ho ha =>
    obtain ⟨h1, hi1, hpc1, -⟩ := h.enter he hpc
    have h21 : Inv2 c (enterNext s i) :=
      h2.cbPc h hi .bsC rfl fr10 ⟨rfl, rfl, rfl, rfl⟩ (by rw [hpc]; nofun) (Nat.le_add_right _ _) (by rw [hpc]; nofun)
        (fun _ => ho)
    exact cbFinish_inv2 h1 h21 hi1 hpc1 false (fun _ ha' => absurd (ha.symm.trans ha') nofun)
  | acqCPark hpc ho =>
    exact h2.cbPc h hi .bsC rfl fr10 ⟨rfl, rfl, rfl, rfl⟩ (by rw [hpc]; nofun) (Nat.le_add_right _ _) (by rw [hpc]; nofun)
      (fun _ => ho)
  | acqCDisp hpc ho =>
    obtain ⟨h1, hi1, hpc1, hl1⟩ := h.enter he hpc
    have h21 : Inv2 c (enterNext s i) :=
      h2.cbPc h hi .bsC rfl fr10 ⟨rfl, rfl, rfl, rfl⟩ (by rw [hpc]; nofun) (Nat.le_add_right _ _) (by rw [hpc]; nofun)
        (fun _ => ho)
    exact cbDispatch_inv2 hc h1 h21 hi1 hpc1 hl1 _ (scriptedBs_pos hc _)
  | bsC hpc =>
    have hne : s.trk ≠ [] := by intro e; rw [e] at hi; cases hi
    exact cbDispatch_inv2 hc (h.bsI (s.bsI + 1)) (h2.bsI h hne _) hi hpc (h.L.cb i hi (by rw [getTrk_def, hpc]; rfl)) _
      (scriptedBs_pos hc _)
  | submitC j hpc =>
    have u := h.cbSubmit hi hpc
    have h21 : Inv2 c (setCb s i .bsC) :=
      h2.cbPc h hi .bsC rfl fr10 ⟨rfl, rfl, rfl, rfl⟩ (by rw [hpc]; nofun) (Nat.le_refl _) (by rw [hpc]; nofun)
        (fun _ => h2.I.bsC _ hmem (by rw [hpc]; rfl))
    -- the submit of tracker `j` changes slot `j` only: `CbRel … j`, although the thread is that of tracker `i`
    have h22 : Inv2 c (doSubmit (i + 1) j (setCb s i .bsC)) :=
      h21.cbMove u.atMarker (CbRel.ofSet u.pend.1 { getT (setCb s i .bsC).trk j with pc := .parked } rfl fr10 rfl u.pend.2.2.2
        (Or.inl ⟨rfl, rfl, rfl, rfl⟩) (Nat.le_refl _) (Or.inl ⟨rfl, rfl⟩)
        (by rw [show (getT (setCb s i .bsC).trk j).pc = .idle from u.pend.2.1]; nofun) nofun)
    exact cbFinish_inv2 u.submitted h22 u.lt u.pc true nofun

theorem stepCb_inv2 {c : Cfg} {s : St} {i : Nat} (hc : CfgOK c) (h : Inv c s) (h2 : Inv2 c s)
    (he : cbEnabled s i = true) : Inv2 c (stepCb c i s) := (stepCb_cases c i s).inv2 hc h h2 he


theorem step_inv2 {c : Cfg} {s : St} (hc : CfgOK c) (hpd : PdOK c) (h : Inv c s) (h2 : Inv2 c s) (a : Act) :
    Inv2 c (step c s a) :=
  step_cases h2 (stepCaller_inv2 hc hpd h h2) (fun _ => stepCb_inv2 hc h h2) (fun _ => complete_inv2 h h2) a

end JoblibModel.ParallelLock
