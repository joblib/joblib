import JoblibModel.ParallelLock
import JoblibProofs.Lemmas.Common
import JoblibProofs.Lemmas.ParallelProto.Lists
/-!
M1L proofs — `chunks` and the tracker table; the core (safety) invariant `Inv c s` (lock discipline, input-iterator
bookkeeping, per-tracker coherence, conservation of task ids, the two counters); the lock discipline as one statement
about all threads (`lockInv_iff`) with its transfer lemmas (`LockInv.step`: one thread moves; `LockInv.congr`: nobody
does); `pull` and the locked region of `dispatch_one_batch` as an exhaustive case characterisation with explicit
post-states (`dispatchLocked_cases`), from which every invariant is derived by case analysis.
-/
namespace JoblibModel.ParallelLock

/-- `JoblibModel.ParallelProto` defines `chunks` with the same text: its lemmas (`ParallelProto/Lists.lean`) carry over. -/
theorem chunks_eq (k : Nat) (l : List Nat) : chunks k l = ParallelProto.chunks k l :=
  go_eq _ l
where
  go_eq : ∀ fuel l, chunks.go k fuel l = ParallelProto.chunks.go k fuel l
    | 0, _ => rfl
    | _ + 1, [] => rfl
    | f + 1, _ :: _ => congrArg (_ :: ·) (go_eq f _)

theorem chunks_flatten (k : Nat) (l : List Nat) : (chunks k l).flatten = l :=
  chunks_eq k l ▸ ParallelProto.chunks_flatten k l

theorem chunks_ne_nil (k : Nat) (l : List Nat) : ∀ b ∈ chunks k l, b ≠ [] :=
  chunks_eq k l ▸ ParallelProto.chunks_ne_nil k l

theorem chunks_nil (k : Nat) : chunks k [] = [] := rfl

theorem chunks_eq_nil_iff (k : Nat) (l : List Nat) : chunks k l = [] ↔ l = [] :=
  chunks_eq k l ▸ ParallelProto.chunks_eq_nil_iff k l

/-- `getTrk` as a function of the table only (the simp-normal form of the proofs). -/
def getT (l : List Tracker) (i : Nat) : Tracker := l.getD i default

@[simp] theorem getTrk_def (s : St) (i : Nat) : getTrk s i = getT s.trk i := rfl

theorem getT_set (l : List Tracker) (i j : Nat) (t : Tracker) :
    getT (l.set i t) j = if j = i ∧ i < l.length then t else getT l j :=
  List.getD_set_eq ..

@[simp] theorem getT_set_self (l : List Tracker) (i : Nat) (t : Tracker) (h : i < l.length) :
    getT (l.set i t) i = t := by simp [getT_set, h]

theorem getT_set_ne (l : List Tracker) (i j : Nat) (t : Tracker) (h : j ≠ i) :
    getT (l.set i t) j = getT l j := by simp [getT_set, h]

theorem getT_append_left (l l' : List Tracker) (i : Nat) (h : i < l.length) : getT (l ++ l') i = getT l i :=
  List.getD_append_left_of_lt _ _ _ _ h

@[simp] theorem getT_append_length (l : List Tracker) (t : Tracker) : getT (l ++ [t]) l.length = t :=
  List.getD_concat_length ..

theorem getT_of_ge (l : List Tracker) (i : Nat) (h : l.length ≤ i) : getT l i = default :=
  List.getD_of_length_le _ _ _ h

theorem getT_append_right (l l' : List Tracker) (i : Nat) (h : l.length ≤ i) :
    getT (l ++ l') i = getT l' (i - l.length) := by
  simp only [getT, List.getD_eq_getElem?_getD, List.getElem?_append_right h]

theorem getT_mem (l : List Tracker) (i : Nat) (h : i < l.length) : getT l i ∈ l :=
  List.getD_mem_of_lt _ _ _ h

theorem getT_map (l : List Tracker) (f : Tracker → Tracker) (i : Nat) (h : i < l.length) :
    getT (l.map f) i = f (getT l i) :=
  List.getD_map_of_lt _ _ _ _ _ h

theorem mem_iff_getT (l : List Tracker) (t : Tracker) : t ∈ l ↔ ∃ i, i < l.length ∧ getT l i = t :=
  List.mem_iff_getD ..

/-- Configurations of the model's domain. -/
structure CfgOK (c : Cfg) : Prop where
  nj : 1 ≤ c.nj
  bs : ∀ b ∈ c.bs, 1 ≤ b

/-- The callback thread is inside a lock-protected segment (parked at a backend call while owning the lock). -/
def CbPc.holding : CbPc → Bool
  | .retr | .bsC | .submitC _ => true
  | _ => false

/-- The caller is inside a lock-protected segment. -/
def Pc.holding : Pc → Bool
  | .dSubmit _ _ | .dIn _ => true
  | _ => false

/-- The callback went through `n_completed_tasks += batch_size`. -/
def CbPc.counted : CbPc → Bool
  | .bsC | .submitC _ | .relC | .done true => true
  | _ => false

/-- The backend has completed the batch (its callback thread exists or has finished). -/
def CbPc.started : CbPc → Bool
  | .idle | .parked | .dropped => false
  | _ => true

/-- Caller program points before `_start` (nothing dispatched yet). -/
def Pc.preDispatch : Pc → Bool
  | .resetAcq | .resetRel | .wNDisp | .wNComp | .wExc0 | .wAbort0 | .readyAcq | .readyRel | .wOrig | .wIter0 => true
  | _ => false

theorem Pc.holding_of_preDispatch {p : Pc} (h : p.preDispatch = true) : p.holding = false := by
  cases p <;> first | rfl | cases h

/-- All task ids in trackers, in creation order. -/
def allItems (s : St) : List Nat := (s.trk.map (·.items)).flatten

/-- `Σ batch sizes` of the trackers whose callback went through the counter increment. -/
def countedSum (l : List Tracker) : Nat := (l.map (fun t => if t.pc.counted then t.items.length else 0)).sum

/-- The tracker registered for an error of the input iterable. -/
def IsErr (c : Cfg) (t : Tracker) : Prop :=
  t.items = [] ∧ t.status = .error ∧ t.pc = .idle ∧ c.iterfail.isSome = true

/-- Allowed combinations of callback pc and tracker status. -/
def pcStatusOK : CbPc → Status → Prop
  | .idle, st => st = .pending ∨ st = .error
  | .parked, st | .dropped, st | .acqA, st | .retr, st => st = .pending
  | .relA true, st => st = .done
  | .relA false, st => st = .pending ∨ st = .error
  | .stats, st | .acqC, st | .bsC, st | .submitC _, st | .relC, st | .done true, st => st = .done
  | .done false, st => st = .pending ∨ st = .error

/-- Per-tracker coherence. -/
structure TrkOK (c : Cfg) (t : Tracker) : Prop where
  shape : (t.items ≠ [] ∧ t.bsize = t.items.length) ∨ IsErr c t
  pcst : pcStatusOK t.pc t.status
  idleErr : t.pc = .idle → t.status = .error → IsErr c t
  failed : t.pc.started = true → t.failed = t.items.find? (fun id => c.fails.contains id)
  doneOk : t.status = .done → t.failed = none
  errFail : t.status = .error → t.items ≠ [] → ∃ id, t.failed = some id

structure LockInv (s : St) : Prop where
  caller : s.pc.holding = true → s.lockOwner = some 0
  cb : ∀ i, i < s.trk.length → (getTrk s i).pc.holding = true → s.lockOwner = some (i + 1)
  own0 : s.lockOwner = some 0 → s.pc.holding = true
  ownCb : ∀ i, s.lockOwner = some (i + 1) → i < s.trk.length ∧ (getTrk s i).pc.holding = true

/-- A tracker waiting for its `backend.submit`. -/
def PendingSubmit (s : St) (j : Nat) : Prop :=
  j < s.trk.length ∧ (getTrk s j).pc = .idle ∧ (getTrk s j).status = .pending ∧ (getTrk s j).items ≠ []

structure SubmitInv (s : St) : Prop where
  caller : ∀ k j, s.pc = .dSubmit k j → PendingSubmit s j
  cb : ∀ i j, i < s.trk.length → (getTrk s i).pc = .submitC j → PendingSubmit s j

structure SrcInv (c : Cfg) (s : St) : Prop where
  le : s.srcPos ≤ stopAt c
  raisedDead : s.srcRaised = true → s.srcDead = true
  deadAt : s.srcDead = true → s.srcPos = stopAt c
  raisedAt : s.srcRaised = true → c.iterfail = some s.srcPos
  exhausted : s.srcDead = true → s.srcRaised = false → s.srcPos = c.n ∧ ∀ f, c.iterfail = some f → c.n < f

structure ConsInv (s : St) : Prop where
  sorted : List.Pairwise (· < ·) (allItems s ++ s.ready.flatten)
  bound : ∀ x ∈ allItems s ++ s.ready.flatten, x < s.srcPos
  full : s.aborting = false → allItems s ++ s.ready.flatten = List.range' 0 s.srcPos
  readyNe : ∀ b ∈ s.ready, b ≠ []

structure CntInv (s : St) : Prop where
  disp : s.nDispTasks = (allItems s).length
  comp : s.nCompleted = countedSum s.trk

/-- Before `_start`: nothing has happened to the object yet. -/
structure Fresh (s : St) : Prop where
  trk : s.trk = []
  ready : s.ready = []
  src : s.srcPos = 0 ∧ s.srcDead = false ∧ s.srcRaised = false
  lock : s.lockOwner = none
  jobs : s.jobs = [] ∧ s.nPop = 0 ∧ s.out = []
  cnt : s.nDispTasks = 0 ∧ s.nCompleted = 0

structure Inv (c : Cfg) (s : St) : Prop where
  L : LockInv s
  U : SubmitInv s                              -- who is parked at a `submit` points at a pending tracker
  S : SrcInv c s
  T : ∀ t ∈ s.trk, TrkOK c t
  C : ConsInv s                                -- conservation of task ids
  N : CntInv s
  P : s.pc.preDispatch = true → Fresh s        -- nothing has happened before `_start`
  logLocked : ∀ t id l, Ev.pull t id l ∈ s.log → l = true

theorem inv_init (c : Cfg) : Inv c init := by
  refine ⟨⟨?_, ?_, ?_, ?_⟩, ⟨?_, ?_⟩, ⟨?_, ?_, ?_, ?_, ?_⟩, ?_, ⟨?_, ?_, ?_, ?_⟩, ⟨?_, ?_⟩, ?_, ?_⟩ <;>
    simp [init, Pc.holding, allItems, countedSum, Pc.preDispatch]
  exact ⟨rfl, rfl, ⟨rfl, rfl, rfl⟩, rfl, ⟨rfl, rfl, rfl⟩, rfl, rfl⟩

/-- A slot beyond the end of the table reads `default`, whose callback pc is `idle`. -/
theorem lt_of_pc_ne_idle {l : List Tracker} {i : Nat} (h : (getT l i).pc ≠ .idle) : i < l.length :=
  List.lt_length_of_getD (P := fun t => t.pc ≠ .idle) h (fun h => h rfl)

/-- Thread `t` is inside a lock-protected segment (thread 0 is the caller, thread `i + 1` the callback thread of
tracker `i`). -/
def holds (s : St) : Tid → Bool
  | 0 => s.pc.holding
  | i + 1 => (getT s.trk i).pc.holding

/-- `Parallel._lock` is owned by exactly the thread that is inside a lock-protected segment (parked at a backend call
made under `with self._lock`); the four clauses of `LockInv` say this for the caller and for the callback threads
separately. -/
theorem lockInv_iff {s : St} : LockInv s ↔ ∀ t, s.lockOwner = some t ↔ holds s t = true := by
  have hlt : ∀ {i}, holds s (i + 1) = true → i < s.trk.length := fun h =>
    lt_of_pc_ne_idle (fun e => by rw [holds, e] at h; cases h)
  constructor
  · intro h t
    cases t with
    | zero => exact ⟨h.own0, h.caller⟩
    | succ i => exact ⟨fun ho => (h.ownCb i ho).2, fun hh => h.cb i (hlt hh) hh⟩
  · intro h
    exact ⟨(h 0).2, fun i _ hh => (h (i + 1)).2 hh, (h 0).1, fun i ho => ⟨hlt ((h (i + 1)).1 ho), (h (i + 1)).1 ho⟩⟩

/-- Thread `t` moves, the others stay where they are, and the lock goes with `t`. -/
theorem LockInv.step {s s' : St} (h : LockInv s) (t : Tid) (hoth : ∀ u, u ≠ t → holds s' u = holds s u)
    (hlock : s'.lockOwner = if holds s' t then some t else if holds s t then none else s.lockOwner)
    (hfree : holds s' t = true → holds s t = false → s.lockOwner = none) : LockInv s' := by
  rw [lockInv_iff] at h ⊢
  -- while `t` owns the lock, or the lock is free, nobody else is inside
  have hout : ∀ u, u ≠ t → (s.lockOwner = some t ∨ s.lockOwner = none) → holds s u = false := fun u hu ho => by
    cases hh : holds s u with
    | false => rfl
    | true =>
      rcases ho with ho | ho <;> rw [(h u).2 hh] at ho
      · exact absurd (Option.some.inj ho) hu
      · cases ho
  intro u
  by_cases hu : u = t
  · subst hu
    rw [hlock]
    cases h' : holds s' u with
    | true => simp
    | false =>
      cases h0 : holds s u with
      | true => simp
      | false => simpa [h0] using h u
  · rw [hoth u hu, hlock]
    cases h' : holds s' t with
    | true =>
      have : holds s u = false := by
        cases h0 : holds s t with
        | true => exact hout u hu (.inl ((h t).2 h0))
        | false => exact hout u hu (.inr (hfree h' h0))
      simp [this, Ne.symm hu]
    | false =>
      cases h0 : holds s t with
      | true => simp [hout u hu (.inl ((h t).2 h0))]
      | false => simpa using h u

/-- Nobody moves: `LockInv` reads of the tracker table only which callback pcs are inside a locked segment. -/
theorem LockInv.congr {s s' : St} (h : LockInv s) (ho : s'.lockOwner = s.lockOwner) (hp : s'.pc = s.pc)
    (hpcs : ∀ k, (getT s'.trk k).pc.holding = (getT s.trk k).pc.holding) : LockInv s' := by
  rw [lockInv_iff] at h ⊢
  intro u
  rw [ho, h u]
  cases u with
  | zero => simp only [holds, hp]
  | succ k => simp only [holds, hpcs]

/-- `PendingSubmit` is a fact about one slot of the table (an empty slot has no items). -/
theorem pendingSubmit_iff {s : St} {j : Nat} :
    PendingSubmit s j ↔ (getT s.trk j).pc = .idle ∧ (getT s.trk j).status = .pending ∧ (getT s.trk j).items ≠ [] :=
  ⟨fun h => h.2, fun h => ⟨List.lt_length_of_getD (P := fun t => t.items ≠ []) h.2.2 (fun h => h rfl), h⟩⟩

theorem PendingSubmit.of_slot {s s' : St} {j : Nat} (h : PendingSubmit s j) (e : getT s'.trk j = getT s.trk j) :
    PendingSubmit s' j := by
  rw [pendingSubmit_iff] at h ⊢
  rw [e]; exact h

theorem pc_append_idle {l new : List Tracker} (h : ∀ x ∈ new, x.pc = .idle) (k : Nat) :
    (getT (l ++ new) k).pc = (getT l k).pc := by
  by_cases hk : k < l.length
  · rw [getT_append_left _ _ _ hk]
  · have hk := Nat.le_of_not_lt hk
    rw [getT_of_ge l k hk, getT_append_right _ _ _ hk]
    rcases List.getD_mem_or_eq new (k - l.length) default with hm | hm
    · exact h _ hm
    · exact congrArg Tracker.pc hm

/-- The state after `_dispatch(tasks)` up to `backend.submit` (lock held). -/
def mkDisp (s : St) (tasks : List Nat) : St :=
  { s with nDispTasks := s.nDispTasks + tasks.length,
           trk := s.trk ++ [{ items := tasks, bsize := tasks.length, callId := s.callId }],
           jobs := s.jobs ++ [s.trk.length] }

/-- `self._ready_batches` after a `get` / the `put`s. -/
def setReady (s : St) (r : List (List Nat)) : St := { s with ready := r }

/-- The state after one `pull`. -/
def mkPull (s : St) (m : Nat) (evs : List Ev) (dead raised : Bool) (pl : Option Nat) : St :=
  { s with log := evs ++ s.log, srcPos := s.srcPos + m, srcDead := dead, srcRaised := raised, preLeft := pl }

/-- Facts about one `list(islice(iterator, k))` that takes `m` items.  `dead`, `raised`, `pl` are the NEW values of
`srcDead`, of the ghost `srcRaised` (inherited when the pull is a no-op) and of `preLeft` (as in `mkPull`); `ret` is what
`pull` returns third: did THIS pull raise. -/
structure PullFacts (c : Cfg) (t : Tid) (fo : Bool) (k : Nat) (s : St) (m : Nat) (evs : List Ev) (dead raised : Bool)
    (pl : Option Nat) (ret : Bool) : Prop where
  le : s.srcPos + m ≤ stopAt c
  mle : m ≤ pullLim fo k s
  deadAt : dead = true → s.srcPos + m = stopAt c
  raisedDead : raised = true → dead = true
  raisedAt : raised = true → c.iterfail = some (s.srcPos + m)
  exhausted : dead = true → raised = false → s.srcPos + m = c.n ∧ ∀ f, c.iterfail = some f → c.n < f
  evs : ∀ e ∈ evs, e = Ev.pullraise t ∨ ∃ id, e = Ev.pull t id (s.lockOwner == some t)
  short : m < pullLim fo k s → dead = true
  keepDead : s.srcDead = true → dead = true ∧ m = 0
  retRaised : ret = true → raised = true
  raisedRet : raised = true → ret = true ∨ s.srcRaised = true
  plOrig : fo = true → pl = s.preLeft
  plNone : s.preLeft = none → pl = none

/-- With `ret = false` the state's `srcRaised` can only be inherited. -/
theorem PullFacts.raisedRet' {c : Cfg} {t : Tid} {fo : Bool} {k : Nat} {s : St} {m : Nat} {evs : List Ev}
    {dead raised : Bool} {pl : Option Nat} (hf : PullFacts c t fo k s m evs dead raised pl false)
    (h : raised = true) : s.srcRaised = true := by
  rcases hf.raisedRet h with h1 | h1
  · cases h1
  · exact h1

theorem pull_spec {c : Cfg} {s : St} (hS : SrcInv c s) (t : Tid) (fo : Bool) (k : Nat) :
    ∃ m evs dead raised pl ret,
      pull c t fo k s = (mkPull s m evs dead raised pl, List.range' s.srcPos m, ret)
      ∧ PullFacts c t fo k s m evs dead raised pl ret := by
  unfold pull
  simp only
  by_cases h0 : pullLim fo k s = 0 ∨ s.srcDead = true
  · rw [if_pos h0]
    refine ⟨0, [], s.srcDead, s.srcRaised, s.preLeft, false, ?_, ?_⟩
    · cases s; simp [mkPull]
    · have := hS.le
      refine ⟨by simpa using hS.le, by omega, ?_, hS.raisedDead, ?_, ?_, by simp, ?_, ?_, by simp, ?_, fun _ => rfl, ?_⟩
      · intro h; simpa using hS.deadAt h
      · intro h; simpa using hS.raisedAt h
      · intro h1 h2; simpa using hS.exhausted h1 h2
      · intro h; rcases h0 with h0 | h0
        · omega
        · exact h0
      · intro h; exact ⟨h, rfl⟩
      · intro h; exact Or.inr h
      · exact id
  · rw [if_neg h0]
    simp only [not_or, Bool.not_eq_true] at h0
    obtain ⟨h0, hd⟩ := h0
    have hle := hS.le
    refine ⟨min (pullLim fo k s) (stopAt c - s.srcPos), _, _, _, _, _, rfl, ?_⟩
    refine ⟨by omega, by omega, ?_, ?_, ?_, ?_, ?_, ?_, ?_, ?_, ?_, ?_, ?_⟩
    · intro h; simp only [decide_eq_true_eq] at h; omega
    · intro h; simp only [Bool.and_eq_true, decide_eq_true_eq] at h; simpa using h.1
    · intro h; simp only [Bool.and_eq_true, beq_iff_eq] at h; exact h.2
    · intro h1 h2
      simp only [decide_eq_true_eq] at h1
      have hm : s.srcPos + min (pullLim fo k s) (stopAt c - s.srcPos) = stopAt c := by omega
      have hne : c.iterfail ≠ some (stopAt c) := by
        intro he
        rw [hm] at h2
        simp [h1, he] at h2
      rw [hm]
      unfold stopAt at hne ⊢
      cases hf : c.iterfail with
      | none => simp
      | some f =>
        simp only [hf] at hne ⊢
        have : ¬ (f ≤ c.n) := by
          intro hfn
          apply hne
          simp [Nat.min_eq_left hfn]
        refine ⟨by omega, ?_⟩
        intro f' hf'; cases hf'; omega
    · intro e he
      split at he
      · simp only [List.mem_cons, List.mem_reverse, List.mem_map] at he
        rcases he with he | ⟨id, _, he⟩
        · exact Or.inl he
        · exact Or.inr ⟨id, he.symm⟩
      · simp only [List.mem_reverse, List.mem_map] at he
        obtain ⟨id, _, he⟩ := he
        exact Or.inr ⟨id, he.symm⟩
    · intro h; simpa using h
    · intro h; simp [hd] at h
    · intro h; exact h
    · intro h; exact Or.inl h
    · intro h; simp [h]
    · intro h; simp [h]


/-- All the ways the locked region of `dispatch_one_batch` can go, with explicit post-states. -/
inductive DLCase (c : Cfg) (t : Tid) (fo : Bool) (bs : Nat) (s : St) : St → DRes → Prop
  | aborting : s.aborting = true → DLCase c t fo bs s s (.ret false)
  | ready (tasks : List Nat) (rest : List (List Nat)) : s.aborting = false → s.ready = tasks :: rest → tasks ≠ [] →
      DLCase c t fo bs s (mkDisp (setReady s rest) tasks) (.submit s.trk.length)
  | raised (m : Nat) (evs : List Ev) (dead : Bool) (pl : Option Nat) : s.aborting = false → s.ready = [] →
      PullFacts c t fo (bs * c.nj) s m evs dead true pl true → s.srcDead = false →
      DLCase c t fo bs s (registerIterError bs (mkPull s m evs dead true pl)) (.ret true)
  | empty (evs : List Ev) (dead raised : Bool) (pl : Option Nat) : s.aborting = false → s.ready = [] →
      PullFacts c t fo (bs * c.nj) s 0 evs dead raised pl false →
      DLCase c t fo bs s (mkPull s 0 evs dead raised pl) (.ret false)
  | pulled (m : Nat) (evs : List Ev) (dead raised : Bool) (pl : Option Nat) (tasks : List Nat) (rest : List (List Nat)) :
      s.aborting = false → s.ready = [] → PullFacts c t fo (bs * c.nj) s m evs dead raised pl false → 0 < m →
      tasks ≠ [] → (∀ b ∈ rest, b ≠ []) → tasks ++ rest.flatten = List.range' s.srcPos m →
      DLCase c t fo bs s (mkDisp (setReady (mkPull s m evs dead raised pl) rest) tasks) (.submit s.trk.length)

theorem dispatchTasks_ne {s : St} {tasks : List Nat} (h : tasks ≠ []) (ha : s.aborting = false) :
    dispatchTasks s tasks = (mkDisp s tasks, .submit s.trk.length) := by
  unfold dispatchTasks mkDisp
  have : tasks.length ≠ 0 := by simpa using h
  simp [this, ha]

theorem dispatchLocked_cases {c : Cfg} {s : St} (hS : SrcInv c s) (hne : ∀ b ∈ s.ready, b ≠ []) (t : Tid) (fo : Bool)
    (bs : Nat) : ∃ s' r, dispatchLocked c t fo bs s = (s', r) ∧ DLCase c t fo bs s s' r := by
  unfold dispatchLocked
  by_cases ha : s.aborting = true
  · rw [if_pos ha]; exact ⟨_, _, rfl, .aborting ha⟩
  · have ha' : s.aborting = false := by simpa using ha
    rw [if_neg ha]
    cases hr : s.ready with
    | cons tasks rest =>
      simp only
      have htn : tasks ≠ [] := hne tasks (by simp [hr])
      rw [dispatchTasks_ne htn (by exact ha')]
      exact ⟨_, _, rfl, .ready tasks rest ha' hr htn⟩
    | nil =>
      simp only
      obtain ⟨m, evs, dead, raised, pl, ret, hp, hf⟩ := pull_spec hS t fo (bs * c.nj)
      rw [hp]
      simp only
      cases hret : ret with
      | true =>
        simp only [if_true]
        have hra : raised = true := hf.retRaised hret
        subst hra; subst hret
        have hd : s.srcDead = false := by
          cases hsd : s.srcDead with
          | false => rfl
          | true =>
            exfalso
            have := hp
            unfold pull at this
            simp [hsd] at this
        exact ⟨_, _, rfl, .raised m evs dead pl ha' hr hf hd⟩
      | false =>
        subst hret
        simp only [Bool.false_eq_true, if_false, List.length_range']
        by_cases hm : m = 0
        · subst hm
          simp only [if_true]
          exact ⟨_, _, rfl, .empty evs dead raised pl ha' hr hf⟩
        · simp only [hm, if_false]
          have hnil : List.range' s.srcPos m ≠ [] := by simp [hm]
          generalize hfin : (if (fo && decide (m < bs * c.nj)) = true then max 1 (m / (10 * c.nj)) else max 1 (m / c.nj)) = final
          cases hc : chunks final (List.range' s.srcPos m) with
          | nil => exact absurd ((chunks_eq_nil_iff _ _).mp hc) hnil
          | cons tasks rest =>
            simp only
            have hmem := chunks_ne_nil final (List.range' s.srcPos m)
            rw [hc] at hmem
            have htn : tasks ≠ [] := hmem tasks (by simp)
            have hfl := chunks_flatten final (List.range' s.srcPos m)
            rw [hc] at hfl
            rw [dispatchTasks_ne htn (by simp [mkPull, ha'])]
            exact ⟨_, _, rfl, .pulled m evs dead raised pl tasks rest ha' hr hf (by omega) htn
              (fun b hb => hmem b (by simp [hb])) (by simpa using hfl)⟩

end JoblibModel.ParallelLock
