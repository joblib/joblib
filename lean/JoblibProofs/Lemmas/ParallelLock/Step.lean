import JoblibProofs.Lemmas.ParallelLock.Proj2
/-!
M1L proofs — what ONE step of a thread does, stated once as a relation and proved once against the step function
(`stepCaller_cases`, `stepCb_cases`); every invariant is then preserved by the relation, not by `stepCaller` / `stepCb`.

A step of the caller (`CStep c s s'`) is
* a `Move c s p p'`: a branch of `stepCaller` that writes nothing but the program counter (`s' = { s with pc := p' }`),
  with the branch's guard.  `p` and `p'` are constructors, so what an invariant needs of a move is a closed fact about
  two program points, read off a table (`Move.holding`, `Move.pre`, …), plus — for `Inv2` — what the caller knows at `p'`
  (`Move.locOK`);
* a `Write c s p p' s1`: a branch that also writes scalar attributes of the `Parallel` object (the set-up of `__call__`,
  the scripted batch size, `_iterating` in `_start`, the two error flags).  Unlike a move it carries its post-state `s1`:
  the invariants of M1L read ten of these scalars (counters, flags, `_ready_batches`, `_original_iterator`, `_call_id`),
  so "some scalars changed" would say too little;
* or one of the branches that touch the lock, a tracker, `_jobs`, the log or the outcome (`CStep.busy … CStep.tailOk`).
Likewise `CbMove` / `CbStep` for the callback thread of a tracker.  `step_cases` and `run_ind` carry what every thread's
step keeps to every action and every schedule.
-/
namespace JoblibModel.ParallelLock

/-- `afterDispatch` is resolved, so that `p'` is always a constructor. -/
inductive Move (c : Cfg) (s : St) : Pc → Pc → Prop
  | resetRel : Move c s .resetRel .wNDisp
  | readyRel : Move c s .readyRel .wOrig
  | dPreAbFirst (h : s.aborting = true) : Move c s (.dPre .first) (.dPre .loop)
  | dPreAbAll (h : s.aborting = true) (hm : c.pdMode = 1) : Move c s (.dPre .loop) .wIterAll
  | dPreAbInt (h : s.aborting = true) (hm : c.pdMode ≠ 1) : Move c s (.dPre .loop) .wtAbort
  | dPreBs k (h : s.aborting = false) (hb : c.bsAuto = true) : Move c s (.dPre k) (.dBs k)
  | dPreAcq k (h : s.aborting = false) (hb : c.bsAuto = false) : Move c s (.dPre k) (.dAcq k (scriptedBs c s))
  | dRelFirstT : Move c s (.dRel .first true) .itAcq
  | dRelFirstF : Move c s (.dRel .first false) (.dPre .loop)
  | dRelLoopT : Move c s (.dRel .loop true) (.dPre .loop)
  | dRelLoopAll (hm : c.pdMode = 1) : Move c s (.dRel .loop false) .wIterAll
  | dRelLoopInt (hm : c.pdMode ≠ 1) : Move c s (.dRel .loop false) .wtAbort
  | itRel : Move c s .itRel (.dPre .loop)
  | wtAbortT (h : s.aborting = true) : Move c s .wtAbort .rtAbort
  | wtAbortF (h : s.aborting = false) : Move c s .wtAbort .wtIter
  | wtIterT (h : s.iterating = true) : Move c s .wtIter .rtAbort
  | wtIterF (h : s.iterating = false) : Move c s .wtIter .wtNComp
  | wtNComp : Move c s .wtNComp (.wtNDisp s.nCompleted)
  | wtNDispLt nc (h : nc < s.nDispTasks) : Move c s (.wtNDisp nc) .rtAbort
  | wtNDispRe nc (h : ¬ nc < s.nDispTasks) (hr : c.recheck = true) : Move c s (.wtNDisp nc) .wtAbort2
  | wtNDispFin nc (h : ¬ nc < s.nDispTasks) (hr : c.recheck = false) : Move c s (.wtNDisp nc) (.finExc none)
  | wtAbort2T (h : s.aborting = true) : Move c s .wtAbort2 .rtAbort
  | wtAbort2F (h : s.aborting = false) : Move c s .wtAbort2 (.finExc none)
  | rtAbortT (h : s.aborting = true) : Move c s .rtAbort .refAcq
  | rtAbortF (h : s.aborting = false) : Move c s .rtAbort .rtLen
  | rtLenSleep (hj : s.jobs.length = 0) : Move c s .rtLen .sleep
  | rtLenHead (hj : s.jobs.length ≠ 0) : Move c s .rtLen .rtHead
  | rtHeadNil (hj : s.jobs = []) : Move c s .rtHead (.excW .index)
  | rtHeadCons i r (hj : s.jobs = i :: r) : Move c s .rtHead (.rtStatus i)
  | rtStatusPend i (h : (getTrk s i).status = .pending) : Move c s (.rtStatus i) .sleep
  | rtStatusSet i (h : (getTrk s i).status ≠ .pending) : Move c s (.rtStatus i) .popAcq
  | sleep : Move c s .sleep .wtAbort
  | popNil (hj : s.jobs = []) : Move c s .popAcq (.excW .index)
  | popRel i : Move c s (.popRel i) (.resStatus i)
  | refAcq : Move c s .refAcq (.refRel (firstErrorJob s s.jobs))
  | refRelNone : Move c s (.refRel none) (.finExc none)
  | refRelSome i : Move c s (.refRel (some i)) (.refStatus i)
  | finExcT e (h : s.exception = true) : Move c s (.finExc e) (.finJobsW e [])
  | finExcF e (h : s.exception = false) : Move c s (.finExc e) (.finJobsR e)
  | finJobsR e : Move c s (.finJobsR e) (.finJobsW e s.jobs)

inductive Write (c : Cfg) (s : St) : Pc → Pc → St → Prop
  | resetAcq (h : s.running = false) :
      Write c s .resetAcq .resetRel { s with running := true, callId := s.callId + 1 }
  | wNDisp : Write c s .wNDisp .wNComp { s with nDispTasks := 0 }
  | wNComp : Write c s .wNComp .wExc0 { s with nCompleted := 0 }
  | wExc0 : Write c s .wExc0 .wAbort0 { s with exception := false }
  | wAbort0 : Write c s .wAbort0 .readyAcq { s with aborting := false, aborted := false }
  | readyAcq : Write c s .readyAcq .readyRel { s with ready := [] }
  | wOrigAll (h : c.pdMode = 1) : Write c s .wOrig .wIter0 { s with origAlive := false, preLeft := none }
  | wOrig (h : c.pdMode ≠ 1) : Write c s .wOrig .wIter0 { s with origAlive := true, preLeft := some c.pd }
  | wIter0 : Write c s .wIter0 (.dPre .first) { s with iterating := false }
  | dBs k : Write c s (.dBs k) (.dAcq k (scriptedBs c s)) { s with bsI := s.bsI + 1 }
  | itAcq : Write c s .itAcq .itRel { s with iterating := s.origAlive }
  | wIterAll : Write c s .wIterAll .wtAbort { s with iterating := false }
  | excW e : Write c s (.excW e) (.abortW e) { s with exception := true }
  | abortWFin e (h : s.aborted = true) : Write c s (.abortW e) (.finExc (some e)) { s with aborting := true }
  | abortWCall e (h : s.aborted = false) : Write c s (.abortW e) (.abortCall e) { s with aborting := true }

/-- `dispatchLocked` and `returnOrRaise` enter through their defining equations. -/
inductive CStep (c : Cfg) (s : St) : St → Prop
  | move {p p' : Pc} (m : Move c s p p') (hp : s.pc = p) : CStep c s { s with pc := p' }
  | write {p p' : Pc} {s1 : St} (w : Write c s p p' s1) (hp : s.pc = p) : CStep c s { s1 with pc := p' }
  | stay (h : s.pc = .done ∨ ∃ k, s.pc = .dIn k) : CStep c s s
  | busy (hpc : s.pc = .resetAcq) (h : s.running = true) : CStep c s (finishRaise s .runtime)
  | dAcqSubmit k bs s1 j (hpc : s.pc = .dAcq k bs)
      (hd : dispatchLocked c 0 false bs { s with lockOwner := some 0, pc := .dIn k } = (s1, .submit j)) :
      CStep c s { s1 with pc := .dSubmit k j }
  | dAcqRet k bs s1 r (hpc : s.pc = .dAcq k bs)
      (hd : dispatchLocked c 0 false bs { s with lockOwner := some 0, pc := .dIn k } = (s1, .ret r)) :
      CStep c s { s1 with lockOwner := none, pc := .dRel k r }
  | dSubmit k j (hpc : s.pc = .dSubmit k j) :
      CStep c s { doSubmit 0 j { s with pc := .dIn k } with lockOwner := none, pc := .dRel k true }
  | pop i rest (hpc : s.pc = .popAcq) (hj : s.jobs = i :: rest) :
      CStep c s { s with jobs := rest, nPop := s.nPop + 1, pc := .popRel i }
  | resErr i s1 e (hpc : s.pc = .resStatus i) (hr : returnOrRaise s i = (s1, .error e)) :
      CStep c s { s1 with pc := .excW e }
  | resOk i s1 l (hpc : s.pc = .resStatus i) (hr : returnOrRaise s i = (s1, .ok l)) :
      CStep c s { deliverVals c s1 l with pc := .wtAbort }
  | refErr i s1 e (hpc : s.pc = .refStatus i) (hr : returnOrRaise s i = (s1, .error e)) :
      CStep c s { s1 with pc := .excW e }
  | refOk i s1 l (hpc : s.pc = .refStatus i) (hr : returnOrRaise s i = (s1, .ok l)) :
      CStep c s { s1 with pc := .finExc none }
  | abortCall e (hpc : s.pc = .abortCall e) :
      CStep c s { (if c.abortDrops then dropParked (ev s .abort) else ev s .abort) with
                  aborted := true, pc := .finExc (some e) }
  | finRaise e rem (hpc : s.pc = .finJobsW (some e) rem) :
      CStep c s (finishRaise { s with jobs := [], running := false } e)
  | finTail rem (hpc : s.pc = .finJobsW none rem) : CStep c s (tailNext c { s with jobs := [], running := false } rem)
  | tailErr i rem s1 e (hpc : s.pc = .tailStatus i rem) (hr : returnOrRaise s i = (s1, .error e)) :
      CStep c s (finishRaise s1 e)
  | tailOk i rem s1 l (hpc : s.pc = .tailStatus i rem) (hr : returnOrRaise s i = (s1, .ok l)) :
      CStep c s (tailNext c (deliverVals c s1 l) rem)

theorem list_prop {α : Sort _} {P : α → Prop} {l : List Nat} {a : α} {b : Nat → List Nat → α} :
    (l = [] → P a) → (∀ i r, l = i :: r → P (b i r)) → P (match l with | [] => a | i :: r => b i r) := by
  intro ha hb
  cases l
  · exact ha rfl
  · exact hb _ _ rfl

/-- `iteInduction` instead of `split` throughout: `split` on a goal that carries the body of `stepCaller` is slow to check. -/
theorem stepCaller_cases (c : Cfg) (s : St) : CStep c s (stepCaller c s) := by
  unfold stepCaller
  generalize hpc : s.pc = p
  cases p with
  | resetAcq =>
    exact iteInduction (motive := CStep c s) (fun h => .busy hpc h) (fun h => .write (.resetAcq (eq_false_of_ne_true h)) hpc)
  | resetRel => exact .move .resetRel hpc
  | wNDisp => exact .write .wNDisp hpc
  | wNComp => exact .write .wNComp hpc
  | wExc0 => exact .write .wExc0 hpc
  | wAbort0 => exact .write .wAbort0 hpc
  | readyAcq => exact .write .readyAcq hpc
  | readyRel => exact .move .readyRel hpc
  | wOrig =>
    exact iteInduction (motive := CStep c s) (fun h => .write (.wOrigAll (eq_of_beq h)) hpc)
      (fun h => .write (.wOrig (fun e => h (beq_iff_eq.mpr e))) hpc)
  | wIter0 => exact .write .wIter0 hpc
  | dPre k =>
    refine iteInduction (motive := CStep c s) (fun h => ?_) (fun h => ?_)
    · cases k
      · exact .move (.dPreAbFirst h) hpc
      · exact iteInduction (motive := fun q => CStep c s { s with pc := q }) (fun hm => .move (.dPreAbAll h (eq_of_beq hm)) hpc)
          (fun hm => .move (.dPreAbInt h (fun e => hm (beq_iff_eq.mpr e))) hpc)
    have hab : s.aborting = false := eq_false_of_ne_true h
    exact iteInduction (motive := CStep c s) (fun hb => .move (.dPreBs k hab hb) hpc)
      (fun hb => .move (.dPreAcq k hab (eq_false_of_ne_true hb)) hpc)
  | dBs k => exact .write (.dBs k) hpc
  | dAcq k bs =>
    dsimp only
    generalize hd : dispatchLocked c 0 false bs { s with lockOwner := some 0, pc := .dIn k } = r
    obtain ⟨s1, x⟩ := r
    cases x with
    | submit j => exact .dAcqSubmit k bs s1 j hpc hd
    | ret r => exact .dAcqRet k bs s1 r hpc hd
  | dIn k => exact .stay (.inr ⟨k, hpc⟩)
  | dSubmit k j => exact .dSubmit k j hpc
  | dRel k r =>
    cases k <;> cases r
    · exact .move .dRelFirstF hpc
    · exact .move .dRelFirstT hpc
    · exact iteInduction (motive := fun q => CStep c s { s with pc := q }) (fun hm => .move (.dRelLoopAll (eq_of_beq hm)) hpc)
        (fun hm => .move (.dRelLoopInt (fun e => hm (beq_iff_eq.mpr e))) hpc)
    · exact .move .dRelLoopT hpc
  | itAcq => exact .write .itAcq hpc
  | itRel => exact .move .itRel hpc
  | wIterAll => exact .write .wIterAll hpc
  | wtAbort =>
    exact iteInduction (motive := CStep c s) (fun h => .move (.wtAbortT h) hpc)
      (fun h => .move (.wtAbortF (eq_false_of_ne_true h)) hpc)
  | wtIter =>
    exact iteInduction (motive := CStep c s) (fun h => .move (.wtIterT h) hpc)
      (fun h => .move (.wtIterF (eq_false_of_ne_true h)) hpc)
  | wtNComp => exact .move .wtNComp hpc
  | wtNDisp nc =>
    exact iteInduction (motive := CStep c s) (fun h => .move (.wtNDispLt nc h) hpc) (fun h =>
      iteInduction (motive := CStep c s) (fun hr => .move (.wtNDispRe nc h hr) hpc)
        (fun hr => .move (.wtNDispFin nc h (eq_false_of_ne_true hr)) hpc))
  | wtAbort2 =>
    exact iteInduction (motive := CStep c s) (fun h => .move (.wtAbort2T h) hpc)
      (fun h => .move (.wtAbort2F (eq_false_of_ne_true h)) hpc)
  | rtAbort =>
    exact iteInduction (motive := CStep c s) (fun h => .move (.rtAbortT h) hpc)
      (fun h => .move (.rtAbortF (eq_false_of_ne_true h)) hpc)
  | rtLen =>
    exact iteInduction (motive := CStep c s) (fun h => .move (.rtLenSleep h) hpc) (fun h => .move (.rtLenHead h) hpc)
  | rtHead =>
    exact list_prop (P := CStep c s) (fun h => .move (.rtHeadNil h) hpc) (fun i r h => .move (.rtHeadCons i r h) hpc)
  | rtStatus i =>
    exact iteInduction (motive := CStep c s) (fun h => .move (.rtStatusPend i (eq_of_beq h)) hpc)
      (fun h => .move (.rtStatusSet i (fun e => h (beq_iff_eq.mpr e))) hpc)
  | sleep => exact .move .sleep hpc
  | popAcq =>
    exact list_prop (P := CStep c s) (fun h => .move (.popNil h) hpc) (fun i r hj => .pop i r hpc hj)
  | popRel i => exact .move (.popRel i) hpc
  | resStatus i =>
    dsimp only
    rcases hr : returnOrRaise s i with ⟨s1, e | l⟩
    · exact .resErr i s1 e hpc hr
    · exact .resOk i s1 l hpc hr
  | refAcq => exact .move .refAcq hpc
  | refRel e =>
    cases e
    · exact .move .refRelNone hpc
    · exact .move (.refRelSome _) hpc
  | refStatus i =>
    dsimp only
    rcases hr : returnOrRaise s i with ⟨s1, e | l⟩
    · exact .refErr i s1 e hpc hr
    · exact .refOk i s1 l hpc hr
  | excW e => exact .write (.excW e) hpc
  | abortW e =>
    exact iteInduction (motive := CStep c s) (fun h => .write (.abortWFin e h) hpc)
      (fun h => .write (.abortWCall e (eq_false_of_ne_true h)) hpc)
  | abortCall e => exact .abortCall e hpc
  | finExc e =>
    exact iteInduction (motive := CStep c s) (fun h => .move (.finExcT e h) hpc)
      (fun h => .move (.finExcF e (eq_false_of_ne_true h)) hpc)
  | finJobsR e => exact .move (.finJobsR e) hpc
  | finJobsW e rem =>
    -- `{ s with jobs := [], running := false }` mentions `s.pc`, which `generalize` has replaced
    cases e <;> dsimp only <;> rw [← hpc]
    · exact .finTail rem hpc
    · exact .finRaise _ rem hpc
  | tailStatus i rem =>
    dsimp only
    rcases hr : returnOrRaise s i with ⟨s1, e | l⟩
    · exact .tailErr i rem s1 e hpc hr
    · exact .tailOk i rem s1 l hpc hr
  | done => exact .stay (.inl hpc)

theorem opt_prop {α : Sort _} {P : α → Prop} {o : Option Nat} {a : Nat → α} {b : α} :
    (∀ j, o = some j → P (a j)) → (o = none → P b) → P (match o with | some j => a j | none => b) := by
  intro ha hb
  cases o
  · exact hb rfl
  · exact ha _ rfl

theorem Write.trk {c : Cfg} {s s1 : St} {p p' : Pc} (w : Write c s p p' s1) : s1.trk = s.trk := by
  cases w <;> rfl

theorem Move.holding {c : Cfg} {s : St} {p p' : Pc} (m : Move c s p p') : p.holding = false ∧ p'.holding = false := by
  cases m <;> exact ⟨rfl, rfl⟩

theorem Write.holding {c : Cfg} {s s1 : St} {p p' : Pc} (w : Write c s p p' s1) :
    p.holding = false ∧ p'.holding = false := by
  cases w <;> exact ⟨rfl, rfl⟩

theorem Move.pre {c : Cfg} {s : St} {p p' : Pc} (m : Move c s p p') :
    ((!p'.preDispatch || p.preDispatch) && p' != .resetAcq) = true := by
  cases m <;> rfl

theorem Write.pre {c : Cfg} {s s1 : St} {p p' : Pc} (w : Write c s p p' s1) :
    ((!p'.preDispatch || p.preDispatch) && p' != .resetAcq) = true := by
  cases w <;> rfl

/-- The state in which the callback thread of tracker `i` enters `dispatch_next`: lock taken, batch counted, at the
marker pc. -/
def enterNext (s : St) (i : Nat) : St :=
  setCb { s with lockOwner := some (i + 1), nCompleted := s.nCompleted + (getTrk s i).bsize } i .bsC

inductive CbMove : CbPc → CbPc → Prop
  | relAT : CbMove (.relA true) .stats
  | relAF : CbMove (.relA false) (.done false)
  | stats : CbMove .stats .acqC
  | relC : CbMove .relC (.done true)

/-- `retrSet` is the branch `status != pending` of `_retrieve_result`, which the invariant excludes. -/
inductive CbStep (c : Cfg) (i : Nat) (s : St) : St → Prop
  | stay (h : cbEnabled s i = false) : CbStep c i s s
  | move {p p' : CbPc} (m : CbMove p p') (hpc : (getT s.trk i).pc = p) : CbStep c i s (setCb s i p')
  | acqASkip (hpc : (getT s.trk i).pc = .acqA) (h : s.callId ≠ (getT s.trk i).callId ∨ s.aborting = true) :
      CbStep c i s (setCb s i (.relA false))
  | acqA (hpc : (getT s.trk i).pc = .acqA) (hc : s.callId = (getT s.trk i).callId) (ha : s.aborting = false) :
      CbStep c i s (setCb { s with lockOwner := some (i + 1) } i .retr)
  | retrSet (hpc : (getT s.trk i).pc = .retr) (hst : (getT s.trk i).status ≠ .pending) :
      CbStep c i s (setCb { s with lockOwner := none } i (.relA ((getT s.trk i).failed == none)))
  | retrErr id (hpc : (getT s.trk i).pc = .retr) (hst : (getT s.trk i).status = .pending)
      (hf : (getT s.trk i).failed = some id) :
      CbStep c i s (setTrk { s with lockOwner := none, exception := true, aborting := true } i
        { getT s.trk i with status := .error, result := .exc (.task id), pc := .relA false })
  | retrOk (hpc : (getT s.trk i).pc = .retr) (hst : (getT s.trk i).status = .pending)
      (hf : (getT s.trk i).failed = none) :
      CbStep c i s (setTrk { s with lockOwner := none } i
        { getT s.trk i with status := .done, result := .vals (getT s.trk i).items, pc := .relA true })
  | acqCSkip (hpc : (getT s.trk i).pc = .acqC) (ho : s.origAlive = false) :
      CbStep c i s (setCb { s with nCompleted := s.nCompleted + (getT s.trk i).bsize } i .relC)
  | acqCAbort (hpc : (getT s.trk i).pc = .acqC) (ho : s.origAlive = true) (ha : s.aborting = true) :
      CbStep c i s (cbAfterDispatch i (enterNext s i) false)
  | acqCPark (hpc : (getT s.trk i).pc = .acqC) (ho : s.origAlive = true) (ha : s.aborting = false)
      (hb : c.bsAuto = true) : CbStep c i s (enterNext s i)
  | acqCDisp (hpc : (getT s.trk i).pc = .acqC) (ho : s.origAlive = true) (ha : s.aborting = false)
      (hb : c.bsAuto = false) :
      CbStep c i s (cbDispatchResult i
        (dispatchLocked c (i + 1) true (scriptedBs c (enterNext s i)) (enterNext s i)))
  | bsC (hpc : (getT s.trk i).pc = .bsC) :
      CbStep c i s (cbDispatchResult i (dispatchLocked c (i + 1) true (scriptedBs c s) { s with bsI := s.bsI + 1 }))
  | submitC j (hpc : (getT s.trk i).pc = .submitC j) :
      CbStep c i s (cbAfterDispatch i (doSubmit (i + 1) j (setCb s i .bsC)) true)

theorem stepCb_cases (c : Cfg) (i : Nat) (s : St) : CbStep c i s (stepCb c i s) := by
  have hdis : ∀ {p : CbPc}, (getT s.trk i).pc = p → (match p with | .idle | .parked | .dropped | .done _ => true | _ => false) = true →
      cbEnabled s i = false := fun {p} hp hr => by
    unfold cbEnabled; rw [getTrk_def, hp]; revert hr; cases p <;> first | (intro; rfl) | (intro h; cases h)
  unfold stepCb
  simp only [getTrk_def]
  cases hpc : (getT s.trk i).pc with
  | acqA =>
    refine iteInduction (motive := CbStep c i s) (fun h => .acqASkip hpc (.inl (by simpa using h))) (fun h => ?_)
    exact iteInduction (motive := CbStep c i s) (fun ha => .acqASkip hpc (.inr ha))
      (fun ha => .acqA hpc (by simpa using h) (eq_false_of_ne_true ha))
  | retr =>
    refine iteInduction (motive := CbStep c i s) (fun h => .retrSet hpc (by simpa using h)) (fun h => ?_)
    have hst : (getT s.trk i).status = .pending := by simpa using h
    exact opt_prop (P := CbStep c i s) (fun id hf => .retrErr id hpc hst hf) (fun hf => .retrOk hpc hst hf)
  | relA ok => cases ok <;> first | exact .move .relAT hpc | exact .move .relAF hpc
  | stats => exact .move .stats hpc
  | acqC =>
    refine iteInduction (motive := CbStep c i s) (fun ho => ?_) (fun ho => .acqCSkip hpc (eq_false_of_ne_true ho))
    refine iteInduction (motive := CbStep c i s) (fun ha => .acqCAbort hpc ho ha) (fun ha => ?_)
    exact iteInduction (motive := CbStep c i s) (fun hb => .acqCPark hpc ho (eq_false_of_ne_true ha) hb)
      (fun hb => .acqCDisp hpc ho (eq_false_of_ne_true ha) (eq_false_of_ne_true hb))
  | bsC => exact .bsC hpc
  | submitC j => exact .submitC j hpc
  | relC => exact .move .relC hpc
  | idle | parked | dropped | done => exact .stay (hdis hpc rfl)

theorem parkedIds_spec {s : St} {k i : Nat} (h : (parkedIds s)[k]? = some i) :
    i < s.trk.length ∧ (getTrk s i).pc = .parked := by
  have hm : i ∈ parkedIds s := List.mem_of_getElem? h
  unfold parkedIds at hm
  rw [List.mem_filter, List.mem_range] at hm
  exact ⟨hm.1, by simpa using hm.2⟩

theorem step_cases {c : Cfg} {s : St} {p : St → Prop} (h0 : p s) (hc : callerEnabled s = true → p (stepCaller c s))
    (hcb : ∀ i, cbEnabled s i = true → p (stepCb c i s))
    (hco : ∀ i, i < s.trk.length → (getTrk s i).pc = .parked → p (complete c i s)) (a : Act) : p (step c s a) := by
  cases a with
  | thread t =>
    cases t with
    | zero =>
      simp only [step]
      split
      · exact hc ‹_›
      · exact h0
    | succ i =>
      simp only [step]
      split
      · exact hcb i ‹_›
      · exact h0
  | complete k =>
    simp only [step]
    split
    · rename_i i hk
      exact hco i (parkedIds_spec hk).1 (parkedIds_spec hk).2
    · exact h0

theorem run_append_one (c : Cfg) (a : Act) : ∀ (l : List Act) (s : St), run c s (l ++ [a]) = step c (run c s l) a
  | [], _ => rfl
  | b :: r, s => run_append_one c a r (step c s b)

theorem run_ind {c : Cfg} {P : St → Prop} (hstep : ∀ s a, P s → P (step c s a)) (sched : List Act) :
    ∀ {s : St}, P s → P (run c s sched) := by
  induction sched with
  | nil => exact fun h => h
  | cons a r ih => exact fun h => ih (hstep _ a h)

end JoblibModel.ParallelLock
