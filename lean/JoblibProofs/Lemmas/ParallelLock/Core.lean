import JoblibProofs.Lemmas.ParallelLock.Step
/-!
M1L proofs — `Inv` is preserved by every step of every thread and by every environment action (`step_inv`,
`run_inv`): the micro-operations every atomic step is composed of (a move of the caller, its lock transfers around
`dispatch_one_batch`, an update of one tracker, the locked region, `abort_everything`) each preserve it, and the step
relations of `Step.lean` say which of them a step is (`CStep.inv`, `CbStep.inv`).  The locked region is entered through
`Inv.dAcq` (caller) / `Inv.cbDisp` (callback thread), which call `dispatchLocked_cases`; what holds of it without any
invariant goes the second route, by unfolding (`dispatchLocked_aborting` here, `dispatchLocked_keeps` in `Term.lean`).
Once `_aborting` is set no step takes anything from the input iterable (`step_src_aborting`; C09, the F14 repair at
this granularity).  In lemma names `ror` stands for `returnOrRaise`.

Frame lemmas of `Inv`: `callerFrame` (the caller moves, no tracker touched) ← `lockFrame` (only pc and lock), `pcStep`
(no lock transfer); `setT` (one tracker replaced) ← `movePc` (only its pc) ← `cbPlain` (outside the locked segments);
`setT` ← `setResult`, `submit`.
A further invariant `X` copies `Inv3.lean`: a Bool table `Pc.okX p p'` (`Move.okX` by `cases m <;> rfl`); the tuple `keyX s`
of what `X` reads (`X.pcStep` from `keyX s' = keyX s`); `X.setT`; `Write.x`; `DLCase.x`; `X.ror` by `ror_ind`;
`X.raise/.deliver/.tail`; `CStep.x` (its `DLCase` from `Inv.dAcq`); `cbFinish_x`, `cbDispatch_x`, `CbStep.x` (intermediate
states from `Inv.enter`, `Inv.cbDisp`, `Inv.cbSubmit`); `complete_x`; `step_x` by `step_cases`; `run_ind`.
-/
namespace JoblibModel.ParallelLock

@[simp] theorem allItems_mkDisp (s : St) (tasks : List Nat) : allItems (mkDisp s tasks) = allItems s ++ tasks := by
  simp [allItems]

@[simp] theorem allItems_mkPull (s : St) (m : Nat) (evs : List Ev) (d r : Bool) (pl : Option Nat) :
    allItems (mkPull s m evs d r pl) = allItems s := rfl

@[simp] theorem allItems_registerIterError (bs : Nat) (s : St) : allItems (registerIterError bs s) = allItems s := by
  simp [allItems, registerIterError]

@[simp] theorem allItems_setReady (s : St) (r : List (List Nat)) : allItems (setReady s r) = allItems s := rfl

/-- The part of the invariant that does not mention program counters or the lock. -/
structure DataInv (c : Cfg) (s : St) : Prop where
  S : SrcInv c s
  T : ∀ t ∈ s.trk, TrkOK c t
  C : ConsInv s
  Nd : s.nDispTasks = (allItems s).length
  logLocked : ∀ t id l, Ev.pull t id l ∈ s.log → l = true

theorem Inv.data {c : Cfg} {s : St} (h : Inv c s) : DataInv c s := ⟨h.S, h.T, h.C, h.N.disp, h.logLocked⟩

theorem trkOK_new (c : Cfg) (tasks : List Nat) (cid : Nat) (h : tasks ≠ []) :
    TrkOK c { items := tasks, bsize := tasks.length, callId := cid } := by
  refine ⟨Or.inl ⟨h, rfl⟩, ?_, ?_, ?_, ?_, ?_⟩ <;> simp [pcStatusOK, CbPc.started]

theorem pairwise_append_range {l : List Nat} {p m : Nat} (h1 : List.Pairwise (· < ·) l) (h2 : ∀ x ∈ l, x < p) :
    List.Pairwise (· < ·) (l ++ List.range' p m) := by
  rw [List.pairwise_append]
  refine ⟨h1, ?_, ?_⟩
  · exact List.pairwise_lt_range'
  · intro a ha b hb
    have := h2 a ha
    rw [List.mem_range'_1] at hb
    omega

theorem DLCase.data {c : Cfg} {t : Tid} {fo : Bool} {bs : Nat} {s s' : St} {r : DRes}
    (h : DLCase c t fo bs s s' r) (hd : DataInv c s) (hl : s.lockOwner = some t) : DataInv c s' := by
  have hsrc (m : Nat) (evs : List Ev) (dead raised : Bool) (pl : Option Nat) (ret : Bool)
      (hf : PullFacts c t fo (bs * c.nj) s m evs dead raised pl ret) : SrcInv c (mkPull s m evs dead raised pl) :=
    ⟨hf.le, hf.raisedDead, hf.deadAt, hf.raisedAt, hf.exhausted⟩
  have hlog (m : Nat) (evs : List Ev) (dead raised : Bool) (pl : Option Nat) (ret : Bool)
      (hf : PullFacts c t fo (bs * c.nj) s m evs dead raised pl ret) :
      ∀ t' id l, Ev.pull t' id l ∈ evs ++ s.log → l = true := by
    intro t' id l hm
    rw [List.mem_append] at hm
    rcases hm with hm | hm
    · rcases hf.evs _ hm with he | ⟨id', he⟩
      · cases he
      · cases he; simp [hl]
    · exact hd.logLocked _ _ _ hm
  cases h with
  | aborting ha => exact hd
  | ready tasks rest ha hr htn =>
    have e : allItems s ++ tasks ++ rest.flatten = allItems s ++ s.ready.flatten := by simp [hr]
    refine ⟨⟨hd.S.le, hd.S.raisedDead, hd.S.deadAt, hd.S.raisedAt, hd.S.exhausted⟩, ?_, ⟨?_, ?_, ?_, ?_⟩, ?_, hd.logLocked⟩
    · intro x hx
      simp only [mkDisp_trk, setReady_trk, List.mem_append, List.mem_singleton] at hx
      rcases hx with hx | hx
      · exact hd.T x hx
      · subst hx; exact trkOK_new c tasks _ htn
    · simp only [allItems_mkDisp, allItems_setReady, mkDisp_ready, setReady_ready, e]; exact hd.C.sorted
    · simp only [allItems_mkDisp, allItems_setReady, mkDisp_ready, setReady_ready, mkDisp_srcPos, setReady_srcPos, e]; exact hd.C.bound
    · simp only [allItems_mkDisp, allItems_setReady, mkDisp_ready, setReady_ready, mkDisp_srcPos, setReady_srcPos, mkDisp_aborting, e]; exact hd.C.full
    · intro b hb; exact hd.C.readyNe b (by simp only [mkDisp_ready, setReady_ready] at hb; simp [hr, hb])
    · simp only [mkDisp_nDispTasks, setReady_nDispTasks, allItems_mkDisp, allItems_setReady, List.length_append, hd.Nd]
  | raised m evs dead pl ha hr hf hsd =>
    have hs := hsrc m evs dead true pl true hf
    refine ⟨⟨hs.le, hs.raisedDead, hs.deadAt, hs.raisedAt, hs.exhausted⟩, ?_, ⟨?_, ?_, ?_, ?_⟩, ?_, ?_⟩
    · intro x hx
      simp only [registerIterError_trk, mkPull_trk, List.mem_append, List.mem_singleton] at hx
      rcases hx with hx | hx
      · exact hd.T x hx
      · subst hx
        have he : IsErr c (Tracker.mk [] bs (mkPull s m evs dead true pl).callId Status.error
            (Res.exc (Exc.iter (mkPull s m evs dead true pl).srcPos)) CbPc.idle none) :=
          ⟨rfl, rfl, rfl, by simp [hf.raisedAt rfl]⟩
        exact ⟨Or.inr he, by simp [pcStatusOK], fun _ _ => he, by simp [CbPc.started], by simp, by simp⟩
    · simp only [allItems_registerIterError, allItems_mkPull, registerIterError_ready, mkPull_ready]; exact hd.C.sorted
    · intro x hx
      simp only [allItems_registerIterError, allItems_mkPull, registerIterError_ready, mkPull_ready] at hx
      have := hd.C.bound x hx
      simp only [registerIterError_srcPos, mkPull_srcPos]; omega
    · intro h; simp at h
    · intro b hb; exact hd.C.readyNe b (by simpa using hb)
    · simp [hd.Nd]
    · simpa using hlog m evs dead true pl true hf
  | empty evs dead raised pl ha hr hf =>
    refine ⟨hsrc 0 evs dead raised pl false hf, hd.T, ⟨?_, ?_, ?_, ?_⟩, hd.Nd, ?_⟩
    · simp only [allItems_mkPull, mkPull_ready]; exact hd.C.sorted
    · simp only [allItems_mkPull, mkPull_ready, mkPull_srcPos, Nat.add_zero]; exact hd.C.bound
    · simp only [allItems_mkPull, mkPull_ready, mkPull_srcPos, Nat.add_zero, mkPull_aborting]; exact hd.C.full
    · exact hd.C.readyNe
    · simpa using hlog 0 evs dead raised pl false hf
  | pulled m evs dead raised pl tasks rest ha hr hf hm htn hrest hfl =>
    have hsorted := hd.C.sorted
    have hbound := hd.C.bound
    rw [hr] at hsorted hbound
    simp only [List.flatten_nil, List.append_nil] at hsorted hbound
    have e : allItems s ++ tasks ++ rest.flatten = allItems s ++ List.range' s.srcPos m := by
      rw [List.append_assoc, hfl]
    have hs := hsrc m evs dead raised pl false hf
    refine ⟨⟨hs.le, hs.raisedDead, hs.deadAt, hs.raisedAt, hs.exhausted⟩, ?_, ⟨?_, ?_, ?_, ?_⟩, ?_, ?_⟩
    · intro x hx
      simp only [mkDisp_trk, setReady_trk, mkPull_trk, List.mem_append, List.mem_singleton] at hx
      rcases hx with hx | hx
      · exact hd.T x hx
      · subst hx; exact trkOK_new c tasks _ htn
    · simp only [allItems_mkDisp, allItems_setReady, allItems_mkPull, mkDisp_ready, setReady_ready, e]
      exact pairwise_append_range hsorted hbound
    · intro x hx
      simp only [allItems_mkDisp, allItems_setReady, allItems_mkPull, mkDisp_ready, setReady_ready, e, List.mem_append] at hx
      simp only [mkDisp_srcPos, setReady_srcPos, mkPull_srcPos]
      rcases hx with hx | hx
      · have := hbound x hx; omega
      · rw [List.mem_range'_1] at hx; omega
    · intro _
      simp only [allItems_mkDisp, allItems_setReady, allItems_mkPull, mkDisp_ready, setReady_ready, e, mkDisp_srcPos, setReady_srcPos, mkPull_srcPos]
      have := hd.C.full ha
      rw [hr] at this
      simp only [List.flatten_nil, List.append_nil] at this
      rw [this]
      have := List.range'_append (s := 0) (m := s.srcPos) (n := m) (step := 1)
      simpa using this
    · intro b hb; exact hrest b (by simpa using hb)
    · simp only [mkDisp_nDispTasks, setReady_nDispTasks, mkPull_nDispTasks, allItems_mkDisp, allItems_setReady, allItems_mkPull, List.length_append, hd.Nd]
    · simpa using hlog m evs dead raised pl false hf

theorem map_set_same {β : Type} (f : Tracker → β) (l : List Tracker) (i : Nat) (t' : Tracker)
    (h : i < l.length → f t' = f (getT l i)) : (l.set i t').map f = l.map f := by
  by_cases hi : i < l.length
  · rw [List.map_set, h hi, getT, ← List.getD_map_of_lt l f i default (f default) hi]; exact List.set_getD_self ..
  · rw [List.set_eq_of_length_le (Nat.le_of_not_lt hi)]

theorem allItems_of_trk {s s' : St} (h : s'.trk = s.trk) : allItems s' = allItems s := by simp [allItems, h]

theorem allItems_set {s s' : St} {i : Nat} {t' : Tracker} (h : s'.trk = s.trk.set i t')
    (hit : t'.items = (getT s.trk i).items) : allItems s' = allItems s := by
  simp only [allItems, h]
  rw [map_set_same (·.items) _ _ _ (fun _ => hit)]

theorem countedSum_set (l : List Tracker) (i : Nat) (t' : Tracker) (hi : i < l.length)
    (hit : t'.items = (getT l i).items) :
    countedSum (l.set i t') + (if (getT l i).pc.counted then (getT l i).items.length else 0) =
      countedSum l + (if t'.pc.counted then (getT l i).items.length else 0) := by
  have := List.sum_map_set (fun t => if t.pc.counted then t.items.length else 0) l i t' default hi
  rw [hit] at this; exact this

theorem countedSum_append_idle (l new : List Tracker) (h : ∀ x ∈ new, x.pc = .idle) :
    countedSum (l ++ new) = countedSum l := by
  simp only [countedSum, List.map_append, List.sum_append]
  have : (new.map (fun t => if t.pc.counted then t.items.length else 0)).sum = 0 := by
    induction new with
    | nil => rfl
    | cons a r ih =>
      have ha := h a (by simp)
      have hc : a.pc.counted = false := by rw [ha]; rfl
      have := ih (fun x hx => h x (by simp [hx]))
      simp only [List.map_cons, List.sum_cons, hc, Bool.false_eq_true, if_false, this]
  omega

/-- `DataInv` reads the tracker table only through the coherence of each tracker and the ids in creation order, and
`_aborting` only through `ConsInv.full`. -/
theorem DataInv.congr {c : Cfg} {s s' : St} (h : DataInv c s)
    (e1 : s'.srcPos = s.srcPos) (e2 : s'.srcDead = s.srcDead) (e3 : s'.srcRaised = s.srcRaised)
    (hT : ∀ t ∈ s'.trk, TrkOK c t) (ha : allItems s' = allItems s) (e5 : s'.ready = s.ready)
    (hfull : s'.aborting = false → allItems s ++ s.ready.flatten = List.range' 0 s.srcPos)
    (e7 : s'.nDispTasks = s.nDispTasks) (e8 : ∀ t id l, Ev.pull t id l ∈ s'.log → Ev.pull t id l ∈ s.log) :
    DataInv c s' := by
  refine ⟨⟨?_, ?_, ?_, ?_, ?_⟩, hT, ⟨?_, ?_, ?_, ?_⟩, ?_, ?_⟩
  · rw [e1]; exact h.S.le
  · rw [e2, e3]; exact h.S.raisedDead
  · rw [e1, e2]; exact h.S.deadAt
  · rw [e1, e3]; exact h.S.raisedAt
  · rw [e1, e2, e3]; exact h.S.exhausted
  · rw [ha, e5]; exact h.C.sorted
  · rw [ha, e5, e1]; exact h.C.bound
  · intro hab; rw [ha, e5, e1]; exact hfull hab
  · rw [e5]; exact h.C.readyNe
  · rw [ha, e7]; exact h.Nd
  · intro t id l hm; exact h.logLocked t id l (e8 t id l hm)

theorem DataInv.of_eq {c : Cfg} {s s' : St} (h : DataInv c s)
    (e1 : s'.srcPos = s.srcPos) (e2 : s'.srcDead = s.srcDead) (e3 : s'.srcRaised = s.srcRaised)
    (e4 : s'.trk = s.trk) (e5 : s'.ready = s.ready) (e6 : s'.aborting = false → s.aborting = false)
    (e7 : s'.nDispTasks = s.nDispTasks) (e8 : ∀ t id l, Ev.pull t id l ∈ s'.log → Ev.pull t id l ∈ s.log) :
    DataInv c s' :=
  h.congr e1 e2 e3 (e4 ▸ h.T) (allItems_of_trk e4) e5 (fun hab => h.C.full (e6 hab)) e7 e8

theorem DataInv.setT {c : Cfg} {s s' : St} (h : DataInv c s) {i : Nat} {t' : Tracker}
    (htrk : s'.trk = s.trk.set i t') (hit : t'.items = (getT s.trk i).items) (hT : TrkOK c t')
    (e1 : s'.srcPos = s.srcPos) (e2 : s'.srcDead = s.srcDead) (e3 : s'.srcRaised = s.srcRaised)
    (e5 : s'.ready = s.ready) (e6 : s'.aborting = false → s.aborting = false)
    (e7 : s'.nDispTasks = s.nDispTasks) (e8 : ∀ t id l, Ev.pull t id l ∈ s'.log → Ev.pull t id l ∈ s.log) :
    DataInv c s' :=
  h.congr e1 e2 e3 (fun x hx => (List.mem_or_eq_of_mem_set (htrk ▸ hx)).elim (h.T x) (fun e => e ▸ hT))
    (allItems_set htrk hit) e5 (fun hab => h.C.full (e6 hab)) e7 e8


/-- A step of the caller that touches no tracker.  `h_log` (no `pull` event is new) defaults to: the log is unchanged. -/
theorem Inv.callerFrame {c : Cfg} {s s' : St} (h : Inv c s)
    (e_pos : s'.srcPos = s.srcPos) (e_dead : s'.srcDead = s.srcDead) (e_raised : s'.srcRaised = s.srcRaised)
    (e_trk : s'.trk = s.trk) (e_ready : s'.ready = s.ready)
    (a_dn : s'.aborting = false → s.aborting = false ∨ s.pc.preDispatch = true)
    (e_ndisp : s'.nDispTasks = s.nDispTasks) (e_ncomp : s'.nCompleted = s.nCompleted)
    (h_lock : s'.lockOwner = if s'.pc.holding then some 0 else if s.pc.holding then none else s.lockOwner)
    (h_free : s'.pc.holding = true → s.pc.holding = false → s.lockOwner = none)
    (h_sub : ∀ k j, s'.pc = .dSubmit k j → PendingSubmit s j)
    (h_pre : s'.pc.preDispatch = true → s.pc.preDispatch = true ∧ s'.jobs = s.jobs ∧ s'.nPop = s.nPop ∧ s'.out = s.out)
    (h_log : ∀ t id l, Ev.pull t id l ∈ s'.log → Ev.pull t id l ∈ s.log := by exact fun _ _ _ hm => hm) :
    Inv c s' := by
  have hfresh : s.pc.preDispatch = true → allItems s ++ s.ready.flatten = List.range' 0 s.srcPos := by
    intro hp
    have f := h.P hp
    simp [allItems, f.trk, f.ready, f.src.1]
  have hd : DataInv c s' :=
    h.data.congr e_pos e_dead e_raised (e_trk ▸ h.T) (allItems_of_trk e_trk) e_ready (fun hab => (a_dn hab).elim h.C.full hfresh) e_ndisp h_log
  have hL : LockInv s' := h.L.step 0 (fun u hu => by
    cases u with
    | zero => exact absurd rfl hu
    | succ k => simp only [holds, e_trk]) h_lock h_free
  refine ⟨hL, ⟨fun k j hk => (h_sub k j hk).of_slot (by rw [e_trk]), fun i j hi hj => ?_⟩, hd.S, hd.T, hd.C,
    ⟨hd.Nd, by rw [e_ncomp, e_trk]; exact h.N.comp⟩, fun hp => ?_, hd.logLocked⟩
  · rw [e_trk] at hi; rw [getTrk_def, e_trk] at hj
    exact (h.U.cb i j hi hj).of_slot (by rw [e_trk])
  · obtain ⟨hp0, hj, hn, ho⟩ := h_pre hp
    have f := h.P hp0
    refine ⟨e_trk ▸ f.trk, e_ready ▸ f.ready, by rw [e_pos, e_dead, e_raised]; exact f.src, ?_, by rw [hj, hn, ho]; exact f.jobs,
      by rw [e_ndisp, e_ncomp]; exact f.cnt⟩
    have hnh : s.pc.holding = false := Pc.holding_of_preDispatch hp0
    rw [h_lock, Pc.holding_of_preDispatch hp, hnh]; exact f.lock


/-- The lock transfers around `dispatch_one_batch`: only the caller's pc and the lock change. -/
theorem Inv.lockFrame {c : Cfg} {s s' : St} (h : Inv c s)
    (e : (s'.srcPos, s'.srcDead, s'.srcRaised, s'.trk, s'.ready, s'.aborting, s'.nDispTasks, s'.nCompleted, s'.log) =
      (s.srcPos, s.srcDead, s.srcRaised, s.trk, s.ready, s.aborting, s.nDispTasks, s.nCompleted, s.log))
    (h_lock : s'.lockOwner = if s'.pc.holding then some 0 else if s.pc.holding then none else s.lockOwner)
    (h_free : s'.pc.holding = true → s.pc.holding = false → s.lockOwner = none)
    (h_sub : ∀ k j, s'.pc = .dSubmit k j → PendingSubmit s j)
    (h_pre : s'.pc.preDispatch = true → s.pc.preDispatch = true ∧ s'.jobs = s.jobs ∧ s'.nPop = s.nPop ∧ s'.out = s.out) :
    Inv c s' := by
  simp only [Prod.mk.injEq] at e
  obtain ⟨e1, e2, e3, e4, e5, e6, e7, e8, e9⟩ := e
  exact h.callerFrame e1 e2 e3 e4 e5 (fun ha => .inl (e6 ▸ ha)) e7 e8 h_lock h_free h_sub h_pre
    (fun _ _ _ hm => e9 ▸ hm)

/-- What the core invariant reads of a state, apart from the caller's pc, the log, `_aborting` and the fields that
matter only before `_start` (`Fresh`). -/
def coreOf (s : St) : Option Tid × Nat × Bool × Bool × List Tracker × List (List Nat) × Nat × Nat :=
  (s.lockOwner, s.srcPos, s.srcDead, s.srcRaised, s.trk, s.ready, s.nDispTasks, s.nCompleted)

/-- The caller moves without a lock transfer.  `a_dn`: `_aborting` is cleared only during the set-up; `c_pre`: the set-up
is not re-entered; `h_fresh`: during it `Fresh` is kept. -/
theorem Inv.pcStep {c : Cfg} {s s' : St} (h : Inv c s) (e : coreOf s' = coreOf s)
    (h_from : s.pc.holding = false) (h_to : s'.pc.holding = false)
    (a_dn : s'.aborting = false → s.aborting = false ∨ s.pc.preDispatch = true)
    (c_pre : (!s'.pc.preDispatch || s.pc.preDispatch) = true)
    (h_fresh : s'.pc.preDispatch = true → s'.jobs = s.jobs ∧ s'.nPop = s.nPop ∧ s'.out = s.out)
    (h_log : ∀ t id l, Ev.pull t id l ∈ s'.log → Ev.pull t id l ∈ s.log := by exact fun _ _ _ hm => hm) :
    Inv c s' := by
  simp only [coreOf, Prod.mk.injEq] at e
  obtain ⟨e0, e1, e2, e3, e4, e5, e7, e9⟩ := e
  exact h.callerFrame e1 e2 e3 e4 e5 a_dn e7 e9 (by rw [h_to, h_from]; exact e0) (fun h1 => by rw [h_to] at h1; cases h1)
    (fun k j hk => by rw [hk] at h_to; cases h_to) (fun hp => ⟨by rw [hp] at c_pre; exact c_pre, h_fresh hp⟩) h_log

/-- One tracker replaced (same items), with the matching lock transfer and counter update.  `h_ptr`: if the thread parks
at a `submit`, its target is a pending slot other than `i`; `h_noptr`: if slot `i` was waiting for its `submit`, it still
is (idle, same status), or nobody is parked at it. -/
theorem Inv.setT {c : Cfg} {s s' : St} (h : Inv c s) {i : Nat} (hi : i < s.trk.length) {t' : Tracker}
    (e_trk : s'.trk = s.trk.set i t') (e_pc : s'.pc = s.pc)
    (e_items : t'.items = (getT s.trk i).items) (h_ok : TrkOK c t')
    (e_pos : s'.srcPos = s.srcPos) (e_dead : s'.srcDead = s.srcDead) (e_raised : s'.srcRaised = s.srcRaised)
    (e_ready : s'.ready = s.ready) (a_dn : s'.aborting = false → s.aborting = false)
    (e_ndisp : s'.nDispTasks = s.nDispTasks)
    (h_lock : s'.lockOwner = if t'.pc.holding then some (i + 1) else
      if (getT s.trk i).pc.holding then none else s.lockOwner)
    (h_free : t'.pc.holding = true → (getT s.trk i).pc.holding = false → s.lockOwner = none)
    (h_cnt : s'.nCompleted + (if (getT s.trk i).pc.counted then (getT s.trk i).items.length else 0) =
      s.nCompleted + (if t'.pc.counted then (getT s.trk i).items.length else 0))
    (h_ptr : ∀ j, t'.pc = .submitC j → PendingSubmit s j ∧ j ≠ i)
    (h_noptr : (getT s.trk i).pc = .idle → (t'.pc = .idle ∧ t'.status = (getT s.trk i).status) ∨
      ((∀ k j, s.pc = .dSubmit k j → j ≠ i) ∧
       (∀ k j, k < s.trk.length → (getT s.trk k).pc = .submitC j → j ≠ i)))
    (h_log : ∀ t id l, Ev.pull t id l ∈ s'.log → Ev.pull t id l ∈ s.log := by exact fun _ _ _ hm => hm) :
    Inv c s' := by
  have hd : DataInv c s' := h.data.setT e_trk e_items h_ok e_pos e_dead e_raised e_ready a_dn e_ndisp h_log
  have hlen : s'.trk.length = s.trk.length := by simp [e_trk]
  have hgi : getT s'.trk i = t' := by simp [e_trk, hi]
  have hgne : ∀ k, k ≠ i → getT s'.trk k = getT s.trk k := fun k hk => by rw [e_trk, getT_set_ne _ _ _ _ hk]
  have hL : LockInv s' := h.L.step (i + 1) (fun u hu => by
    cases u with
    | zero => simp only [holds, e_pc]
    | succ k => simp only [holds, hgne k (fun e => hu (congrArg (· + 1) e))])
    (by rw [show holds s' (i + 1) = t'.pc.holding from congrArg (·.pc.holding) hgi]; exact h_lock)
    (by rw [show holds s' (i + 1) = t'.pc.holding from congrArg (·.pc.holding) hgi]; exact h_free)
  have hpend : ∀ j, PendingSubmit s j → (j = i → t'.pc = .idle ∧ t'.status = (getT s.trk i).status) → PendingSubmit s' j := by
    intro j hp hs
    by_cases e : j = i
    · subst e
      rw [pendingSubmit_iff, hgi, (hs rfl).1, (hs rfl).2, e_items]; exact ⟨rfl, hp.2.2⟩
    · exact hp.of_slot (hgne j e)
  refine ⟨hL, ⟨fun k j hk => ?_, fun k j hk hj => ?_⟩, hd.S, hd.T, hd.C, ⟨hd.Nd, ?_⟩, fun hp => ?_, hd.logLocked⟩
  · rw [e_pc] at hk
    have hp := h.U.caller k j hk
    exact hpend j hp fun e => (h_noptr (e ▸ hp.2.1)).resolve_right fun h1 => h1.1 k j hk e
  · rw [hlen] at hk
    by_cases hki : k = i
    · subst hki
      rw [getTrk_def, hgi] at hj
      exact hpend j (h_ptr j hj).1 fun e => absurd e (h_ptr j hj).2
    · rw [getTrk_def, hgne k hki] at hj
      have hp := h.U.cb k j hk hj
      exact hpend j hp fun e => (h_noptr (e ▸ hp.2.1)).resolve_right fun h1 => h1.2 k j hk hj e
  · have := countedSum_set s.trk i t' hi e_items
    rw [e_trk]
    have := h.N.comp
    omega
  · rw [e_pc] at hp
    rw [(h.P hp).trk] at hi; cases hi

theorem DLCase.pc {c : Cfg} {t : Tid} {fo : Bool} {bs : Nat} {s s' : St} {r : DRes}
    (hcase : DLCase c t fo bs s s' r) : s'.pc = s.pc := by
  cases hcase <;> rfl

theorem DLCase.trk_append {c : Cfg} {t : Tid} {fo : Bool} {bs : Nat} {s s' : St} {r : DRes}
    (hc : DLCase c t fo bs s s' r) : ∃ new, s'.trk = s.trk ++ new ∧ ∀ x ∈ new, x.pc = .idle := by
  cases hc with
  | aborting | empty => exact ⟨[], by simp, by simp⟩
  | ready | raised | pulled => exact ⟨[_], rfl, by simp⟩

theorem DLCase.inv {c : Cfg} {t : Tid} {fo : Bool} {bs : Nat} {s s' : St} {r : DRes}
    (hc : DLCase c t fo bs s s' r) (h : Inv c s) (hl : s.lockOwner = some t) :
    Inv c s' ∧ (∀ j, r = .submit j → PendingSubmit s' j) ∧ s'.lockOwner = s.lockOwner := by
  have hd := hc.data h.data hl
  have hfr : s'.lockOwner = s.lockOwner ∧ s'.nCompleted = s.nCompleted ∧
      (∀ j, r = .submit j → j = s.trk.length ∧ ∃ tk, tk ≠ [] ∧
        s'.trk = s.trk ++ [{ items := tk, bsize := tk.length, callId := s.callId }]) := by
    cases hc with
    | aborting | raised | empty => exact ⟨rfl, rfl, by simp⟩
    | ready tasks rest ha hr htn | pulled m evs dead raised pl tasks rest ha hr hf hm htn hrest hfl =>
      exact ⟨rfl, rfl, fun j hj => ⟨by cases hj; rfl, tasks, htn, rfl⟩⟩
  obtain ⟨e1, e3, hsub⟩ := hfr
  have e2 := hc.pc
  obtain ⟨new, hnew, hidle⟩ := hc.trk_append
  have hpcs : ∀ k, (getT s'.trk k).pc = (getT s.trk k).pc := fun k => hnew ▸ pc_append_idle hidle k
  have hpend : ∀ j, PendingSubmit s j → PendingSubmit s' j := fun j hj =>
    hj.of_slot (by rw [hnew, getT_append_left _ _ _ hj.1])
  refine ⟨⟨h.L.congr e1 e2 (fun k => by rw [hpcs]), ⟨fun k j hk => hpend j (h.U.caller k j (e2 ▸ hk)), fun k j _ hj => ?_⟩,
    hd.S, hd.T, hd.C, ⟨hd.Nd, ?_⟩, fun hp => ?_, hd.logLocked⟩, fun j hj => ?_, e1⟩
  · rw [getTrk_def, hpcs] at hj
    exact hpend j (h.U.cb k j (lt_of_pc_ne_idle (by rw [hj]; nofun)) hj)
  · rw [e3, hnew, countedSum_append_idle _ _ hidle]; exact h.N.comp
  · rw [(h.P (e2 ▸ hp)).lock] at hl; cases hl
  · obtain ⟨rfl, tk, htk, hs'⟩ := hsub j hj
    rw [pendingSubmit_iff, hs', getT_append_length]
    exact ⟨rfl, rfl, htk⟩


/-- `abort_everything` cancelling the batches the backend still holds. -/
theorem Inv.drop {c : Cfg} {s : St} (h : Inv c s) : Inv c (dropParked s) := by
  let f : Tracker → Tracker := fun t => if t.pc == .parked then { t with pc := .dropped } else t
  have htrk : (dropParked s).trk = s.trk.map f := rfl
  have hf : ∀ t, (f t).items = t.items ∧ (f t).status = t.status ∧ (f t).pc.holding = t.pc.holding ∧
      (f t).pc.counted = t.pc.counted ∧ (∀ j, (f t).pc = .submitC j → t.pc = .submitC j) ∧
      (t.pc = .idle → (f t).pc = .idle) := fun t => by
    simp only [f]
    split
    · rename_i hp
      rw [eq_of_beq hp]
      exact ⟨rfl, rfl, rfl, rfl, nofun, nofun⟩
    · exact ⟨rfl, rfl, rfl, rfl, fun _ => id, id⟩
  have hg : ∀ k, getT (dropParked s).trk k = f (getT s.trk k) := fun k => by
    by_cases hk : k < s.trk.length
    · rw [htrk]; exact getT_map _ _ _ hk
    · rw [getT_of_ge _ _ (by rw [htrk, List.length_map]; exact Nat.le_of_not_lt hk), getT_of_ge _ _ (Nat.le_of_not_lt hk)]; rfl
  have hitems : allItems (dropParked s) = allItems s := by
    simp only [allItems, htrk, List.map_map]
    congr 1
    exact List.map_congr_left fun t _ => (hf t).1
  have hpend : ∀ j, PendingSubmit s j → PendingSubmit (dropParked s) j := by
    intro j hj
    obtain ⟨hit, hst, -, -, -, hidle⟩ := hf (getT s.trk j)
    rw [pendingSubmit_iff] at hj ⊢
    rw [hg, hit, hst]
    exact ⟨hidle hj.1, hj.2⟩
  have hT : ∀ t ∈ (dropParked s).trk, TrkOK c t := by
    intro t ht
    rw [htrk, List.mem_map] at ht
    obtain ⟨t0, ht0, rfl⟩ := ht
    have h0 := h.T t0 ht0
    simp only [f]
    split
    · rename_i hp
      simp only [beq_iff_eq] at hp
      have hst : t0.status = .pending := by have := h0.pcst; rw [hp] at this; exact this
      refine ⟨?_, hst, nofun, nofun, ?_, ?_⟩
      · rcases h0.shape with h1 | h1
        · exact Or.inl h1
        · exfalso; have := h1.2.2.1; rw [hp] at this; cases this
      · intro h1; rw [hst] at h1; cases h1
      · intro h1; rw [hst] at h1; cases h1
    · exact h0
  have hd : DataInv c (dropParked s) :=
    h.data.congr rfl rfl rfl hT hitems rfl h.C.full rfl (fun _ _ _ hm => hm)
  refine ⟨h.L.congr rfl rfl (fun k => by obtain ⟨-, -, hh, -⟩ := hf (getT s.trk k); rw [hg, hh]),
    ⟨fun k j hk => hpend j (h.U.caller k j hk), fun k j hk hj => ?_⟩, hd.S, hd.T, hd.C, ⟨hd.Nd, ?_⟩, fun hp => ?_,
    hd.logLocked⟩
  · rw [getTrk_def, hg] at hj
    rw [htrk, List.length_map] at hk
    obtain ⟨-, -, -, -, hsub, -⟩ := hf (getT s.trk k)
    exact hpend j (h.U.cb k j hk (hsub j hj))
  · show s.nCompleted = countedSum (dropParked s).trk
    rw [htrk, h.N.comp]
    simp only [countedSum, List.map_map]
    congr 1
    exact List.map_congr_left fun t _ => by
      obtain ⟨hit, -, -, hcnt, -⟩ := hf t
      simp only [Function.comp, hcnt, hit]
  · have fr := h.P hp
    exact ⟨by rw [htrk, fr.trk]; rfl, fr.ready, fr.src, fr.lock, fr.jobs, fr.cnt⟩

@[simp] theorem afterDispatch_holding (c : Cfg) (k : DK) (r : Bool) : (afterDispatch c k r).holding = false := by
  cases k <;> cases r <;> simp only [afterDispatch] <;> first | rfl | (split <;> rfl)

@[simp] theorem afterDispatch_ne_submit (c : Cfg) (k : DK) (r : Bool) (k' : DK) (j : Nat) :
    afterDispatch c k r ≠ .dSubmit k' j := by
  cases k <;> cases r <;> simp only [afterDispatch] <;> first | (intro h; cases h) | (split <;> (intro h; cases h))

theorem Inv.setResult {c : Cfg} {s : St} (h : Inv c s) (i : Nat) (r : Res) :
    Inv c (setTrk s i { getTrk s i with result := r }) := by
  by_cases hi : i < s.trk.length
  · have h0 := h.T _ (getT_mem _ _ hi)
    refine h.setT hi (t' := { getTrk s i with result := r }) rfl rfl rfl
      ⟨h0.shape, h0.pcst, h0.idleErr, h0.failed, h0.doneOk, h0.errFail⟩ rfl rfl rfl rfl id rfl
      (h_lock := ?_) (h_free := ?_) (h_cnt := rfl) (h_ptr := fun j hj => ?_) (h_noptr := fun hidle => .inl ⟨hidle, rfl⟩)
    · show s.lockOwner = _
      cases hh : (getT s.trk i).pc.holding with
      | true => simpa [hh] using h.L.cb i hi hh
      | false => simp [hh]
    · intro h1 h2; simp_all
    · have hp := h.U.cb i j hi hj
      refine ⟨hp, fun e => ?_⟩
      subst e
      have := hp.2.1
      simp only [getTrk_def] at this hj
      rw [this] at hj; cases hj
  · -- beyond the end of the table `set` does nothing
    rw [show setTrk s i { getTrk s i with result := r } = s by
      rw [setTrk, List.set_eq_of_length_le (Nat.le_of_not_lt hi)]]
    exact h

/-- `_return_or_raise` at most clears the `_result` of tracker `i`. -/
theorem ror_ind {P : St → Prop} {s s1 : St} {i : Nat} {r : Except Exc (List Nat)} (hr : returnOrRaise s i = (s1, r))
    (h0 : P s) (h1 : P (setTrk s i { getTrk s i with result := .none })) : P s1 := by
  have : P (returnOrRaise s i).1 := by
    unfold returnOrRaise
    dsimp only
    split
    · exact h0
    · split <;> exact h1
    · split <;> exact h1
  rwa [hr] at this

theorem Inv.ror {c : Cfg} {s s1 : St} {i : Nat} {r : Except Exc (List Nat)} (h : Inv c s)
    (hr : returnOrRaise s i = (s1, r)) : Inv c s1 ∧ s1.pc = s.pc :=
  ror_ind (P := fun x => Inv c x ∧ x.pc = s.pc) hr ⟨h, rfl⟩ ⟨h.setResult i .none, rfl⟩


theorem Inv.raise {c : Cfg} {s : St} (h : Inv c s) (hh : s.pc.holding = false) (e : Exc) :
    Inv c (finishRaise s e) :=
  h.pcStep rfl hh rfl Or.inl rfl (fun hp => by cases hp) (h_log := fun _ _ _ hm => by simpa using hm)

theorem Inv.deliver {c : Cfg} {s : St} (h : Inv c s) (hh : s.pc.holding = false) (hnp : s.pc.preDispatch = false)
    (l : List Nat) : Inv c (deliverVals c s l) := by
  have e : coreOf (deliverVals c s l) = coreOf s ∧
      ∀ t id b, Ev.pull t id b ∈ (deliverVals c s l).log → Ev.pull t id b ∈ s.log := by
    rw [deliverVals_eq]
    exact ⟨rfl, fun _ _ _ hm => by dsimp only at hm; split at hm <;> simpa using hm⟩
  exact h.pcStep e.1 hh (by rw [deliverVals_pc]; exact hh) (fun ha => Or.inl (by simpa using ha))
    (by rw [deliverVals_pc, hnp]; rfl) (fun hp => by rw [deliverVals_pc, hnp] at hp; cases hp) (h_log := e.2)

theorem Inv.tail {c : Cfg} {s : St} (h : Inv c s) (hh : s.pc.holding = false) (rem : List Nat) :
    Inv c (tailNext c s rem) := by
  cases rem with
  | cons i rest =>
    exact h.pcStep rfl hh rfl Or.inl rfl (fun hp => by cases hp)
  | nil =>
    have e : coreOf (finishRet c s) = coreOf s ∧
        ∀ t id b, Ev.pull t id b ∈ (finishRet c s).log → Ev.pull t id b ∈ s.log := by
      rw [finishRet_eq]
      exact ⟨rfl, fun _ _ _ hm => by dsimp only at hm; split at hm <;> simpa using hm⟩
    show Inv c (finishRet c s)
    exact h.pcStep e.1 hh rfl (fun ha => Or.inl (by simpa using ha)) rfl (fun hp => by cases hp) (h_log := e.2)

-- Not used by any proof of this development.
macro "cstep" h:ident hpc:ident : tactic =>
  `(tactic| (apply Inv.callerStep $h <;>
      first | rfl | simp [$hpc:ident, Pc.holding, Pc.preDispatch, finishRaise, finishRet, tailNext, deliverVals]))

theorem trkOK_parked {c : Cfg} {t : Tracker} (h0 : TrkOK c t) (hne : t.items ≠ []) (hst : t.status = .pending) :
    TrkOK c { t with pc := .parked } := by
  refine ⟨?_, hst, ?_, ?_, ?_, ?_⟩
  · rcases h0.shape with h1 | h1
    · exact Or.inl h1
    · exact absurd h1.1 hne
  · intro h1; cases h1
  · intro h1; cases h1
  · intro h1; rw [hst] at h1; cases h1
  · intro h1; rw [hst] at h1; cases h1

/-- `backend.submit` of the pending tracker `j` by a thread `t` that owns the lock and is at a marker pc. -/
theorem Inv.submit {c : Cfg} {s : St} (h : Inv c s) {t : Tid} {j : Nat} (hp : PendingSubmit s j)
    (hl : s.lockOwner = some t) (hcaller : ∀ k j', s.pc ≠ .dSubmit k j')
    (hcb : ∀ i, t = i + 1 → ∀ j', (getT s.trk i).pc ≠ .submitC j') : Inv c (doSubmit t j s) := by
  obtain ⟨hj, hidle, hst, hne⟩ := hp
  simp only [getTrk_def] at hidle hst hne
  have h0 := h.T _ (getT_mem _ _ hj)
  refine h.setT hj (t' := { getT s.trk j with pc := .parked }) (s' := doSubmit t j s) rfl rfl rfl
    (trkOK_parked h0 hne hst) rfl rfl rfl rfl id rfl (h_lock := by simp [CbPc.holding, hidle]) (h_free := nofun)
    (h_cnt := by simp [CbPc.counted, hidle]) (h_ptr := nofun) (h_noptr := fun _ => ?_)
    (h_log := fun _ _ _ hm => by simpa using hm)
  refine Or.inr ⟨fun k j' hk _ => hcaller k j' hk, fun k j' hk hk' e => ?_⟩
  have := h.L.cb k hk (by simp only [getTrk_def, hk']; rfl)
  rw [hl] at this
  exact hcb k (by simpa using this) j' hk'

theorem Inv.dAcq {c : Cfg} {s s1 : St} {k : DK} {bs : Nat} {r : DRes} (h : Inv c s) (he : callerEnabled s = true)
    (hpc : s.pc = .dAcq k bs)
    (hd : dispatchLocked c 0 false bs { s with lockOwner := some 0, pc := .dIn k } = (s1, r)) :
    s.lockOwner = none ∧ Inv c { s with lockOwner := some 0, pc := .dIn k } ∧
      DLCase c 0 false bs { s with lockOwner := some 0, pc := .dIn k } s1 r := by
  have hlk : s.lockOwner = none := by simpa [callerEnabled, hpc, Pc.isAcq] using he
  have h0 : Inv c { s with lockOwner := some 0, pc := .dIn k } :=
    h.lockFrame rfl rfl (fun _ _ => hlk) nofun nofun
  obtain ⟨s2, r2, hd2, hcase⟩ := dispatchLocked_cases h0.S h0.C.readyNe 0 false bs
  rw [hd] at hd2; cases hd2
  exact ⟨hlk, h0, hcase⟩

theorem Inv.release {c : Cfg} {s : St} {k : DK} (h : Inv c s) (hp : s.pc = .dIn k) (p' : Pc)
    (hh : p'.holding = false) (hn : p'.preDispatch = false) : Inv c { s with lockOwner := none, pc := p' } :=
  h.lockFrame rfl
    (by show none = if p'.holding then _ else if s.pc.holding then none else _; rw [hh, hp]; rfl)
    (fun h1 => by rw [show p'.holding = false from hh] at h1; cases h1)
    (fun k j e => by rw [show p' = .dSubmit k j from e] at hh; cases hh)
    (fun h1 => by rw [show p'.preDispatch = false from hn] at h1; cases h1)

/-- The caller parks at `backend.submit` of the tracker it has just registered. -/
theorem Inv.park {c : Cfg} {s : St} {k : DK} {j : Nat} (h : Inv c s) (hp : s.pc = .dIn k) (hl : s.lockOwner = some 0)
    (hj : PendingSubmit s j) : Inv c { s with pc := .dSubmit k j } :=
  h.lockFrame rfl (by show s.lockOwner = _; rw [hl]; rfl)
    (fun _ h1 => by rw [hp] at h1; cases h1) (fun _ _ e => by cases e; exact hj) nofun

theorem Inv.resume {c : Cfg} {s : St} {k : DK} {j : Nat} (h : Inv c s) (hp : s.pc = .dSubmit k j) :
    Inv c { s with pc := .dIn k } :=
  h.lockFrame rfl
    (by show s.lockOwner = _; rw [h.L.caller (by rw [hp]; rfl)]; rfl) (fun _ h1 => by rw [hp] at h1; cases h1) nofun nofun

/-- During the set-up the counters and `_ready_batches` already have the values written (`Fresh`). -/
theorem Write.inv {c : Cfg} {s s1 : St} {p p' : Pc} (w : Write c s p p' s1) (h : Inv c s) (hpc : s.pc = p) :
    Inv c { s1 with pc := p' } := by
  cases w
  case wNDisp | wNComp | readyAcq =>
    have fr := h.P (by rw [hpc]; rfl)
    exact h.pcStep (by simp [coreOf, fr.cnt.1, fr.cnt.2, fr.ready]) (hpc ▸ rfl) rfl Or.inl
      (hpc ▸ rfl) (fun _ => ⟨rfl, rfl, rfl⟩)
  case wAbort0 =>
    exact h.pcStep rfl (hpc ▸ rfl) rfl (fun _ => Or.inr (hpc ▸ rfl)) (hpc ▸ rfl)
      (fun _ => ⟨rfl, rfl, rfl⟩)
  case abortWFin | abortWCall => exact h.pcStep rfl (hpc ▸ rfl) rfl nofun rfl nofun
  all_goals exact h.pcStep rfl (hpc ▸ rfl) rfl Or.inl (hpc ▸ rfl) (fun _ => ⟨rfl, rfl, rfl⟩)

theorem CStep.inv {c : Cfg} {s s' : St} (st : CStep c s s') (h : Inv c s) (he : callerEnabled s = true) :
    Inv c s' := by
  cases st with
  | move m hp =>
    have hb := m.pre
    simp only [Bool.and_eq_true] at hb
    exact h.pcStep rfl (hp ▸ m.holding.1) m.holding.2 Or.inl (hp ▸ hb.1) (fun _ => ⟨rfl, rfl, rfl⟩)
  | write w hp => exact w.inv h hp
  | stay => exact h
  | busy hpc => exact h.raise (hpc ▸ rfl) _
  | dAcqSubmit k bs s1 j hpc hd =>
    obtain ⟨-, h0, hcase⟩ := h.dAcq he hpc hd
    obtain ⟨h2, hsub, hlo⟩ := hcase.inv h0 rfl
    exact h2.park hcase.pc hlo (hsub j rfl)
  | dAcqRet k bs s1 r hpc hd =>
    obtain ⟨-, h0, hcase⟩ := h.dAcq he hpc hd
    obtain ⟨h2, -, -⟩ := hcase.inv h0 rfl
    exact h2.release hcase.pc _ rfl rfl
  | dSubmit k j hpc =>
    exact ((h.resume hpc).submit (t := 0) (h.U.caller k j hpc) (h.L.caller (by rw [hpc]; rfl)) nofun nofun).release
      rfl _ rfl rfl
  | pop i rest hpc hj => exact h.pcStep rfl (hpc ▸ rfl) rfl Or.inl rfl nofun
  | resErr i s1 e hpc hr | refErr i s1 e hpc hr | refOk i s1 e hpc hr =>
    obtain ⟨h1, hp⟩ := h.ror hr
    exact h1.pcStep rfl (by rw [hp, hpc]; rfl) rfl Or.inl rfl nofun
  | resOk i s1 l hpc hr =>
    obtain ⟨h1, hp⟩ := h.ror hr
    exact (h1.deliver (by rw [hp, hpc]; rfl) (by rw [hp, hpc]; rfl) l).pcStep rfl
      (by rw [deliverVals_pc, hp, hpc]; rfl) rfl Or.inl rfl nofun
  | abortCall e hpc =>
    have h1 : Inv c (ev s .abort) :=
      h.pcStep rfl (hpc ▸ rfl) (by show s.pc.holding = false; rw [hpc]; rfl)
        Or.inl (by show (!s.pc.preDispatch || s.pc.preDispatch) = true; rw [hpc]; rfl)
        (fun hp => by rw [show (ev s .abort).pc = s.pc from rfl, hpc] at hp; cases hp)
        (h_log := fun _ _ _ hm => by simpa [ev] using hm)
    have h2 : Inv c (if c.abortDrops = true then dropParked (ev s .abort) else ev s .abort) ∧
        (if c.abortDrops = true then dropParked (ev s .abort) else ev s .abort).pc = .abortCall e := by
      split
      · exact ⟨h1.drop, hpc⟩
      · exact ⟨h1, hpc⟩
    exact h2.1.pcStep rfl (by rw [h2.2]; rfl) rfl Or.inl rfl nofun
  | finRaise e rem hpc =>
    exact Inv.raise (h.pcStep (s' := { s with jobs := [], running := false }) rfl (by rw [hpc]; rfl)
      (by rw [hpc]; rfl) Or.inl (by rw [hpc]; rfl) (fun hp => by rw [hpc] at hp; cases hp)) (by rw [hpc]; rfl) e
  | finTail rem hpc =>
    exact Inv.tail (h.pcStep (s' := { s with jobs := [], running := false }) rfl (by rw [hpc]; rfl)
      (by rw [hpc]; rfl) Or.inl (by rw [hpc]; rfl) (fun hp => by rw [hpc] at hp; cases hp)) (by rw [hpc]; rfl) rem
  | tailErr i rem s1 e hpc hr =>
    obtain ⟨h1, hp⟩ := h.ror hr
    exact h1.raise (by rw [hp, hpc]; rfl) e
  | tailOk i rem s1 l hpc hr =>
    obtain ⟨h1, hp⟩ := h.ror hr
    exact (h1.deliver (by rw [hp, hpc]; rfl) (by rw [hp, hpc]; rfl) l).tail (by rw [deliverVals_pc, hp, hpc]; rfl) rem

theorem stepCaller_inv {c : Cfg} {s : St} (h : Inv c s) (he : callerEnabled s = true) :
    Inv c (stepCaller c s) := (stepCaller_cases c s).inv h he

theorem Inv.bsI {c : Cfg} {s : St} (h : Inv c s) (b : Nat) : Inv c { s with bsI := b } := by
  apply h.lockFrame (s' := { s with bsI := b }) rfl
  · show s.lockOwner = _
    cases hh : s.pc.holding with
    | true => simpa [hh] using h.L.caller hh
    | false => simp
  · intro h1 h2; rw [show ({ s with bsI := b } : St).pc = s.pc from rfl, h2] at h1; cases h1
  · exact h.U.caller
  · exact fun hp => ⟨hp, rfl, rfl, rfl⟩

theorem cbEnabled_lt {s : St} {i : Nat} (he : cbEnabled s i = true) : i < s.trk.length :=
  lt_of_pc_ne_idle fun e => by rw [cbEnabled, getTrk_def, e] at he; cases he

theorem trkOK_pc {c : Cfg} {t : Tracker} (h0 : TrkOK c t) (p : CbPc) (hact : t.pc ≠ .idle)
    (hst : pcStatusOK p t.status) (hs : p.started = true → t.pc.started = true) (hp : p ≠ .idle) :
    TrkOK c { t with pc := p } := by
  refine ⟨?_, hst, fun h1 => absurd h1 hp, fun h1 => h0.failed (hs h1), h0.doneOk, h0.errFail⟩
  rcases h0.shape with h1 | h1
  · exact Or.inl h1
  · exact absurd h1.2.2.1 hact

theorem trk_normal {c : Cfg} {t : Tracker} (h0 : TrkOK c t) (hact : t.pc ≠ .idle) :
    t.items ≠ [] ∧ t.bsize = t.items.length := by
  rcases h0.shape with h1 | h1
  · exact h1
  · exact absurd h1.2.2.1 hact


/-- The callback thread of tracker `i` moves to `p`.  `h_act`, `h_notIdle`: the batch has been submitted and stays so;
`h_st`, `h_started`: `p` fits the tracker's status and is not before the completion; the rest as in `Inv.setT`. -/
theorem Inv.movePc {c : Cfg} {s s' : St} (h : Inv c s) {i : Nat} (hi : i < s.trk.length) (p : CbPc)
    (e_trk : s'.trk = s.trk.set i { getT s.trk i with pc := p })
    (e_rest : (s'.pc, s'.srcPos, s'.srcDead, s'.srcRaised, s'.ready, s'.nDispTasks, s'.log, s'.aborting) =
      (s.pc, s.srcPos, s.srcDead, s.srcRaised, s.ready, s.nDispTasks, s.log, s.aborting))
    (h_act : (getT s.trk i).pc ≠ .idle) (h_st : pcStatusOK p (getT s.trk i).status)
    (h_started : p.started = true → (getT s.trk i).pc.started = true) (h_notIdle : p ≠ .idle)
    (h_lock : s'.lockOwner = if p.holding then some (i + 1) else
      if (getT s.trk i).pc.holding then none else s.lockOwner)
    (h_free : p.holding = true → (getT s.trk i).pc.holding = false → s.lockOwner = none)
    (h_cnt : s'.nCompleted + (if (getT s.trk i).pc.counted then (getT s.trk i).items.length else 0) =
      s.nCompleted + (if p.counted then (getT s.trk i).items.length else 0))
    (h_ptr : ∀ j, p = .submitC j → PendingSubmit s j) : Inv c s' := by
  have h0 := h.T _ (getT_mem _ _ hi)
  simp only [Prod.mk.injEq] at e_rest
  obtain ⟨f1, f2, f3, f4, f5, f6, f7, f8⟩ := e_rest
  exact h.setT hi e_trk f1 rfl (trkOK_pc h0 p h_act h_st h_started h_notIdle) f2 f3 f4 f5 (fun ha => f8 ▸ ha) f6
    h_lock h_free h_cnt
    (fun j hj => ⟨h_ptr j hj, fun e => h_act (e ▸ (h_ptr j hj).2.1)⟩)
    (fun hidle => absurd hidle h_act) (fun _ _ _ hm => f7 ▸ hm)

/-- End of `dispatch_next` for the thread of tracker `i` (at the marker pc `bsC`, owning the lock). -/
theorem cbFinish_inv {c : Cfg} {s : St} {i : Nat} (h : Inv c s) (hi : i < s.trk.length)
    (hpc : (getT s.trk i).pc = .bsC) (r : Bool) : Inv c (cbAfterDispatch i s r) := by
  have h0 := h.T _ (getT_mem _ _ hi)
  have hst : (getT s.trk i).status = .done := by have := h0.pcst; rw [hpc] at this; exact this
  rw [cbAfterDispatch_eq]
  exact h.movePc hi .relC rfl rfl (h_act := by simp [hpc]) (h_st := hst)
      (h_started := by simp [hpc, CbPc.started]) (h_notIdle := by simp) (h_lock := by simp [hpc, CbPc.holding])
      (h_free := by simp [CbPc.holding]) (h_cnt := by simp [hpc, CbPc.counted]) (h_ptr := by simp)

/-- What the callback thread of tracker `i` (at the marker pc, owning the lock) has after the locked region of
`dispatch_one_batch`. -/
structure CbDisp (c : Cfg) (i bs : Nat) (s s1 : St) (r : DRes) : Prop where
  eq : dispatchLocked c (i + 1) true bs s = (s1, r)
  cases : DLCase c (i + 1) true bs s s1 r
  inv : Inv c s1
  lt : i < s1.trk.length
  slot : getT s1.trk i = getT s.trk i
  owner : s1.lockOwner = some (i + 1)
  pend : ∀ j, r = .submit j → PendingSubmit s1 j ∧ j ≠ i

theorem Inv.cbDisp {c : Cfg} {s : St} {i : Nat} (h : Inv c s) (hi : i < s.trk.length)
    (hpc : (getT s.trk i).pc = .bsC) (hl : s.lockOwner = some (i + 1)) (bs : Nat) : ∃ s1 r, CbDisp c i bs s s1 r := by
  obtain ⟨s1, r, hd, hcase⟩ := dispatchLocked_cases h.S h.C.readyNe (i + 1) true bs
  obtain ⟨h1, hsub, hlo⟩ := hcase.inv h hl
  obtain ⟨new, hnew, -⟩ := hcase.trk_append
  have hg : getT s1.trk i = getT s.trk i := by rw [hnew]; exact getT_append_left _ _ _ hi
  refine ⟨s1, r, hd, hcase, h1, by rw [hnew, List.length_append]; omega, hg, hlo.trans hl, fun j hj => ⟨hsub j hj, ?_⟩⟩
  rintro rfl
  have := (hsub j hj).2.1
  rw [getTrk_def, hg, hpc] at this; cases this

/-- `dispatch_one_batch(self._original_iterator)` inside `dispatch_next` for the thread of tracker `i`. -/
theorem cbDispatch_inv {c : Cfg} {s : St} {i : Nat} (h : Inv c s) (hi : i < s.trk.length)
    (hpc : (getT s.trk i).pc = .bsC) (hl : s.lockOwner = some (i + 1)) (bs : Nat) :
    Inv c (cbDispatchResult i (dispatchLocked c (i + 1) true bs s)) := by
  obtain ⟨s', r, d⟩ := h.cbDisp hi hpc hl bs
  rw [d.eq]
  have hpc2 : (getT s'.trk i).pc = .bsC := d.slot ▸ hpc
  have hst : (getT s'.trk i).status = .done := by have := (d.inv.T _ (getT_mem _ _ d.lt)).pcst; rw [hpc2] at this; exact this
  cases r with
  | submit j =>
    simp only [cbDispatchResult]
    exact d.inv.movePc d.lt (.submitC j) rfl rfl (h_act := by simp [hpc2]) (h_st := hst)
      (h_started := by simp [hpc2, CbPc.started]) (h_notIdle := by simp) (h_lock := by simp [CbPc.holding, d.owner])
      (h_free := by simp [hpc2, CbPc.holding]) (h_cnt := by simp [hpc2, CbPc.counted])
      (h_ptr := by intro j' e; cases e; exact (d.pend _ rfl).1)
  | ret b => exact cbFinish_inv d.inv d.lt hpc2 b

theorem Inv.enter {c : Cfg} {s : St} {i : Nat} (h : Inv c s) (he : cbEnabled s i = true)
    (hpc : (getT s.trk i).pc = .acqC) :
    Inv c (enterNext s i) ∧ i < (enterNext s i).trk.length ∧ (getT (enterNext s i).trk i).pc = .bsC ∧
      (enterNext s i).lockOwner = some (i + 1) := by
  have hi := cbEnabled_lt he
  -- parked at a lock acquisition the thread is enabled only while the lock is free
  have hlk : s.lockOwner = none := by unfold cbEnabled at he; rw [getTrk_def, hpc] at he; simpa using he
  have h0 := h.T _ (getT_mem _ _ hi)
  have hst : (getT s.trk i).status = .done := by have := h0.pcst; rw [hpc] at this; exact this
  unfold enterNext
  refine ⟨?_, by simpa using hi, by simp [hi], rfl⟩
  exact h.movePc hi .bsC rfl rfl (h_act := by simp [hpc]) (h_st := hst)
      (h_started := by simp [hpc, CbPc.started]) (h_notIdle := by simp) (h_lock := by simp [CbPc.holding])
      (h_free := fun _ _ => hlk) (h_cnt := by simp [hpc, CbPc.counted, (trk_normal h0 (by simp [hpc])).2]) (h_ptr := by simp)

/-- The callback thread of tracker `i`, parked at `submit` of tracker `j`: back at the marker pc (`atMarker`, where `j` is
still pending), then the submit (`submitted`, where the thread is still at the marker). -/
structure CbSubmit (c : Cfg) (i j : Nat) (s : St) : Prop where
  ne : j ≠ i
  atMarker : Inv c (setCb s i .bsC)
  pend : PendingSubmit (setCb s i .bsC) j
  submitted : Inv c (doSubmit (i + 1) j (setCb s i .bsC))
  lt : i < (doSubmit (i + 1) j (setCb s i .bsC)).trk.length
  pc : (getT (doSubmit (i + 1) j (setCb s i .bsC)).trk i).pc = .bsC

theorem Inv.cbSubmit {c : Cfg} {s : St} {i j : Nat} (h : Inv c s) (hi : i < s.trk.length)
    (hpc : (getT s.trk i).pc = .submitC j) : CbSubmit c i j s := by
  have h0 := h.T _ (getT_mem _ _ hi)
  have hl : s.lockOwner = some (i + 1) := h.L.cb i hi (by rw [getTrk_def, hpc]; rfl)
  have hst : (getT s.trk i).status = .done := by have := h0.pcst; rw [hpc] at this; exact this
  have hpend := h.U.cb i j hi hpc
  have hji : j ≠ i := by
    intro e; subst e
    have := hpend.2.1; rw [getTrk_def, hpc] at this; cases this
  have h1 : Inv c (setCb s i .bsC) :=
    h.movePc hi .bsC rfl rfl (h_act := by simp [hpc]) (h_st := hst)
      (h_started := by simp [hpc, CbPc.started]) (h_notIdle := by simp) (h_lock := by simp [CbPc.holding, hl])
      (h_free := by simp [hpc, CbPc.holding]) (h_cnt := by simp [hpc, CbPc.counted]) (h_ptr := by simp)
  have hpend1 : PendingSubmit (setCb s i .bsC) j := hpend.of_slot (getT_set_ne _ _ _ _ hji)
  refine ⟨hji, h1, hpend1, ?_, by simpa using hi, by simp [getT_set_ne _ _ _ _ (Ne.symm hji), hi]⟩
  apply h1.submit hpend1 hl
  · intro k j' e
    have := h.L.caller (show s.pc.holding = true by rw [show s.pc = .dSubmit k j' from e]; rfl)
    rw [hl] at this; cases this
  · intro i' e j'
    have : i' = i := (Nat.succ.inj e).symm
    subst this
    simp [hi]

theorem complete_inv {c : Cfg} {s : St} {i : Nat} (h : Inv c s) (hi : i < s.trk.length)
    (hpc : (getTrk s i).pc = .parked) : Inv c (complete c i s) := by
  have hgt : getTrk s i = getT s.trk i := rfl
  rw [hgt] at hpc
  have h0 := h.T _ (getT_mem _ _ hi)
  have hst : (getT s.trk i).status = .pending := by have := h0.pcst; rw [hpc] at this; exact this
  have hnorm := trk_normal h0 (by simp [hpc])
  unfold complete
  simp only
  refine h.setT hi (t' := { getTrk s i with pc := .acqA, failed := (getTrk s i).items.find? (fun id => c.fails.contains id) })
    rfl rfl rfl ?_ rfl rfl rfl rfl id rfl (h_lock := by simp [hpc, CbPc.holding]) (h_free := by simp [CbPc.holding])
    (h_cnt := by simp [hpc, CbPc.counted]) (h_ptr := by simp) (h_noptr := fun hh => by rw [hpc] at hh; cases hh)
    (h_log := fun _ _ _ hm => by simpa using hm)
  refine ⟨Or.inl hnorm, hst, (fun hh => by cases hh), fun _ => rfl, ?_, ?_⟩
  · intro hh; rw [hgt, hst] at hh; cases hh
  · intro hh; rw [hgt, hst] at hh; cases hh

/-- A move `p → p'` of a callback thread between started points outside the locked segments, on the same side of the
counter increment, and not to a `submit`. -/
def CbPc.plain (p p' : CbPc) : Bool :=
  p != .idle && p' != .idle && !p.holding && !p'.holding && (p.counted == p'.counted) && (!p'.started || p.started) &&
  (match p' with | .submitC _ => false | _ => true)

theorem CbMove.plain {p p' : CbPc} (m : CbMove p p') : p.plain p' = true := by cases m <;> rfl

theorem Inv.cbPlain {c : Cfg} {s : St} {i : Nat} {p' : CbPc} (h : Inv c s) (hi : i < s.trk.length)
    (hb : (getT s.trk i).pc.plain p' = true) (hst : pcStatusOK p' (getT s.trk i).status) : Inv c (setCb s i p') := by
  simp only [CbPc.plain, Bool.and_eq_true, bne_iff_ne, ne_eq, Bool.not_eq_true', beq_iff_eq, Bool.or_eq_true] at hb
  obtain ⟨⟨⟨⟨⟨⟨b1, b2⟩, b3⟩, b4⟩, b5⟩, b6⟩, b7⟩ := hb
  exact h.movePc hi p' rfl rfl (h_act := b1) (h_st := hst)
      (h_started := fun hs => b6.resolve_left (by simp [hs])) (h_notIdle := b2)
      (h_lock := by show s.lockOwner = _; rw [b4, b3]; rfl)
      (h_free := fun h1 => by rw [b4] at h1; cases h1) (h_cnt := by rw [b5]; rfl) (h_ptr := fun j e => by subst e; cases b7)

theorem CbStep.inv {c : Cfg} {s s' : St} {i : Nat} (st : CbStep c i s s') (h : Inv c s) (he : cbEnabled s i = true) :
    Inv c s' := by
  have hi := cbEnabled_lt he
  have h0 := h.T _ (getT_mem _ _ hi)
  have hst := h0.pcst
  cases st with
  | stay => exact h
  | move m hpc =>
    rw [hpc] at hst
    cases m <;> exact h.cbPlain hi (by rw [hpc]; rfl) hst
  | acqASkip hpc =>
    rw [hpc] at hst
    exact h.cbPlain hi (by rw [hpc]; rfl) (Or.inl hst)
  | acqA hpc =>
    rw [hpc] at hst
    exact h.movePc hi .retr rfl rfl (h_act := by rw [hpc]; nofun) (h_st := hst)
      (h_started := fun _ => by rw [hpc]; rfl) (h_notIdle := nofun) (h_lock := rfl)
      (h_free := fun _ _ => by unfold cbEnabled at he; rw [getTrk_def, hpc] at he; simpa using he)
      (h_cnt := by rw [hpc]; rfl) (h_ptr := nofun)
  | retrSet hpc hne =>
    rw [hpc] at hst
    exact absurd hst hne
  | retrErr id hpc hp hf =>
    have hfl := h0.failed (by rw [hpc]; rfl)
    have hnorm := trk_normal h0 (by rw [hpc]; nofun)
    exact h.setT hi (t' := { getT s.trk i with status := .error, result := .exc (.task id), pc := .relA false })
      rfl rfl rfl ⟨Or.inl hnorm, Or.inr rfl, nofun, fun _ => hfl, nofun, fun _ _ => ⟨id, hf⟩⟩ rfl rfl rfl rfl nofun rfl
      (h_lock := by show none = _; rw [hpc]; rfl) (h_free := nofun) (h_cnt := by rw [hpc]; rfl) (h_ptr := nofun)
      (h_noptr := fun hh => by rw [hpc] at hh; cases hh)
  | retrOk hpc hp hf =>
    have hfl := h0.failed (by rw [hpc]; rfl)
    have hnorm := trk_normal h0 (by rw [hpc]; nofun)
    exact h.setT hi (t' := { getT s.trk i with status := .done, result := .vals (getT s.trk i).items, pc := .relA true })
      rfl rfl rfl ⟨Or.inl hnorm, rfl, nofun, fun _ => hfl, fun _ => hf, nofun⟩ rfl rfl rfl rfl id rfl
      (h_lock := by show none = _; rw [hpc]; rfl) (h_free := nofun) (h_cnt := by rw [hpc]; rfl) (h_ptr := nofun)
      (h_noptr := fun hh => by rw [hpc] at hh; cases hh)
  | acqCSkip hpc =>
    rw [hpc] at hst
    exact h.movePc hi .relC rfl rfl (h_act := by rw [hpc]; nofun) (h_st := hst)
      (h_started := fun _ => by rw [hpc]; rfl) (h_notIdle := nofun) (h_lock := by show s.lockOwner = _; rw [hpc]; rfl)
      (h_free := nofun) (h_cnt := by rw [hpc, (trk_normal h0 (by rw [hpc]; nofun)).2]; rfl) (h_ptr := nofun)
  | acqCAbort hpc =>
    obtain ⟨h1, hi1, hpc1, -⟩ := h.enter he hpc
    exact cbFinish_inv h1 hi1 hpc1 false
  | acqCPark hpc => exact (h.enter he hpc).1
  | acqCDisp hpc =>
    obtain ⟨h1, hi1, hpc1, hl1⟩ := h.enter he hpc
    exact cbDispatch_inv h1 hi1 hpc1 hl1 _
  | bsC hpc => exact cbDispatch_inv (h.bsI (s.bsI + 1)) hi hpc (h.L.cb i hi (by rw [getTrk_def, hpc]; rfl)) _
  | submitC j hpc =>
    have u := h.cbSubmit hi hpc
    exact cbFinish_inv u.submitted u.lt u.pc true

theorem stepCb_inv {c : Cfg} {s : St} {i : Nat} (h : Inv c s) (he : cbEnabled s i = true) :
    Inv c (stepCb c i s) := (stepCb_cases c i s).inv h he

theorem step_inv {c : Cfg} {s : St} (h : Inv c s) (a : Act) : Inv c (step c s a) :=
  step_cases h (stepCaller_inv h) (fun _ => stepCb_inv h) (fun _ => complete_inv h) a

theorem run_inv {c : Cfg} (sched : List Act) {s : St} (h : Inv c s) : Inv c (run c s sched) :=
  run_ind (P := Inv c) (fun _ a h => step_inv h a) sched h

theorem dispatchLocked_aborting {c : Cfg} {s : St} (t : Tid) (fo : Bool) (bs : Nat) (h : s.aborting = true) :
    dispatchLocked c t fo bs s = (s, .ret false) := by
  unfold dispatchLocked; rw [if_pos h]

/-- The state of the input iterator. -/
def srcOf (s : St) : Nat × Bool × Bool := (s.srcPos, s.srcDead, s.srcRaised)

theorem srcOf_finishRet (c : Cfg) (s : St) : srcOf (finishRet c s) = srcOf s := by
  rw [finishRet_eq]; rfl

theorem srcOf_tailNext (c : Cfg) (s : St) (l : List Nat) : srcOf (tailNext c s l) = srcOf s := by
  cases l with
  | nil => exact srcOf_finishRet c s
  | cons a r => rfl

theorem srcOf_deliverVals (c : Cfg) (s : St) (l : List Nat) : srcOf (deliverVals c s l) = srcOf s := by
  rw [deliverVals_eq]; rfl

theorem CStep.src {c : Cfg} {s s' : St} (st : CStep c s s') (ha : s.aborting = true) : srcOf s' = srcOf s := by
  have hror : ∀ {i : Nat} {s1 : St} {r : Except Exc (List Nat)}, returnOrRaise s i = (s1, r) → srcOf s1 = srcOf s :=
    fun hr => ror_ind (P := fun x => srcOf x = srcOf s) hr rfl rfl
  have hd : ∀ {k bs s1 r}, dispatchLocked c 0 false bs { s with lockOwner := some 0, pc := .dIn k } = (s1, r) →
      srcOf s1 = srcOf s := fun {k bs _ _} e => by
    rw [dispatchLocked_aborting (s := { s with lockOwner := some 0, pc := Pc.dIn k }) 0 false bs ha] at e
    cases e; rfl
  cases st with
  | move | stay | busy | dSubmit | pop | finRaise => rfl
  | write w => cases w <;> rfl
  | dAcqSubmit k bs s1 j hpc hd' | dAcqRet k bs s1 j hpc hd' => exact (hd hd' :)
  | resErr i s1 e hpc hr | refErr i s1 e hpc hr | refOk i s1 e hpc hr | tailErr i rem s1 e hpc hr => exact (hror hr :)
  | resOk i s1 l hpc hr => exact ((srcOf_deliverVals c _ l).trans (hror hr) :)
  | abortCall e hpc => dsimp only; split <;> rfl
  | finTail rem hpc => exact srcOf_tailNext c _ rem
  | tailOk i rem s1 l hpc hr => exact (srcOf_tailNext c _ rem).trans ((srcOf_deliverVals c _ l).trans (hror hr))

theorem srcOf_cbAfterDispatch (i : Nat) (s : St) (r : Bool) : srcOf (cbAfterDispatch i s r) = srcOf s := by
  rw [cbAfterDispatch_eq]; rfl

theorem CbStep.src {c : Cfg} {s s' : St} {i : Nat} (st : CbStep c i s s') (ha : s.aborting = true) :
    srcOf s' = srcOf s := by
  cases st with
  | acqCAbort => exact srcOf_cbAfterDispatch _ _ _
  | acqCPark _ _ ha' | acqCDisp _ _ ha' => rw [ha] at ha'; cases ha'
  | bsC =>
    rw [dispatchLocked_aborting (s := { s with bsI := s.bsI + 1 }) (i + 1) true _ ha]
    exact srcOf_cbAfterDispatch _ _ _
  | submitC => exact srcOf_cbAfterDispatch _ _ _
  | _ => rfl

/-- NO PULL AFTER ABORT (step form). If `_aborting` is set when a step begins, that step — of any thread, or of the
environment — leaves the input iterator untouched: no item is taken, `__next__` is not even called. -/
theorem step_src_aborting {c : Cfg} {s : St} (ha : s.aborting = true) (a : Act) : srcOf (step c s a) = srcOf s :=
  step_cases (p := fun s' => srcOf s' = srcOf s) rfl (fun _ => (stepCaller_cases c s).src ha)
    (fun i _ => (stepCb_cases c i s).src ha) (fun _ _ _ => rfl) a

theorem countedSum_le (l : List Tracker) : countedSum l ≤ ((l.map (·.items)).flatten).length := by
  induction l with
  | nil => simp [countedSum]
  | cons a r ih =>
    simp only [countedSum, List.map_cons, List.sum_cons, List.flatten_cons, List.length_append] at ih ⊢
    split <;> omega

end JoblibModel.ParallelLock
