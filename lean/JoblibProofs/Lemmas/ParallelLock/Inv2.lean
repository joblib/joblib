import JoblibProofs.Lemmas.ParallelLock.Core
/-!
M1L proofs — the second invariant `Inv2 c s` (functional correctness of the retrieval protocol): error flags vs tracker
statuses, registered results, the popped prefix and the output, `_iterating` / `_original_iterator`, the facts the
caller has established at each point of `_wait_retrieval`, the exit of the retrieval loop, and the outcome of the call;
its transfer lemmas: for steps of the caller (`Inv2.move` and its special cases), for steps of a callback thread that do
not dispatch (`Inv2.cbMove`, with the rely/guarantee condition `Guar` under which `LocOK` is stable), and for the locked
region of `dispatch_one_batch` (`DLCase.inv2`).  `move` in these names is any step seen as a frame, not the relation
`Move` of `Step.lean`: the lemma about that relation is `Inv2.moveStep` (`Steps2.lean`).
-/
namespace JoblibModel.ParallelLock

/-- The code variants for which the full statements hold: the repaired `_wait_retrieval` (`recheck`), or an input
iterable that never raises. -/
def Safe (c : Cfg) : Prop := c.recheck = true ∨ c.iterfail = none

/-- Domain of the functional theorems: `pre_dispatch` is `'all'` or evaluates to at least 1 (0 is finding F11). -/
def PdOK (c : Cfg) : Prop := c.pdMode = 1 ∨ 1 ≤ c.pd

/-- An exception the call may legitimately raise: the one of a failing task, or the input iterable's. -/
def LegitErr (c : Cfg) (e : Exc) : Prop :=
  (∃ id, e = .task id ∧ id ∈ c.fails) ∨ (∃ p, e = .iter p ∧ c.iterfail = some p)

/-- The caller has set `_aborting` itself in `_abort`: it is parked at `backend.abort_everything` or past it,
re-raising (or has finished). -/
def Pc.inAbort : Pc → Bool
  | .abortCall _ | .finExc (some _) | .finJobsR (some _) | .finJobsW (some _) _ | .done => true
  | _ => false

/-- The caller itself has set `_exception`. -/
def Pc.inExc : Pc → Bool
  | .abortW _ => true
  | p => p.inAbort

/-- The caller is handling an exception (or has finished). -/
def Pc.excPath : Pc → Bool
  | .excW _ => true
  | p => p.inExc

/-- The first `dispatch_one_batch` of `_start` has not reached the lock yet. -/
def Pc.firstPhase : Pc → Bool
  | .dPre .first | .dBs .first | .dAcq .first _ => true
  | _ => false

/-- After the first `dispatch_one_batch` returned False, or after `self._iterating = … is not None` was executed. -/
def Pc.afterFirst : Pc → Bool
  | .dIn _ | .dSubmit .first _ | .dRel .first true | .itAcq => false
  | p => !(p.preDispatch || p.firstPhase)

/-- After `self._original_iterator = …` in `__call__`. -/
def Pc.pastWOrig : Pc → Bool
  | .resetAcq | .resetRel | .wNDisp | .wNComp | .wExc0 | .wAbort0 | .readyAcq | .readyRel | .wOrig => false
  | _ => true

/-- After the `while self.dispatch_one_batch(iterator)` loop of `_start`. -/
def Pc.postLoop : Pc → Bool
  | .dPre _ | .dBs _ | .dAcq _ _ | .dIn _ | .dSubmit _ _ | .dRel .first _ | .dRel .loop true | .itAcq | .itRel => false
  | p => !p.preDispatch

/-- The callback thread is inside `dispatch_next` (it owns the lock and saw `_original_iterator is not None`). -/
def CbPc.inNext : CbPc → Bool
  | .bsC | .submitC _ => true
  | _ => false

/-- The normal exit of the retrieval loop has been taken. -/
def Pc.exiting : Pc → Bool
  | .finExc none | .finJobsR none | .finJobsW none _ | .tailStatus _ _ => true
  | _ => false

/-- `self._jobs` has not been rebound yet. -/
def Pc.beforeFinW : Pc → Bool
  | .finJobsW _ _ | .tailStatus _ _ | .done => false
  | _ => true

/-- The index below which every tracker has been read by the consumer: `ReadInv` speaks of the trackers `j < unread s`
(done, their values are the output), `ResInv` of those with `unread s ≤ j` (their results are still there). -/
def unread (s : St) : Nat :=
  match s.pc with
  | .popRel _ | .resStatus _ => s.nPop - 1
  | .tailStatus i _ => i
  | _ => s.nPop

/-- Up to the lock acquisition of the first `dispatch_one_batch` the caller is on none of the later paths. -/
theorem Pc.early {p : Pc} (h : p.preDispatch = true ∨ p.firstPhase = true) :
    p.excPath = false ∧ p.inExc = false ∧ p.inAbort = false ∧ p.afterFirst = false ∧ p.postLoop = false := by
  have hb : (p.preDispatch || p.firstPhase) = true := by simpa using h
  have : ((p.preDispatch || p.firstPhase) &&
      (p.excPath || p.inExc || p.inAbort || p.afterFirst || p.postLoop)) = false := by
    cases p with
    | dPre k | dBs k | dAcq k _ => cases k <;> rfl
    | _ => rfl
  rw [hb, Bool.true_and] at this
  simpa [and_assoc] using this

theorem unread_early {s : St} (h : s.pc.preDispatch = true ∨ s.pc.firstPhase = true) : unread s = s.nPop := by
  unfold unread
  split <;> first | rfl | (rename_i hpc; rw [hpc] at h; rcases h with h | h <;> cases h)

/-- Nothing was ever dispatched and nothing ever will be: the input was empty. -/
def Stuck (s : St) : Prop := allItems s = [] ∧ s.ready = [] ∧ s.srcDead = true

/-- Every batch has been counted as completed and its callback is past `dispatch_next`. -/
def Quiet (s : St) : Prop := ∀ t ∈ s.trk, t.items ≠ [] → t.pc = .relC ∨ t.pc = .done true

/-- The retrieval loop has been left normally and nothing can be dispatched any more. -/
def Exited (s : St) : Prop := Quiet s ∧ (s.origAlive = false ∨ Stuck s)

/-- No tracker for an error of the input iterable. -/
def NoErr (s : St) : Prop := ∀ t ∈ s.trk, t.items ≠ []

/-- Error flags versus tracker statuses. -/
structure FlagInv (s : St) : Prop where
  errFlags : ∀ t ∈ s.trk, t.status = .error → s.aborting = true ∧ s.exception = true
  aborting : s.aborting = true → (∃ t ∈ s.trk, t.status = .error) ∨ s.pc.inAbort = true
  exception : s.exception = true → (∃ t ∈ s.trk, t.status = .error) ∨ s.pc.inExc = true
  raised : s.srcRaised = true → ∃ t ∈ s.trk, t.items = []

/-- Registered results. -/
structure ResInv (c : Cfg) (s : St) : Prop where
  done : s.pc.excPath = false → ∀ j, unread s ≤ j → j < s.trk.length → (getT s.trk j).status = .done →
    (getT s.trk j).result = .vals (getT s.trk j).items
  error : s.pc.excPath = false → ∀ j, unread s ≤ j → j < s.trk.length → (getT s.trk j).status = .error →
    ∃ e, (getT s.trk j).result = .exc e ∧ LegitErr c e

/-- The popped prefix, the output and `_jobs`. -/
structure ReadInv (s : St) : Prop where
  prefixDone : s.pc.excPath = false → ∀ j, j < unread s → j < s.trk.length → (getT s.trk j).status = .done
  out : s.pc.excPath = false → s.out = ((s.trk.take (unread s)).map (·.items)).flatten
  nPopLe : s.nPop ≤ s.trk.length
  jobs : s.pc.beforeFinW = true → s.jobs = List.range' s.nPop (s.trk.length - s.nPop)

/-- `_iterating` and `_original_iterator`. -/
structure IterInv (c : Cfg) (s : St) : Prop where
  allMode : c.pdMode = 1 → s.origAlive = false
  allPre : c.pdMode = 1 → s.pc.pastWOrig = true → s.preLeft = none
  afterFirst : s.pc.afterFirst = true → s.iterating = false → s.origAlive = false ∨ Stuck s
  origDead : s.aborting = false → s.pc.pastWOrig = true → c.pdMode ≠ 1 → s.origAlive = false →
    s.ready = [] ∧ s.srcDead = true
  allDead : s.aborting = false → c.pdMode = 1 → s.pc.postLoop = true → s.ready = [] ∧ s.srcDead = true
  bsC : ∀ t ∈ s.trk, t.pc.inNext = true → s.origAlive = true

/-- The set-up of `__call__` has run up to the first `dispatch_one_batch`. -/
def Pre0 (c : Cfg) (s : St) : Prop :=
  (c.pdMode = 1 → s.preLeft = none) ∧ (c.pdMode ≠ 1 → s.origAlive = true ∧ s.preLeft = some c.pd)

def First (c : Cfg) (s : St) : Prop :=
  Fresh s ∧ s.iterating = false ∧ s.aborting = false ∧ s.exception = false ∧ Pre0 c s

/-- What the caller knows at its current program point (facts about its locals and about what it has observed). -/
def LocOK (c : Cfg) (s : St) : Prop :=
  match s.pc with
  | .resetAcq => s.running = false
  | .wAbort0 => s.exception = false
  | .readyAcq | .readyRel | .wOrig => s.aborting = false ∧ s.exception = false
  | .wIter0 => s.aborting = false ∧ s.exception = false ∧ Pre0 c s
  | .dPre .first | .dBs .first => First c s
  | .dAcq .first bs => First c s ∧ 1 ≤ bs
  | .dAcq .loop bs => 1 ≤ bs
  | .wIterAll => c.pdMode = 1
  | .refAcq => s.aborting = true
  | .wtNComp => s.origAlive = false ∨ Stuck s
  | .wtNDisp nc => (s.origAlive = false ∨ Stuck s) ∧ nc ≤ s.nCompleted
  | .wtAbort2 => Exited s
  | .rtHead => s.nPop < s.trk.length
  | .rtStatus i => i = s.nPop ∧ i < s.trk.length
  | .popAcq => s.nPop < s.trk.length ∧ (getT s.trk s.nPop).status ≠ .pending
  | .popRel i | .resStatus i => i + 1 = s.nPop ∧ i < s.trk.length ∧ (getT s.trk i).status ≠ .pending
  | .refRel none => False
  | .refRel (some i) | .refStatus i => s.nPop ≤ i ∧ i < s.trk.length ∧ (getT s.trk i).status = .error
  | .excW e | .abortW e | .abortCall e | .finExc (some e) | .finJobsR (some e) | .finJobsW (some e) _ => LegitErr c e
  | .finExc none | .finJobsR none => Exited s ∧ (Safe c → NoErr s)
  | .finJobsW none rem => Exited s ∧ (Safe c → NoErr s) ∧
      (rem = [] ∨ rem = List.range' s.nPop (s.trk.length - s.nPop)) ∧
      (Safe c → rem = List.range' s.nPop (s.trk.length - s.nPop))
  | .tailStatus i rem => Exited s ∧ (Safe c → NoErr s) ∧ i :: rem = List.range' i (s.trk.length - i)
  | _ => True

/-- What holds once the call has returned the list `l` (stable under the remaining steps of the other threads). -/
def Final (c : Cfg) (s : St) (l : List Nat) : Prop :=
  Exited s ∧ (Safe c → l = List.range' 0 c.n ∧ NoErr s ∧ allItems s = List.range' 0 c.n ∧
    s.srcDead = true ∧ s.srcRaised = false)

/-- The outcome of the call. -/
structure OutInv (c : Cfg) (s : St) : Prop where
  ret : ∀ l, s.outcome = some (.ret l) → Final c s l
  raised : ∀ e, s.outcome = some (.raised e) → LegitErr c e
  noOutcome : s.pc ≠ .done → s.outcome = none

structure Inv2 (c : Cfg) (s : St) : Prop where
  F : FlagInv s
  R : ResInv c s
  D : ReadInv s
  I : IterInv c s
  L : LocOK c s      -- what the caller knows at its pc (not `Inv.L`, the lock discipline)
  O : OutInv c s

theorem inv2_init (c : Cfg) : Inv2 c init := by
  refine ⟨⟨?_, ?_, ?_, ?_⟩, ⟨?_, ?_⟩, ⟨?_, ?_, ?_, ?_⟩, ⟨?_, ?_, ?_, ?_, ?_, ?_⟩, ?_, ⟨?_, ?_, ?_⟩⟩ <;>
    simp [init, unread, LocOK, Pc.excPath, Pc.inExc, Pc.inAbort, Pc.afterFirst, Pc.preDispatch, Pc.firstPhase,
      Pc.pastWOrig, Pc.postLoop, Pc.beforeFinW]

/-- At a constructor `LocOK` reduces by computation: what the caller knows at `p` is read off `h.at hpc` without
unfolding the definition. -/
theorem LocOK.at {c : Cfg} {s : St} {p : Pc} (h : LocOK c s) (hpc : s.pc = p) : LocOK c { s with pc := p } := by
  subst hpc; exact h

/-- How a caller step may change the tracker table. -/
structure TrkRel (s s' : St) : Prop where
  len : s'.trk.length = s.trk.length
  st : ∀ j, (getT s'.trk j).status = (getT s.trk j).status
  it : ∀ j, (getT s'.trk j).items = (getT s.trk j).items
  pc : ∀ j, (getT s'.trk j).pc = (getT s.trk j).pc ∨
    ((getT s.trk j).pc = .parked ∧ (getT s'.trk j).pc = .dropped) ∨
    ((getT s.trk j).pc = .idle ∧ (getT s'.trk j).pc = .parked)

theorem TrkRel.refl (s : St) : TrkRel s s := ⟨rfl, fun _ => rfl, fun _ => rfl, fun _ => Or.inl rfl⟩

theorem TrkRel.of_eq {s s' : St} (h : s'.trk = s.trk) : TrkRel s s' :=
  ⟨by rw [h], fun _ => by rw [h], fun _ => by rw [h], fun _ => Or.inl (by rw [h])⟩

theorem TrkRel.congr {s0 s1 s s' : St} (r : TrkRel s0 s1) (h0 : s.trk = s0.trk) (h1 : s'.trk = s1.trk) : TrkRel s s' :=
  ⟨by rw [h0, h1]; exact r.len, fun j => by rw [h0, h1]; exact r.st j, fun j => by rw [h0, h1]; exact r.it j,
    fun j => by rw [h0, h1]; exact r.pc j⟩

theorem TrkRel.trans_eq {s s1 s' : St} (r : TrkRel s s1) (h : s'.trk = s1.trk) : TrkRel s s' := r.congr rfl h

theorem TrkRel.tail {c : Cfg} {s s1 : St} (r : TrkRel s s1) (rem : List Nat) : TrkRel s (tailNext c s1 rem) := by
  cases rem with
  | nil => exact r.trans_eq (finishRet_trk c s1)
  | cons i rest => exact r.trans_eq rfl

theorem map_items_eq {l l' : List Tracker} (hlen : l'.length = l.length)
    (hit : ∀ j, (getT l' j).items = (getT l j).items) : l'.map (·.items) = l.map (·.items) := by
  apply List.ext_getElem
  · simp [hlen]
  · intro j h1 h2
    simp only [List.length_map] at h1 h2
    have := hit j
    simp only [getT, List.getD_eq_getElem?_getD, List.getElem?_eq_getElem h1, List.getElem?_eq_getElem h2,
      Option.getD_some] at this
    simpa using this

theorem TrkRel.mapItems {s s' : St} (r : TrkRel s s') : s'.trk.map (·.items) = s.trk.map (·.items) :=
  map_items_eq r.len r.it

theorem TrkRel.allItems {s s' : St} (r : TrkRel s s') : allItems s' = allItems s := by
  simp only [JoblibModel.ParallelLock.allItems, r.mapItems]

theorem TrkRel.mem {s s' : St} (r : TrkRel s s') {t' : Tracker} (h : t' ∈ s'.trk) :
    ∃ j, j < s.trk.length ∧ getT s'.trk j = t' ∧ getT s.trk j ∈ s.trk := by
  obtain ⟨j, hj, e⟩ := (mem_iff_getT _ _).mp h
  rw [r.len] at hj
  exact ⟨j, hj, e, getT_mem _ _ hj⟩

theorem TrkRel.mem' {s s' : St} (r : TrkRel s s') {t : Tracker} (h : t ∈ s.trk) :
    ∃ j, j < s.trk.length ∧ getT s.trk j = t ∧ getT s'.trk j ∈ s'.trk := by
  obtain ⟨j, hj, e⟩ := (mem_iff_getT _ _).mp h
  exact ⟨j, hj, e, getT_mem _ _ (by rw [r.len]; exact hj)⟩

theorem TrkRel.quiet {s s' : St} (r : TrkRel s s') (h : Quiet s) : Quiet s' := by
  intro t' ht' hne
  obtain ⟨j, hj, e, hm⟩ := r.mem ht'
  subst e
  rw [r.it] at hne
  rcases h _ hm hne with h1 | h1
  · rcases r.pc j with h3 | ⟨h3, _⟩ | ⟨h3, _⟩
    · exact Or.inl (by rw [h3]; exact h1)
    · rw [h1] at h3; cases h3
    · rw [h1] at h3; cases h3
  · rcases r.pc j with h3 | ⟨h3, _⟩ | ⟨h3, _⟩
    · exact Or.inr (by rw [h3]; exact h1)
    · rw [h1] at h3; cases h3
    · rw [h1] at h3; cases h3

theorem TrkRel.noErr {s s' : St} (r : TrkRel s s') (h : NoErr s) : NoErr s' := by
  intro t' ht'
  obtain ⟨j, hj, e, hm⟩ := r.mem ht'
  subst e
  rw [r.it]; exact h _ hm

theorem TrkRel.stuck {s s' : St} (r : TrkRel s s') (e2 : s'.ready = s.ready) (e3 : s'.srcDead = s.srcDead)
    (h : Stuck s) : Stuck s' := by
  unfold Stuck at *
  rw [r.allItems, e2, e3]; exact h

theorem TrkRel.exited {s s' : St} (r : TrkRel s s') (e2 : s'.ready = s.ready) (e3 : s'.srcDead = s.srcDead)
    (e4 : s'.origAlive = s.origAlive) (h : Exited s) : Exited s' := by
  refine ⟨r.quiet h.1, ?_⟩
  rw [e4]
  rcases h.2 with h1 | h1
  · exact Or.inl h1
  · exact Or.inr (r.stuck e2 e3 h1)

/-- Premises by prefix: `e_` an unchanged field; `t_` the tracker results still to be read; `a_` / `x_` the flags
`_aborting` / `_exception` (`_up`: kept, `_new`: accounted for); `c_` a phase classifier of the caller's pc; `r_` the read
side (`unread`, the output, `_jobs`); `o_` the outcome.  Special cases: `kMove` (fields equal: `Core2Eq`; the unguarded
classifier premises packed into `Pc.monoK`) ← `flagMove` (`Pc.mono2`: also the side of `_start` and `unread` kept) ←
`plainMove` (the flags equal too); `lateMove` (after `_start`: `Pc.late2`; the table may change along `TrkRel`) ← `excMove`
(onto the exception path); `finish` (to `done`). -/
theorem Inv2.move {c : Cfg} {s s' : St} (h2 : Inv2 c s) (r : TrkRel s s')
    (e_dead : s'.srcDead = s.srcDead) (e_raised : s'.srcRaised = s.srcRaised) (e_ready : s'.ready = s.ready)
    (e_orig : s'.origAlive = s.origAlive) (e_pre : s'.preLeft = s.preLeft)
    (t_res : s'.pc.excPath = false → ∀ j, unread s' ≤ j → (getT s'.trk j).result = (getT s.trk j).result)
    (a_up : s.aborting = true → s'.aborting = true)
    (a_new : s'.aborting = true → s.aborting = true ∨ s'.pc.inAbort = true)
    (x_up : s.exception = true → s'.exception = true)
    (x_new : s'.exception = true → s.exception = true ∨ s'.pc.inExc = true)
    (c_abort : s.pc.inAbort = true → s'.pc.inAbort = true)
    (c_exc : s.pc.inExc = true → s'.pc.inExc = true)
    (c_path : s'.pc.excPath = false → s.pc.excPath = false)
    (c_unread : s'.pc.excPath = false → unread s ≤ unread s')
    (r_prefix : s'.pc.excPath = false → ∀ j, unread s ≤ j → j < unread s' → j < s.trk.length →
      (getT s.trk j).status = .done)
    (r_out : s'.pc.excPath = false → s'.out = ((s.trk.take (unread s')).map (·.items)).flatten)
    (r_npop : s'.nPop ≤ s.trk.length)
    (r_jobs : s'.pc.beforeFinW = true → s'.jobs = List.range' s'.nPop (s.trk.length - s'.nPop))
    (c_first : s'.pc.afterFirst = true → s'.iterating = false →
      (s.pc.afterFirst = true ∧ s.iterating = false) ∨ s.origAlive = false ∨ Stuck s)
    (c_orig : s'.pc.pastWOrig = true → s.pc.pastWOrig = true)
    (c_loop : s'.pc.postLoop = true → s.aborting = false → c.pdMode = 1 →
      s.pc.postLoop = true ∨ (s.ready = [] ∧ s.srcDead = true))
    (o_ret : ∀ l, s'.outcome = some (.ret l) → s.outcome = some (.ret l) ∨ Final c s l)
    (o_raised : ∀ e, s'.outcome = some (.raised e) → s.outcome = some (.raised e) ∨ LegitErr c e)
    (o_none : s'.pc ≠ .done → s'.outcome = none)
    (hloc : LocOK c s') : Inv2 c s' := by
  have a_dn : s'.aborting = false → s.aborting = false := by
    intro h1; cases h3 : s.aborting with
    | false => rfl
    | true => rw [a_up h3] at h1; cases h1
  have herr : (∃ t ∈ s.trk, t.status = .error) → ∃ t ∈ s'.trk, t.status = .error := by
    rintro ⟨t, ht, hs⟩
    obtain ⟨j, hj, e, hm⟩ := r.mem' ht
    exact ⟨_, hm, by rw [r.st, e]; exact hs⟩
  refine ⟨⟨?_, ?_, ?_, ?_⟩, ⟨?_, ?_⟩, ⟨?_, ?_, ?_, ?_⟩, ⟨?_, ?_, ?_, ?_, ?_, ?_⟩, hloc, ⟨?_, ?_, o_none⟩⟩
  · intro t' ht' hs
    obtain ⟨j, hj, e, hm⟩ := r.mem ht'
    subst e
    rw [r.st] at hs
    obtain ⟨h1, h3⟩ := h2.F.errFlags _ hm hs
    exact ⟨a_up h1, x_up h3⟩
  · intro ha
    rcases a_new ha with ha | ha
    · rcases h2.F.aborting ha with h | h
      · exact Or.inl (herr h)
      · exact Or.inr (c_abort h)
    · exact Or.inr ha
  · intro ha
    rcases x_new ha with ha | ha
    · rcases h2.F.exception ha with h | h
      · exact Or.inl (herr h)
      · exact Or.inr (c_exc h)
    · exact Or.inr ha
  · rw [e_raised]; intro hr
    obtain ⟨t, ht, hs⟩ := h2.F.raised hr
    obtain ⟨j, hj, e, hm⟩ := r.mem' ht
    exact ⟨_, hm, by rw [r.it, e]; exact hs⟩
  · intro hp j hj hl hs
    rw [r.len] at hl; rw [r.st] at hs
    rw [t_res hp j hj, r.it]
    exact h2.R.done (c_path hp) j (Nat.le_trans (c_unread hp) hj) hl hs
  · intro hp j hj hl hs
    rw [r.len] at hl; rw [r.st] at hs
    rw [t_res hp j hj]
    exact h2.R.error (c_path hp) j (Nat.le_trans (c_unread hp) hj) hl hs
  · intro hp j hj hl
    rw [r.len] at hl; rw [r.st]
    by_cases hju : j < unread s
    · exact h2.D.prefixDone (c_path hp) j hju hl
    · exact r_prefix hp j (Nat.le_of_not_lt hju) hj hl
  · intro hp
    rw [r_out hp, List.map_take, List.map_take, r.mapItems]
  · rw [r.len]; exact r_npop
  · intro hp; rw [r.len]; exact r_jobs hp
  · rw [e_orig]; exact h2.I.allMode
  · intro hm hp; rw [e_pre]; exact h2.I.allPre hm (c_orig hp)
  · intro hp hi
    rw [e_orig]
    rcases c_first hp hi with h | h | h
    · rcases h2.I.afterFirst h.1 h.2 with h' | h'
      · exact Or.inl h'
      · exact Or.inr (r.stuck e_ready e_dead h')
    · exact Or.inl h
    · exact Or.inr (r.stuck e_ready e_dead h)
  · intro ha hp hm ho
    rw [e_orig] at ho; rw [e_ready, e_dead]
    exact h2.I.origDead (a_dn ha) (c_orig hp) hm ho
  · intro ha hm hp
    rw [e_ready, e_dead]
    rcases c_loop hp (a_dn ha) hm with h | h
    · exact h2.I.allDead (a_dn ha) hm h
    · exact h
  · intro t' ht' hb
    obtain ⟨j, hj, e, hm⟩ := r.mem ht'
    subst e
    rw [e_orig]
    rcases r.pc j with h3 | ⟨_, h3⟩ | ⟨_, h3⟩
    · exact h2.I.bsC _ hm (by rw [← h3]; exact hb)
    · rw [h3] at hb; cases hb
    · rw [h3] at hb; cases hb
  · intro l hl
    have hfin : Final c s l := by
      rcases o_ret l hl with h | h
      · exact h2.O.ret l h
      · exact h
    refine ⟨r.exited e_ready e_dead e_orig hfin.1, fun hs => ?_⟩
    obtain ⟨g1, g2, g3, g4, g5⟩ := hfin.2 hs
    exact ⟨g1, r.noErr g2, by rw [r.allItems]; exact g3, by rw [e_dead]; exact g4, by rw [e_raised]; exact g5⟩
  · intro x hx
    rcases o_raised x hx with h | h
    · exact h2.O.raised x h
    · exact h

/-- `s'` agrees with `s` on every field the generic parts of `Inv2` mention, except the caller's pc. -/
structure Core2Eq (s s' : St) : Prop where
  out : s'.out = s.out
  outcome : s'.outcome = s.outcome
  srcDead : s'.srcDead = s.srcDead
  srcRaised : s'.srcRaised = s.srcRaised
  origAlive : s'.origAlive = s.origAlive
  ready : s'.ready = s.ready
  jobs : s'.jobs = s.jobs
  trk : s'.trk = s.trk
  nPop : s'.nPop = s.nPop
  preLeft : s'.preLeft = s.preLeft

theorem Stuck.congr {s s' : St} (h : Stuck s) (e1 : s'.trk = s.trk) (e2 : s'.ready = s.ready)
    (e3 : s'.srcDead = s.srcDead) : Stuck s' := by
  unfold Stuck at *
  rw [allItems_of_trk e1, e2, e3]; exact h

/-- `unread` is `nPop` at this point. -/
def Pc.plainUnread : Pc → Bool
  | .popRel _ | .resStatus _ | .tailStatus _ _ => false
  | _ => true

theorem unread_plain {s : St} (h : s.pc.plainUnread = true) : unread s = s.nPop := by
  unfold unread
  split <;> first | rfl | (rename_i hp; rw [hp] at h; cases h)

def Pc.monoK (p p' : Pc) : Bool :=
  (!p.inAbort || p'.inAbort) && (!p.inExc || p'.inExc) && (!p.excPath || p'.excPath) &&
  (!p'.beforeFinW || p.beforeFinW) && (!p'.pastWOrig || p.pastWOrig) && p != .done

def Pc.mono2 (p p' : Pc) : Bool :=
  p.monoK p' && (!p'.afterFirst || p.afterFirst) && (!p'.postLoop || p.postLoop) && p.plainUnread && p'.plainUnread

/-- What `Inv2` reads of a state besides the caller's pc and the two error flags. -/
def core2Of (s : St) :=
  (s.out, s.outcome, s.srcDead, s.srcRaised, s.origAlive, s.ready, s.jobs, s.trk, s.nPop, s.preLeft, s.iterating)

theorem Inv2.kMove {c : Cfg} {s s' : St} (h2 : Inv2 c s) (e : Core2Eq s s') (hk : s.pc.monoK s'.pc = true)
    (a_up : s.aborting = true → s'.aborting = true)
    (a_new : s'.aborting = true → s.aborting = true ∨ s'.pc.inAbort = true)
    (x_up : s.exception = true → s'.exception = true)
    (x_new : s'.exception = true → s.exception = true ∨ s'.pc.inExc = true)
    (c_unread : unread s' = unread s)
    (c_first : s'.pc.afterFirst = true → s'.iterating = false →
      (s.pc.afterFirst = true ∧ s.iterating = false) ∨ s.origAlive = false ∨ Stuck s)
    (c_loop : s'.pc.postLoop = true → s.aborting = false → c.pdMode = 1 →
      s.pc.postLoop = true ∨ (s.ready = [] ∧ s.srcDead = true))
    (hloc : LocOK c s') : Inv2 c s' := by
  simp only [Pc.monoK, Bool.and_eq_true, Bool.or_eq_true, Bool.not_eq_true', bne_iff_ne, ne_eq] at hk
  obtain ⟨⟨⟨⟨⟨m1, m2⟩, m3⟩, m4⟩, m5⟩, m10⟩ := hk
  have imp : ∀ {a b : Bool}, a = false ∨ b = true → a = true → b = true := fun h ha => h.resolve_left (by simp [ha])
  have c_path : s'.pc.excPath = false → s.pc.excPath = false := fun h => by
    cases hp : s.pc.excPath with
    | false => rfl
    | true => rw [imp m3 hp] at h; cases h
  obtain ⟨e1, e2, e3, e4, e5, e6, e7, e8, e12, e13⟩ := e
  refine h2.move (TrkRel.of_eq e8) e3 e4 e6 e5 e13 (fun _ j _ => by rw [e8]) a_up a_new x_up x_new (imp m1) (imp m2) c_path
    (fun _ => Nat.le_of_eq c_unread.symm) ?_ ?_ ?_ ?_ c_first (imp m5) c_loop ?_ ?_ ?_ hloc
  · intro hp j h1 h3; rw [c_unread] at h3; omega
  · intro hp; rw [e1, c_unread]; exact h2.D.out (c_path hp)
  · rw [e12]; exact h2.D.nPopLe
  · intro hp; rw [e7, e12]; exact h2.D.jobs (imp m4 hp)
  · intro l hl; rw [e2] at hl; exact Or.inl hl
  · intro x hx; rw [e2] at hx; exact Or.inl hx
  · intro _; rw [e2]; exact h2.O.noOutcome m10

/-- A move of the caller that may raise `_aborting` / `_exception`. -/
theorem Inv2.flagMove {c : Cfg} {s s' : St} (h2 : Inv2 c s) (e : core2Of s' = core2Of s)
    (hm : s.pc.mono2 s'.pc = true)
    (a_up : s.aborting = true → s'.aborting = true)
    (a_new : s'.aborting = true → s.aborting = true ∨ s'.pc.inAbort = true)
    (x_up : s.exception = true → s'.exception = true)
    (x_new : s'.exception = true → s.exception = true ∨ s'.pc.inExc = true)
    (hloc : LocOK c s') : Inv2 c s' := by
  simp only [core2Of, Prod.mk.injEq] at e
  obtain ⟨e1, e2, e3, e4, e5, e6, e7, e8, e9, e10, ei⟩ := e
  simp only [Pc.mono2, Bool.and_eq_true, Bool.or_eq_true, Bool.not_eq_true'] at hm
  obtain ⟨⟨⟨⟨hk, m6⟩, m7⟩, m8⟩, m9⟩ := hm
  have imp : ∀ {a b : Bool}, a = false ∨ b = true → a = true → b = true := fun h ha => h.resolve_left (by simp [ha])
  exact h2.kMove ⟨e1, e2, e3, e4, e5, e6, e7, e8, e9, e10⟩ hk a_up a_new x_up x_new
    (by rw [unread_plain m8, unread_plain m9, e9])
    (fun h hi => Or.inl ⟨imp m6 h, by rw [← ei]; exact hi⟩) (fun h _ _ => Or.inl (imp m7 h)) hloc

theorem Inv2.plainMove {c : Cfg} {s s' : St} (h2 : Inv2 c s)
    (e : (core2Of s', s'.aborting, s'.exception) = (core2Of s, s.aborting, s.exception))
    (hm : s.pc.mono2 s'.pc = true) (hloc : LocOK c s') : Inv2 c s' := by
  simp only [Prod.mk.injEq] at e
  obtain ⟨e0, ea, ex⟩ := e
  exact h2.flagMove e0 hm (fun h => by rw [ea]; exact h) (fun h => Or.inl (by rw [← ea]; exact h))
    (fun h => by rw [ex]; exact h) (fun h => Or.inl (by rw [← ex]; exact h)) hloc

/-- `_start` is over: the caller is in the retrieval loop, on the exception path or in the `finally` block. -/
def Pc.late (p : Pc) : Bool := p.afterFirst && p.pastWOrig && p.postLoop

/-- A move `p → p'` inside that phase, not starting at `done`. -/
def Pc.late2 (p p' : Pc) : Bool :=
  p.late && p'.late && (!p.inAbort || p'.inAbort) && (!p.inExc || p'.inExc) && (!p.excPath || p'.excPath) &&
  (!p'.beforeFinW || p.beforeFinW) && p != .done

def late2Of (s : St) := (s.srcDead, s.srcRaised, s.ready, s.origAlive, s.preLeft, s.aborting, s.exception, s.iterating)

theorem Inv2.lateMove {c : Cfg} {s s' : St} (h2 : Inv2 c s) (r : TrkRel s s') (e : late2Of s' = late2Of s)
    (eo : s'.outcome = s.outcome) (hm : s.pc.late2 s'.pc = true)
    (t_res : s'.pc.excPath = false → ∀ j, unread s' ≤ j → (getT s'.trk j).result = (getT s.trk j).result)
    (c_unread : s'.pc.excPath = false → unread s ≤ unread s')
    (r_prefix : s'.pc.excPath = false → ∀ j, unread s ≤ j → j < unread s' → j < s.trk.length →
      (getT s.trk j).status = .done)
    (r_out : s'.pc.excPath = false → s'.out = ((s.trk.take (unread s')).map (·.items)).flatten)
    (r_npop : s'.nPop ≤ s.trk.length)
    (r_jobs : s'.pc.beforeFinW = true → s'.jobs = List.range' s'.nPop (s.trk.length - s'.nPop))
    (hloc : LocOK c s') : Inv2 c s' := by
  simp only [late2Of, Prod.mk.injEq] at e
  obtain ⟨e1, e2, e3, e4, e5, ea, ex, ei⟩ := e
  simp only [Pc.late2, Pc.late, Bool.and_eq_true, Bool.or_eq_true, Bool.not_eq_true', bne_iff_ne, ne_eq] at hm
  obtain ⟨⟨⟨⟨⟨⟨⟨⟨l1, l2⟩, l3⟩, ⟨⟨l4, l5⟩, l6⟩⟩, m1⟩, m2⟩, m3⟩, -⟩, m10⟩ := hm
  have imp : ∀ {a b : Bool}, a = false ∨ b = true → a = true → b = true := fun h ha => h.resolve_left (by simp [ha])
  exact h2.move r e1 e2 e3 e4 e5 t_res (fun h => by rw [ea]; exact h) (fun h => Or.inl (by rw [← ea]; exact h))
    (fun h => by rw [ex]; exact h) (fun h => Or.inl (by rw [← ex]; exact h)) (imp m1) (imp m2)
    (fun h => by cases hp : s.pc.excPath with
      | false => rfl
      | true => rw [imp m3 hp] at h; cases h)
    c_unread r_prefix r_out r_npop r_jobs (fun _ hi => Or.inl ⟨l1, by rw [← ei]; exact hi⟩) (fun _ => l2)
    (fun _ _ _ => Or.inl l3) (fun l hl => Or.inl (by rw [← eo]; exact hl)) (fun x hx => Or.inl (by rw [← eo]; exact hx))
    (fun _ => by rw [eo]; exact h2.O.noOutcome m10) hloc

theorem Inv2.excMove {c : Cfg} {s s' : St} (h2 : Inv2 c s) (r : TrkRel s s') (e : late2Of s' = late2Of s)
    (e2 : (s'.outcome, s'.nPop, s'.jobs) = (s.outcome, s.nPop, s.jobs)) (hm : s.pc.late2 s'.pc = true)
    (hx : s'.pc.excPath = true) (hloc : LocOK c s') : Inv2 c s' := by
  simp only [Prod.mk.injEq] at e2
  have hb : s'.pc.beforeFinW = true → s.pc.beforeFinW = true := by
    simp only [Pc.late2, Bool.and_eq_true, Bool.or_eq_true, Bool.not_eq_true'] at hm
    exact fun h => hm.1.2.resolve_left (by simp [h])
  exact h2.lateMove r e e2.1 hm (fun h => by rw [hx] at h; cases h) (fun h => by rw [hx] at h; cases h)
    (fun h => by rw [hx] at h; cases h) (fun h => by rw [hx] at h; cases h) (by rw [e2.2.1]; exact h2.D.nPopLe)
    (fun h => by rw [e2.2.1, e2.2.2]; exact h2.D.jobs (hb h)) hloc

theorem Inv2.finish {c : Cfg} {s s' : St} (h2 : Inv2 c s) (r : TrkRel s s') (e : late2Of s' = late2Of s)
    (hp : s.pc.late = true) (hd : s'.pc = .done) (r_npop : s'.nPop ≤ s.trk.length)
    (o_ret : ∀ l, s'.outcome = some (.ret l) → Final c s l)
    (o_raised : ∀ x, s'.outcome = some (.raised x) → LegitErr c x) : Inv2 c s' := by
  simp only [late2Of, Prod.mk.injEq] at e
  obtain ⟨e1, e2, e3, e4, e5, ea, ex, ei⟩ := e
  simp only [Pc.late, Bool.and_eq_true] at hp
  have hx : s'.pc.excPath = true := by rw [hd]; rfl
  exact h2.move r e1 e2 e3 e4 e5 (fun h => by rw [hx] at h; cases h) (fun h => by rw [ea]; exact h)
    (fun h => Or.inl (by rw [← ea]; exact h)) (fun h => by rw [ex]; exact h) (fun h => Or.inl (by rw [← ex]; exact h))
    (fun _ => by rw [hd]; rfl) (fun _ => by rw [hd]; rfl) (fun h => by rw [hx] at h; cases h)
    (fun h => by rw [hx] at h; cases h) (fun h => by rw [hx] at h; cases h) (fun h => by rw [hx] at h; cases h) r_npop
    (fun h => by rw [hd] at h; cases h) (fun _ hi => Or.inl ⟨hp.1.1, by rw [← ei]; exact hi⟩) (fun _ => hp.1.2)
    (fun _ _ _ => Or.inl hp.2) (fun l hl => Or.inr (o_ret l hl)) (fun x hx => Or.inr (o_raised x hx))
    (fun h => absurd hd h) (by unfold LocOK; rw [hd]; trivial)

/-- Before anything was dispatched (`Fresh`) `Inv2` only says what the set-up of `__call__` has done. -/
theorem Inv2.ofFresh {c : Cfg} {s : St} (hf : Fresh s) (hp : s.pc.preDispatch = true ∨ s.pc.firstPhase = true)
    (ha : s.aborting = false) (hx : s.exception = false) (ho : s.outcome = none)
    (hm : c.pdMode = 1 → s.origAlive = false)
    (hpre : c.pdMode = 1 → s.pc.pastWOrig = true → s.preLeft = none)
    (hor : s.pc.pastWOrig = true → c.pdMode ≠ 1 → s.origAlive = true)
    (hloc : LocOK c s) : Inv2 c s := by
  obtain ⟨-, -, -, hnaf, hnpl⟩ := Pc.early hp
  have hun := unread_early hp
  refine ⟨⟨?_, ?_, ?_, ?_⟩, ⟨?_, ?_⟩, ⟨?_, ?_, ?_, ?_⟩, ⟨hm, hpre, ?_, ?_, ?_, ?_⟩, hloc, ⟨?_, ?_, ?_⟩⟩
  · rw [hf.trk]; simp
  · rw [ha]; simp
  · rw [hx]; simp
  · rw [hf.src.2.2]; simp
  · intro _ j _ hj; rw [hf.trk] at hj; simp at hj
  · intro _ j _ hj; rw [hf.trk] at hj; simp at hj
  · intro _ j _ hj; rw [hf.trk] at hj; simp at hj
  · intro _; rw [hun, hf.jobs.2.1, hf.jobs.2.2, hf.trk]; rfl
  · rw [hf.jobs.2.1]; exact Nat.zero_le _
  · intro _; rw [hf.jobs.1, hf.jobs.2.1, hf.trk]; rfl
  · intro h; rw [hnaf] at h; cases h
  · intro _ h1 h2 h3; rw [hor h1 h2] at h3; cases h3
  · intro _ _ h; rw [hnpl] at h; cases h
  · rw [hf.trk]; simp
  · intro l hl; rw [ho] at hl; cases hl
  · intro e hl; rw [ho] at hl; cases hl
  · intro _; exact ho

theorem Inv2.pre {c : Cfg} {s : St} (h : Inv c s) (h2 : Inv2 c s) (hp : s.pc.preDispatch = true) :
    s.aborting = false ∧ s.exception = false ∧ s.outcome = none := by
  have f := h.P hp
  have hnd : s.pc ≠ .done := by intro hd; rw [hd] at hp; cases hp
  obtain ⟨-, hnx, hna, -, -⟩ := Pc.early (Or.inl hp)
  refine ⟨?_, ?_, h2.O.noOutcome hnd⟩
  · cases ha : s.aborting with
    | false => rfl
    | true =>
      rcases h2.F.aborting ha with ⟨t, ht, _⟩ | h3
      · rw [f.trk] at ht; cases ht
      · rw [hna] at h3; cases h3
  · cases ha : s.exception with
    | false => rfl
    | true =>
      rcases h2.F.exception ha with ⟨t, ht, _⟩ | h3
      · rw [f.trk] at ht; cases ht
      · rw [hnx] at h3; cases h3

theorem noErr_of_shape {c : Cfg} {s : St} (h : Inv c s) (hno : ∀ t ∈ s.trk, ¬ IsErr c t) : NoErr s := by
  intro t ht hit
  rcases (h.T t ht).shape with h1 | h1
  · exact h1.1 hit
  · exact hno t ht h1

theorem countedSum_eq_iff (l : List Tracker) :
    countedSum l = ((l.map (·.items)).flatten).length ↔ ∀ t ∈ l, t.items ≠ [] → t.pc.counted = true := by
  induction l with
  | nil => simp [countedSum]
  | cons a r ih =>
    have hr := countedSum_le r
    simp only [countedSum, List.map_cons, List.sum_cons, List.flatten_cons, List.length_append,
      List.forall_mem_cons] at hr ih ⊢
    rw [← ih]
    by_cases hne : a.items = []
    · simp [hne]
    · have : 0 < a.items.length := List.length_pos_iff.mpr hne
      cases hc : a.pc.counted with
      | true => simp [hne]
      | false => simp [hne] at hr ⊢; omega

theorem allItems_ne_nil {s : St} {t : Tracker} (ht : t ∈ s.trk) (hne : t.items ≠ []) : allItems s ≠ [] := by
  intro h
  simp only [allItems, List.flatten_eq_nil_iff, List.mem_map] at h
  exact hne (h _ ⟨t, ht, rfl⟩)

/-- The caller read `n_completed_tasks ≥ n_dispatched_tasks` (at different times) after `_iterating = False`: every
batch has been counted and no callback can dispatch any more. -/
theorem quiet_of_counts {c : Cfg} {s : St} (h : Inv c s) (h2 : Inv2 c s) {nc : Nat} (h1 : nc ≤ s.nCompleted)
    (h3 : ¬ nc < s.nDispTasks) (ho : s.origAlive = false ∨ Stuck s) : Quiet s := by
  have hle := countedSum_le s.trk
  have heq : countedSum s.trk = ((s.trk.map (·.items)).flatten).length := by
    have e1 := h.N.disp
    have e2 := h.N.comp
    simp only [allItems] at e1
    omega
  have hall := (countedSum_eq_iff s.trk).mp heq
  intro t ht hne
  have hc := hall t ht hne
  cases hp : t.pc with
  | bsC =>
    exfalso
    have hoa := h2.I.bsC t ht (by rw [hp]; rfl)
    rcases ho with ho | ho
    · rw [hoa] at ho; cases ho
    · exact allItems_ne_nil ht hne ho.1
  | submitC j =>
    exfalso
    obtain ⟨i, hi, e⟩ := (mem_iff_getT _ _).mp ht
    have hpend := h.U.cb i j hi (by rw [getTrk_def, e]; exact hp)
    have hm := getT_mem _ _ hpend.1
    have := hall _ hm hpend.2.2.2
    have e' : (getT s.trk j).pc = .idle := hpend.2.1
    rw [e'] at this
    cases this
  | relC => exact Or.inl rfl
  | done b =>
    cases b with
    | true => exact Or.inr rfl
    | false => rw [hp] at hc; cases hc
  | idle => rw [hp] at hc; cases hc
  | parked => rw [hp] at hc; cases hc
  | dropped => rw [hp] at hc; cases hc
  | acqA => rw [hp] at hc; cases hc
  | retr => rw [hp] at hc; cases hc
  | relA b => rw [hp] at hc; cases hc
  | stats => rw [hp] at hc; cases hc
  | acqC => rw [hp] at hc; cases hc

theorem quiet_done {c : Cfg} {s : St} (h : Inv c s) (hq : Quiet s) (hne : NoErr s) :
    ∀ t ∈ s.trk, t.status = .done := by
  intro t ht
  have h0 := (h.T t ht).pcst
  rcases hq t ht (hne t ht) with hp | hp <;> rw [hp] at h0 <;> exact h0

theorem returnOrRaise_done {s : St} {i : Nat} {l : List Nat} (hst : (getT s.trk i).status = .done)
    (hres : (getT s.trk i).result = .vals l) :
    returnOrRaise s i = (setTrk s i { getTrk s i with result := .none }, .ok l) := by
  unfold returnOrRaise
  simp only [getTrk_def, hres, hst]
  rfl

theorem returnOrRaise_error {s : St} {i : Nat} {e : Exc} (hst : (getT s.trk i).status = .error)
    (hres : (getT s.trk i).result = .exc e) :
    returnOrRaise s i = (setTrk s i { getTrk s i with result := .none }, .error e) := by
  unfold returnOrRaise
  simp only [getTrk_def, hres, hst]
  rfl

theorem TrkRel.setResult (s : St) (i : Nat) (r : Res) : TrkRel s (setTrk s i { getTrk s i with result := r }) := by
  refine ⟨by simp, fun j => ?_, fun j => ?_, fun j => Or.inl ?_⟩ <;>
  · simp only [setTrk_trk, getTrk_def, getT_set]
    split
    · rename_i hh; rw [hh.1]
    · rfl

theorem TrkRel.ror {s s1 : St} {i : Nat} {r : Except Exc (List Nat)} (hr : returnOrRaise s i = (s1, r)) :
    TrkRel s s1 :=
  ror_ind (P := TrkRel s) hr (.refl s) (.setResult s i .none)

theorem flatten_take_succ (l : List Tracker) (i : Nat) (hi : i < l.length) :
    ((l.take (i + 1)).map (·.items)).flatten = ((l.take i).map (·.items)).flatten ++ (getT l i).items := by
  have hg : getT l i = l[i] := by simp [getT, List.getD_eq_getElem?_getD, List.getElem?_eq_getElem hi]
  have hi' : i < (l.map (·.items)).length := by simpa using hi
  rw [hg, List.map_take, List.map_take, List.take_add_one, List.getElem?_eq_getElem hi']
  simp


theorem TrkRel.drop (s : St) : TrkRel s (dropParked s) := by
  have hlen : (dropParked s).trk.length = s.trk.length := by simp
  have hg : ∀ j, getT (dropParked s).trk j =
      (fun t : Tracker => if t.pc == .parked then { t with pc := .dropped } else t) (getT s.trk j) := by
    intro j
    by_cases hj : j < s.trk.length
    · simp only [dropParked_trk]; exact getT_map _ _ _ hj
    · have h1 := getT_of_ge s.trk j (Nat.le_of_not_lt hj)
      have h2 := getT_of_ge (dropParked s).trk j (by rw [hlen]; exact Nat.le_of_not_lt hj)
      rw [h1, h2]; rfl
  refine ⟨hlen, fun j => ?_, fun j => ?_, fun j => ?_⟩
  · rw [hg]; simp only; split <;> rfl
  · rw [hg]; simp only; split <;> rfl
  · rw [hg]; simp only
    split
    · rename_i hp; exact Or.inr (Or.inl ⟨by simpa using hp, rfl⟩)
    · exact Or.inl rfl

theorem TrkRel.submit {s s' : St} {j : Nat} (hidle : (getT s.trk j).pc = .idle)
    (h : s'.trk = s.trk.set j { getT s.trk j with pc := .parked }) : TrkRel s s' := by
  refine ⟨by rw [h]; simp, fun k => ?_, fun k => ?_, fun k => ?_⟩
  · rw [h, getT_set]; split
    · rename_i hh; rw [hh.1]
    · rfl
  · rw [h, getT_set]; split
    · rename_i hh; rw [hh.1]
    · rfl
  · rw [h, getT_set]; split
    · rename_i hh; rw [hh.1]; exact Or.inr (Or.inr ⟨hidle, rfl⟩)
    · exact Or.inl rfl

theorem submit_result {s s' : St} {j : Nat} (h : s'.trk = s.trk.set j { getT s.trk j with pc := .parked }) (k : Nat) :
    (getT s'.trk k).result = (getT s.trk k).result := by
  rw [h, getT_set]; split
  · rename_i hh; rw [hh.1]
  · rfl

/-- What a step of a callback thread / of the environment guarantees to the caller.  `Keeps` (`Term.lean`) is its
counterpart that holds without any invariant. -/
structure Guar (s s' : St) : Prop where
  pc : s'.pc = s.pc
  nPop : s'.nPop = s.nPop
  running : s'.running = s.running
  len : s.trk.length ≤ s'.trk.length
  st : ∀ j, j < s.trk.length → (getT s.trk j).status ≠ .pending → (getT s'.trk j).status = (getT s.trk j).status
  ncomp : s.nCompleted ≤ s'.nCompleted
  orig : s.origAlive = false → s'.origAlive = false
  stuck : Stuck s → Stuck s'
  exited : Exited s → Exited s' ∧ s'.trk.length = s.trk.length ∧ (NoErr s → NoErr s')
  ab : s.aborting = true → s'.aborting = true

/-- The caller's local assertions are stable under the steps of the other threads (which exist only once something
has been dispatched: `s.trk ≠ []`). -/
theorem LocOK.stable {c : Cfg} {s s' : St} (h : Inv c s) (hL : LocOK c s) (g : Guar s s') (hne : s.trk ≠ []) :
    LocOK c s' := by
  have hnf : ¬ Fresh s := fun f => hne f.trk
  have hnpre : s.pc.preDispatch = true → False := fun hp => hnf (h.P hp)
  have horig : s.origAlive = false ∨ Stuck s → s'.origAlive = false ∨ Stuck s' := fun h1 => h1.imp g.orig g.stuck
  have hex : Exited s ∧ (Safe c → NoErr s) → Exited s' ∧ (Safe c → NoErr s') := fun h1 =>
    ⟨(g.exited h1.1).1, fun hs => (g.exited h1.1).2.2 (h1.2 hs)⟩
  have hidx : ∀ {i : Nat}, i < s.trk.length → (getT s.trk i).status ≠ .pending →
      i < s'.trk.length ∧ (getT s'.trk i).status = (getT s.trk i).status := fun hi hs =>
    ⟨Nat.lt_of_lt_of_le hi g.len, g.st _ hi hs⟩
  -- `s'` is at the same program point with the same `nPop`
  suffices hs : LocOK c { s' with pc := s.pc, nPop := s.nPop } by
    have e : ({ s' with pc := s.pc, nPop := s.nPop } : St) = s' := by rw [← g.pc, ← g.nPop]
    rwa [e] at hs
  have hL := hL.at rfl
  generalize s.pc = p at hL hnpre ⊢
  cases p with
  | resetAcq | wAbort0 | readyAcq | readyRel | wOrig | wIter0 => exact (hnpre rfl).elim
  | dPre k | dBs k =>
    cases k with
    | first => exact (hne hL.1.trk).elim
    | loop => trivial
  | dAcq k bs =>
    cases k with
    | first => exact (hne hL.1.1.trk).elim
    | loop => exact hL
  | wIterAll | excW e | abortW e | abortCall e => exact hL
  | refAcq => exact g.ab hL
  | wtNComp => exact horig hL
  | wtNDisp nc => exact ⟨horig hL.1, Nat.le_trans hL.2 g.ncomp⟩
  | wtAbort2 => exact (g.exited hL).1
  | rtHead => exact Nat.lt_of_lt_of_le hL g.len
  | rtStatus i => exact ⟨hL.1, Nat.lt_of_lt_of_le hL.2 g.len⟩
  | popAcq => exact ⟨(hidx hL.1 hL.2).1, (hidx hL.1 hL.2).2 ▸ hL.2⟩
  | popRel i | resStatus i => exact ⟨hL.1, (hidx hL.2.1 hL.2.2).1, (hidx hL.2.1 hL.2.2).2 ▸ hL.2.2⟩
  | refRel e =>
    cases e with
    | none => exact hL
    | some i =>
      have hs : (getT s.trk i).status ≠ .pending := by rw [show _ = Status.error from hL.2.2]; nofun
      exact ⟨hL.1, (hidx hL.2.1 hs).1, (hidx hL.2.1 hs).2.trans hL.2.2⟩
  | refStatus i =>
    have hs : (getT s.trk i).status ≠ .pending := by rw [show _ = Status.error from hL.2.2]; nofun
    exact ⟨hL.1, (hidx hL.2.1 hs).1, (hidx hL.2.1 hs).2.trans hL.2.2⟩
  | finExc e | finJobsR e =>
    cases e with
    | some e => exact hL
    | none => exact hex hL
  | finJobsW e rem =>
    cases e with
    | some e => exact hL
    | none =>
      obtain ⟨g1, g2, g3⟩ := g.exited hL.1
      exact ⟨g1, fun hs => g3 (hL.2.1 hs), g2 ▸ hL.2.2.1, g2 ▸ hL.2.2.2⟩
  | tailStatus i rem =>
    obtain ⟨g1, g2, g3⟩ := g.exited hL.1
    exact ⟨g1, fun hs => g3 (hL.2.1 hs), g2 ▸ hL.2.2⟩
  | _ => trivial

theorem LocOK.exiting {c : Cfg} {s : St} (hL : LocOK c s) (hx : s.pc.exiting = true) :
    Exited s ∧ (Safe c → NoErr s) ∧ s.pc.late = true ∧ s.pc.inAbort = false ∧ s.pc.inExc = false := by
  have hL := hL.at rfl
  generalize s.pc = p at hL hx ⊢
  cases p with
  | finExc e | finJobsR e =>
    cases e with
    | none => exact ⟨hL.1, hL.2, rfl, rfl, rfl⟩
    | some e => cases hx
  | finJobsW e rem =>
    cases e with
    | none => exact ⟨hL.1, hL.2.1, rfl, rfl, rfl⟩
    | some e => cases hx
  | tailStatus i rem => exact ⟨hL.1, hL.2.1, rfl, rfl, rfl⟩
  | _ => cases hx

theorem exit_all {c : Cfg} {s : St} (h : Inv c s) (h2 : Inv2 c s) (hx : s.pc.exiting = true) (hs : Safe c) :
    NoErr s ∧ allItems s = List.range' 0 c.n ∧ s.aborting = false ∧ s.exception = false ∧ s.srcDead = true ∧
      s.srcRaised = false := by
  obtain ⟨⟨hq, ho⟩, hNE, hl, hna, hnx⟩ := h2.L.exiting hx
  simp only [Pc.late, Bool.and_eq_true] at hl
  obtain ⟨⟨-, hpw⟩, hpl⟩ := hl
  have hne := hNE hs
  refine ⟨hne, ?_⟩
  have hdone := quiet_done h hq hne
  have hnoerr : ¬ ∃ t ∈ s.trk, t.status = .error := by
    rintro ⟨t, ht, hs⟩; rw [hdone t ht] at hs; cases hs
  have hab : s.aborting = false := by
    cases ha : s.aborting with
    | false => rfl
    | true =>
      rcases h2.F.aborting ha with h1 | h1
      · exact absurd h1 hnoerr
      · rw [hna] at h1; cases h1
  have hex : s.exception = false := by
    cases ha : s.exception with
    | false => rfl
    | true =>
      rcases h2.F.exception ha with h1 | h1
      · exact absurd h1 hnoerr
      · rw [hnx] at h1; cases h1
  have hrd : s.ready = [] ∧ s.srcDead = true := by
    rcases ho with ho | ho
    · by_cases hm : c.pdMode = 1
      · exact h2.I.allDead hab hm hpl
      · exact h2.I.origDead hab hpw hm ho
    · exact ⟨ho.2.1, ho.2.2⟩
  have hnr : s.srcRaised = false := by
    cases hr : s.srcRaised with
    | false => rfl
    | true =>
      obtain ⟨t, ht, hi⟩ := h2.F.raised hr
      exact absurd hi (hne t ht)
  have hfull := h.C.full hab
  rw [hrd.1] at hfull
  simp only [List.flatten_nil, List.append_nil] at hfull
  rw [hfull, (h.S.exhausted hrd.2 hnr).1]
  exact ⟨rfl, hab, hex, hrd.2, hnr⟩

/-- The call returns `X.out`, the values of the first `n` trackers, where `n` covers the table if the configuration
is `Safe`. -/
theorem Inv2.returns {c : Cfg} {s X : St} (h : Inv c s) (h2 : Inv2 c s) (hx : s.pc.exiting = true) (r : TrkRel s X)
    (e : late2Of X = late2Of s) (hnp : X.nPop ≤ s.trk.length) (n : Nat)
    (hout : X.out = ((s.trk.take n).map (·.items)).flatten) (hn : Safe c → s.trk.length ≤ n) :
    Inv2 c (finishRet c X) := by
  obtain ⟨hE, -, hl, -, -⟩ := h2.L.exiting hx
  refine h2.finish (r.trans_eq (finishRet_trk ..)) ?_ hl (finishRet_pc ..) (by rw [finishRet_nPop]; exact hnp) ?_
    (fun x hx => by rw [finishRet_outcome] at hx; cases hx)
  · rw [← e, finishRet_eq]; rfl
  · intro l hl
    rw [finishRet_outcome] at hl
    cases hl
    refine ⟨hE, fun hs => ?_⟩
    obtain ⟨g1, g2, -, -, g5, g6⟩ := exit_all h h2 hx hs
    exact ⟨by rw [hout, List.take_of_length_le (hn hs)]; exact g2, g1, g2, g5, g6⟩

/-- How a (non-dispatching) step of the callback thread of tracker `i` may change the state. -/
structure CbRel (c : Cfg) (s s' : St) (i : Nat) : Prop where
  hi : i < s.trk.length
  pc : s'.pc = s.pc
  out : s'.out = s.out
  outcome : s'.outcome = s.outcome
  srcDead : s'.srcDead = s.srcDead
  srcRaised : s'.srcRaised = s.srcRaised
  ready : s'.ready = s.ready
  jobs : s'.jobs = s.jobs
  nPop : s'.nPop = s.nPop
  preLeft : s'.preLeft = s.preLeft
  running : s'.running = s.running
  len : s'.trk.length = s.trk.length
  other : ∀ j, j ≠ i → getT s'.trk j = getT s.trk j
  items : (getT s'.trk i).items = (getT s.trk i).items
  normal : (getT s.trk i).items ≠ []
  status :
    ((getT s'.trk i).status = (getT s.trk i).status ∧ (getT s'.trk i).result = (getT s.trk i).result ∧
      s'.aborting = s.aborting ∧ s'.exception = s.exception) ∨
    ((getT s.trk i).status = .pending ∧ (getT s'.trk i).status = .done ∧
      (getT s'.trk i).result = .vals (getT s.trk i).items ∧ s'.aborting = s.aborting ∧ s'.exception = s.exception) ∨
    ((getT s.trk i).status = .pending ∧ (getT s'.trk i).status = .error ∧
      (∃ e, (getT s'.trk i).result = .exc e ∧ LegitErr c e) ∧ s'.aborting = true ∧ s'.exception = true)
  ncomp : s.nCompleted ≤ s'.nCompleted
  origIter : (s'.origAlive = s.origAlive ∧ s'.iterating = s.iterating) ∨
    (s'.origAlive = false ∧ s'.iterating = false ∧ (∀ j, j ≠ i → j < s.trk.length → (getT s.trk j).pc.inNext = false) ∧
      (s'.aborting = false → c.pdMode ≠ 1 → s.ready = [] ∧ s.srcDead = true))
  quietKeep : ((getT s.trk i).pc = .relC ∨ (getT s.trk i).pc = .done true) →
    ((getT s'.trk i).pc = .relC ∨ (getT s'.trk i).pc = .done true)
  bsC : (getT s'.trk i).pc.inNext = true → s'.origAlive = true

namespace CbRel
variable {c : Cfg} {s s' : St} {i : Nat}

theorem get (r : CbRel c s s' i) (j : Nat) : j = i ∨ getT s'.trk j = getT s.trk j := by
  by_cases h : j = i
  · exact Or.inl h
  · exact Or.inr (r.other j h)

theorem items' (r : CbRel c s s' i) (j : Nat) : (getT s'.trk j).items = (getT s.trk j).items := by
  rcases r.get j with h | h
  · subst h; exact r.items
  · rw [h]

theorem mapItems (r : CbRel c s s' i) : s'.trk.map (·.items) = s.trk.map (·.items) :=
  map_items_eq r.len r.items'

theorem allItems (r : CbRel c s s' i) : allItems s' = allItems s := by
  simp only [JoblibModel.ParallelLock.allItems, r.mapItems]

theorem notStuck (r : CbRel c s s' i) : ¬ Stuck s := fun h =>
  allItems_ne_nil (getT_mem _ _ r.hi) r.normal h.1

/-- Statuses only move away from `pending`. -/
theorem stKeep (r : CbRel c s s' i) (j : Nat) (h : (getT s.trk j).status ≠ .pending) :
    (getT s'.trk j).status = (getT s.trk j).status := by
  rcases r.get j with e | e
  · subst e
    rcases r.status with h1 | h1 | h1
    · exact h1.1
    · exact absurd h1.1 h
    · exact absurd h1.1 h
  · rw [e]

theorem abUp (r : CbRel c s s' i) (h : s.aborting = true) : s'.aborting = true := by
  rcases r.status with h1 | h1 | h1
  · rw [h1.2.2.1]; exact h
  · rw [h1.2.2.2.1]; exact h
  · exact h1.2.2.2.1

theorem exUp (r : CbRel c s s' i) (h : s.exception = true) : s'.exception = true := by
  rcases r.status with h1 | h1 | h1
  · rw [h1.2.2.2]; exact h
  · rw [h1.2.2.2.2]; exact h
  · exact h1.2.2.2.2

theorem origDown (r : CbRel c s s' i) (h : s.origAlive = false) : s'.origAlive = false := by
  rcases r.origIter with h1 | h1
  · rw [h1.1]; exact h
  · exact h1.1

theorem mem (r : CbRel c s s' i) {t' : Tracker} (h : t' ∈ s'.trk) :
    ∃ j, j < s.trk.length ∧ getT s'.trk j = t' := by
  obtain ⟨j, hj, e⟩ := (mem_iff_getT _ _).mp h
  exact ⟨j, by rw [← r.len]; exact hj, e⟩

theorem mem' (r : CbRel c s s' i) {j : Nat} (hj : j < s.trk.length) : getT s'.trk j ∈ s'.trk :=
  getT_mem _ _ (by rw [r.len]; exact hj)

theorem quiet (r : CbRel c s s' i) (h : Quiet s) : Quiet s' := by
  intro t' ht' hne
  obtain ⟨j, hj, e⟩ := r.mem ht'
  subst e
  rw [r.items'] at hne
  have := h _ (getT_mem _ _ hj) hne
  rcases r.get j with e | e
  · subst e; exact r.quietKeep this
  · rw [e]; exact this

theorem exited (r : CbRel c s s' i) (h : Exited s) : Exited s' := by
  refine ⟨r.quiet h.1, ?_⟩
  rcases h.2 with h1 | h1
  · exact Or.inl (r.origDown h1)
  · exact absurd h1 r.notStuck

theorem noErr (r : CbRel c s s' i) (h : NoErr s) : NoErr s' := by
  intro t' ht'
  obtain ⟨j, hj, e⟩ := r.mem ht'
  subst e
  rw [r.items']; exact h _ (getT_mem _ _ hj)

theorem guar (r : CbRel c s s' i) : Guar s s' :=
  ⟨r.pc, r.nPop, r.running, by rw [r.len]; exact Nat.le_refl _, fun j _ h => r.stKeep j h, r.ncomp, r.origDown,
    fun h => absurd h r.notStuck, fun h => ⟨r.exited h, r.len, r.noErr⟩, r.abUp⟩

theorem errPersist (r : CbRel c s s' i) (h : ∃ t ∈ s.trk, t.status = .error) : ∃ t ∈ s'.trk, t.status = .error := by
  obtain ⟨t, ht, hs⟩ := h
  obtain ⟨j, hj, e⟩ := (mem_iff_getT _ _).mp ht
  subst e
  exact ⟨_, r.mem' hj, by rw [r.stKeep j (by rw [hs]; simp)]; exact hs⟩

end CbRel

theorem Inv2.cbMove {c : Cfg} {s s' : St} {i : Nat} (h : Inv c s) (h2 : Inv2 c s) (r : CbRel c s s' i) :
    Inv2 c s' := by
  have hne : s.trk ≠ [] := by intro e; have := r.hi; rw [e] at this; cases this
  have hun : unread s' = unread s := by simp only [unread, r.pc, r.nPop]
  refine ⟨⟨?_, ?_, ?_, ?_⟩, ⟨?_, ?_⟩, ⟨?_, ?_, ?_, ?_⟩, ⟨?_, ?_, ?_, ?_, ?_, ?_⟩,
    LocOK.stable h h2.L r.guar hne, ⟨?_, ?_, ?_⟩⟩
  · -- errFlags
    intro t' ht' hs
    obtain ⟨j, hj, e⟩ := r.mem ht'
    subst e
    rcases r.get j with e | e
    · subst e
      rcases r.status with h1 | h1 | h1
      · rw [h1.1] at hs
        obtain ⟨a, b⟩ := h2.F.errFlags _ (getT_mem _ _ hj) hs
        exact ⟨r.abUp a, r.exUp b⟩
      · rw [h1.2.1] at hs; cases hs
      · exact ⟨h1.2.2.2.1, h1.2.2.2.2⟩
    · rw [e] at hs
      obtain ⟨a, b⟩ := h2.F.errFlags _ (getT_mem _ _ hj) hs
      exact ⟨r.abUp a, r.exUp b⟩
  · -- aborting
    intro ha
    rw [r.pc]
    rcases r.status with h1 | h1 | h1
    · rw [h1.2.2.1] at ha
      rcases h2.F.aborting ha with h3 | h3
      · exact Or.inl (r.errPersist h3)
      · exact Or.inr h3
    · rw [h1.2.2.2.1] at ha
      rcases h2.F.aborting ha with h3 | h3
      · exact Or.inl (r.errPersist h3)
      · exact Or.inr h3
    · exact Or.inl ⟨_, r.mem' r.hi, h1.2.1⟩
  · -- exception
    intro ha
    rw [r.pc]
    rcases r.status with h1 | h1 | h1
    · rw [h1.2.2.2] at ha
      rcases h2.F.exception ha with h3 | h3
      · exact Or.inl (r.errPersist h3)
      · exact Or.inr h3
    · rw [h1.2.2.2.2] at ha
      rcases h2.F.exception ha with h3 | h3
      · exact Or.inl (r.errPersist h3)
      · exact Or.inr h3
    · exact Or.inl ⟨_, r.mem' r.hi, h1.2.1⟩
  · -- raised
    rw [r.srcRaised]; intro hr
    obtain ⟨t, ht, hs⟩ := h2.F.raised hr
    obtain ⟨j, hj, e⟩ := (mem_iff_getT _ _).mp ht
    subst e
    exact ⟨_, r.mem' hj, by rw [r.items']; exact hs⟩
  · -- R.done
    intro hp j hj hl hs
    rw [r.pc] at hp; rw [hun] at hj; rw [r.len] at hl
    rw [r.items']
    rcases r.get j with e | e
    · subst e
      rcases r.status with h1 | h1 | h1
      · rw [h1.1] at hs; rw [h1.2.1]; exact h2.R.done hp j hj hl hs
      · exact h1.2.2.1
      · rw [h1.2.1] at hs; cases hs
    · rw [e] at hs ⊢; exact h2.R.done hp j hj hl hs
  · -- R.error
    intro hp j hj hl hs
    rw [r.pc] at hp; rw [hun] at hj; rw [r.len] at hl
    rcases r.get j with e | e
    · subst e
      rcases r.status with h1 | h1 | h1
      · rw [h1.1] at hs; rw [h1.2.1]; exact h2.R.error hp j hj hl hs
      · rw [h1.2.1] at hs; cases hs
      · exact h1.2.2.1
    · rw [e] at hs ⊢; exact h2.R.error hp j hj hl hs
  · -- prefixDone
    intro hp j hj hl
    rw [r.pc] at hp; rw [hun] at hj; rw [r.len] at hl
    have := h2.D.prefixDone hp j hj hl
    rw [r.stKeep j (by rw [this]; simp)]; exact this
  · -- out
    intro hp
    rw [r.pc] at hp
    rw [hun, r.out, List.map_take, r.mapItems, h2.D.out hp, List.map_take]
  · rw [r.nPop, r.len]; exact h2.D.nPopLe
  · intro hp; rw [r.pc] at hp; rw [r.jobs, r.nPop, r.len]; exact h2.D.jobs hp
  · intro hm; exact r.origDown (h2.I.allMode hm)
  · intro hm hp; rw [r.pc] at hp; rw [r.preLeft]; exact h2.I.allPre hm hp
  · -- afterFirst
    intro hp hi
    rw [r.pc] at hp
    rcases r.origIter with h1 | h1
    · rw [h1.2] at hi; rw [h1.1]
      rcases h2.I.afterFirst hp hi with h3 | h3
      · exact Or.inl h3
      · exact absurd h3 r.notStuck
    · exact Or.inl h1.1
  · -- origDead
    intro ha hp hm ho
    rw [r.pc] at hp; rw [r.ready, r.srcDead]
    have ha0 : s.aborting = false := by
      cases hh : s.aborting with
      | false => rfl
      | true => rw [r.abUp hh] at ha; cases ha
    rcases r.origIter with h1 | h1
    · rw [h1.1] at ho; exact h2.I.origDead ha0 hp hm ho
    · exact h1.2.2.2 ha hm
  · -- allDead
    intro ha hm hp
    rw [r.pc] at hp; rw [r.ready, r.srcDead]
    have ha0 : s.aborting = false := by
      cases hh : s.aborting with
      | false => rfl
      | true => rw [r.abUp hh] at ha; cases ha
    exact h2.I.allDead ha0 hm hp
  · -- bsC
    intro t' ht' hb
    obtain ⟨j, hj, e⟩ := r.mem ht'
    subst e
    rcases r.get j with e | e
    · subst e; exact r.bsC hb
    · rw [e] at hb
      have ho := h2.I.bsC _ (getT_mem _ _ hj) hb
      rcases r.origIter with h1 | h1
      · rw [h1.1]; exact ho
      · by_cases hji : j = i
        · subst hji; exact r.bsC (by rw [e]; exact hb)
        · have := h1.2.2.1 j hji hj; rw [this] at hb; cases hb
  · -- ret
    intro l hl
    rw [r.outcome] at hl
    obtain ⟨hx, hs⟩ := h2.O.ret l hl
    refine ⟨r.exited hx, fun hsafe => ?_⟩
    obtain ⟨g1, g2, g3, g4, g5⟩ := hs hsafe
    exact ⟨g1, r.noErr g2, by rw [r.allItems]; exact g3, by rw [r.srcDead]; exact g4, by rw [r.srcRaised]; exact g5⟩
  · intro x hx; rw [r.outcome] at hx; exact h2.O.raised x hx
  · intro hp; rw [r.pc] at hp; rw [r.outcome]; exact h2.O.noOutcome hp

theorem range'_append_len (a len k : Nat) (h : a ≤ len) :
    List.range' a (len - a) ++ List.range' len k = List.range' a (len + k - a) := by
  obtain ⟨d, rfl⟩ : ∃ d, len = a + d := ⟨len - a, by omega⟩
  have := List.range'_append (s := a) (m := d) (n := k) (step := 1)
  simp only [Nat.one_mul] at this
  rw [show a + d - a = d by omega, show a + d + k - a = d + k by omega]
  exact this

/-- A tracker appended by `dispatch_one_batch`. -/
def NewTrk (c : Cfg) (s' : St) (t : Tracker) : Prop :=
  (t.status = .pending ∧ t.pc = .idle ∧ t.items ≠ []) ∨
  (t.status = .error ∧ t.pc = .idle ∧ t.items = [] ∧ (∃ e, t.result = .exc e ∧ LegitErr c e) ∧
    s'.aborting = true ∧ s'.exception = true)

/-- Who runs the locked region. -/
def DispCtx (s : St) (fo : Bool) : Prop :=
  (fo = false ∧ ∃ k, s.pc = .dIn k) ∨
  (fo = true ∧ s.origAlive = true ∧ ∃ i, i < s.trk.length ∧ (getT s.trk i).items ≠ [])

theorem DispCtx.notExited {s : St} (h : DispCtx s true) : ¬ Exited s := by
  rcases h with ⟨h, _⟩ | ⟨_, ho, i, hi, hne⟩
  · cases h
  · rintro ⟨_, h1 | h1⟩
    · rw [ho] at h1; cases h1
    · exact allItems_ne_nil (getT_mem _ _ hi) hne h1.1

theorem DispCtx.notStuck {s : St} (h : DispCtx s true) : ¬ Stuck s := by
  rcases h with ⟨h, _⟩ | ⟨_, ho, i, hi, hne⟩
  · cases h
  · intro h1; exact allItems_ne_nil (getT_mem _ _ hi) hne h1.1

theorem Inv2.append {c : Cfg} {s s' : St} {fo : Bool} (h : Inv c s) (h2 : Inv2 c s) (ctx : DispCtx s fo)
    (new : List Tracker)
    (e_trk : s'.trk = s.trk ++ new) (e_jobs : s'.jobs = s.jobs ++ List.range' s.trk.length new.length)
    (e_pc : s'.pc = s.pc) (e_out : s'.out = s.out) (e_outcome : s'.outcome = s.outcome) (e_nPop : s'.nPop = s.nPop)
    (e_orig : s'.origAlive = s.origAlive) (e_iter : s'.iterating = s.iterating) (e_run : s'.running = s.running)
    (e_nc : s'.nCompleted = s.nCompleted)
    (hnew : ∀ t ∈ new, NewTrk c s' t)
    (a_up : s.aborting = true → s'.aborting = true)
    (a_new : s'.aborting = true → s.aborting = true ∨ ∃ t ∈ new, t.status = .error)
    (x_up : s.exception = true → s'.exception = true)
    (x_new : s'.exception = true → s.exception = true ∨ ∃ t ∈ new, t.status = .error)
    (r_new : s'.srcRaised = true → s.srcRaised = true ∨ ∃ t ∈ new, t.items = [])
    (p_none : s.preLeft = none → s'.preLeft = none)
    (d_orig : s'.aborting = false → s.pc.pastWOrig = true → c.pdMode ≠ 1 → s.origAlive = false →
      s'.ready = [] ∧ s'.srcDead = true)
    (d_all : s'.aborting = false → c.pdMode = 1 → s.pc.postLoop = true → s'.ready = [] ∧ s'.srcDead = true)
    (k_stuck : Stuck s → Stuck s') :
    Inv2 c s' ∧
      ((s.iterating = false → s.origAlive = false ∨ Stuck s) →
        (s'.iterating = false → s'.origAlive = false ∨ Stuck s')) := by
  have hlen : s.trk.length ≤ s'.trk.length := by rw [e_trk]; simp
  have hgl : ∀ j, j < s.trk.length → getT s'.trk j = getT s.trk j := fun j hj => by
    rw [e_trk]; exact getT_append_left _ _ _ hj
  have hmem : ∀ t' ∈ s'.trk, t' ∈ s.trk ∨ t' ∈ new := fun t' ht' => by
    rw [e_trk] at ht'; exact List.mem_append.mp ht'
  have hmemL : ∀ t ∈ s.trk, t ∈ s'.trk := fun t ht => by rw [e_trk]; exact List.mem_append_left _ ht
  have hmemR : ∀ t ∈ new, t ∈ s'.trk := fun t ht => by rw [e_trk]; exact List.mem_append_right _ ht
  have hgr : ∀ j, s.trk.length ≤ j → j < s'.trk.length → getT s'.trk j ∈ new := by
    intro j hj hj'
    have hk2 : j - s.trk.length < new.length := by rw [e_trk] at hj'; simp at hj'; omega
    rw [e_trk, getT_append_right _ _ _ hj]; exact getT_mem _ _ hk2
  have hun : unread s' = unread s := by simp only [unread, e_pc, e_nPop]
  have hunle : s.pc.excPath = false → unread s ≤ s.trk.length := by
    intro hp
    have h1 := h2.D.nPopLe
    simp only [unread]
    split
    · omega
    · omega
    · rename_i i rem hpc
      have := congrArg List.length (h2.L.at hpc).2.2
      simp at this; omega
    · exact h1
  have K : (s.iterating = false → s.origAlive = false ∨ Stuck s) →
      (s'.iterating = false → s'.origAlive = false ∨ Stuck s') := by
    intro hk hi
    rw [e_iter] at hi; rw [e_orig]
    rcases hk hi with h1 | h1
    · exact Or.inl h1
    · exact Or.inr (k_stuck h1)
  refine ⟨⟨⟨?_, ?_, ?_, ?_⟩, ⟨?_, ?_⟩, ⟨?_, ?_, ?_, ?_⟩, ⟨?_, ?_, ?_, ?_, ?_, ?_⟩, ?_, ⟨?_, ?_, ?_⟩⟩, K⟩
  · -- errFlags
    intro t' ht' hs
    rcases hmem t' ht' with hm | hm
    · obtain ⟨a, b⟩ := h2.F.errFlags t' hm hs
      exact ⟨a_up a, x_up b⟩
    · rcases hnew t' hm with h1 | h1
      · rw [h1.1] at hs; cases hs
      · exact ⟨h1.2.2.2.2.1, h1.2.2.2.2.2⟩
  · intro ha
    rw [e_pc]
    rcases a_new ha with h1 | ⟨t, ht, hs⟩
    · rcases h2.F.aborting h1 with ⟨t, ht, hs⟩ | h3
      · exact Or.inl ⟨t, hmemL t ht, hs⟩
      · exact Or.inr h3
    · exact Or.inl ⟨t, hmemR t ht, hs⟩
  · intro ha
    rw [e_pc]
    rcases x_new ha with h1 | ⟨t, ht, hs⟩
    · rcases h2.F.exception h1 with ⟨t, ht, hs⟩ | h3
      · exact Or.inl ⟨t, hmemL t ht, hs⟩
      · exact Or.inr h3
    · exact Or.inl ⟨t, hmemR t ht, hs⟩
  · intro hr
    rcases r_new hr with h1 | ⟨t, ht, hs⟩
    · obtain ⟨t, ht, hs⟩ := h2.F.raised h1
      exact ⟨t, hmemL t ht, hs⟩
    · exact ⟨t, hmemR t ht, hs⟩
  · -- R.done
    intro hp j hj hl hs
    rw [e_pc] at hp; rw [hun] at hj
    by_cases hjl : j < s.trk.length
    · rw [hgl j hjl] at hs ⊢; exact h2.R.done hp j hj hjl hs
    · have hm := hgr j (Nat.le_of_not_lt hjl) hl
      rcases hnew _ hm with h1 | h1
      · rw [h1.1] at hs; cases hs
      · rw [h1.1] at hs; cases hs
  · intro hp j hj hl hs
    rw [e_pc] at hp; rw [hun] at hj
    by_cases hjl : j < s.trk.length
    · rw [hgl j hjl] at hs ⊢; exact h2.R.error hp j hj hjl hs
    · have hm := hgr j (Nat.le_of_not_lt hjl) hl
      rcases hnew _ hm with h1 | h1
      · rw [h1.1] at hs; cases hs
      · exact h1.2.2.2.1
  · -- prefixDone
    intro hp j hj hl
    rw [e_pc] at hp; rw [hun] at hj
    have hjl : j < s.trk.length := Nat.lt_of_lt_of_le hj (hunle hp)
    rw [hgl j hjl]; exact h2.D.prefixDone hp j hj hjl
  · -- out
    intro hp
    rw [e_pc] at hp
    rw [hun, e_out, e_trk, List.take_append_of_le_length (hunle hp)]
    exact h2.D.out hp
  · rw [e_nPop]; exact Nat.le_trans h2.D.nPopLe hlen
  · intro hp
    rw [e_pc] at hp
    have hj := h2.D.jobs hp
    have hn := h2.D.nPopLe
    rw [e_jobs, e_nPop, hj, e_trk, List.length_append]
    exact range'_append_len _ _ _ hn
  · intro hm; rw [e_orig]; exact h2.I.allMode hm
  · intro hm hp; rw [e_pc] at hp; exact p_none (h2.I.allPre hm hp)
  · -- afterFirst
    intro hp hi
    rw [e_pc] at hp
    exact K (fun hi' => h2.I.afterFirst hp hi') hi
  · intro ha hp hm ho
    rw [e_pc] at hp; rw [e_orig] at ho
    exact d_orig ha hp hm ho
  · intro ha hm hp
    rw [e_pc] at hp
    exact d_all ha hm hp
  · -- bsC
    intro t' ht' hb
    rw [e_orig]
    rcases hmem t' ht' with hm | hm
    · exact h2.I.bsC t' hm hb
    · rcases hnew t' hm with h1 | h1
      · rw [h1.2.1] at hb; cases hb
      · rw [h1.2.1] at hb; cases hb
  · -- LocOK
    rcases ctx with ⟨_, k, hk⟩ | hcb
    · unfold LocOK; rw [e_pc, hk]; trivial
    · have hcb' : DispCtx s true := by
        rcases hcb with ⟨_, b⟩; exact Or.inr ⟨rfl, b⟩
      have hne : s.trk ≠ [] := by
        obtain ⟨_, _, i, hi, _⟩ := hcb
        intro e; rw [e] at hi; cases hi
      refine LocOK.stable h h2.L ⟨e_pc, e_nPop, e_run, hlen, fun j hj _ => by rw [hgl j hj], by rw [e_nc]; exact Nat.le_refl _,
        fun ho => by rw [e_orig]; exact ho, k_stuck, fun hx => absurd hx hcb'.notExited, a_up⟩ hne
  · -- ret
    intro l hl
    rw [e_outcome] at hl
    rcases ctx with ⟨_, k, hk⟩ | hcb
    · have := h2.O.noOutcome (by rw [hk]; intro hh; cases hh)
      rw [this] at hl; cases hl
    · have hcb' : DispCtx s true := by
        rcases hcb with ⟨_, b⟩; exact Or.inr ⟨rfl, b⟩
      exact absurd (h2.O.ret l hl).1 hcb'.notExited
  · intro x hx; rw [e_outcome] at hx; exact h2.O.raised x hx
  · intro hp; rw [e_pc] at hp; rw [e_outcome]; exact h2.O.noOutcome hp


/-- The locked region of `dispatch_one_batch` preserves `Inv2`, and the fact "`_iterating` cleared ⇒ nothing can be
dispatched any more" across the marker pc. -/
theorem DLCase.inv2 {c : Cfg} {t : Tid} {fo : Bool} {bs : Nat} {s s' : St} {r : DRes}
    (hcase : DLCase c t fo bs s s' r) (h : Inv c s) (h2 : Inv2 c s) (ctx : DispCtx s fo) :
    Inv2 c s' ∧
      ((s.iterating = false → s.origAlive = false ∨ Stuck s) →
        (s'.iterating = false → s'.origAlive = false ∨ Stuck s')) := by
  cases hcase with
  | aborting ha => exact ⟨h2, id⟩
  | ready tasks rest ha hr htn =>
    refine Inv2.append h h2 ctx [{ items := tasks, bsize := tasks.length, callId := s.callId }] rfl rfl rfl rfl rfl rfl
      rfl rfl rfl rfl ?_ id Or.inl id Or.inl Or.inl id ?_ ?_ ?_
    · intro t ht; rw [List.mem_singleton] at ht; subst ht; exact Or.inl ⟨rfl, rfl, htn⟩
    · intro ha' hp hm ho
      have := (h2.I.origDead ha hp hm ho).1
      rw [hr] at this; cases this
    · intro ha' hm hp
      have := (h2.I.allDead ha hm hp).1
      rw [hr] at this; cases this
    · intro hs; have := hs.2.1; rw [hr] at this; cases this
  | raised m evs dead pl ha hr hf hsd =>
    refine Inv2.append h h2 ctx
      [{ items := [], bsize := bs, callId := s.callId, status := .error, result := .exc (.iter (s.srcPos + m)) }]
      rfl rfl rfl rfl rfl rfl rfl rfl rfl rfl ?_ (fun _ => rfl) (fun _ => Or.inr ⟨_, List.mem_singleton.mpr rfl, rfl⟩)
      (fun _ => rfl) (fun _ => Or.inr ⟨_, List.mem_singleton.mpr rfl, rfl⟩)
      (fun _ => Or.inr ⟨_, List.mem_singleton.mpr rfl, rfl⟩) hf.plNone (fun hh => by cases hh) (fun hh => by cases hh) ?_
    · intro t ht; rw [List.mem_singleton] at ht; subst ht
      exact Or.inr ⟨rfl, rfl, rfl, ⟨_, rfl, Or.inr ⟨_, rfl, hf.raisedAt rfl⟩⟩, rfl, rfl⟩
    · intro hs; have := hs.2.2; rw [hsd] at this; cases this
  | empty evs dead raised pl ha hr hf =>
    refine Inv2.append h h2 ctx [] (by simp) (by simp) rfl rfl rfl rfl rfl rfl rfl rfl (by simp) id Or.inl id Or.inl
      ?_ hf.plNone ?_ ?_ ?_
    · exact fun hrr => Or.inl (hf.raisedRet' hrr)
    · intro ha' hp hm ho
      have := h2.I.origDead ha hp hm ho
      exact ⟨this.1, (hf.keepDead this.2).1⟩
    · intro ha' hm hp
      have := h2.I.allDead ha hm hp
      exact ⟨this.1, (hf.keepDead this.2).1⟩
    · intro hs
      exact ⟨hs.1, hs.2.1, (hf.keepDead hs.2.2).1⟩
  | pulled m evs dead raised pl tasks rest ha hr hf hm htn hrest hfl =>
    refine Inv2.append h h2 ctx [{ items := tasks, bsize := tasks.length, callId := s.callId }] rfl rfl rfl rfl rfl rfl
      rfl rfl rfl rfl ?_ id Or.inl id Or.inl ?_ hf.plNone ?_ ?_ ?_
    · intro t ht; rw [List.mem_singleton] at ht; subst ht; exact Or.inl ⟨rfl, rfl, htn⟩
    · exact fun hrr => Or.inl (hf.raisedRet' hrr)
    · intro ha' hp hm' ho
      have := (hf.keepDead (h2.I.origDead ha hp hm' ho).2).2
      omega
    · intro ha' hm' hp
      have := (hf.keepDead (h2.I.allDead ha hm' hp).2).2
      omega
    · intro hs
      have := (hf.keepDead hs.2.2).2
      omega

end JoblibModel.ParallelLock
