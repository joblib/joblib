import JoblibProofs.Lemmas.ParallelLock.Proj
/-! GENERATED by builders_notes/m1l_gen_proj.py (the helper functions with an `if` as one record update each, and their projection lemmas). -/
namespace JoblibModel.ParallelLock

/-- The consumer receives a batch: one record update (the `if` of `return_as` sits in the log alone). -/
theorem deliverVals_eq (c : Cfg) (s : St) (l : List Nat) : deliverVals c s l =
    { s with out := s.out ++ l, log := if c.ra == 1 then (l.map Ev.yield).reverse ++ s.log else s.log } := by
  unfold deliverVals
  dsimp only
  split <;> rfl

theorem finishRet_eq (c : Cfg) (s : St) : finishRet c s =
    { s with log := (if c.ra == 1 then .stop else .ret s.out) :: s.log, pc := .done, outcome := some (.ret s.out) } := by
  unfold finishRet
  split <;> rfl

/-- Leaving `dispatch_next`: the lock is released, the two flags are cleared unless something was dispatched. -/
theorem cbAfterDispatch_eq (i : Nat) (s : St) (r : Bool) : cbAfterDispatch i s r =
    setCb { s with lockOwner := none, iterating := r && s.iterating, origAlive := r && s.origAlive } i .relC := by
  cases r <;> rfl

@[simp] theorem deliverVals_lockOwner (c : Cfg) (s : St) (l : List Nat) : (deliverVals c s l).lockOwner = s.lockOwner := by rw [deliverVals_eq]
@[simp] theorem deliverVals_pc (c : Cfg) (s : St) (l : List Nat) : (deliverVals c s l).pc = s.pc := by rw [deliverVals_eq]
@[simp] theorem deliverVals_out (c : Cfg) (s : St) (l : List Nat) : (deliverVals c s l).out = s.out ++ l := by rw [deliverVals_eq]
@[simp] theorem deliverVals_outcome (c : Cfg) (s : St) (l : List Nat) : (deliverVals c s l).outcome = s.outcome := by rw [deliverVals_eq]
@[simp] theorem deliverVals_bsI (c : Cfg) (s : St) (l : List Nat) : (deliverVals c s l).bsI = s.bsI := by rw [deliverVals_eq]
@[simp] theorem deliverVals_srcPos (c : Cfg) (s : St) (l : List Nat) : (deliverVals c s l).srcPos = s.srcPos := by rw [deliverVals_eq]
@[simp] theorem deliverVals_srcDead (c : Cfg) (s : St) (l : List Nat) : (deliverVals c s l).srcDead = s.srcDead := by rw [deliverVals_eq]
@[simp] theorem deliverVals_srcRaised (c : Cfg) (s : St) (l : List Nat) : (deliverVals c s l).srcRaised = s.srcRaised := by rw [deliverVals_eq]
@[simp] theorem deliverVals_preLeft (c : Cfg) (s : St) (l : List Nat) : (deliverVals c s l).preLeft = s.preLeft := by rw [deliverVals_eq]
@[simp] theorem deliverVals_origAlive (c : Cfg) (s : St) (l : List Nat) : (deliverVals c s l).origAlive = s.origAlive := by rw [deliverVals_eq]
@[simp] theorem deliverVals_ready (c : Cfg) (s : St) (l : List Nat) : (deliverVals c s l).ready = s.ready := by rw [deliverVals_eq]
@[simp] theorem deliverVals_jobs (c : Cfg) (s : St) (l : List Nat) : (deliverVals c s l).jobs = s.jobs := by rw [deliverVals_eq]
@[simp] theorem deliverVals_trk (c : Cfg) (s : St) (l : List Nat) : (deliverVals c s l).trk = s.trk := by rw [deliverVals_eq]
@[simp] theorem deliverVals_nDispTasks (c : Cfg) (s : St) (l : List Nat) : (deliverVals c s l).nDispTasks = s.nDispTasks := by rw [deliverVals_eq]
@[simp] theorem deliverVals_nCompleted (c : Cfg) (s : St) (l : List Nat) : (deliverVals c s l).nCompleted = s.nCompleted := by rw [deliverVals_eq]
@[simp] theorem deliverVals_iterating (c : Cfg) (s : St) (l : List Nat) : (deliverVals c s l).iterating = s.iterating := by rw [deliverVals_eq]
@[simp] theorem deliverVals_aborting (c : Cfg) (s : St) (l : List Nat) : (deliverVals c s l).aborting = s.aborting := by rw [deliverVals_eq]
@[simp] theorem deliverVals_aborted (c : Cfg) (s : St) (l : List Nat) : (deliverVals c s l).aborted = s.aborted := by rw [deliverVals_eq]
@[simp] theorem deliverVals_exception (c : Cfg) (s : St) (l : List Nat) : (deliverVals c s l).exception = s.exception := by rw [deliverVals_eq]
@[simp] theorem deliverVals_running (c : Cfg) (s : St) (l : List Nat) : (deliverVals c s l).running = s.running := by rw [deliverVals_eq]
@[simp] theorem deliverVals_callId (c : Cfg) (s : St) (l : List Nat) : (deliverVals c s l).callId = s.callId := by rw [deliverVals_eq]
@[simp] theorem deliverVals_nPop (c : Cfg) (s : St) (l : List Nat) : (deliverVals c s l).nPop = s.nPop := by rw [deliverVals_eq]

@[simp] theorem finishRaise_log (s : St) (e : Exc) : (finishRaise s e).log = Ev.raise e :: s.log := rfl
@[simp] theorem finishRaise_lockOwner (s : St) (e : Exc) : (finishRaise s e).lockOwner = s.lockOwner := rfl
@[simp] theorem finishRaise_pc (s : St) (e : Exc) : (finishRaise s e).pc = .done := rfl
@[simp] theorem finishRaise_out (s : St) (e : Exc) : (finishRaise s e).out = s.out := rfl
@[simp] theorem finishRaise_outcome (s : St) (e : Exc) : (finishRaise s e).outcome = some (.raised e) := rfl
@[simp] theorem finishRaise_bsI (s : St) (e : Exc) : (finishRaise s e).bsI = s.bsI := rfl
@[simp] theorem finishRaise_srcPos (s : St) (e : Exc) : (finishRaise s e).srcPos = s.srcPos := rfl
@[simp] theorem finishRaise_srcDead (s : St) (e : Exc) : (finishRaise s e).srcDead = s.srcDead := rfl
@[simp] theorem finishRaise_srcRaised (s : St) (e : Exc) : (finishRaise s e).srcRaised = s.srcRaised := rfl
@[simp] theorem finishRaise_preLeft (s : St) (e : Exc) : (finishRaise s e).preLeft = s.preLeft := rfl
@[simp] theorem finishRaise_origAlive (s : St) (e : Exc) : (finishRaise s e).origAlive = s.origAlive := rfl
@[simp] theorem finishRaise_ready (s : St) (e : Exc) : (finishRaise s e).ready = s.ready := rfl
@[simp] theorem finishRaise_jobs (s : St) (e : Exc) : (finishRaise s e).jobs = s.jobs := rfl
@[simp] theorem finishRaise_trk (s : St) (e : Exc) : (finishRaise s e).trk = s.trk := rfl
@[simp] theorem finishRaise_nDispTasks (s : St) (e : Exc) : (finishRaise s e).nDispTasks = s.nDispTasks := rfl
@[simp] theorem finishRaise_nCompleted (s : St) (e : Exc) : (finishRaise s e).nCompleted = s.nCompleted := rfl
@[simp] theorem finishRaise_iterating (s : St) (e : Exc) : (finishRaise s e).iterating = s.iterating := rfl
@[simp] theorem finishRaise_aborting (s : St) (e : Exc) : (finishRaise s e).aborting = s.aborting := rfl
@[simp] theorem finishRaise_aborted (s : St) (e : Exc) : (finishRaise s e).aborted = s.aborted := rfl
@[simp] theorem finishRaise_exception (s : St) (e : Exc) : (finishRaise s e).exception = s.exception := rfl
@[simp] theorem finishRaise_running (s : St) (e : Exc) : (finishRaise s e).running = s.running := rfl
@[simp] theorem finishRaise_callId (s : St) (e : Exc) : (finishRaise s e).callId = s.callId := rfl
@[simp] theorem finishRaise_nPop (s : St) (e : Exc) : (finishRaise s e).nPop = s.nPop := rfl

@[simp] theorem finishRet_lockOwner (c : Cfg) (s : St) : (finishRet c s).lockOwner = s.lockOwner := by rw [finishRet_eq]
@[simp] theorem finishRet_pc (c : Cfg) (s : St) : (finishRet c s).pc = .done := by rw [finishRet_eq]
@[simp] theorem finishRet_out (c : Cfg) (s : St) : (finishRet c s).out = s.out := by rw [finishRet_eq]
@[simp] theorem finishRet_outcome (c : Cfg) (s : St) : (finishRet c s).outcome = some (.ret s.out) := by rw [finishRet_eq]
@[simp] theorem finishRet_bsI (c : Cfg) (s : St) : (finishRet c s).bsI = s.bsI := by rw [finishRet_eq]
@[simp] theorem finishRet_srcPos (c : Cfg) (s : St) : (finishRet c s).srcPos = s.srcPos := by rw [finishRet_eq]
@[simp] theorem finishRet_srcDead (c : Cfg) (s : St) : (finishRet c s).srcDead = s.srcDead := by rw [finishRet_eq]
@[simp] theorem finishRet_srcRaised (c : Cfg) (s : St) : (finishRet c s).srcRaised = s.srcRaised := by rw [finishRet_eq]
@[simp] theorem finishRet_preLeft (c : Cfg) (s : St) : (finishRet c s).preLeft = s.preLeft := by rw [finishRet_eq]
@[simp] theorem finishRet_origAlive (c : Cfg) (s : St) : (finishRet c s).origAlive = s.origAlive := by rw [finishRet_eq]
@[simp] theorem finishRet_ready (c : Cfg) (s : St) : (finishRet c s).ready = s.ready := by rw [finishRet_eq]
@[simp] theorem finishRet_jobs (c : Cfg) (s : St) : (finishRet c s).jobs = s.jobs := by rw [finishRet_eq]
@[simp] theorem finishRet_trk (c : Cfg) (s : St) : (finishRet c s).trk = s.trk := by rw [finishRet_eq]
@[simp] theorem finishRet_nDispTasks (c : Cfg) (s : St) : (finishRet c s).nDispTasks = s.nDispTasks := by rw [finishRet_eq]
@[simp] theorem finishRet_nCompleted (c : Cfg) (s : St) : (finishRet c s).nCompleted = s.nCompleted := by rw [finishRet_eq]
@[simp] theorem finishRet_iterating (c : Cfg) (s : St) : (finishRet c s).iterating = s.iterating := by rw [finishRet_eq]
@[simp] theorem finishRet_aborting (c : Cfg) (s : St) : (finishRet c s).aborting = s.aborting := by rw [finishRet_eq]
@[simp] theorem finishRet_aborted (c : Cfg) (s : St) : (finishRet c s).aborted = s.aborted := by rw [finishRet_eq]
@[simp] theorem finishRet_exception (c : Cfg) (s : St) : (finishRet c s).exception = s.exception := by rw [finishRet_eq]
@[simp] theorem finishRet_running (c : Cfg) (s : St) : (finishRet c s).running = s.running := by rw [finishRet_eq]
@[simp] theorem finishRet_callId (c : Cfg) (s : St) : (finishRet c s).callId = s.callId := by rw [finishRet_eq]
@[simp] theorem finishRet_nPop (c : Cfg) (s : St) : (finishRet c s).nPop = s.nPop := by rw [finishRet_eq]

end JoblibModel.ParallelLock
