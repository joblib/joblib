import JoblibProofs.Lemmas.ParallelLock.Inv3
/-!
M1L proofs — termination under the drain schedule: the invariant `Inv4`, the measure `M` with its components
`W P L R` (top-level names of this file; not the fields `Inv.L`, `Inv.P`), and the decrease of `M` along every drain
step. In lemma names `ror` stands for `returnOrRaise`.

The fourth invariant `Inv4`: the marker pc `dIn` is never a parking point of the caller, and every tracker that waits
for its `backend.submit` (pc `idle`, non-empty batch) is pointed to by the thread that is parked at that `submit` (the
caller at `dSubmit _ j` or a callback at `submitC j`); so while no thread is parked at a `submit`, no batch is waiting
for one.

The measure `M c s = 1300 * W + 100 * P + 100 * L + R` where
* `W` = work not yet dispatched: items the input iterable can still produce, items in the look-ahead queue, and 1 while
  the iterable has not signalled its end (never increases; decreases whenever a tracker is created);
* `P` = sum over the trackers of the number of stages the batch still has to go through
  (`idle 10 > parked 9 > acqA 8 > … > relC 1 > done/dropped 0`): decreases with every `submit`, every completion and
  every step of a callback thread; a new tracker adds 10;
* `L` = trackers the caller still has to pop / to read in the tail loop;
* `R` = rank of the caller's program point (≤ 70); in the retrieval loop it depends on `_aborting` and, at
  `r:n_dispatched_tasks`, on whether the comparison is going to fail.
`Dec c s s'` is the lexicographic decrease with the bounded increases that make the weighted sum decrease.

Every enabled step of a callback thread and every completion decreases the measure whatever the schedule (`stepCb_dec`,
`complete_dec`); a step of the caller does, PROVIDED that, when it evaluates the loop condition of the retrieval loop
without an error being flagged (`r:_iterating`, `r:n_completed_tasks`), the condition is false (`hq` of
`stepCaller_dec`). The drain rule `pickLast` (a completion if a batch is parked, else the highest-numbered enabled
callback thread, else the caller) lets the caller run only when nothing else is enabled, and then `hq` holds
(`drain_dec`).
-/
namespace JoblibModel.ParallelLock

/-- Tracker `j` is waiting for its `backend.submit`. -/
def IdleNe (s : St) (j : Nat) : Prop :=
  j < s.trk.length ∧ (getT s.trk j).pc = .idle ∧ (getT s.trk j).items ≠ []

/-- Some thread is parked at `backend.submit` of tracker `j`. -/
def Submitter (s : St) (j : Nat) : Prop :=
  (∃ k, s.pc = .dSubmit k j) ∨ ∃ i, i < s.trk.length ∧ (getT s.trk i).pc = .submitC j

structure Inv4 (s : St) : Prop where
  noIn : ∀ k, s.pc ≠ .dIn k
  idle : ∀ j, IdleNe s j → Submitter s j

/-- No batch is waiting for its `submit`. -/
def NoIdle (s : St) : Prop := ∀ j, ¬ IdleNe s j

theorem inv4_init : Inv4 init := by
  refine ⟨fun k h => (by cases h), fun j hj => ?_⟩
  have := hj.1
  simp [init] at this

theorem Inv4.ofNoIdle {s : St} (hn : ∀ k, s.pc ≠ .dIn k) (h : NoIdle s) : Inv4 s :=
  ⟨hn, fun j hj => absurd hj (h j)⟩

/-- Nobody is parked at a `submit`. -/
def NoSubmit (s : St) : Prop :=
  (∀ k j, s.pc ≠ .dSubmit k j) ∧ ∀ i j, i < s.trk.length → (getT s.trk i).pc ≠ .submitC j

theorem Inv4.noIdle {s : St} (h4 : Inv4 s) (hs : NoSubmit s) : NoIdle s := by
  intro j hj
  rcases h4.idle j hj with ⟨k, hk⟩ | ⟨i, hi, hp⟩
  · exact hs.1 k j hk
  · exact hs.2 i j hi hp

theorem noSubmit_of_free {c : Cfg} {s : St} (h : Inv c s) (hl : s.lockOwner = none) : NoSubmit s := by
  refine ⟨fun k j hp => ?_, fun i j hi hp => ?_⟩
  · have := h.L.caller (by rw [hp]; rfl)
    rw [hl] at this; cases this
  · have := h.L.cb i hi (by rw [getTrk_def, hp]; rfl)
    rw [hl] at this; cases this

theorem noSubmit_of_owner {c : Cfg} {s : St} {i : Nat} (h : Inv c s) (hl : s.lockOwner = some (i + 1))
    (hpc : ∀ j, (getT s.trk i).pc ≠ .submitC j) : NoSubmit s := by
  refine ⟨fun k j hp => ?_, fun i' j hi hp => ?_⟩
  · have := h.L.caller (by rw [hp]; rfl)
    rw [hl] at this; cases this
  · have := h.L.cb i' hi (by rw [getTrk_def, hp]; rfl)
    rw [hl] at this
    have e : i = i' := by simpa using this
    subst e
    exact hpc j hp

theorem noSubmit_of_caller {c : Cfg} {s : St} (h : Inv c s) (hl : s.lockOwner = some 0)
    (hpc : ∀ k j, s.pc ≠ .dSubmit k j) : NoSubmit s := by
  refine ⟨hpc, fun i' j hi hp => ?_⟩
  have := h.L.cb i' hi (by rw [getTrk_def, hp]; rfl)
  rw [hl] at this; cases this

/-- A step that changes the tracker table at most by a `submit`, by dropping parked batches or in fields other than
items and pc: a batch waits for its `submit` afterwards only if it did before, and the thread that was parked at that
`submit` still is (`hp`: unless it was the caller and the batch has been submitted). -/
theorem Inv4.frame {s s' : St} (h4 : Inv4 s) (r : TrkRel s s') (hn : ∀ k, s'.pc ≠ .dIn k)
    (hp : ∀ k j, s.pc = .dSubmit k j → (getT s'.trk j).pc ≠ .idle) : Inv4 s' := by
  refine ⟨hn, fun j ⟨h1, h2, h3⟩ => ?_⟩
  have hj : (getT s.trk j).pc = .idle := by
    rcases r.pc j with e | ⟨_, e⟩ | ⟨_, e⟩
    · exact e ▸ h2
    · rw [e] at h2; cases h2
    · rw [e] at h2; cases h2
  rcases h4.idle j ⟨r.len ▸ h1, hj, r.it j ▸ h3⟩ with ⟨k, hk⟩ | ⟨i, hi, hpi⟩
  · exact absurd h2 (hp k j hk)
  · refine .inr ⟨i, r.len ▸ hi, ?_⟩
    rcases r.pc i with e | ⟨e, _⟩ | ⟨e, _⟩
    · exact e ▸ hpi
    · rw [hpi] at e; cases e
    · rw [hpi] at e; cases e

theorem Inv4.pcStep {s s' : St} (h4 : Inv4 s) (r : TrkRel s s') (hh : s.pc.holding = false)
    (hh' : s'.pc.holding = false) : Inv4 s' :=
  h4.frame r (fun k hk => by rw [hk] at hh'; cases hh') (fun k j hk => by rw [hk] at hh; cases hh)

theorem tailNext_holding (c : Cfg) (s : St) (rem : List Nat) : (tailNext c s rem).pc.holding = false := by
  cases rem with
  | nil => exact congrArg Pc.holding (finishRet_pc c s)
  | cons => rfl

theorem IdleNe.of_set {s s' : St} {i : Nat} {t' : Tracker} (htrk : s'.trk = s.trk.set i t') (hnew : t'.pc ≠ .idle)
    {j : Nat} (h : IdleNe s' j) : IdleNe s j ∧ j ≠ i := by
  obtain ⟨h1, h2, h3⟩ := h
  rw [htrk] at h1 h2 h3
  have hji : j ≠ i := by
    intro e; subst e
    rw [getT_set_self _ _ _ (by simpa using h1)] at h2
    exact hnew h2
  rw [getT_set_ne _ _ _ _ hji] at h2 h3
  exact ⟨⟨by simpa using h1, h2, h3⟩, hji⟩

/-- Tracker `i` (neither waiting for a submit nor parked at one) moves to a pc other than `idle`. -/
theorem Inv4.setPc {s s' : St} (h4 : Inv4 s) {i : Nat} {t' : Tracker}
    (htrk : s'.trk = s.trk.set i t') (hpc : s'.pc = s.pc)
    (hold : ∀ j, (getT s.trk i).pc ≠ .submitC j) (hnew : t'.pc ≠ .idle) : Inv4 s' := by
  refine ⟨fun k => by rw [hpc]; exact h4.noIn k, fun j hj => ?_⟩
  obtain ⟨hj0, hji⟩ := hj.of_set htrk hnew
  rcases h4.idle j hj0 with ⟨k, hk⟩ | ⟨i', hi', hpi⟩
  · exact Or.inl ⟨k, by rw [hpc]; exact hk⟩
  · have hne : i' ≠ i := by
      intro e; subst e; exact hold j hpi
    exact Or.inr ⟨i', by rw [htrk]; simpa using hi', by rw [htrk, getT_set_ne _ _ _ _ hne]; exact hpi⟩

/-- The locked region of `dispatch_one_batch`: the only batch that may wait for a submit afterwards is the new one. -/
theorem DLCase.idle {c : Cfg} {t : Tid} {fo : Bool} {bs : Nat} {s s' : St} {r : DRes}
    (hcase : DLCase c t fo bs s s' r) (hn : NoIdle s) : ∀ j, IdleNe s' j → r = .submit j := by
  have happ : ∀ (x : Tracker) (s1 : St), s1.trk = s.trk ++ [x] → ∀ j, IdleNe s1 j → j = s.trk.length ∧ x.items ≠ [] := by
    intro x s1 h1 j hj
    obtain ⟨g1, g2, g3⟩ := hj
    rw [h1] at g1 g2 g3
    by_cases hlt : j < s.trk.length
    · rw [getT_append_left _ _ _ hlt] at g2 g3
      exact absurd ⟨hlt, g2, g3⟩ (hn j)
    · have e : j = s.trk.length := by simp at g1; omega
      subst e
      rw [getT_append_length] at g3
      exact ⟨rfl, g3⟩
  cases hcase with
  | aborting ha => intro j hj; exact absurd hj (hn j)
  | ready tasks rest ha hr htn =>
    intro j hj
    obtain ⟨e, _⟩ := happ _ _ rfl j hj
    rw [e]
  | raised m evs dead pl ha hr hf hsd =>
    intro j hj
    obtain ⟨_, e⟩ := happ _ _ rfl j hj
    exact absurd rfl e
  | empty evs dead raised pl ha hr hf => intro j hj; exact absurd hj (hn j)
  | pulled m evs dead raised pl tasks rest ha hr hf hm htn hrest hfl =>
    intro j hj
    obtain ⟨e, _⟩ := happ _ _ rfl j hj
    rw [e]

-- Not used by any proof of this development.
macro "s4move" h4:ident hpc:ident : tactic => `(tactic|
  (apply Inv4.sameKeys $h4 <;>
   first
   | rfl
   | (intros; simp [$hpc:ident])
   | (intros; simp [afterDispatch]; (repeat' split) <;> simp)))

theorem CStep.inv4 {c : Cfg} {s s' : St} (st : CStep c s s') (h : Inv c s) (h4 : Inv4 s)
    (he : callerEnabled s = true) : Inv4 s' := by
  cases st with
  | move m hp => exact h4.pcStep (.of_eq rfl) (hp ▸ m.holding.1) m.holding.2
  | write w hp => exact h4.pcStep (.of_eq w.trk) (hp ▸ w.holding.1) w.holding.2
  | stay => exact h4
  | dAcqSubmit k bs s1 j hpc hd =>
    obtain ⟨hlk, h0, hcase⟩ := h.dAcq he hpc hd
    refine ⟨nofun, fun j' hj' => .inl ⟨k, ?_⟩⟩
    cases hcase.idle (s := { s with lockOwner := some 0, pc := .dIn k }) (h4.noIdle (noSubmit_of_free h hlk)) j' hj'
    rfl
  | dAcqRet k bs s1 r hpc hd =>
    obtain ⟨hlk, h0, hcase⟩ := h.dAcq he hpc hd
    refine ⟨nofun, fun j' hj' => ?_⟩
    cases hcase.idle (s := { s with lockOwner := some 0, pc := .dIn k }) (h4.noIdle (noSubmit_of_free h hlk)) j' hj'
  | dSubmit k j hpc =>
    have hj := (h.U.caller k j hpc)
    refine h4.frame (TrkRel.submit (j := j) hj.2.1 rfl) nofun fun k' j' e => ?_
    cases hpc.symm.trans e
    simp [hj.1]
  | busy hpc | pop i rest hpc | finRaise e rem hpc => exact h4.pcStep (.of_eq rfl) (hpc ▸ rfl) rfl
  | resErr i s1 e hpc hr | refErr i s1 e hpc hr | refOk i s1 e hpc hr | tailErr i rem s1 e hpc hr =>
    exact h4.pcStep ((TrkRel.ror hr).trans_eq rfl) (hpc ▸ rfl) rfl
  | resOk i s1 l hpc hr => exact h4.pcStep ((TrkRel.ror hr).trans_eq (deliverVals_trk ..)) (hpc ▸ rfl) rfl
  | abortCall e hpc =>
    refine h4.pcStep ?_ (hpc ▸ rfl) rfl
    dsimp only
    split
    · exact (TrkRel.drop (ev s .abort)).congr rfl rfl
    · exact .of_eq rfl
  | finTail rem hpc => exact h4.pcStep (TrkRel.tail (s := s) (s1 := { s with jobs := [], running := false }) (.of_eq rfl) rem) (hpc ▸ rfl) (tailNext_holding ..)
  | tailOk i rem s1 l hpc hr =>
    exact h4.pcStep (TrkRel.tail ((TrkRel.ror hr).trans_eq (deliverVals_trk ..)) rem) (hpc ▸ rfl) (tailNext_holding ..)

theorem stepCaller_inv4 {c : Cfg} {s : St} (h : Inv c s) (h4 : Inv4 s)
    (he : callerEnabled s = true) : Inv4 (stepCaller c s) := (stepCaller_cases c s).inv4 h h4 he

@[simp] theorem cbAfterDispatch_trk (i : Nat) (s : St) (r : Bool) :
    (cbAfterDispatch i s r).trk = s.trk.set i { getT s.trk i with pc := .relC } := by
  rw [cbAfterDispatch_eq]; rfl

@[simp] theorem cbAfterDispatch_pc (i : Nat) (s : St) (r : Bool) : (cbAfterDispatch i s r).pc = s.pc := by
  rw [cbAfterDispatch_eq]; rfl

theorem cbDispatch_inv4 {c : Cfg} {s : St} {i : Nat} (h : Inv c s) (h4 : Inv4 s) (hi : i < s.trk.length)
    (hpc : (getT s.trk i).pc = .bsC) (hl : s.lockOwner = some (i + 1)) (bs : Nat) :
    Inv4 (cbDispatchResult i (dispatchLocked c (i + 1) true bs s)) := by
  have hni : NoIdle s := h4.noIdle (noSubmit_of_owner h hl (by intro j hh; rw [hpc] at hh; cases hh))
  obtain ⟨s', r, d⟩ := h.cbDisp hi hpc hl bs
  rw [d.eq]
  have hid := d.cases.idle hni
  have hp := d.cases.pc
  cases r with
  | submit j =>
    simp only [cbDispatchResult]
    refine ⟨fun k => by show s'.pc ≠ _; rw [hp]; exact h4.noIn k, fun j' hj' => ?_⟩
    obtain ⟨hj0, _⟩ := hj'.of_set (s := s') (t' := { getT s'.trk i with pc := .submitC j }) rfl (by simp)
    have := hid j' hj0
    simp only [DRes.submit.injEq] at this
    exact Or.inr ⟨i, by simpa using d.lt, by simp [d.lt, this]⟩
  | ret b =>
    refine Inv4.ofNoIdle (fun k => by rw [cbDispatchResult, cbAfterDispatch_pc, hp]; exact h4.noIn k) (fun j' hj' => ?_)
    obtain ⟨hj0, _⟩ := hj'.of_set (cbAfterDispatch_trk i s' b) (by simp)
    cases hid j' hj0

/-- What the locked region of `dispatch_one_batch` and a whole step of a callback thread leave alone: the caller's program
point, `_running`, `_call_id`; and they do not clear `_aborting`.  Proved by unfolding `dispatchLocked`, not from `DLCase`:
M1L-Seq needs it of states of which no `SrcInv` is known. -/
structure Keeps (s s' : St) : Prop where
  pc : s'.pc = s.pc
  running : s'.running = s.running
  callId : s'.callId = s.callId
  aborting : s.aborting = true → s'.aborting = true

theorem Keeps.rfl {s : St} : Keeps s s := ⟨_root_.rfl, _root_.rfl, _root_.rfl, id⟩

theorem Keeps.trans {s s' s'' : St} (h : Keeps s s') (h' : Keeps s' s'') : Keeps s s'' :=
  ⟨h'.pc.trans h.pc, h'.running.trans h.running, h'.callId.trans h.callId, fun a => h'.aborting (h.aborting a)⟩

theorem setTrk_keeps (s : St) (i : Nat) (t : Tracker) : Keeps s (setTrk s i t) := ⟨rfl, rfl, rfl, id⟩

theorem pull_keeps (c : Cfg) (t : Tid) (fo : Bool) (k : Nat) (s : St) : Keeps s (pull c t fo k s).1 := by
  unfold pull
  dsimp only
  split <;> exact ⟨rfl, rfl, rfl, id⟩

theorem dispatchTasks_keeps (s : St) (tasks : List Nat) : Keeps s (dispatchTasks s tasks).1 := by
  unfold dispatchTasks
  split
  · exact .rfl
  · split <;> exact ⟨rfl, rfl, rfl, id⟩

theorem dispatchTasks_ready_keeps {s s' : St} (h : Keeps s s') (r : List (List Nat)) (tasks : List Nat) :
    Keeps s (dispatchTasks { s' with ready := r } tasks).1 :=
  (h.trans (s'' := { s' with ready := r }) ⟨rfl, rfl, rfl, id⟩).trans (dispatchTasks_keeps _ tasks)

theorem registerIterError_keeps (bs : Nat) (s : St) : Keeps s (registerIterError bs s) :=
  ⟨rfl, rfl, rfl, fun _ => rfl⟩

theorem ite_ind {α : Sort _} {P : α → Prop} {c : Prop} [Decidable c] {a b : α} (ha : P a) (hb : P b) :
    P (if c then a else b) := iteInduction (fun _ => ha) (fun _ => hb)

theorem dispatchLocked_keeps (c : Cfg) (t : Tid) (fo : Bool) (bs : Nat) (s : St) :
    Keeps s (dispatchLocked c t fo bs s).1 := by
  have ite := @ite_ind (St × DRes) (fun x => Keeps s x.1)
  unfold dispatchLocked
  refine ite .rfl ?_
  split
  · exact dispatchTasks_ready_keeps .rfl _ _
  · have hp := pull_keeps c t fo (bs * c.nj) s
    dsimp only
    refine ite (hp.trans (registerIterError_keeps _ _)) (ite hp ?_)
    split
    · exact hp
    · exact dispatchTasks_ready_keeps hp _ _

theorem cbAfterDispatch_keeps (i : Nat) (s : St) (r : Bool) : Keeps s (cbAfterDispatch i s r) := by
  cases r <;> exact ⟨rfl, rfl, rfl, id⟩

theorem cbDispatchResult_keeps (i : Nat) (p : St × DRes) : Keeps p.1 (cbDispatchResult i p) := by
  obtain ⟨s, r⟩ := p
  cases r with
  | submit j => exact setTrk_keeps _ _ _
  | ret b => exact cbAfterDispatch_keeps i s b

theorem cbDispatch_keeps (c : Cfg) (i bs : Nat) (s : St) :
    Keeps s (cbDispatchResult i (dispatchLocked c (i + 1) true bs s)) :=
  (dispatchLocked_keeps c (i + 1) true bs s).trans (cbDispatchResult_keeps i _)

theorem CbStep.keeps {c : Cfg} {s s' : St} {i : Nat} (st : CbStep c i s s') : Keeps s s' := by
  have hent : Keeps s (enterNext s i) := ⟨rfl, rfl, rfl, id⟩
  cases st with
  | stay => exact .rfl
  | retrErr => exact ⟨rfl, rfl, rfl, fun _ => rfl⟩
  | acqCAbort => exact hent.trans (cbAfterDispatch_keeps i _ false)
  | acqCPark => exact hent
  | acqCDisp => exact hent.trans (cbDispatch_keeps c i _ _)
  | bsC => exact .trans (s' := { s with bsI := s.bsI + 1 }) ⟨rfl, rfl, rfl, id⟩ (cbDispatch_keeps c i _ _)
  | _ => exact ⟨rfl, rfl, rfl, id⟩

theorem stepCb_keeps (c : Cfg) (i : Nat) (s : St) : Keeps s (stepCb c i s) := CbStep.keeps (stepCb_cases c i s)

theorem complete_pc (c : Cfg) (i : Nat) (s : St) : (complete c i s).pc = s.pc := rfl

theorem step_pc_done {c : Cfg} {s : St} (a : Act) (h : s.pc = .done) : (step c s a).pc = .done :=
  step_cases (p := fun s' => s'.pc = .done) h (fun he => by simp [callerEnabled, h] at he)
    (fun i _ => (stepCb_keeps c i _).pc.trans h) (fun _ _ _ => h) a

theorem CbStep.inv4 {c : Cfg} {s s' : St} {i : Nat} (st : CbStep c i s s') (h : Inv c s) (h4 : Inv4 s)
    (he : cbEnabled s i = true) : Inv4 s' := by
  have hi := cbEnabled_lt he
  have hold : ∀ {p}, (getT s.trk i).pc = p → (∀ j, p ≠ .submitC j) → ∀ j, (getT s.trk i).pc ≠ .submitC j :=
    fun hp hn j => hp ▸ hn j
  cases st with
  | stay h0 => exact h4
  | move m hpc => exact h4.setPc (i := i) rfl rfl (hold hpc (by cases m <;> nofun)) (by cases m <;> nofun)
  | acqASkip hpc | acqA hpc | retrSet hpc | retrErr id hpc | retrOk hpc | acqCSkip hpc =>
    exact h4.setPc (i := i) rfl rfl (hold hpc nofun) nofun
  | acqCPark hpc => exact h4.setPc (i := i) (t' := { getT s.trk i with pc := .bsC }) rfl rfl (hold hpc nofun) nofun
  | acqCAbort hpc =>
    obtain ⟨h1, hi1, hpc1, hl1⟩ := h.enter he hpc
    have h41 : Inv4 (enterNext s i) :=
      h4.setPc (i := i) (t' := { getT s.trk i with pc := .bsC }) rfl rfl (hold hpc nofun) nofun
    exact h41.setPc (cbAfterDispatch_trk i _ false) (cbAfterDispatch_pc i _ false) (hpc1 ▸ nofun) nofun
  | acqCDisp hpc =>
    obtain ⟨h1, hi1, hpc1, hl1⟩ := h.enter he hpc
    have h41 : Inv4 (enterNext s i) :=
      h4.setPc (i := i) (t' := { getT s.trk i with pc := .bsC }) rfl rfl (hold hpc nofun) nofun
    exact cbDispatch_inv4 h1 h41 hi1 hpc1 hl1 _
  | bsC hpc =>
    have hl : s.lockOwner = some (i + 1) := h.L.cb i hi (by rw [getTrk_def, hpc]; rfl)
    exact cbDispatch_inv4 (h.bsI (s.bsI + 1)) ⟨h4.noIn, h4.idle⟩ hi hpc hl _
  | submitC j hpc =>
    have hl : s.lockOwner = some (i + 1) := h.L.cb i hi (by rw [getTrk_def, hpc]; rfl)
    refine Inv4.ofNoIdle (fun k => ?_) (fun j' hj' => ?_)
    · simp only [cbAfterDispatch_pc, doSubmit_pc, setCb_pc]; exact h4.noIn k
    · obtain ⟨hj1, _⟩ := hj'.of_set (cbAfterDispatch_trk i _ true) (by simp)
      obtain ⟨hj2, hne2⟩ := hj1.of_set (doSubmit_trk (i + 1) j (setCb s i .bsC)) (by simp)
      obtain ⟨hj3, _⟩ := hj2.of_set (setCb_trk s i .bsC) (by simp)
      rcases h4.idle j' hj3 with ⟨k', hk'⟩ | ⟨i', hi', hpi⟩
      · have := h.L.caller (by rw [hk']; rfl)
        rw [hl] at this; cases this
      · have := h.L.cb i' hi' (by rw [getTrk_def, hpi]; rfl)
        rw [hl] at this
        have e : i = i' := by simpa using this
        subst e
        rw [hpc] at hpi
        cases hpi
        exact hne2 rfl

theorem stepCb_inv4 {c : Cfg} {s : St} {i : Nat} (h : Inv c s) (h4 : Inv4 s) (he : cbEnabled s i = true) :
    Inv4 (stepCb c i s) := (stepCb_cases c i s).inv4 h h4 he

theorem complete_inv4 {c : Cfg} {s : St} {i : Nat} (h4 : Inv4 s)
    (hpc : (getTrk s i).pc = .parked) : Inv4 (complete c i s) := by
  unfold complete
  simp only
  exact h4.setPc (i := i) rfl rfl (by intro j hh; rw [getTrk_def] at hpc; rw [hpc] at hh; cases hh) (by simp)

theorem step_inv4 {c : Cfg} {s : St} (h : Inv c s) (h4 : Inv4 s) (a : Act) : Inv4 (step c s a) :=
  step_cases h4 (stepCaller_inv4 h h4) (fun _ => stepCb_inv4 h h4) (fun _ _ => complete_inv4 h4) a

theorem run_inv4 {c : Cfg} (sched : List Act) {s : St} (h : Inv c s ∧ Inv4 s) :
    Inv c (run c s sched) ∧ Inv4 (run c s sched) :=
  run_ind (P := fun s => Inv c s ∧ Inv4 s) (fun _ a h => ⟨step_inv h.1 a, step_inv4 h.1 h.2 a⟩) sched h

def wOf (c : Cfg) (srcPos : Nat) (ready : List (List Nat)) (dead : Bool) : Nat :=
  (stopAt c - srcPos) + ready.flatten.length + (if dead then 0 else 1)

/-- Work not yet dispatched. -/
def W (c : Cfg) (s : St) : Nat := wOf c s.srcPos s.ready s.srcDead

/-- Stages a batch still has to go through. -/
def CbPc.pot : CbPc → Nat
  | .idle => 10
  | .parked => 9
  | .acqA => 8
  | .retr => 7
  | .relA _ => 6
  | .stats => 5
  | .acqC => 4
  | .bsC => 3
  | .submitC _ => 2
  | .relC => 1
  | .dropped | .done _ => 0

def potSum (l : List Tracker) : Nat := (l.map (fun t => t.pc.pot)).sum

def P (s : St) : Nat := potSum s.trk

/-- Trackers the caller still has to go through. -/
def L (s : St) : Nat :=
  match s.pc with
  | .done => 0
  | .tailStatus _ rem => rem.length + 1
  | .finJobsW _ rem => rem.length + 2
  | _ => s.jobs.length + 3

/-- Rank of the caller's program point; `ab` = `_aborting`, `nd` = `n_dispatched_tasks`. -/
def Pc.rank (ab : Bool) (nd : Nat) : Pc → Nat
  | .resetAcq => 70
  | .resetRel => 69
  | .wNDisp => 68
  | .wNComp => 67
  | .wExc0 => 66
  | .wAbort0 => 65
  | .readyAcq => 64
  | .readyRel => 63
  | .wOrig => 62
  | .wIter0 => 61
  | .dPre .first => 60
  | .dBs .first => 59
  | .dAcq .first _ => 58
  | .dIn _ => 57
  | .dSubmit .first _ => 57
  | .dRel .first _ => 56
  | .itAcq => 55
  | .itRel => 54
  | .dSubmit .loop _ => 53
  | .dRel .loop true => 52
  | .dPre .loop => 51
  | .dBs .loop => 50
  | .dAcq .loop _ => 49
  | .dRel .loop false => 48
  | .wIterAll => 47
  | .wtNDisp nc => if !ab && decide (nc < nd) then 46 else 34
  | .rtAbort => if ab then 32 else 45
  | .rtLen => 44
  | .rtHead => 43
  | .rtStatus _ => 42
  | .popAcq => 41
  | .popRel _ => 40
  | .resStatus _ => 39
  | .sleep => 38
  | .wtAbort => 37
  | .wtIter => 36
  | .wtNComp => 35
  | .wtAbort2 => 33
  | .refAcq => 31
  | .refRel _ => 30
  | .refStatus _ => 29
  | .excW _ => 28
  | .abortW _ => 27
  | .abortCall _ => 26
  | .finExc _ => 25
  | .finJobsR _ => 24
  | .finJobsW _ _ => 0
  | .tailStatus _ _ => 0
  | .done => 0

def R (s : St) : Nat := s.pc.rank s.aborting s.nDispTasks

theorem Pc.rank_le (ab : Bool) (nd : Nat) (p : Pc) : p.rank ab nd ≤ 70 := by
  cases p with
  | dPre k | dBs k | dAcq k _ | dSubmit k _ => cases k <;> exact Nat.le_of_ble_eq_true rfl
  | dRel k r => cases k <;> cases r <;> exact Nat.le_of_ble_eq_true rfl
  | wtNDisp nc => simp only [Pc.rank]; split <;> omega
  | rtAbort => simp only [Pc.rank]; split <;> omega
  | _ => exact Nat.le_of_ble_eq_true rfl

def M (c : Cfg) (s : St) : Nat := 1300 * W c s + 100 * P s + 100 * L s + R s

/-- Lexicographic decrease of `(W, P, L, R)` with bounded increases of the lower components. -/
def Dec (c : Cfg) (s s' : St) : Prop :=
  (W c s' < W c s ∧ P s' ≤ P s + 10 ∧ L s' ≤ L s + 1) ∨
  (W c s' ≤ W c s ∧ P s' < P s ∧ L s' ≤ L s) ∨
  (W c s' ≤ W c s ∧ P s' ≤ P s ∧ L s' < L s) ∨
  (W c s' ≤ W c s ∧ P s' ≤ P s ∧ L s' ≤ L s ∧ R s' < R s)

theorem Dec.w {c : Cfg} {s s' : St} (h1 : W c s' < W c s) (h2 : P s' ≤ P s + 10) (h3 : L s' ≤ L s + 1) : Dec c s s' :=
  Or.inl ⟨h1, h2, h3⟩

theorem Dec.p {c : Cfg} {s s' : St} (h1 : W c s' ≤ W c s) (h2 : P s' < P s) (h3 : L s' ≤ L s) : Dec c s s' :=
  Or.inr (Or.inl ⟨h1, h2, h3⟩)

theorem Dec.l {c : Cfg} {s s' : St} (h1 : W c s' ≤ W c s) (h2 : P s' ≤ P s) (h3 : L s' < L s) : Dec c s s' :=
  Or.inr (Or.inr (Or.inl ⟨h1, h2, h3⟩))

theorem Dec.r {c : Cfg} {s s' : St} (h1 : W c s' ≤ W c s) (h2 : P s' ≤ P s) (h3 : L s' ≤ L s) (h4 : R s' < R s) :
    Dec c s s' :=
  Or.inr (Or.inr (Or.inr ⟨h1, h2, h3, h4⟩))

theorem Dec.lt {c : Cfg} {s s' : St} (h : Dec c s s') : M c s' < M c s := by
  have hr : R s' ≤ 70 := Pc.rank_le _ _ _
  unfold M
  rcases h with ⟨h1, h2, h3⟩ | ⟨h1, h2, h3⟩ | ⟨h1, h2, h3⟩ | ⟨h1, h2, h3, h4⟩ <;> omega

theorem L_eq_zero {s : St} (h : L s = 0) : s.pc = .done := by
  unfold L at h
  split at h <;> first | rfl | omega

theorem potSum_append (l l' : List Tracker) : potSum (l ++ l') = potSum l + potSum l' := by
  simp [potSum]

theorem potSum_set (l : List Tracker) (i : Nat) (t' : Tracker) (hi : i < l.length) :
    potSum (l.set i t') + (getT l i).pc.pot = potSum l + t'.pc.pot :=
  List.sum_map_set (·.pc.pot) l i t' default hi

theorem potSum_of_key {l l' : List Tracker} (h : l'.map trkKey = l.map trkKey) : potSum l' = potSum l := by
  have e : ∀ (x : List Tracker), potSum x = ((x.map trkKey).map (fun k => k.2.1.pot)).sum := by
    intro x; simp [potSum, trkKey, Function.comp_def]
  rw [e, e, h]

theorem potSum_drop (l : List Tracker) :
    potSum (l.map (fun t => if t.pc == .parked then { t with pc := .dropped } else t)) ≤ potSum l := by
  induction l with
  | nil => simp [potSum]
  | cons a r ih =>
    simp only [potSum, List.map_cons, List.sum_cons] at ih ⊢
    have : (if a.pc == CbPc.parked then { a with pc := CbPc.dropped } else a).pc.pot ≤ a.pc.pot := by
      split
      · simp [CbPc.pot]
      · exact Nat.le_refl _
    omega

theorem P_setCb (s : St) (i : Nat) (p : CbPc) (hi : i < s.trk.length) :
    P (setCb s i p) + (getT s.trk i).pc.pot = P s + p.pot := by
  have := potSum_set s.trk i { getT s.trk i with pc := p } hi
  simpa [P] using this

theorem P_doSubmit (t : Tid) (s : St) (j : Nat) (hj : j < s.trk.length) (hp : (getT s.trk j).pc = .idle) :
    P (doSubmit t j s) + 1 = P s := by
  have := potSum_set s.trk j { getT s.trk j with pc := .parked } hj
  rw [hp] at this
  simp only [CbPc.pot] at this
  simp only [P, doSubmit_trk, getTrk_def]
  omega

theorem P_cbAfterDispatch (i : Nat) (s : St) (r : Bool) (hi : i < s.trk.length) :
    P (cbAfterDispatch i s r) + (getT s.trk i).pc.pot = P s + 1 := by
  have := potSum_set s.trk i { getT s.trk i with pc := .relC } hi
  simp only [P, cbAfterDispatch_trk]
  simpa [CbPc.pot] using this

@[simp] theorem W_setCb (c : Cfg) (s : St) (i : Nat) (p : CbPc) : W c (setCb s i p) = W c s := rfl
@[simp] theorem W_setTrk (c : Cfg) (s : St) (i : Nat) (t : Tracker) : W c (setTrk s i t) = W c s := rfl
@[simp] theorem W_doSubmit (c : Cfg) (t : Tid) (s : St) (j : Nat) : W c (doSubmit t j s) = W c s := rfl
@[simp] theorem W_cbAfterDispatch (c : Cfg) (i : Nat) (s : St) (r : Bool) : W c (cbAfterDispatch i s r) = W c s := by
  rw [cbAfterDispatch_eq]; rfl

@[simp] theorem jobs_cbAfterDispatch (i : Nat) (s : St) (r : Bool) : (cbAfterDispatch i s r).jobs = s.jobs := by
  rw [cbAfterDispatch_eq]; rfl

theorem L_congr {s s' : St} (h1 : s'.pc = s.pc) (h2 : s'.jobs = s.jobs) : L s' = L s := by
  unfold L; rw [h1, h2]

theorem L_le_of_jobs {s s' : St} (h1 : s'.pc = s.pc) (h2 : s'.jobs.length ≤ s.jobs.length + 1) : L s' ≤ L s + 1 := by
  unfold L; rw [h1]
  split <;> omega

/-- Either nothing was registered (and `W` did not increase), or one tracker was appended and `W` went down. -/
theorem DLCase.meas {c : Cfg} {t : Tid} {fo : Bool} {bs : Nat} {s s' : St} {r : DRes}
    (hcase : DLCase c t fo bs s s' r) (hS : SrcInv c s) :
    (s'.trk = s.trk ∧ s'.jobs = s.jobs ∧ W c s' ≤ W c s ∧ (∀ j, r ≠ .submit j) ∧ r ≠ .ret true) ∨
     (∃ x : Tracker, s'.trk = s.trk ++ [x] ∧ x.pc = .idle ∧ s'.jobs = s.jobs ++ [s.trk.length] ∧ W c s' < W c s) := by
  have hle := hS.le
  cases hcase with
  | aborting ha => exact Or.inl ⟨rfl, rfl, Nat.le_refl _, by simp, by simp⟩
  | ready tasks rest ha hr htn =>
    refine Or.inr ⟨_, rfl, rfl, rfl, ?_⟩
    have : 0 < tasks.length := List.length_pos_iff.mpr htn
    show wOf c s.srcPos rest s.srcDead < wOf c s.srcPos s.ready s.srcDead
    rw [hr]
    unfold wOf
    simp only [List.flatten_cons, List.length_append]
    omega
  | raised m evs dead pl ha hr hf hsd =>
    refine Or.inr ⟨_, rfl, rfl, rfl, ?_⟩
    have hd := hf.raisedDead rfl
    show wOf c (s.srcPos + m) s.ready dead < wOf c s.srcPos s.ready s.srcDead
    rw [hd, hsd]
    unfold wOf
    simp only [if_true, Bool.false_eq_true, if_false]
    omega
  | empty evs dead raised pl ha hr hf =>
    refine Or.inl ⟨rfl, rfl, ?_, by simp, by simp⟩
    show wOf c (s.srcPos + 0) s.ready dead ≤ wOf c s.srcPos s.ready s.srcDead
    have := hf.keepDead
    unfold wOf
    cases hsd : s.srcDead with
    | true => rw [(this hsd).1]; simp
    | false => cases dead <;> simp
  | pulled m evs dead raised pl tasks rest ha hr hf hm htn hrest hfl =>
    refine Or.inr ⟨_, rfl, rfl, rfl, ?_⟩
    have h1 : 0 < tasks.length := List.length_pos_iff.mpr htn
    have h2 : tasks.length + rest.flatten.length = m := by
      have := congrArg List.length hfl
      simpa using this
    have h3 := hf.le
    have hsd : s.srcDead = false := by
      cases hsd : s.srcDead with
      | false => rfl
      | true => have := (hf.keepDead hsd).2; omega
    show wOf c (s.srcPos + m) rest dead < wOf c s.srcPos s.ready s.srcDead
    rw [hr, hsd]
    unfold wOf
    simp only [List.flatten_nil, List.length_nil, Bool.false_eq_true, if_false]
    cases dead <;> simp only [if_true, Bool.false_eq_true, if_false] <;> omega

/-- One tracker moves to a stage of smaller potential; nothing else the measure reads changes. -/
theorem Dec.ofSet {c : Cfg} {s s' : St} {i : Nat} {t' : Tracker} (hi : i < s.trk.length)
    (htrk : s'.trk = s.trk.set i t') (hpot : (getT s'.trk i).pc.pot < (getT s.trk i).pc.pot)
    (hW : W c s' = W c s) (hpc : s'.pc = s.pc) (hjobs : s'.jobs = s.jobs) : Dec c s s' := by
  refine Dec.p (Nat.le_of_eq hW) ?_ (Nat.le_of_eq (L_congr hpc hjobs))
  have := potSum_set s.trk i t' hi
  rw [htrk, getT_set_self _ _ _ hi] at hpot
  simp only [P, htrk]
  omega

theorem Dec.trans_eq {c : Cfg} {s s1 s2 : St} (h : Dec c s1 s2) (hW : W c s1 = W c s) (hP : P s1 ≤ P s)
    (hL : L s1 = L s) (hR : R s1 = R s) : Dec c s s2 := by
  unfold Dec at h ⊢
  rw [hW, hL, hR] at h
  rcases h with ⟨h1, h2, h3⟩ | ⟨h1, h2, h3⟩ | ⟨h1, h2, h3⟩ | ⟨h1, h2, h3, h4⟩
  · exact Or.inl ⟨h1, by omega, h3⟩
  · exact Or.inr (Or.inl ⟨h1, by omega, h3⟩)
  · exact Or.inr (Or.inr (Or.inl ⟨h1, by omega, h3⟩))
  · exact Or.inr (Or.inr (Or.inr ⟨h1, by omega, h3, h4⟩))

theorem complete_dec {c : Cfg} {s : St} {i : Nat} (hi : i < s.trk.length) (hpc : (getTrk s i).pc = .parked) :
    Dec c s (complete c i s) := by
  rw [getTrk_def] at hpc
  unfold complete
  simp only
  exact Dec.ofSet (i := i) hi rfl (by simp [hi, hpc, CbPc.pot]) rfl rfl rfl

theorem cbDispatch_dec {c : Cfg} {s : St} {i : Nat} (h : Inv c s) (hi : i < s.trk.length)
    (hpc : (getT s.trk i).pc = .bsC) (hl : s.lockOwner = some (i + 1)) (bs : Nat) :
    Dec c s (cbDispatchResult i (dispatchLocked c (i + 1) true bs s)) := by
  obtain ⟨s', r, d⟩ := h.cbDisp hi hpc hl bs
  rw [d.eq]
  have hp := d.cases.pc
  have hm := d.cases.meas h.S
  rcases hm with ⟨e1, e2, e3, e4, e5⟩ | ⟨x, e1, e2, e3, e4⟩
  · -- nothing registered: the thread leaves `dispatch_next`
    cases r with
    | submit j => exact absurd rfl (e4 j)
    | ret b =>
      simp only [cbDispatchResult]
      have hP := P_cbAfterDispatch i s' b d.lt
      rw [d.slot, hpc] at hP
      simp only [CbPc.pot] at hP
      have hPs : P s' = P s := by simp [P, e1]
      refine Dec.p (by rw [W_cbAfterDispatch]; exact e3) (by omega) ?_
      exact Nat.le_of_eq (L_congr (by rw [cbAfterDispatch_pc]; exact hp) (by rw [jobs_cbAfterDispatch]; exact e2))
  · -- one tracker registered: `W` went down
    have hPs : P s' = P s + 10 := by
      simp only [P, e1, potSum_append]
      simp [potSum, e2, CbPc.pot]
    have hjl : s'.jobs.length ≤ s.jobs.length + 1 := by rw [e3]; simp
    cases r with
    | submit j =>
      simp only [cbDispatchResult]
      have hP := P_setCb s' i (.submitC j) d.lt
      rw [d.slot, hpc] at hP
      simp only [CbPc.pot] at hP
      exact Dec.w (by rw [W_setCb]; exact e4) (by omega) (L_le_of_jobs hp hjl)
    | ret b =>
      simp only [cbDispatchResult]
      have hP := P_cbAfterDispatch i s' b d.lt
      rw [d.slot, hpc] at hP
      simp only [CbPc.pot] at hP
      exact Dec.w (by rw [W_cbAfterDispatch]; exact e4) (by omega)
        (L_le_of_jobs (by rw [cbAfterDispatch_pc]; exact hp) (by rw [jobs_cbAfterDispatch]; exact hjl))

theorem getT_cbAfterDispatch (i : Nat) (s : St) (r : Bool) (hi : i < s.trk.length) :
    (getT (cbAfterDispatch i s r).trk i).pc = .relC := by
  simp [cbAfterDispatch_eq, hi]

theorem getT_setCb_pc (s : St) (i : Nat) (p : CbPc) (hi : i < s.trk.length) : (getT (setCb s i p).trk i).pc = p := by
  simp [hi]

/-- The one table behind callback progress (`CbStep.rank`) and the `P`-decrease of the drain measure (`CbStep.dec`). -/
theorem CbStep.pot_lt {c : Cfg} {s s' : St} {i : Nat} (st : CbStep c i s s') (h : Inv c s) (he : cbEnabled s i = true) :
    (getT s'.trk i).pc.pot < (getT s.trk i).pc.pot := by
  have hi := cbEnabled_lt he
  have hdisp : ∀ (s1 : St) (bs : Nat), i < s1.trk.length → Inv c s1 → (getT s1.trk i).pc = .bsC →
      s1.lockOwner = some (i + 1) →
      (getT (cbDispatchResult i (dispatchLocked c (i + 1) true bs s1)).trk i).pc.pot < 3 := by
    intro s1 bs hi1 h1 hpc1 hl1
    obtain ⟨s', r, d⟩ := h1.cbDisp hi1 hpc1 hl1 bs
    rw [d.eq]
    cases r with
    | submit j => simp only [cbDispatchResult]; rw [getT_setCb_pc _ _ _ d.lt]; exact Nat.le_of_ble_eq_true rfl
    | ret b => simp only [cbDispatchResult]; rw [getT_cbAfterDispatch _ _ _ d.lt]; exact Nat.le_of_ble_eq_true rfl
  cases st with
  | stay h0 => rw [h0] at he; cases he
  | move m hpc => rw [getT_setCb_pc _ _ _ hi, hpc]; cases m <;> exact Nat.le_of_ble_eq_true rfl
  | acqASkip hpc => rw [getT_setCb_pc _ _ _ hi, hpc]; exact Nat.le_of_ble_eq_true rfl
  | acqA hpc | retrSet hpc | acqCSkip hpc => rw [getT_setCb_pc _ _ _ (by exact hi), hpc]; exact Nat.le_of_ble_eq_true rfl
  | retrErr id hpc | retrOk hpc => rw [hpc]; simp [hi, CbPc.pot]
  | acqCAbort hpc => rw [getT_cbAfterDispatch _ _ _ (by simpa [enterNext] using hi), hpc]; exact Nat.le_of_ble_eq_true rfl
  | acqCPark hpc =>
    show (getT (setCb _ i .bsC).trk i).pc.pot < _
    rw [getT_setCb_pc _ _ _ (by exact hi), hpc]; exact Nat.le_of_ble_eq_true rfl
  | acqCDisp hpc =>
    obtain ⟨h1, hi1, hpc1, hl1⟩ := h.enter he hpc
    rw [hpc]; exact Nat.lt_trans (hdisp _ _ hi1 h1 hpc1 hl1) (Nat.le_of_ble_eq_true rfl)
  | bsC hpc =>
    rw [hpc]; exact hdisp { s with bsI := s.bsI + 1 } _ hi (h.bsI _) hpc (h.L.cb i hi (by rw [getTrk_def, hpc]; rfl))
  | submitC j hpc => rw [getT_cbAfterDispatch _ _ _ (by simpa using hi), hpc]; exact Nat.le_of_ble_eq_true rfl

/-- `CbPc.rank` is `CbPc.pot` from `acqA` on (they differ on `idle` and `parked`, which are not enabled). -/
theorem CbStep.rank {c : Cfg} {s s' : St} {i : Nat} (st : CbStep c i s s') (h : Inv c s) (he : cbEnabled s i = true) :
    (getT s'.trk i).pc.rank < (getT s.trk i).pc.rank := by
  have hs : (getT s.trk i).pc.pot = (getT s.trk i).pc.rank := by
    unfold cbEnabled at he; rw [getTrk_def] at he
    cases hp : (getT s.trk i).pc <;> first | rfl | (rw [hp] at he; cases he)
  have hle : ∀ p : CbPc, p.rank ≤ p.pot := fun p => by cases p <;> exact Nat.le_of_ble_eq_true rfl
  exact Nat.lt_of_le_of_lt (hle _) (hs ▸ st.pot_lt h he)

/-- CALLBACK PROGRESS. Every enabled step of a callback thread strictly decreases its rank. -/
theorem stepCb_rank {c : Cfg} {s : St} {i : Nat} (h : Inv c s) (he : cbEnabled s i = true) :
    (getT (stepCb c i s).trk i).pc.rank < (getT s.trk i).pc.rank := (stepCb_cases c i s).rank h he

theorem CbStep.dec {c : Cfg} {s s' : St} {i : Nat} (st : CbStep c i s s') (h : Inv c s) (he : cbEnabled s i = true) :
    Dec c s s' := by
  have hi := cbEnabled_lt he
  have hlt := st.pot_lt h he
  cases st with
  | stay h0 => rw [h0] at he; cases he
  -- only slot `i` changes: its later stage is the decrease of `P`
  | move | acqASkip | acqA | retrSet | retrErr | retrOk | acqCSkip => exact Dec.ofSet (i := i) hi rfl hlt rfl rfl rfl
  | acqCPark => exact Dec.ofSet (i := i) (t' := { getT s.trk i with pc := .bsC }) hi rfl hlt rfl rfl rfl
  | acqCAbort hpc =>
    exact Dec.ofSet (i := i) (t' := { getT s.trk i with pc := .relC }) hi
      (by simp [enterNext, List.set_set, hi]) hlt (W_cbAfterDispatch ..) (cbAfterDispatch_pc ..)
      (jobs_cbAfterDispatch ..)
  | acqCDisp hpc =>
    obtain ⟨h1, hi1, hpc1, hl1⟩ := h.enter he hpc
    have hP1 : P (enterNext s i) ≤ P s := by
      have := P_setCb { s with lockOwner := some (i + 1), nCompleted := s.nCompleted + (getTrk s i).bsize } i .bsC hi
      simp only [hpc, CbPc.pot] at this
      have e : P { s with lockOwner := some (i + 1), nCompleted := s.nCompleted + (getTrk s i).bsize } = P s := rfl
      show P (setCb _ i .bsC) ≤ P s
      omega
    exact (cbDispatch_dec h1 hi1 hpc1 hl1 _).trans_eq rfl hP1 rfl rfl
  | bsC hpc =>
    exact (cbDispatch_dec (h.bsI (s.bsI + 1)) hi hpc (h.L.cb i hi (by rw [getTrk_def, hpc]; rfl)) _).trans_eq rfl
      (Nat.le_refl _) rfl rfl
  | submitC j hpc =>
    have hpend := h.U.cb i j hi hpc
    have hji : j ≠ i := by
      intro e; subst e
      have := hpend.2.1; rw [getTrk_def, hpc] at this; cases this
    have hP1 := P_setCb s i .bsC hi
    rw [hpc] at hP1
    simp only [CbPc.pot] at hP1
    have hj1 : j < (setCb s i .bsC).trk.length := by simpa using hpend.1
    have hgj : (getT (setCb s i .bsC).trk j).pc = .idle := by
      simp only [setCb_trk]; rw [getT_set_ne _ _ _ _ hji]; exact hpend.2.1
    have hP2 := P_doSubmit (i + 1) (setCb s i .bsC) j hj1 hgj
    have hi2 : i < (doSubmit (i + 1) j (setCb s i .bsC)).trk.length := by simpa using hi
    have hpc2 : (getT (doSubmit (i + 1) j (setCb s i .bsC)).trk i).pc = .bsC := by
      simp [getT_set_ne _ _ _ _ (Ne.symm hji), hi]
    have hP3 := P_cbAfterDispatch i (doSubmit (i + 1) j (setCb s i .bsC)) true hi2
    rw [hpc2] at hP3
    simp only [CbPc.pot] at hP3
    refine Dec.p (Nat.le_refl _) (by omega) ?_
    rw [L_congr (s := s) (by simp) (by simp)]
    exact Nat.le_refl _

/-- Every enabled step of a callback thread decreases the measure. -/
theorem stepCb_dec {c : Cfg} {s : St} {i : Nat} (h : Inv c s) (he : cbEnabled s i = true) :
    Dec c s (stepCb c i s) := (stepCb_cases c i s).dec h he

/-- What the measure reads of a state besides the caller's pc. -/
def measOf (s : St) : Nat × List (List Nat) × Bool × List Tracker × List Nat × Bool × Nat :=
  (s.srcPos, s.ready, s.srcDead, s.trk, s.jobs, s.aborting, s.nDispTasks)

/-- `L` counts `_jobs` at this point. -/
def Pc.plainL : Pc → Bool
  | .done | .tailStatus _ _ | .finJobsW _ _ => false
  | _ => true

theorem L_plain {s : St} (h : s.pc.plainL = true) : L s = s.jobs.length + 3 := by
  unfold L
  split <;> first | rfl | (rename_i hp; rw [hp] at h; cases h)

theorem Dec.step {c : Cfg} {s s' : St} (hW : W c s' ≤ W c s) (hP : P s' ≤ P s) (hj : s'.jobs = s.jobs)
    (hl : (s.pc.plainL && s'.pc.plainL) = true)
    (hr : decide (s'.pc.rank s'.aborting s'.nDispTasks < s.pc.rank s.aborting s.nDispTasks) = true) : Dec c s s' := by
  simp only [Bool.and_eq_true] at hl
  exact Dec.r hW hP (by rw [L_plain hl.1, L_plain hl.2, hj]; exact Nat.le_refl _) (of_decide_eq_true hr)

theorem Dec.move {c : Cfg} {s s' : St} (e : measOf s' = measOf s) (hl : (s.pc.plainL && s'.pc.plainL) = true)
    (hr : decide (s'.pc.rank s.aborting s.nDispTasks < s.pc.rank s.aborting s.nDispTasks) = true) : Dec c s s' := by
  simp only [measOf, Prod.mk.injEq] at e
  obtain ⟨e1, e2, e3, e4, e5, e6, e7⟩ := e
  exact Dec.step (by unfold W; rw [e1, e2, e3]; exact Nat.le_refl _) (by unfold P; rw [e4]; exact Nat.le_refl _) e5 hl
    (by rw [e6, e7]; exact hr)

-- `Dec.r`, else `Dec.l`, with the comparisons of `W P L R` closed by computation from the hypotheses in context
macro "cdec" hpc:ident : tactic => `(tactic|
  first
  | (refine Dec.r ?_ ?_ ?_ ?_ <;> (simp [W, P, L, R, Pc.rank, $hpc:ident, *]; done))
  | (refine Dec.l ?_ ?_ ?_ <;> (simp [W, P, L, R, Pc.rank, $hpc:ident, *]; done)))

theorem meas_of_ror {c : Cfg} {s s' : St} {i : Nat} {r : Except Exc (List Nat)} (e : returnOrRaise s i = (s', r)) :
    W c s' = W c s ∧ P s' = P s ∧ s'.jobs = s.jobs ∧ s'.pc = s.pc :=
  ror_ind (P := fun x => W c x = W c s ∧ P x = P s ∧ x.jobs = s.jobs ∧ x.pc = s.pc) e ⟨rfl, rfl, rfl, rfl⟩
    ⟨rfl, potSum_of_key (key_setResult s i .none), rfl, rfl⟩

/-- A move lowers the rank of the caller's program point — in the retrieval loop provided that, while no error is
flagged, the loop condition is found false (`hq`) — and `L` counts `_jobs` at both ends, unless it goes to `finJobsW`. -/
theorem Move.rank_lt {c : Cfg} {s : St} {p p' : Pc} (m : Move c s p p')
    (hq : s.aborting = false → (p = .wtIter → s.iterating = false) ∧ (p = .wtNComp → ¬ s.nCompleted < s.nDispTasks)) :
    (decide (p'.rank s.aborting s.nDispTasks < p.rank s.aborting s.nDispTasks) = true ∧ (p.plainL && p'.plainL) = true) ∨
      ∃ e rem, p' = .finJobsW e rem := by
  cases m
  case finExcT e _ | finJobsR e => exact .inr ⟨_, _, rfl⟩
  all_goals left
  case dPreBs k _ _ | dPreAcq k _ _ => cases k <;> exact ⟨rfl, rfl⟩
  case wtIterT hit =>
    cases hab : s.aborting with
    | true => exact ⟨rfl, rfl⟩
    | false => rw [(hq hab).1 rfl] at hit; cases hit
  case wtNComp =>
    refine ⟨?_, rfl⟩
    cases hab : s.aborting with
    | true => rfl
    | false => simp [Pc.rank, (hq hab).2 rfl]
  case wtNDispLt nc h => refine ⟨?_, rfl⟩; cases s.aborting <;> simp [Pc.rank, h]
  case wtNDispRe nc h _ | wtNDispFin nc h _ => refine ⟨?_, rfl⟩; simp [Pc.rank, h]
  case wtAbortT h | wtAbort2T h | rtAbortT h | rtAbortF h => rw [h]; exact ⟨rfl, rfl⟩
  all_goals first | exact ⟨rfl, rfl⟩ | (cases s.aborting <;> exact ⟨rfl, rfl⟩)

theorem Dec.moveStep {c : Cfg} {s : St} {p p' : Pc} (m : Move c s p p') (hpc : s.pc = p)
    (hq : s.aborting = false → (s.pc = .wtIter → s.iterating = false) ∧
      (s.pc = .wtNComp → ¬ s.nCompleted < s.nDispTasks)) : Dec c s { s with pc := p' } := by
  rcases m.rank_lt (hpc ▸ hq) with ⟨hr, hl⟩ | ⟨e, rem, rfl⟩
  · exact Dec.move rfl (hpc ▸ hl) (hpc ▸ hr)
  · cases m <;> cdec hpc

theorem Dec.writeStep {c : Cfg} {s s1 : St} {p p' : Pc} (h : Inv c s) (w : Write c s p p' s1) (hpc : s.pc = p) :
    Dec c s { s1 with pc := p' } := by
  cases w
  case readyAcq =>
    have fr := h.P (by rw [hpc]; rfl)
    refine Dec.r ?_ ?_ ?_ ?_ <;> simp [W, P, L, R, Pc.rank, hpc, fr.ready]
  case dBs k => cases k <;> exact Dec.move rfl (by rw [hpc]; rfl) (by rw [hpc]; rfl)
  case wNDisp | wAbort0 | abortWFin | abortWCall => cdec hpc
  all_goals exact Dec.move rfl (by rw [hpc]; rfl) (by rw [hpc]; rfl)

theorem CStep.dec {c : Cfg} {s s' : St} (st : CStep c s s') (h : Inv c s) (h4 : Inv4 s) (he : callerEnabled s = true)
    (hq : s.aborting = false → (s.pc = .wtIter → s.iterating = false) ∧
      (s.pc = .wtNComp → ¬ s.nCompleted < s.nDispTasks)) : Dec c s s' := by
  have hdacq : ∀ {k bs s1 r}, s.pc = .dAcq k bs →
      dispatchLocked c 0 false bs { s with lockOwner := some 0, pc := .dIn k } = (s1, r) →
      (s1.trk = s.trk ∧ s1.jobs = s.jobs ∧ W c s1 ≤ W c s ∧ (∀ j, r ≠ .submit j) ∧ r ≠ .ret true) ∨
        (W c s1 < W c s ∧ P s1 = P s + 10 ∧ s1.jobs.length = s.jobs.length + 1) := by
    intro k bs s1 r hpc hd
    obtain ⟨-, h0, hcase⟩ := h.dAcq he hpc hd
    rcases hcase.meas h0.S with hm | ⟨x, e1, e2, e3, e4⟩
    · exact Or.inl hm
    · refine Or.inr ⟨e4, ?_, by rw [e3]; simp⟩
      show potSum s1.trk = _
      rw [e1, potSum_append]
      simp [potSum, e2, CbPc.pot, P]
  cases st with
  | move m hp => exact Dec.moveStep m hp hq
  | write w hp => exact Dec.writeStep h w hp
  | stay hs =>
    rcases hs with hs | ⟨k, hs⟩
    · simp [callerEnabled, hs] at he
    · exact absurd hs (h4.noIn k)
  | busy hpc => exact Dec.l (Nat.le_refl _) (Nat.le_refl _) (by rw [L_plain (s := s) (by rw [hpc]; rfl)]; exact Nat.succ_pos _)
  | dAcqSubmit k bs s1 j hpc hd =>
    rcases hdacq hpc hd with ⟨-, -, -, e4, -⟩ | ⟨e4, hP, hjl⟩
    · exact absurd rfl (e4 j)
    · refine Dec.w e4 (Nat.le_of_eq hP) ?_
      show L { s1 with pc := Pc.dSubmit k j } ≤ L s + 1
      simp [L, hpc, hjl]
  | dAcqRet k bs s1 b hpc hd =>
    rcases hdacq hpc hd with ⟨e1, e2, e3, -, e5⟩ | ⟨e4, hP, hjl⟩
    · cases b with
      | true => exact absurd rfl e5
      | false =>
        refine Dec.r e3 ?_ ?_ ?_
        · show potSum s1.trk ≤ _; rw [e1]; exact Nat.le_refl _
        · show L { s1 with lockOwner := none, pc := Pc.dRel k false } ≤ L s
          simp [L, hpc, e2]
        · cases k <;> simp [R, Pc.rank, hpc]
    · refine Dec.w e4 (Nat.le_of_eq hP) ?_
      show L { s1 with lockOwner := none, pc := Pc.dRel k b } ≤ L s + 1
      simp [L, hpc, hjl]
  | dSubmit k j hpc =>
    have hpend := h.U.caller k j hpc
    have hP := P_doSubmit 0 { s with pc := .dIn k } j hpend.1 hpend.2.1
    have hP0 : P { s with pc := .dIn k } = P s := rfl
    refine Dec.p (Nat.le_refl _) ?_ ?_
    · show P (doSubmit 0 j { s with pc := .dIn k }) < P s
      omega
    · simp [L, hpc]
  | pop i rest hpc hj =>
    exact Dec.l (Nat.le_refl _) (Nat.le_refl _)
      (by rw [L_plain (s := s) (by rw [hpc]; rfl), hj]; exact Nat.add_lt_add_right (Nat.lt_succ_self _) 3)
  | resErr i s1 e hpc hr | refErr i s1 e hpc hr | refOk i s1 e hpc hr =>
    obtain ⟨m1, m2, m3, -⟩ := meas_of_ror (c := c) hr
    exact Dec.step (Nat.le_of_eq m1) (Nat.le_of_eq m2) m3 (by rw [hpc]; rfl) (by rw [hpc]; rfl)
  | resOk i s1 l hpc hr =>
    obtain ⟨m1, m2, m3, -⟩ := meas_of_ror (c := c) hr
    rw [deliverVals_eq]
    exact Dec.step (Nat.le_of_eq m1) (Nat.le_of_eq m2) m3
      (by rw [hpc]; rfl) (by rw [hpc]; rfl)
  | abortCall e hpc =>
    have hX : W c (if c.abortDrops = true then dropParked (ev s .abort) else ev s .abort) = W c s ∧
        P (if c.abortDrops = true then dropParked (ev s .abort) else ev s .abort) ≤ P s ∧
        (if c.abortDrops = true then dropParked (ev s .abort) else ev s .abort).jobs = s.jobs := by
      split
      · exact ⟨rfl, potSum_drop s.trk, rfl⟩
      · exact ⟨rfl, Nat.le_refl _, rfl⟩
    exact Dec.step (Nat.le_of_eq hX.1) hX.2.1 hX.2.2 (by rw [hpc]; rfl) (by rw [hpc]; rfl)
  | finRaise e rem hpc => exact Dec.l (Nat.le_refl _) (Nat.le_refl _) (by unfold L; rw [hpc]; exact Nat.succ_pos _)
  | finTail rem hpc => cases rem <;> simp only [tailNext] <;> cdec hpc
  | tailErr i rem s1 e hpc hr =>
    obtain ⟨m1, m2, -, -⟩ := meas_of_ror (c := c) hr
    refine Dec.l ?_ ?_ ?_
    · rw [← m1]; simp [W]
    · rw [← m2]; simp [P]
    · simp [L, hpc]
  | tailOk i rem s1 l hpc hr =>
    obtain ⟨m1, m2, -, -⟩ := meas_of_ror (c := c) hr
    cases rem with
    | nil =>
      simp only [tailNext]
      refine Dec.l ?_ ?_ ?_
      · rw [← m1]; simp [W]
      · rw [← m2]; simp [P]
      · simp [L, hpc]
    | cons i' rest =>
      simp only [tailNext]
      refine Dec.l ?_ ?_ ?_
      · show W c { deliverVals c s1 l with pc := Pc.tailStatus i' rest } ≤ W c s
        rw [← m1]; simp [W]
      · show P { deliverVals c s1 l with pc := Pc.tailStatus i' rest } ≤ P s
        rw [← m2]; simp [P]
      · show L { deliverVals c s1 l with pc := Pc.tailStatus i' rest } < L s
        simp [L, hpc]

theorem stepCaller_dec {c : Cfg} {s : St} (h : Inv c s) (h4 : Inv4 s) (he : callerEnabled s = true)
    (hq : s.aborting = false → (s.pc = .wtIter → s.iterating = false) ∧
      (s.pc = .wtNComp → ¬ s.nCompleted < s.nDispTasks)) : Dec c s (stepCaller c s) :=
  (stepCaller_cases c s).dec h h4 he hq

theorem pickLast_cases (s : St) :
    (∃ k i, pickLast s = some (.complete k) ∧ (parkedIds s)[k]? = some i) ∨
    (parkedIds s = [] ∧ ∃ i, pickLast s = some (.thread (i + 1)) ∧ cbEnabled s i = true) ∨
    (parkedIds s = [] ∧ (∀ i, cbEnabled s i = false) ∧
      pickLast s = if callerEnabled s then some (.thread 0) else none) := by
  unfold pickLast enabledActs
  cases hn : (parkedIds s).length with
  | succ m =>
    left
    have hm : m < (parkedIds s).length := by omega
    refine ⟨m, (parkedIds s)[m], ?_, List.getElem?_eq_getElem hm⟩
    rw [List.range_succ, List.map_append, ← List.append_assoc]
    simp
  | zero =>
    right
    have hp : parkedIds s = [] := List.length_eq_zero_iff.mp hn
    simp only [List.range_zero, List.map_nil, List.append_nil]
    cases hF : (List.range s.trk.length).filter (cbEnabled s) with
    | nil =>
      right
      refine ⟨hp, fun i => ?_, ?_⟩
      · cases hi : cbEnabled s i with
        | false => rfl
        | true =>
          exfalso
          have : i ∈ (List.range s.trk.length).filter (cbEnabled s) :=
            List.mem_filter.mpr ⟨List.mem_range.mpr (cbEnabled_lt hi), hi⟩
          rw [hF] at this; cases this
      · simp only [List.map_nil, List.append_nil]
        split <;> rfl
    | cons a r =>
      left
      refine ⟨hp, ?_⟩
      have hne : (a :: r) ≠ [] := by simp
      refine ⟨(a :: r).getLast hne, ?_, ?_⟩
      · rw [List.getLast?_append]
        have e : (List.map (fun i => Act.thread (i + 1)) (a :: r)).getLast? =
            some (Act.thread ((a :: r).getLast hne + 1)) := by
          rw [List.getLast?_map, List.getLast?_eq_some_getLast hne]; rfl
        rw [e]; rfl
      · have hmem : (a :: r).getLast hne ∈ (List.range s.trk.length).filter (cbEnabled s) := by
          rw [hF]; exact List.getLast_mem hne
        exact (List.mem_filter.mp hmem).2

/-- When the drain rule lets the caller run outside a lock-protected segment, no batch is live any more. -/
theorem quiet_of_drain {c : Cfg} {s : St} (h : Inv c s) (h4 : Inv4 s) (hpark : parkedIds s = [])
    (hcb : ∀ i, cbEnabled s i = false) (hnh : s.pc.holding = false) :
    ∀ t ∈ s.trk, t.items ≠ [] → t.pc.live = false := by
  have hlk : s.lockOwner = none := by
    cases hl : s.lockOwner with
    | none => rfl
    | some t =>
      exfalso
      cases t with
      | zero => have := h.L.own0 hl; rw [hnh] at this; cases this
      | succ i => have := (holder_enabled h).2 i hl; rw [hcb i] at this; cases this
  intro t ht hne
  obtain ⟨i, hi, rfl⟩ := (mem_iff_getT _ _).mp ht
  have hd := hcb i
  unfold cbEnabled at hd
  rw [getTrk_def] at hd
  cases hp : (getT s.trk i).pc with
  | idle =>
    exfalso
    rcases h4.idle i ⟨hi, hp, hne⟩ with ⟨k, hk⟩ | ⟨i', hi', hpi⟩
    · rw [hk] at hnh; cases hnh
    · have := hcb i'
      unfold cbEnabled at this
      rw [getTrk_def, hpi] at this
      cases this
  | parked =>
    exfalso
    have : i ∈ parkedIds s := by
      unfold parkedIds
      exact List.mem_filter.mpr ⟨List.mem_range.mpr hi, by simp [hp]⟩
    rw [hpark] at this; cases this
  | dropped => rfl
  | done b => rfl
  | acqA => rw [hp] at hd; simp [hlk] at hd
  | acqC => rw [hp] at hd; simp [hlk] at hd
  | retr => rw [hp] at hd; cases hd
  | relA ok => rw [hp] at hd; cases hd
  | stats => rw [hp] at hd; cases hd
  | bsC => rw [hp] at hd; cases hd
  | submitC j => rw [hp] at hd; cases hd
  | relC => rw [hp] at hd; cases hd

/-- Under the drain rule the caller's step decreases the measure. -/
theorem drain_caller_dec {c : Cfg} {s : St} (h : Inv c s) (h3 : Inv3 s) (h4 : Inv4 s)
    (he : callerEnabled s = true) (hpark : parkedIds s = []) (hcb : ∀ i, cbEnabled s i = false) :
    Dec c s (stepCaller c s) := by
  have key : s.aborting = false → s.pc.holding = false →
      s.iterating = false ∧ ¬ s.nCompleted < s.nDispTasks := by
    intro hab hnh
    have hq := quiet_of_drain h h4 hpark hcb hnh
    have hno : ¬ (s.iterating = true ∨ s.nCompleted < s.nDispTasks) := by
      intro hw
      obtain ⟨t, ht, h1, h2⟩ := waiting_live h h3 hab hw
      rw [hq t ht h1] at h2; cases h2
    refine ⟨?_, fun hh => hno (Or.inr hh)⟩
    cases hi : s.iterating with
    | false => rfl
    | true => exact absurd (Or.inl hi) hno
  refine stepCaller_dec h h4 he (fun hab => ⟨fun hp => ?_, fun hp => ?_⟩)
  · exact (key hab (by rw [hp]; rfl)).1
  · exact (key hab (by rw [hp]; rfl)).2

/-- DRAIN PROGRESS. In a state satisfying the invariants in which the caller has not finished, the drain rule picks an
action and that action decreases the measure. -/
theorem drain_dec {c : Cfg} {s : St} (h : Inv c s) (h3 : Inv3 s) (h4 : Inv4 s) (hnd : s.pc ≠ .done) :
    ∃ a, pickLast s = some a ∧ Dec c s (step c s a) := by
  rcases pickLast_cases s with ⟨k, i, hk, hi⟩ | ⟨hp, i, hk, hi⟩ | ⟨hp, hcb, hk⟩
  · refine ⟨_, hk, ?_⟩
    obtain ⟨h1, h2⟩ := parkedIds_spec hi
    simp only [step, hi]
    exact complete_dec h1 h2
  · refine ⟨_, hk, ?_⟩
    simp only [step, hi, if_true]
    exact stepCb_dec h hi
  · have he : callerEnabled s = true := by
      rcases not_done_enabled h hnd with he | ⟨i, _, hi⟩
      · exact he
      · rw [hcb i] at hi; cases hi
    rw [he] at hk
    refine ⟨_, hk, ?_⟩
    simp only [step, he, if_true]
    exact drain_caller_dec h h3 h4 he hp hcb

theorem M_init (c : Cfg) : M c init = 1300 * (stopAt c + 1) + 370 := by
  simp [M, W, wOf, P, potSum, L, R, Pc.rank, init]

end JoblibModel.ParallelLock
