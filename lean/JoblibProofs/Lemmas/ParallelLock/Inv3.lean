import JoblibProofs.Lemmas.ParallelLock.Steps2
/-!
M1L proofs — progress facts (no deadlock, the lock holder is runnable) and the third invariant `Inv3` (no lost wake-up): every
tracker carries the current `_call_id`; a tracker whose callback gave up (`dropped`, `done false`) implies `_aborting`,
and so does the caller standing at `abort_everything`; before `self._original_iterator = …` neither
`_original_iterator` nor `_iterating` is set; `_iterating` implies `_original_iterator` alive; and while
`_original_iterator` is alive and the caller counts on the callbacks to go on dispatching ("torch needed") either
`_aborting` is set or some batch still carries the torch.
-/
namespace JoblibModel.ParallelLock

/-- Number of steps the callback thread has at most left. -/
def CbPc.rank : CbPc → Nat
  | .idle | .parked | .dropped | .done _ => 0
  | .relC => 1
  | .submitC _ => 2
  | .bsC => 3
  | .acqC => 4
  | .stats => 5
  | .relA _ => 6
  | .retr => 7
  | .acqA => 8

theorem holder_enabled {c : Cfg} {s : St} (h : Inv c s) :
    (s.lockOwner = some 0 → callerEnabled s = true) ∧
    (∀ i, s.lockOwner = some (i + 1) → cbEnabled s i = true) := by
  refine ⟨fun ho => ?_, fun i ho => ?_⟩
  · have hh := h.L.own0 ho
    have : ∀ p : Pc, (p.holding && (!(p != .done) || p.isAcq)) = false := fun p => by cases p <;> rfl
    have := this s.pc
    rw [hh, Bool.true_and, Bool.or_eq_false_iff] at this
    simp only [Bool.not_eq_false'] at this
    simp [callerEnabled, this.1, this.2]
  · obtain ⟨_, hh⟩ := h.L.ownCb i ho
    unfold cbEnabled
    cases hp : (getTrk s i).pc <;> first | rfl | (rw [hp] at hh; cases hh)

/-- NO DEADLOCK. While the caller has not finished some action is enabled: the caller itself, or — when it is blocked
at a lock acquisition — the thread that owns the lock. -/
theorem not_done_enabled {c : Cfg} {s : St} (h : Inv c s) (hnd : s.pc ≠ .done) :
    callerEnabled s = true ∨ ∃ i, s.lockOwner = some (i + 1) ∧ cbEnabled s i = true := by
  by_cases he : callerEnabled s = true
  · exact Or.inl he
  · right
    have hacq : s.pc.isAcq = true ∧ s.lockOwner ≠ none := by
      unfold callerEnabled at he
      cases hl : s.lockOwner with
      | none => simp_all
      | some t =>
        refine ⟨?_, by simp⟩
        cases hq : s.pc.isAcq with
        | true => rfl
        | false => simp_all
    cases hl : s.lockOwner with
    | none => exact absurd hl hacq.2
    | some t =>
      cases t with
      | zero =>
        have := (holder_enabled h).1 hl
        exact absurd this he
      | succ i => exact ⟨i, rfl, (holder_enabled h).2 i hl⟩

/-- The callback of this tracker will still go through `dispatch_next` (unless an error intervenes). -/
def CbPc.torch : CbPc → Bool
  | .idle | .parked | .acqA | .retr | .relA true | .stats | .acqC | .bsC => true
  | _ => false

/-- The caller relies on callbacks to continue dispatching / to clear `_iterating`. -/
def TorchNeeded (s : St) : Prop :=
  s.iterating = true ∨ s.pc = .dRel .first true ∨ s.pc = .itAcq ∨ ∃ j, s.pc = .dSubmit .first j

def HasTorch (s : St) : Prop := ∃ t ∈ s.trk, t.items ≠ [] ∧ t.pc.torch = true

structure Inv3 (s : St) : Prop where
  callId : ∀ t ∈ s.trk, t.callId = s.callId
  dropped : ∀ t ∈ s.trk, t.pc = .dropped → s.aborting = true
  failedCb : ∀ t ∈ s.trk, (t.pc = .relA false ∨ t.pc = .done false) → s.aborting = true
  abortCall : ∀ e, s.pc = .abortCall e → s.aborting = true
  iterOrig : s.iterating = true → s.origAlive = true
  preOrig : s.pc.pastWOrig = false → s.origAlive = false ∧ s.iterating = false
  torch : s.origAlive = true → TorchNeeded s → s.aborting = true ∨ HasTorch s

theorem inv3_init : Inv3 init := by
  refine ⟨?_, ?_, ?_, ?_, ?_, ?_, ?_⟩ <;> simp [init]

/-- Once `_aborting` is set `Inv3` asks only for the call ids and the two facts about `_iterating`. -/
theorem Inv3.ofAborting {s : St} (ha : s.aborting = true) (hcall : ∀ t ∈ s.trk, t.callId = s.callId)
    (hio : s.iterating = true → s.origAlive = true)
    (hpre : s.pc.pastWOrig = false → s.origAlive = false ∧ s.iterating = false) : Inv3 s :=
  ⟨hcall, fun _ _ _ => ha, fun _ _ _ => ha, fun _ _ => ha, hio, hpre, fun _ _ => .inl ha⟩

/-- What `Inv3` reads of a tracker. -/
def trkKey (t : Tracker) : Nat × CbPc × List Nat := (t.callId, t.pc, t.items)

theorem mem_of_key {l l' : List Tracker} (h : l'.map trkKey = l.map trkKey) {t' : Tracker} (ht : t' ∈ l') :
    ∃ t ∈ l, t.callId = t'.callId ∧ t.pc = t'.pc ∧ t.items = t'.items := by
  have : trkKey t' ∈ l.map trkKey := by rw [← h]; exact List.mem_map_of_mem ht
  obtain ⟨t, ht, e⟩ := List.mem_map.mp this
  simp only [trkKey, Prod.mk.injEq] at e
  exact ⟨t, ht, e.1, e.2.1, e.2.2⟩

theorem HasTorch.of_key {s s' : St} (h : s'.trk.map trkKey = s.trk.map trkKey) (ht : HasTorch s) : HasTorch s' := by
  obtain ⟨t, hm, h1, h2⟩ := ht
  obtain ⟨t', hm', e1, e2, e3⟩ := mem_of_key h.symm hm
  exact ⟨t', hm', by rw [e3]; exact h1, by rw [e2]; exact h2⟩

/-- Transfer lemma for steps that leave callId / pc / items of every tracker unchanged. -/
theorem Inv3.sameKeys {s s' : St} (h3 : Inv3 s) (hkey : s'.trk.map trkKey = s.trk.map trkKey)
    (hcid : s'.callId = s.callId) (a_up : s.aborting = true → s'.aborting = true)
    (hac : ∀ e, s'.pc = .abortCall e → s'.aborting = true)
    (hio : s'.iterating = true → s'.origAlive = true)
    (hpre : s'.pc.pastWOrig = false → s'.origAlive = false ∧ s'.iterating = false)
    (htorch : s'.origAlive = true → TorchNeeded s' →
      (s.origAlive = true ∧ TorchNeeded s) ∨ s'.aborting = true ∨ HasTorch s') : Inv3 s' := by
  refine ⟨?_, ?_, ?_, hac, hio, hpre, ?_⟩
  · intro t' ht'
    obtain ⟨t, ht, e1, _, _⟩ := mem_of_key hkey ht'
    rw [← e1, hcid]; exact h3.callId t ht
  · intro t' ht' hp
    obtain ⟨t, ht, _, e2, _⟩ := mem_of_key hkey ht'
    exact a_up (h3.dropped t ht (by rw [e2]; exact hp))
  · intro t' ht' hp
    obtain ⟨t, ht, _, e2, _⟩ := mem_of_key hkey ht'
    exact a_up (h3.failedCb t ht (by rw [e2]; exact hp))
  · intro ho hn
    rcases htorch ho hn with ⟨h1, h2⟩ | h1 | h1
    · rcases h3.torch h1 h2 with h4 | h4
      · exact Or.inl (a_up h4)
      · exact Or.inr (h4.of_key hkey)
    · exact Or.inl h1
    · exact Or.inr h1

/-- The caller is at a point where it relies on the torch whatever `_iterating` says. -/
def Pc.torchPc : Pc → Bool
  | .dRel .first true | .itAcq | .dSubmit .first _ => true
  | _ => false

theorem torchNeeded_iff (s : St) : TorchNeeded s ↔ s.iterating = true ∨ s.pc.torchPc = true := by
  unfold TorchNeeded
  constructor
  · rintro (h | h | h | ⟨j, h⟩)
    · exact Or.inl h
    all_goals exact Or.inr (by rw [h]; rfl)
  · rintro (h | h)
    · exact Or.inl h
    · unfold Pc.torchPc at h
      split at h
      · exact Or.inr (Or.inl (by assumption))
      · exact Or.inr (Or.inr (Or.inl (by assumption)))
      · exact Or.inr (Or.inr (Or.inr ⟨_, by assumption⟩))
      · cases h

def Pc.isAbortCall : Pc → Bool
  | .abortCall _ => true
  | _ => false

/-- What `Inv3` reads of a state besides the caller's pc. -/
def key3 (s : St) : List (Nat × CbPc × List Nat) × Nat × Bool × Bool × Bool :=
  (s.trk.map trkKey, s.callId, s.aborting, s.iterating, s.origAlive)

/-- The move `p → p'` of the caller does not enter `abort_everything`, does not go back before
`self._original_iterator = …`, and does not start relying on the torch. -/
def Pc.ok3 (p p' : Pc) : Bool :=
  (p'.pastWOrig || !p.pastWOrig) && (!p'.torchPc || p.torchPc) && (!p'.isAbortCall || p.isAbortCall)

theorem Pc.ok3_refl (p : Pc) : p.ok3 p = true := by
  unfold Pc.ok3
  cases p.pastWOrig <;> cases p.torchPc <;> cases p.isAbortCall <;> rfl

theorem Inv3.pcStep {s s' : St} (h3 : Inv3 s) (e : key3 s' = key3 s) (hp : s.pc.ok3 s'.pc = true) : Inv3 s' := by
  simp only [key3, Prod.mk.injEq] at e
  obtain ⟨hkey, hcid, hab, hit, hor⟩ := e
  simp only [Pc.ok3, Bool.and_eq_true, Bool.or_eq_true, Bool.not_eq_true'] at hp
  obtain ⟨⟨hp1, hp2⟩, hp3⟩ := hp
  refine h3.sameKeys hkey hcid (fun hh => by rw [hab]; exact hh) (fun x hx => ?_) (by rw [hit, hor]; exact h3.iterOrig)
    (fun hh => ?_) (fun ho hn => Or.inl ⟨by rw [← hor]; exact ho, ?_⟩)
  · have : s.pc.isAbortCall = true := hp3.resolve_left (by rw [hx]; exact Bool.noConfusion)
    unfold Pc.isAbortCall at this
    split at this
    · rw [hab]; exact h3.abortCall _ (by assumption)
    · cases this
  · rw [hit, hor]; exact h3.preOrig (hp1.resolve_left (by rw [hh]; exact Bool.noConfusion))
  · rcases (torchNeeded_iff s').mp hn with hn | hn
    · exact Or.inl (by rw [← hit]; exact hn)
    · exact (torchNeeded_iff s).mpr (Or.inr (hp2.resolve_left (by rw [hn]; exact Bool.noConfusion)))

-- Not used by any proof of this development.
macro "s3move" h3:ident hpc:ident : tactic => `(tactic|
  (apply Inv3.sameKeys $h3 <;>
   first
   | rfl
   | exact id
   | exact ($h3).iterOrig
   | (intro a b; exact Or.inl ⟨a, by simpa [TorchNeeded, $hpc:ident] using b⟩)
   | (simp [TorchNeeded, $hpc:ident, Pc.pastWOrig])))

theorem key_setResult (s : St) (i : Nat) (r : Res) :
    (setTrk s i { getTrk s i with result := r }).trk.map trkKey = s.trk.map trkKey := by
  simp only [setTrk_trk]
  exact map_set_same trkKey _ _ _ (fun _ => rfl)

theorem Inv3.ror {s s1 : St} {i : Nat} {r : Except Exc (List Nat)} (h3 : Inv3 s)
    (hr : returnOrRaise s i = (s1, r)) : Inv3 s1 ∧ s1.pc = s.pc :=
  ror_ind (P := fun x => Inv3 x ∧ x.pc = s.pc) hr ⟨h3, rfl⟩
    ⟨h3.pcStep (congrArg (fun k => (k, s.callId, s.aborting, s.iterating, s.origAlive)) (key_setResult s i .none))
      (Pc.ok3_refl _), rfl⟩

theorem Inv3.raise {s : St} (h3 : Inv3 s) (e : Exc) : Inv3 (finishRaise s e) := h3.pcStep rfl rfl

theorem Inv3.deliver {c : Cfg} {s : St} (h3 : Inv3 s) (l : List Nat) : Inv3 (deliverVals c s l) := by
  have e : key3 (deliverVals c s l) = key3 s := by rw [deliverVals_eq]; rfl
  exact h3.pcStep e (by rw [deliverVals_pc]; exact Pc.ok3_refl _)

theorem Inv3.tail {c : Cfg} {s : St} (h3 : Inv3 s) (rem : List Nat) : Inv3 (tailNext c s rem) := by
  cases rem with
  | cons i rest => exact h3.pcStep rfl rfl
  | nil =>
    have e : key3 (finishRet c s) = key3 s := by rw [finishRet_eq]; rfl
    exact h3.pcStep e rfl


theorem HasTorch.append {s s' : St} {new : List Tracker} (h : s'.trk = s.trk ++ new) (ht : HasTorch s) : HasTorch s' := by
  obtain ⟨t, hm, h1, h2⟩ := ht
  exact ⟨t, by rw [h]; exact List.mem_append_left _ hm, h1, h2⟩

/-- The locked region of `dispatch_one_batch` and `Inv3` (the new trackers carry the current call id and are idle). -/
structure DL3 (s s' : St) (r : DRes) : Prop where
  callId : ∀ x ∈ s'.trk, x.callId = s'.callId
  dropped : ∀ x ∈ s'.trk, x.pc = .dropped → s'.aborting = true
  failedCb : ∀ x ∈ s'.trk, (x.pc = .relA false ∨ x.pc = .done false) → s'.aborting = true
  abUp : s.aborting = true → s'.aborting = true
  iterating : s'.iterating = s.iterating
  origAlive : s'.origAlive = s.origAlive
  torch : HasTorch s → HasTorch s'
  submitTorch : ∀ j, r = .submit j → HasTorch s'
  raisedAb : r = .ret true → s.aborting = false → s'.aborting = true

theorem DLCase.inv3Facts {c : Cfg} {t : Tid} {fo : Bool} {bs : Nat} {s s' : St} {r : DRes}
    (hcase : DLCase c t fo bs s s' r) (h3 : Inv3 s) : DL3 s s' r := by
  have key : ∀ (new : List Tracker) (ab : Bool), (∀ x ∈ new, x.callId = s.callId ∧ x.pc = .idle) →
      (s.aborting = true → ab = true) →
      (∀ x ∈ s.trk ++ new, x.callId = s.callId) ∧ (∀ x ∈ s.trk ++ new, x.pc = .dropped → ab = true) ∧
      (∀ x ∈ s.trk ++ new, (x.pc = .relA false ∨ x.pc = .done false) → ab = true) := by
    intro new ab hn ha
    refine ⟨?_, ?_, ?_⟩
    · intro x hx
      rcases List.mem_append.mp hx with h | h
      · exact h3.callId x h
      · exact (hn x h).1
    · intro x hx hp
      rcases List.mem_append.mp hx with h | h
      · exact ha (h3.dropped x h hp)
      · rw [(hn x h).2] at hp; cases hp
    · intro x hx hp
      rcases List.mem_append.mp hx with h | h
      · exact ha (h3.failedCb x h hp)
      · rw [(hn x h).2] at hp; rcases hp with hp | hp <;> cases hp
  cases hcase with
  | aborting ha =>
    exact ⟨h3.callId, h3.dropped, h3.failedCb, id, rfl, rfl, id, (by intro j hj; cases hj), (by intro hr; cases hr)⟩
  | ready tasks rest ha hr htn =>
    obtain ⟨k1, k2, k3⟩ := key [{ items := tasks, bsize := tasks.length, callId := s.callId }] s.aborting
      (by intro x hx; rw [List.mem_singleton] at hx; subst hx; exact ⟨rfl, rfl⟩) id
    refine ⟨k1, k2, k3, id, rfl, rfl, fun ht => ht.append rfl, fun j _ => ?_, (by intro hh; cases hh)⟩
    exact ⟨_, List.mem_append_right _ (List.mem_singleton.mpr rfl), htn, rfl⟩
  | raised m evs dead pl ha hr hf hsd =>
    obtain ⟨k1, k2, k3⟩ := key
      [{ items := [], bsize := bs, callId := s.callId, status := .error, result := .exc (.iter (s.srcPos + m)) }] true
      (by intro x hx; rw [List.mem_singleton] at hx; subst hx; exact ⟨rfl, rfl⟩) (fun _ => rfl)
    exact ⟨k1, k2, k3, fun _ => rfl, rfl, rfl, fun ht => ht.append rfl, (by intro j hj; cases hj), fun _ _ => rfl⟩
  | empty evs dead raised pl ha hr hf =>
    exact ⟨h3.callId, h3.dropped, h3.failedCb, id, rfl, rfl, fun ht => ⟨ht.choose, ht.choose_spec.1, ht.choose_spec.2⟩,
      (by intro j hj; cases hj), (by intro hh; cases hh)⟩
  | pulled m evs dead raised pl tasks rest ha hr hf hm htn hrest hfl =>
    obtain ⟨k1, k2, k3⟩ := key [{ items := tasks, bsize := tasks.length, callId := s.callId }] s.aborting
      (by intro x hx; rw [List.mem_singleton] at hx; subst hx; exact ⟨rfl, rfl⟩) id
    refine ⟨k1, k2, k3, id, rfl, rfl, fun ht => ht.append rfl, fun j _ => ?_, (by intro hh; cases hh)⟩
    exact ⟨_, List.mem_append_right _ (List.mem_singleton.mpr rfl), htn, rfl⟩

theorem Move.ok3 {c : Cfg} {s : St} {p p' : Pc} (m : Move c s p p') : p.ok3 p' = true := by
  cases m <;> rfl

/-- Tracker `i` replaced by `t'` (same call id and items): transfer of `Inv3`. -/
theorem Inv3.setT {s s' : St} (h3 : Inv3 s) {i : Nat} (hi : i < s.trk.length) (t' : Tracker)
    (htrk : s'.trk = s.trk.set i t') (hcid : t'.callId = (getT s.trk i).callId) (hit : t'.items = (getT s.trk i).items)
    (e_pc : s'.pc = s.pc) (e_cid : s'.callId = s.callId) (a_up : s.aborting = true → s'.aborting = true)
    (hflag : (s'.origAlive = s.origAlive ∧ s'.iterating = s.iterating) ∨ (s'.origAlive = false ∧ s'.iterating = false))
    (hbad : (t'.pc = .dropped ∨ t'.pc = .relA false ∨ t'.pc = .done false) → s'.aborting = true)
    (hkeep : (getT s.trk i).pc.torch = true → s'.origAlive = true →
      t'.pc.torch = true ∨ s'.aborting = true ∨ HasTorch s') : Inv3 s' := by
  have hmem : ∀ x ∈ s'.trk, x ∈ s.trk ∨ x = t' := fun x hx => by
    rw [htrk] at hx; exact List.mem_or_eq_of_mem_set hx
  have hnew : t' ∈ s'.trk := by rw [htrk]; exact List.mem_set hi _
  refine ⟨?_, ?_, ?_, ?_, ?_, ?_, ?_⟩
  · intro x hx
    rcases hmem x hx with h1 | h1
    · rw [e_cid]; exact h3.callId x h1
    · rw [h1, hcid, e_cid]; exact h3.callId _ (getT_mem _ _ hi)
  · intro x hx hp
    rcases hmem x hx with h1 | h1
    · exact a_up (h3.dropped x h1 hp)
    · exact hbad (Or.inl (by rw [← h1]; exact hp))
  · intro x hx hp
    rcases hmem x hx with h1 | h1
    · exact a_up (h3.failedCb x h1 hp)
    · exact hbad (Or.inr (by rw [← h1]; exact hp))
  · intro e he; rw [e_pc] at he; exact a_up (h3.abortCall e he)
  · rcases hflag with h1 | h1
    · rw [h1.1, h1.2]; exact h3.iterOrig
    · intro hh; rw [h1.2] at hh; cases hh
  · intro hp; rw [e_pc] at hp
    have := h3.preOrig hp
    rcases hflag with h1 | h1
    · rw [h1.1, h1.2]; exact this
    · exact h1
  · intro ho hn
    rcases hflag with h1 | h1
    · have hn0 : TorchNeeded s := by
        unfold TorchNeeded at hn ⊢
        rw [h1.2, e_pc] at hn; exact hn
      rcases h3.torch (by rw [← h1.1]; exact ho) hn0 with h4 | ⟨x, hx, hx1, hx2⟩
      · exact Or.inl (a_up h4)
      · obtain ⟨k, hk, e⟩ := (mem_iff_getT _ _).mp hx
        by_cases hki : k = i
        · subst hki
          subst e
          rcases hkeep hx2 ho with h5 | h5 | h5
          · exact Or.inr ⟨t', hnew, by rw [hit]; exact hx1, h5⟩
          · exact Or.inl h5
          · exact Or.inr h5
        · refine Or.inr ⟨x, ?_, hx1, hx2⟩
          rw [htrk, ← e, ← getT_set_ne s.trk i k t' hki]
          exact getT_mem _ _ (by simpa using hk)
    · rw [h1.1] at ho; cases ho

/-- The set-up runs while there is no tracker and neither `_original_iterator` nor `_iterating` is
set; `_iterating = … is not None` and `_iterating = False` keep `iterOrig`; the others do not touch `key3`. -/
theorem Write.inv3 {c : Cfg} {s s1 : St} {p p' : Pc} (w : Write c s p p' s1) (h : Inv c s) (h3 : Inv3 s)
    (hpc : s.pc = p) : Inv3 { s1 with pc := p' } := by
  have noTorch : ∀ {x : St}, x.iterating = false → x.pc.torchPc = false → ¬ TorchNeeded x := fun hi hq hn => by
    rcases (torchNeeded_iff _).mp hn with h1 | h1
    · rw [hi] at h1; cases h1
    · rw [hq] at h1; cases h1
  cases w
  case resetAcq | wAbort0 =>
    have f := h.P (by rw [hpc]; rfl)
    have hp := h3.preOrig (by rw [hpc]; rfl)
    refine ⟨?_, ?_, ?_, ?_, h3.iterOrig, ?_, ?_⟩ <;> simp [f.trk, hp.1, hp.2, Pc.pastWOrig]
  case wOrigAll | wOrig =>
    have hp := h3.preOrig (by rw [hpc]; rfl)
    exact h3.sameKeys rfl rfl id nofun (fun hi => nomatch hp.2.symm.trans hi)
      (fun hq => by cases hq) (fun _ hn => absurd hn (noTorch hp.2 rfl))
  case wIter0 | wIterAll =>
    exact h3.sameKeys rfl rfl id nofun nofun (fun hq => by cases hq) (fun _ hn => absurd hn (noTorch rfl rfl))
  case itAcq =>
    exact h3.sameKeys rfl rfl id nofun id (fun hq => by cases hq) (fun ho _ => .inl ⟨ho, .inr (.inr (.inl hpc))⟩)
  case abortWFin | abortWCall =>
    exact .ofAborting rfl h3.callId h3.iterOrig nofun
  all_goals exact h3.pcStep rfl (hpc ▸ rfl)

theorem CStep.inv3 {c : Cfg} {s s' : St} (st : CStep c s s') (h : Inv c s) (h2 : Inv2 c s) (h3 : Inv3 s)
    (he : callerEnabled s = true) : Inv3 s' := by
  -- inside the locked region (marker pc) the caller relies on the torch only through `_iterating`
  have h30 : ∀ k lo, Inv3 { s with lockOwner := lo, pc := .dIn k } := fun k lo =>
    h3.sameKeys rfl rfl id nofun h3.iterOrig (fun hq => by cases hq)
      (fun ho hn => .inl ⟨ho, hn.elim .inl (fun h1 => by rcases h1 with h1 | h1 | ⟨j, h1⟩ <;> cases h1)⟩)
  cases st with
  | move m hp => exact h3.pcStep rfl (hp ▸ m.ok3)
  | write w hp => exact w.inv3 h h3 hp
  | stay => exact h3
  | busy hpc | pop i rest hpc | finRaise e rem hpc => exact h3.pcStep rfl (hpc ▸ rfl)
  | dAcqSubmit k bs s1 j hpc hd =>
    obtain ⟨-, -, hcase⟩ := h.dAcq he hpc hd
    have g := hcase.inv3Facts (h30 k _)
    exact ⟨g.callId, g.dropped, g.failedCb, nofun, by rw [g.iterating, g.origAlive]; exact h3.iterOrig, nofun,
      fun _ _ => Or.inr (g.submitTorch j rfl)⟩
  | dAcqRet k bs s1 b hpc hd =>
    obtain ⟨-, -, hcase⟩ := h.dAcq he hpc hd
    have g := hcase.inv3Facts (h30 k _)
    refine ⟨g.callId, g.dropped, g.failedCb, nofun, by rw [g.iterating, g.origAlive]; exact h3.iterOrig, nofun, ?_⟩
    intro ho hn
    rcases hn with hn | hn | hn | ⟨j, hn⟩
    · -- `_iterating` already set: the torch of the pre-state survives the dispatch
      rcases h3.torch (g.origAlive ▸ ho) (Or.inl (g.iterating ▸ hn)) with h4 | h4
      · exact Or.inl (g.abUp h4)
      · exact Or.inr (g.torch ⟨h4.choose, h4.choose_spec.1, h4.choose_spec.2⟩)
    · -- `dRel first true` without a submit: the iterable raised
      cases hn
      exact Or.inl (g.raisedAb rfl (h2.L.at hpc).1.2.2.1)
    · cases hn
    · cases hn
  | dSubmit k j hpc =>
    -- the submit is the replacement of tracker `j`, as for a callback thread; then the caller leaves the marker pc
    have hpend := h.U.caller k j hpc
    have h31 : Inv3 (doSubmit 0 j { s with pc := .dIn k }) :=
      (h30 k s.lockOwner).setT hpend.1 { getT s.trk j with pc := .parked } rfl rfl rfl rfl rfl id (.inl ⟨rfl, rfl⟩) (by simp)
        (fun _ _ => .inl rfl)
    exact h31.sameKeys rfl rfl id nofun h31.iterOrig nofun
      (fun _ _ => .inr (.inr ⟨_, List.mem_set hpend.1 _, hpend.2.2.2, rfl⟩))
  | resErr i s1 e hpc hr | refErr i s1 e hpc hr | refOk i s1 e hpc hr =>
    obtain ⟨h31, hp⟩ := h3.ror hr
    exact h31.pcStep rfl (by rw [hp, hpc]; rfl)
  | resOk i s1 l hpc hr =>
    obtain ⟨h31, hp⟩ := h3.ror hr
    exact (h31.deliver l).pcStep rfl (by rw [deliverVals_pc, hp, hpc]; rfl)
  | abortCall e hpc =>
    have hab := h3.abortCall e hpc
    dsimp only
    split
    · refine .ofAborting hab (fun t ht => ?_) h3.iterOrig nofun
      simp only [dropParked_trk, ev_trk, List.mem_map] at ht
      obtain ⟨t0, ht0, rfl⟩ := ht
      split <;> exact h3.callId t0 ht0
    · exact .ofAborting hab h3.callId h3.iterOrig nofun
  | finTail rem hpc =>
    exact Inv3.tail (h3.pcStep (s' := { s with jobs := [], running := false }) rfl (hpc ▸ rfl)) rem
  | tailErr i rem s1 e hpc hr => exact (h3.ror hr).1.raise e
  | tailOk i rem s1 l hpc hr => exact ((h3.ror hr).1.deliver l).tail rem

theorem stepCaller_inv3 {c : Cfg} {s : St} (h : Inv c s) (h2 : Inv2 c s) (h3 : Inv3 s)
    (he : callerEnabled s = true) : Inv3 (stepCaller c s) := (stepCaller_cases c s).inv3 h h2 h3 he

theorem DLCase.inv3 {c : Cfg} {t : Tid} {fo : Bool} {bs : Nat} {s s' : St} {r : DRes}
    (hcase : DLCase c t fo bs s s' r) (h3 : Inv3 s) : Inv3 s' := by
  have g := hcase.inv3Facts h3
  have g5 := hcase.pc
  refine ⟨g.callId, g.dropped, g.failedCb, ?_, by rw [g.iterating, g.origAlive]; exact h3.iterOrig,
    by rw [g5, g.iterating, g.origAlive]; exact h3.preOrig, ?_⟩
  · intro e he; rw [g5] at he; exact g.abUp (h3.abortCall e he)
  · intro ho hn
    have hn0 : TorchNeeded s := by unfold TorchNeeded at hn ⊢; rw [g.iterating, g5] at hn; exact hn
    rcases h3.torch (by rw [← g.origAlive]; exact ho) hn0 with h4 | h4
    · exact Or.inl (g.abUp h4)
    · exact Or.inr (g.torch h4)

-- the `hflag` premise of `Inv3.setT` when `_original_iterator` and `_iterating` are untouched
macro "fl_same" : term => `(Or.inl ⟨rfl, rfl⟩)

/-- `htorch`: when the thread leaves with `_original_iterator` still alive, either
an error was flagged or somebody else carries the torch. -/
theorem cbFinish_inv3 {s : St} {i : Nat} (h3 : Inv3 s) (hi : i < s.trk.length) (r : Bool)
    (htorch : r = true → s.origAlive = true → s.aborting = true ∨
      ∃ k, k ≠ i ∧ k < s.trk.length ∧ (getT s.trk k).items ≠ [] ∧ (getT s.trk k).pc.torch = true) :
    Inv3 (cbAfterDispatch i s r) := by
  unfold cbAfterDispatch
  cases r with
  | true =>
    refine h3.setT hi { getT s.trk i with pc := .relC } rfl rfl rfl rfl rfl id fl_same (by simp) ?_
    intro _ ho
    rcases htorch rfl ho with h1 | ⟨k, hk1, hk2, hk3, hk4⟩
    · exact Or.inr (Or.inl h1)
    · refine Or.inr (Or.inr ⟨getT s.trk k, ?_, hk3, hk4⟩)
      show getT s.trk k ∈ s.trk.set i _
      rw [← getT_set_ne s.trk i k _ hk1]
      exact getT_mem _ _ (by simpa using hk2)
  | false =>
    exact h3.setT hi { getT s.trk i with pc := .relC } rfl rfl rfl rfl rfl id (Or.inr ⟨rfl, rfl⟩) (by simp)
      (fun _ ho => by cases ho)

theorem cbDispatch_inv3 {c : Cfg} {s : St} {i : Nat} (h : Inv c s) (h3 : Inv3 s) (hi : i < s.trk.length)
    (hpc : (getT s.trk i).pc = .bsC) (hl : s.lockOwner = some (i + 1)) (bs : Nat) :
    Inv3 (cbDispatchResult i (dispatchLocked c (i + 1) true bs s)) := by
  obtain ⟨s', r, d⟩ := h.cbDisp hi hpc hl bs
  rw [d.eq]
  have h31 := d.cases.inv3 h3
  have g := d.cases.inv3Facts h3
  cases r with
  | submit j =>
    simp only [cbDispatchResult]
    obtain ⟨hpj, hji⟩ := d.pend j rfl
    refine h31.setT d.lt { getT s'.trk i with pc := .submitC j } rfl rfl rfl rfl rfl id fl_same (by simp) ?_
    intro _ _
    refine Or.inr (Or.inr ⟨getT s'.trk j, ?_, hpj.2.2.2, by rw [show (getT s'.trk j).pc = .idle from hpj.2.1]; rfl⟩)
    show getT s'.trk j ∈ s'.trk.set i _
    rw [← getT_set_ne s'.trk i j _ hji]
    exact getT_mem _ _ (by simpa using hpj.1)
  | ret b =>
    simp only [cbDispatchResult]
    refine cbFinish_inv3 h31 d.lt b ?_
    intro hb ho
    subst hb
    by_cases ha : s.aborting = true
    · exact Or.inl (g.abUp ha)
    · exact Or.inl (g.raisedAb rfl (by simpa using ha))

theorem CbStep.inv3 {c : Cfg} {s s' : St} {i : Nat} (st : CbStep c i s s') (h : Inv c s) (h3 : Inv3 s)
    (he : cbEnabled s i = true) : Inv3 s' := by
  have hi := cbEnabled_lt he
  have hmem := getT_mem _ _ hi
  have keep : ∀ (s1 : St) (p' : CbPc), s1.trk = s.trk → s1.pc = s.pc → s1.callId = s.callId → s1.aborting = s.aborting →
      s1.origAlive = s.origAlive → s1.iterating = s.iterating →
      (p' = .dropped ∨ p' = .relA false ∨ p' = .done false → s.aborting = true) →
      ((getT s.trk i).pc.torch = true → s.origAlive = true → p'.torch = true ∨ s.aborting = true) →
      Inv3 (setCb s1 i p') := fun s1 p' e1 e2 e3 e4 e5 e6 hbad hk =>
    h3.setT hi { getT s.trk i with pc := p' } (by simp [setCb, setTrk, e1]) rfl rfl e2 e3 (fun ha => e4 ▸ ha)
      (.inl ⟨e5, e6⟩) (fun hb => e4 ▸ hbad hb) (fun ht ho => (hk ht (e5 ▸ ho)).imp id (fun ha => .inl (e4 ▸ ha)))
  have hent : Inv3 (enterNext s i) :=
    keep { s with lockOwner := some (i + 1), nCompleted := s.nCompleted + (getTrk s i).bsize } .bsC rfl rfl rfl rfl rfl rfl
      (by simp) (fun _ _ => .inl rfl)
  cases st with
  | stay => exact h3
  | move m hpc =>
    cases m
    case relAF =>
      have hab := h3.failedCb _ hmem (Or.inl hpc)
      exact keep s _ rfl rfl rfl rfl rfl rfl (fun _ => hab) (fun _ _ => .inr hab)
    case relC => exact keep s _ rfl rfl rfl rfl rfl rfl (by simp) (fun ht _ => by rw [hpc] at ht; cases ht)
    all_goals exact keep s _ rfl rfl rfl rfl rfl rfl (by simp) (fun _ _ => .inl rfl)
  | acqASkip hpc hs =>
    have hab : s.aborting = true := hs.resolve_left (fun hne => hne (h3.callId _ hmem).symm)
    exact keep s _ rfl rfl rfl rfl rfl rfl (fun _ => hab) (fun _ _ => .inr hab)
  | acqA hpc => exact keep _ _ rfl rfl rfl rfl rfl rfl (by simp) (fun _ _ => .inl rfl)
  | retrSet hpc hne =>
    have := (h.T _ hmem).pcst; rw [hpc] at this
    exact absurd this hne
  | retrErr id hpc =>
    exact h3.setT hi _ rfl rfl rfl rfl rfl (fun _ => rfl) fl_same (fun _ => rfl) (fun _ _ => Or.inr (Or.inl rfl))
  | retrOk hpc => exact h3.setT hi _ rfl rfl rfl rfl rfl id fl_same (by simp) (fun _ _ => Or.inl rfl)
  | acqCSkip hpc ho =>
    exact keep _ _ rfl rfl rfl rfl rfl rfl (by simp) (fun _ ho' => by rw [ho] at ho'; cases ho')
  | acqCAbort hpc =>
    obtain ⟨-, hi1, -, -⟩ := h.enter he hpc
    exact cbFinish_inv3 hent hi1 false nofun
  | acqCPark hpc => exact hent
  | acqCDisp hpc =>
    obtain ⟨h1, hi1, hpc1, hl1⟩ := h.enter he hpc
    exact cbDispatch_inv3 h1 hent hi1 hpc1 hl1 _
  | bsC hpc =>
    have h31 : Inv3 { s with bsI := s.bsI + 1 } :=
      ⟨h3.callId, h3.dropped, h3.failedCb, h3.abortCall, h3.iterOrig, h3.preOrig, fun a b =>
        (h3.torch a b).imp id (fun x => ⟨x.choose, x.choose_spec.1, x.choose_spec.2⟩)⟩
    exact cbDispatch_inv3 (h.bsI (s.bsI + 1)) h31 hi hpc (h.L.cb i hi (by rw [getTrk_def, hpc]; rfl)) _
  | submitC j hpc =>
    have hpend := h.U.cb i j hi hpc
    have u := h.cbSubmit hi hpc
    have h31 : Inv3 (setCb s i .bsC) := keep s _ rfl rfl rfl rfl rfl rfl (by simp) (fun _ _ => .inl rfl)
    have hj1 := u.pend.1
    have hgj : getT (setCb s i .bsC).trk j = getT s.trk j := by
      simp only [setCb_trk]; exact getT_set_ne _ _ _ _ u.ne
    have h32 : Inv3 (doSubmit (i + 1) j (setCb s i .bsC)) :=
      h31.setT hj1 { getT (setCb s i .bsC).trk j with pc := .parked } rfl rfl rfl rfl rfl id fl_same (by simp)
        (fun _ _ => Or.inl rfl)
    refine cbFinish_inv3 h32 u.lt true ?_
    intro _ _
    refine Or.inr ⟨j, u.ne, by simpa using hpend.1, ?_, ?_⟩
    · simp only [doSubmit_trk, getTrk_def, getT_set_self _ _ _ hj1, hgj]
      exact hpend.2.2.2
    · simp only [doSubmit_trk, getTrk_def, getT_set_self _ _ _ hj1]
      rfl

theorem stepCb_inv3 {c : Cfg} {s : St} {i : Nat} (h : Inv c s) (h3 : Inv3 s) (he : cbEnabled s i = true) :
    Inv3 (stepCb c i s) := (stepCb_cases c i s).inv3 h h3 he

theorem complete_inv3 {c : Cfg} {s : St} {i : Nat} (h3 : Inv3 s) (hi : i < s.trk.length)
    (hpc : (getTrk s i).pc = .parked) : Inv3 (complete c i s) := by
  unfold complete
  simp only
  exact h3.setT hi _ rfl rfl rfl rfl rfl id fl_same (by simp) (fun _ _ => Or.inl rfl)

theorem step_inv3 {c : Cfg} {s : St} (h : Inv c s) (h2 : Inv2 c s) (h3 : Inv3 s) (a : Act) : Inv3 (step c s a) :=
  step_cases h3 (stepCaller_inv3 h h2 h3) (fun _ => stepCb_inv3 h h3) (fun _ => complete_inv3 h3) a

theorem run_inv23 {c : Cfg} (hc : CfgOK c) (hpd : PdOK c) (sched : List Act) {s : St}
    (h : Inv c s ∧ Inv2 c s ∧ Inv3 s) : Inv c (run c s sched) ∧ Inv2 c (run c s sched) ∧ Inv3 (run c s sched) :=
  run_ind (P := fun s => Inv c s ∧ Inv2 c s ∧ Inv3 s)
    (fun _ a h => ⟨step_inv h.1 a, step_inv2 hc hpd h.1 h.2.1 a, step_inv3 h.1 h.2.1 h.2.2 a⟩) sched h


/-- The batch is still on its way: waiting for `submit`, in the backend, or its callback is running. -/
def CbPc.live : CbPc → Bool
  | .dropped | .done _ => false
  | _ => true

/-- NO LOST WAKE-UP (invariant form). While no error is flagged, if the caller's loop condition would still make it
wait (`_iterating`, or `n_completed_tasks < n_dispatched_tasks`) then some batch is still live. -/
theorem waiting_live {c : Cfg} {s : St} (h : Inv c s) (h3 : Inv3 s) (hna : s.aborting = false)
    (hw : s.iterating = true ∨ s.nCompleted < s.nDispTasks) : ∃ t ∈ s.trk, t.items ≠ [] ∧ t.pc.live = true := by
  rcases hw with hw | hw
  · have ho := h3.iterOrig hw
    rcases h3.torch ho (Or.inl hw) with h1 | ⟨t, ht, h1, h2⟩
    · rw [hna] at h1; cases h1
    · refine ⟨t, ht, h1, ?_⟩
      cases hp : t.pc <;> first | rfl | (rw [hp] at h2; cases h2) | (rename_i b; cases b <;> first | rfl | (rw [hp] at h2; cases h2))
  · have hex : ∃ t ∈ s.trk, t.items ≠ [] ∧ t.pc.counted = false := by
      apply Classical.byContradiction
      intro hno
      have hall : ∀ t ∈ s.trk, t.items ≠ [] → t.pc.counted = true := by
        intro t ht hne
        cases hc : t.pc.counted with
        | true => rfl
        | false => exact absurd ⟨t, ht, hne, hc⟩ hno
      have := (countedSum_eq_iff s.trk).mpr hall
      have e1 := h.N.disp
      have e2 := h.N.comp
      simp only [allItems] at e1
      omega
    obtain ⟨t, ht, h1, h2⟩ := hex
    refine ⟨t, ht, h1, ?_⟩
    cases hp : t.pc with
    | dropped => have := h3.dropped t ht hp; rw [hna] at this; cases this
    | done b =>
      cases b with
      | true => rw [hp] at h2; cases h2
      | false => have := h3.failedCb t ht (Or.inr hp); rw [hna] at this; cases this
    | _ => rfl

end JoblibModel.ParallelLock
