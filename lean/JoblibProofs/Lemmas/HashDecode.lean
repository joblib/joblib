import JoblibProofs.Lemmas.HashStream
/-! A decoder for the streams of `JoblibModel.HashStream.encode`, and injectivity of `encode` from its determinism, in this order:
* the machine `step` / `Steps` (a fragment of `pickle._Unpickler`).  It reads streams of the FIXED code only: no REDUCE, `classOf`
  knows `.cset` and `.cfset`, `Cls.build .fz = none`; `encodeOld` is compared through `oldFrozensetBody` (`Lemmas/HashStream.lean`);
* integers (`decodeLong_encodeLong`, through `Int.bmod`); an equation per opcode (`step_X`) and per scalar encoder (`step_saveX`);
* running: `Part`, `Parts`, `MemoOK`, `Pushes`, `Runs`, each over the ones before; the loop `batch_run`, a `_run` lemma per
  container encoder, `encF_run`, `encode_inj`;
* defined here, used by statements of C08 and C02: `Plain` (the hypothesis of `encF_run`), `canonF`, `Ordered`, `tyOf`. -/
namespace JoblibModel.HashStream

/-- An entry of the unpickler's stack or memo: a value, the MARK, a class object, or an instance awaiting BUILD. -/
inductive SV where
  | val (v : PyVal)
  | mark
  | cls (c : Cls)
  | obj (c : Cls)

structure MState where
  stack : List SV
  /-- the unpickler's memo; this machine numbers the entries itself (0, 1, 2, …: what the
  pickler does), ignoring the index written after BINPUT/LONG_BINPUT -/
  memo : List SV

def MState.push (x : SV) (st : MState) : MState := { st with stack := x :: st.stack }

def fromLE : Bs → Nat
  | [] => 0
  | b :: r => b + 256 * fromLE r

/-- `pickle.decode_long`: little-endian two's complement. -/
def decodeLong (bs : Bs) : Int :=
  let u := fromLE bs
  if 2 * u ≥ 256 ^ bs.length then (u : Int) - ((256 ^ bs.length : Nat) : Int) else (u : Int)

def popMark : List SV → Option (List SV × List SV)
  | [] => none
  | .mark :: r => some ([], r)
  | x :: r => (popMark r).map fun p => (x :: p.1, p.2)

def vals : List SV → Option (List PyVal)
  | [] => some []
  | .val v :: r => (vals r).map (v :: ·)
  | _ :: _ => none

/-- The values pushed since the last MARK, in push order, and the stack below the MARK (`pop_mark`). -/
def popVals (stk : List SV) : Option (List PyVal × List SV) :=
  (popMark stk).bind fun p => (vals p.1).map fun vs => (vs.reverse, p.2)

def pairUp : List PyVal → Option (List (PyVal × PyVal))
  | [] => some []
  | k :: v :: r => (pairUp r).map ((k, v) :: ·)
  | [_] => none

def readLine : Bs → Option (Bs × Bs)
  | [] => none
  | b :: r => if b = 10 then some ([], r) else (readLine r).map fun p => (b :: p.1, p.2)

def classOf (line1 line2 : Bs) : Option Cls :=
  if line1 ++ 10 :: (line2 ++ [10]) = Cls.name .cset then some .cset
  else if line1 ++ 10 :: (line2 ++ [10]) = Cls.name .cfset then some .cfset
  else none

def Cls.build : Cls → List PyVal → Option PyVal
  | .cset, l => some (.set l)
  | .cfset, l => some (.frozenset l)
  | .fz, _ => none

def readGlobal (r : Bs) : Option (Cls × Bs) :=
  (readLine r).bind fun p1 => (readLine p1.2).bind fun p2 => (classOf p1.1 p2.1).map (·, p2.2)

/-- An argument of `n` bytes (`self.read(n)`): the bytes and the rest of the stream. -/
def fieldN (n : Nat) (r : Bs) : Option (Bs × Bs) :=
  if n ≤ r.length then some (r.take n, r.drop n) else none

/-- A 4-byte little-endian count followed by that many bytes. -/
def field4 (r : Bs) : Option (Bs × Bs) :=
  (fieldN 4 r).bind fun p => fieldN (fromLE p.1) p.2

/-- One instruction.  `none`: stuck (STOP, end of input, or an ill-formed stream). -/
def step : Bs → MState → Option (Bs × MState)
  | [], _ => none
  | op :: r, st =>
    if op = NONE then some (r, st.push (.val .none))
    else if op = NEWTRUE then some (r, st.push (.val (.bool true)))
    else if op = NEWFALSE then some (r, st.push (.val (.bool false)))
    else if op = BININT1 then
      match r with
      | b :: r' => some (r', st.push (.val (.int b)))
      | _ => none
    else if op = BININT2 then (fieldN 2 r).map fun p => (p.2, st.push (.val (.int (fromLE p.1))))
    else if op = BININT then (fieldN 4 r).map fun p => (p.2, st.push (.val (.int (decodeLong p.1))))
    else if op = LONG1 then
      match r with
      | n :: r' => (fieldN n r').map fun p => (p.2, st.push (.val (.int (decodeLong p.1))))
      | _ => none
    else if op = LONG4 then (field4 r).map fun p => (p.2, st.push (.val (.int (decodeLong p.1))))
    else if op = BINFLOAT then (fieldN 8 r).map fun p => (p.2, st.push (.val (.float (fromLE p.1.reverse))))
    else if op = BINUNICODE then (field4 r).map fun p => (p.2, st.push (.val (.str p.1)))
    else if op = SHORT_BINBYTES then
      match r with
      | n :: r' => (fieldN n r').map fun p => (p.2, st.push (.val (.bytes p.1)))
      | _ => none
    else if op = BINBYTES then (field4 r).map fun p => (p.2, st.push (.val (.bytes p.1)))
    else if op = EMPTY_LIST then some (r, st.push (.val (.list [])))
    else if op = EMPTY_TUPLE then some (r, st.push (.val (.tuple [])))
    else if op = EMPTY_DICT then some (r, st.push (.val (.dict [])))
    else if op = MARK then some (r, st.push .mark)
    else if op = APPEND then
      match st.stack with
      | .val x :: .val (.list l) :: s => some (r, { st with stack := .val (.list (l ++ [x])) :: s })
      | _ => none
    else if op = APPENDS then
      match popVals st.stack with
      | some (vs, .val (.list l) :: s) => some (r, { st with stack := .val (.list (l ++ vs)) :: s })
      | _ => none
    else if op = SETITEM then
      match st.stack with
      | .val v :: .val k :: .val (.dict d) :: s => some (r, { st with stack := .val (.dict (d ++ [(k, v)])) :: s })
      | _ => none
    else if op = SETITEMS then
      match popVals st.stack with
      | some (vs, .val (.dict d) :: s) => (pairUp vs).map fun kvs => (r, { st with stack := .val (.dict (d ++ kvs)) :: s })
      | _ => none
    else if op = TUPLE1 then
      match st.stack with
      | .val a :: s => some (r, { st with stack := .val (.tuple [a]) :: s })
      | _ => none
    else if op = TUPLE2 then
      match st.stack with
      | .val b :: .val a :: s => some (r, { st with stack := .val (.tuple [a, b]) :: s })
      | _ => none
    else if op = TUPLE3 then
      match st.stack with
      | .val c :: .val b :: .val a :: s => some (r, { st with stack := .val (.tuple [a, b, c]) :: s })
      | _ => none
    else if op = TUPLE then
      (popVals st.stack).map fun p => (r, { st with stack := .val (.tuple p.1) :: p.2 })
    else if op = BINPUT then
      match r, st.stack with
      | _ :: r', top :: _ => some (r', { st with memo := st.memo ++ [top] })
      | _, _ => none
    else if op = LONG_BINPUT then
      match st.stack with
      | top :: _ => (fieldN 4 r).map fun p => (p.2, { st with memo := st.memo ++ [top] })
      | _ => none
    else if op = BINGET then
      match r with
      | i :: r' => (st.memo[i]?).map fun x => (r', st.push x)
      | _ => none
    else if op = LONG_BINGET then
      (fieldN 4 r).bind fun p => (st.memo[fromLE p.1]?).map fun x => (p.2, st.push x)
    else if op = GLOBAL then (readGlobal r).map fun p => (p.2, st.push (.cls p.1))
    else if op = NEWOBJ then
      match st.stack with
      | .val (.tuple []) :: .cls c :: s => some (r, { st with stack := .obj c :: s })
      | _ => none
    else if op = BUILD then
      match st.stack with
      | .val (.dict [(.str k, .list l)]) :: .obj c :: s =>
        if k = SEQUENCE then (c.build l).map fun v => (r, { st with stack := .val v :: s }) else none
      | _ => none
    else if op = PROTO then
      match r with
      | _ :: r' => some (r', st)
      | _ => none
    else none

/-- The unread stream and the unpickler's state. -/
abbrev Conf := Bs × MState

/-- Zero or more instructions of `load`'s dispatch loop. -/
inductive Steps : Conf → Conf → Prop
  | refl (c : Conf) : Steps c c
  | cons {bs : Bs} {st : MState} {c c' : Conf} : step bs st = some c → Steps c c' → Steps (bs, st) c'

theorem Steps.trans {a b c : Conf} (h1 : Steps a b) (h2 : Steps b c) : Steps a c := by
  induction h1 with
  | refl _ => exact h2
  | cons hs _ ih => exact .cons hs (ih h2)

theorem Steps.one {bs : Bs} {st : MState} {c : Conf} (h : step bs st = some c) : Steps (bs, st) c :=
  .cons h (.refl _)

theorem Steps.final_unique {a t1 t2 : Conf} (h1 : Steps a t1) (h2 : Steps a t2)
    (f1 : step t1.1 t1.2 = none) (f2 : step t2.1 t2.2 = none) : t1 = t2 := by
  induction h1 with
  | refl c =>
    cases h2 with
    | refl _ => rfl
    | cons hs _ => rw [f1] at hs; cases hs
  | cons hs _ ih =>
    cases h2 with
    | refl _ => rw [f2] at hs; cases hs
    | cons hs' h2' =>
      rw [hs] at hs'; cases hs'
      exact ih h2' f1

theorem fromLE_leBytes : ∀ (k u : Nat), fromLE (leBytes k u) = u % 256 ^ k
  | 0, u => by simp [leBytes, fromLE, Nat.mod_one]
  | k + 1, u => by
    simp only [leBytes, fromLE, fromLE_leBytes k]
    rw [Nat.pow_succ, Nat.mul_comm (256 ^ k) 256, Nat.mod_mul]

theorem leBytes_length : ∀ (k u : Nat), (leBytes k u).length = k
  | 0, _ => rfl
  | k + 1, u => by simp [leBytes, leBytes_length k]

theorem leBytes_take (j k u : Nat) (h : j ≤ k) : (leBytes k u).take j = leBytes j u := by
  induction j generalizing k u with
  | zero => rfl
  | succ j ih =>
    cases k with
    | zero => omega
    | succ k => rw [leBytes, leBytes, List.take_succ_cons, ih k (u / 256) (by omega)]

theorem leBytes_getD (i k u : Nat) (h : i < k) : (leBytes k u).getD i 0 = u / 256 ^ i % 256 := by
  induction i generalizing k u with
  | zero => cases k with
    | zero => omega
    | succ k => simp [leBytes]
  | succ i ih =>
    cases k with
    | zero => omega
    | succ k =>
      rw [leBytes, List.getD_cons_succ, ih k (u / 256) (by omega), Nat.div_div_eq_div_mul, Nat.pow_succ, Nat.mul_comm]

theorem decodeLong_leBytes (k u : Nat) : decodeLong (leBytes k u) = (u : Int).bmod (256 ^ k : Nat) := by
  rw [decodeLong, fromLE_leBytes, leBytes_length, Int.bmod_def, ← Int.natCast_emod]
  generalize 256 ^ k = P
  generalize u % P = r
  split <;> split <;> omega

theorem decodeLong_leSigned (k : Nat) (x : Int) : decodeLong (leSigned k x) = x.bmod (256 ^ k : Nat) := by
  rw [leSigned, decodeLong_leBytes,
    Int.toNat_of_nonneg (Int.emod_nonneg _ (Int.natCast_ne_zero.mpr (Nat.pos_iff_ne_zero.mp (Nat.pow_pos (by decide))))),
    Int.emod_bmod]

theorem two_natAbs_lt (x : Int) (hx : x ≠ 0) : 2 * x.natAbs < 256 ^ (bitLength x / 8 + 1) := by
  have h1 : x.natAbs < 2 ^ bitLength x := by
    simp only [bitLength, hx, if_false]
    exact Nat.lt_log2_self
  have h4 : 2 ^ (bitLength x + 1) ≤ 2 ^ (8 * (bitLength x / 8 + 1)) := Nat.pow_le_pow_right (by decide) (by omega)
  rw [show (256 : Nat) ^ (bitLength x / 8 + 1) = 2 ^ (8 * (bitLength x / 8 + 1)) by rw [Nat.pow_mul]]
  rw [Nat.pow_succ] at h4
  omega

/-- Sign extension: a top byte 0xff above a byte whose sign bit is set can be dropped, whatever number `u` the bytes come
from (what `encode_long` trims). -/
theorem decodeLong_take_leBytes (j u : Nat) (hj : 0 < j) (hA : (leBytes (j + 1) u).getD j 0 = 0xff)
    (hB : 128 ≤ (leBytes (j + 1) u).getD (j - 1) 0) :
    decodeLong ((leBytes (j + 1) u).take j) = decodeLong (leBytes (j + 1) u) := by
  have hQ : 256 ^ j = 256 ^ (j - 1) * 256 := by rw [← Nat.pow_succ, Nat.succ_eq_add_one, Nat.sub_add_cancel hj]
  rw [leBytes_getD j (j + 1) _ (Nat.lt_succ_self j)] at hA
  rw [leBytes_getD (j - 1) (j + 1) _ (Nat.lt_succ_of_le (Nat.sub_le j 1)), ← Nat.mod_mul_right_div_self, ← hQ] at hB
  have h2 := (Nat.le_div_iff_mul_le (Nat.pow_pos (by decide))).mp hB
  have hlt := Nat.mod_lt u (Nat.pow_pos (a := 256) (n := j) (by decide))
  rw [leBytes_take j (j + 1) _ (Nat.le_succ j), decodeLong, decodeLong, fromLE_leBytes, fromLE_leBytes, leBytes_length,
    leBytes_length, Nat.mod_pow_succ, hA, Nat.pow_succ]
  generalize u % 256 ^ j = r at *
  generalize 256 ^ (j - 1) = R at *
  generalize 256 ^ j = Q at *
  rw [if_pos (by omega), if_pos (by omega)]
  omega

theorem decodeLong_encodeLong (x : Int) : decodeLong (encodeLong x) = x := by
  unfold encodeLong
  split
  · rename_i h; subst h; rfl
  · rename_i hx
    have hb := two_natAbs_lt x hx
    generalize bitLength x / 8 + 1 = n at *
    have hr : x.bmod (256 ^ n : Nat) = x := Int.bmod_eq_of_le_mul_two (by omega) (by omega)
    simp only []
    split
    · rename_i hc
      obtain ⟨_, hn1, hA, hB⟩ := hc
      obtain ⟨j, rfl⟩ : ∃ j, n = j + 1 := ⟨n - 1, (Nat.sub_add_cancel (Nat.le_of_lt hn1)).symm⟩
      exact (decodeLong_take_leBytes j _ (Nat.lt_of_succ_lt_succ hn1) hA hB).trans ((decodeLong_leSigned (j + 1) x).trans hr)
    · exact (decodeLong_leSigned n x).trans hr

theorem fieldN_append {n : Nat} {x : Bs} (h : x.length = n) (rest : Bs) : fieldN n (x ++ rest) = some (x, rest) := by
  subst h; simp [fieldN]

theorem fieldN_leBytes (k u : Nat) (rest : Bs) : fieldN k (leBytes k u ++ rest) = some (leBytes k u, rest) :=
  fieldN_append (leBytes_length k u) rest

theorem field4_append (x rest : Bs) (h : x.length < 2 ^ 32) :
    field4 (leBytes 4 x.length ++ (x ++ rest)) = some (x, rest) := by
  have e : fromLE (leBytes 4 x.length) = x.length := (fromLE_leBytes 4 _).trans (Nat.mod_eq_of_lt h)
  rw [field4, fieldN_leBytes, Option.bind_some, e]
  exact fieldN_append rfl rest

section ops
variable (r : Bs) (s mm : List SV) (st : MState)

theorem step_BININT1 (b : Nat) : step (BININT1 :: b :: r) st = some (r, st.push (.val (.int b))) := rfl
theorem step_BININT2 :
    step (BININT2 :: r) st = (fieldN 2 r).map fun p => (p.2, st.push (.val (.int (fromLE p.1)))) := rfl
theorem step_BININT :
    step (BININT :: r) st = (fieldN 4 r).map fun p => (p.2, st.push (.val (.int (decodeLong p.1)))) := rfl
theorem step_LONG1 (n : Nat) :
    step (LONG1 :: n :: r) st = (fieldN n r).map fun p => (p.2, st.push (.val (.int (decodeLong p.1)))) := rfl
theorem step_LONG4 :
    step (LONG4 :: r) st = (field4 r).map fun p => (p.2, st.push (.val (.int (decodeLong p.1)))) := rfl
theorem step_BINFLOAT :
    step (BINFLOAT :: r) st = (fieldN 8 r).map fun p => (p.2, st.push (.val (.float (fromLE p.1.reverse)))) := rfl
theorem step_BINUNICODE :
    step (BINUNICODE :: r) st = (field4 r).map fun p => (p.2, st.push (.val (.str p.1))) := rfl
theorem step_SHORT_BINBYTES (n : Nat) :
    step (SHORT_BINBYTES :: n :: r) st = (fieldN n r).map fun p => (p.2, st.push (.val (.bytes p.1))) := rfl
theorem step_BINBYTES :
    step (BINBYTES :: r) st = (field4 r).map fun p => (p.2, st.push (.val (.bytes p.1))) := rfl
theorem step_EMPTY_LIST : step (EMPTY_LIST :: r) ⟨s, mm⟩ = some (r, ⟨.val (.list []) :: s, mm⟩) := rfl
theorem step_EMPTY_TUPLE : step (EMPTY_TUPLE :: r) ⟨s, mm⟩ = some (r, ⟨.val (.tuple []) :: s, mm⟩) := rfl
theorem step_EMPTY_DICT : step (EMPTY_DICT :: r) ⟨s, mm⟩ = some (r, ⟨.val (.dict []) :: s, mm⟩) := rfl
theorem step_MARK : step (MARK :: r) ⟨s, mm⟩ = some (r, ⟨.mark :: s, mm⟩) := rfl

theorem step_APPEND (x : PyVal) (l : List PyVal) :
    step (APPEND :: r) ⟨.val x :: .val (.list l) :: s, mm⟩ = some (r, ⟨.val (.list (l ++ [x])) :: s, mm⟩) := rfl
theorem step_SETITEM (k v : PyVal) (d : List (PyVal × PyVal)) :
    step (SETITEM :: r) ⟨.val v :: .val k :: .val (.dict d) :: s, mm⟩
      = some (r, ⟨.val (.dict (d ++ [(k, v)])) :: s, mm⟩) := rfl
theorem step_TUPLEn (n : Nat) (vs : List PyVal) (hn : vs.length = n + 1) (h3 : n ≤ 2) :
    step ((TUPLE1 + n) :: r) ⟨vs.reverse.map SV.val ++ s, mm⟩ = some (r, ⟨.val (.tuple vs) :: s, mm⟩) :=
  match n, vs, hn, h3 with
  | 0, [_], _, _ => rfl
  | 1, [_, _], _, _ => rfl
  | 2, [_, _, _], _, _ => rfl
theorem step_NEWOBJ (c : Cls) :
    step (NEWOBJ :: r) ⟨.val (.tuple []) :: .cls c :: s, mm⟩ = some (r, ⟨.obj c :: s, mm⟩) := rfl
theorem step_PROTO (b : Nat) : step (PROTO :: b :: r) st = some (r, st) := rfl
theorem step_STOP : step (STOP :: r) st = none := rfl

/-- `k` is a variable so that the test `k = SEQUENCE` is not evaluated. -/
theorem step_BUILD (c : Cls) (k : Bs) (hk : k = SEQUENCE) (l : List PyVal) :
    step (BUILD :: r) ⟨.val (.dict [(.str k, .list l)]) :: .obj c :: s, mm⟩
      = (c.build l).map fun v => (r, ⟨.val v :: s, mm⟩) := if_pos hk

theorem popMark_vals (vs : List PyVal) (rest : List SV) :
    popMark (vs.map SV.val ++ SV.mark :: rest) = some (vs.map SV.val, rest) := by
  induction vs with
  | nil => rfl
  | cons v vs ih => simp only [List.map_cons, List.cons_append, popMark, ih, Option.map_some]

theorem vals_map (vs : List PyVal) : vals (vs.map SV.val) = some vs := by
  induction vs with
  | nil => rfl
  | cons v vs ih => simp only [List.map_cons, vals, ih, Option.map_some]

def flatKV (kvs : List (PyVal × PyVal)) : List PyVal := kvs.flatMap fun kv => [kv.1, kv.2]

theorem pairUp_flatKV (kvs : List (PyVal × PyVal)) : pairUp (flatKV kvs) = some kvs := by
  induction kvs with
  | nil => rfl
  | cons kv kvs ih =>
    simp only [flatKV, List.flatMap_cons, List.cons_append, List.nil_append, pairUp] at ih ⊢
    rw [ih]; rfl

theorem popVals_run (vs : List PyVal) (rest : List SV) :
    popVals (vs.reverse.map SV.val ++ .mark :: rest) = some (vs, rest) := by
  simp only [popVals, popMark_vals, Option.bind_some, vals_map, Option.map_some, List.reverse_reverse]

theorem step_APPENDS (vs : List PyVal) (l : List PyVal) :
    step (APPENDS :: r) ⟨vs.reverse.map SV.val ++ .mark :: .val (.list l) :: s, mm⟩
      = some (r, ⟨.val (.list (l ++ vs)) :: s, mm⟩) := by
  have e : ∀ stk, step (APPENDS :: r) ⟨stk, mm⟩ = match popVals stk with
      | some (vs, .val (.list l) :: s) => some (r, ⟨.val (.list (l ++ vs)) :: s, mm⟩)
      | _ => none := fun _ => rfl
  rw [e, popVals_run]

theorem step_SETITEMS (kvs : List (PyVal × PyVal)) (d : List (PyVal × PyVal)) :
    step (SETITEMS :: r) ⟨(flatKV kvs).reverse.map SV.val ++ .mark :: .val (.dict d) :: s, mm⟩
      = some (r, ⟨.val (.dict (d ++ kvs)) :: s, mm⟩) := by
  have e : ∀ stk, step (SETITEMS :: r) ⟨stk, mm⟩ = match popVals stk with
      | some (vs, .val (.dict d) :: s) => (pairUp vs).map fun kvs => (r, ⟨.val (.dict (d ++ kvs)) :: s, mm⟩)
      | _ => none := fun _ => rfl
  rw [e, popVals_run]
  simp only [pairUp_flatKV, Option.map_some]

theorem step_TUPLE (vs : List PyVal) :
    step (TUPLE :: r) ⟨vs.reverse.map SV.val ++ .mark :: s, mm⟩ = some (r, ⟨.val (.tuple vs) :: s, mm⟩) := by
  have e : ∀ stk, step (TUPLE :: r) ⟨stk, mm⟩
      = (popVals stk).map fun p => (r, ⟨.val (.tuple p.1) :: p.2, mm⟩) := fun _ => rfl
  rw [e, popVals_run]; rfl

theorem step_put (idx : Nat) (top : SV) :
    step (put idx ++ r) ⟨top :: s, mm⟩ = some (r, ⟨top :: s, mm ++ [top]⟩) := by
  unfold put
  split
  · rfl
  · have e : ∀ r', step (LONG_BINPUT :: r') ⟨top :: s, mm⟩
        = (fieldN 4 r').map fun p => (p.2, ⟨top :: s, mm ++ [top]⟩) := fun _ => rfl
    rw [List.cons_append, e, fieldN_leBytes]; rfl

theorem step_get (idx : Nat) (x : SV) (h : idx < 2 ^ 32) (hx : mm[idx]? = some x) :
    step (get idx ++ r) ⟨s, mm⟩ = some (r, ⟨x :: s, mm⟩) := by
  unfold get
  split
  · have e : step (BINGET :: idx :: r) ⟨s, mm⟩ = (mm[idx]?).map fun x => (r, ⟨x :: s, mm⟩) := rfl
    rw [List.cons_append, List.cons_append, List.nil_append, e, hx]; rfl
  · have e : ∀ r', step (LONG_BINGET :: r') ⟨s, mm⟩
        = (fieldN 4 r').bind fun p => (mm[fromLE p.1]?).map fun x => (p.2, ⟨x :: s, mm⟩) := fun _ => rfl
    rw [List.cons_append, e, fieldN_leBytes, Option.bind_some, fromLE_leBytes, Nat.mod_eq_of_lt h, hx]; rfl

end ops

theorem readLine_append {a l a' : Bs} (r : Bs) (h : readLine a = some (l, a')) :
    readLine (a ++ r) = some (l, a' ++ r) := by
  induction a generalizing l with
  | nil => cases h
  | cons b a ih =>
    simp only [readLine, List.cons_append] at h ⊢
    split
    · rename_i hb; rw [if_pos hb] at h; cases h; rfl
    · rename_i hb
      rw [if_neg hb] at h
      cases e : readLine a with
      | none => rw [e] at h; cases h
      | some p => rw [e] at h; cases h; rw [ih e]; rfl

theorem readGlobal_append {a a' : Bs} {c : Cls} (r : Bs) (h : readGlobal a = some (c, a')) :
    readGlobal (a ++ r) = some (c, a' ++ r) := by
  unfold readGlobal at h ⊢
  cases e1 : readLine a with
  | none => rw [e1] at h; cases h
  | some p1 =>
    rw [e1] at h; rw [readLine_append r e1]
    simp only [Option.bind_some] at h ⊢
    cases e2 : readLine p1.2 with
    | none => rw [e2] at h; cases h
    | some p2 =>
      rw [e2] at h; rw [readLine_append r e2]
      simp only [Option.bind_some] at h ⊢
      cases e3 : classOf p1.1 p2.1 with
      | none => rw [e3] at h; cases h
      | some c' => rw [e3] at h; cases h; rfl

theorem step_GLOBAL (c : Cls) (hc : c ≠ .fz) (r : Bs) (st : MState) :
    step (GLOBAL :: (c.name ++ r)) st = some (r, st.push (.cls c)) := by
  have h : readGlobal (Cls.name .cset) = some (.cset, []) ∧ readGlobal (Cls.name .cfset) = some (.cfset, []) := by
    -- evaluated on the names as lists of characters: `String.toList` of the two literals is most of the work otherwise
    have e1 : Cls.name .cset = _ := asciiBytes_ofList _
    have e2 : Cls.name .cfset = _ := asciiBytes_ofList _
    unfold readGlobal classOf
    rw [e1, e2]
    decide +kernel
  have hn : readGlobal c.name = some (c, []) := by
    cases c with
    | cset => exact h.1
    | cfset => exact h.2
    | fz => exact absurd rfl hc
  have e : ∀ r', step (GLOBAL :: r') st = (readGlobal r').map fun p => (p.2, st.push (.cls p.1)) := fun _ => rfl
  rw [e, readGlobal_append r hn]; rfl

theorem natCast_toNat_mod {i : Int} {P : Nat} (h0 : 0 ≤ i) (h : i < P) : ((i.toNat % P : Nat) : Int) = i := by
  rw [Nat.mod_eq_of_lt (by omega), Int.toNat_of_nonneg h0]

theorem step_saveLong (i : Int) (h : (encodeLong i).length < 2 ^ 32) (r : Bs) (st : MState) :
    step (saveLong i ++ r) st = some (r, st.push (.val (.int i))) := by
  unfold saveLong
  split
  · rename_i h1
    have := natCast_toNat_mod h1.1 (P := 256) (by omega)
    simp only [leBytes, List.cons_append, List.nil_append, step_BININT1, this]
  · split
    · rename_i h2
      have := natCast_toNat_mod h2.1 (P := 256 ^ 2) (by omega)
      simp only [List.cons_append, step_BININT2, fieldN_leBytes, Option.map_some, fromLE_leBytes, this]
    · split
      · simp only [List.cons_append, step_BININT, leSigned, fieldN_leBytes, Option.map_some]
        rw [← leSigned, decodeLong_leSigned, Int.bmod_eq_of_le_mul_two (by omega) (by omega)]
      · simp only []
        split
        · simp only [List.cons_append, step_LONG1, fieldN_append rfl, Option.map_some, decodeLong_encodeLong]
        · simp only [List.cons_append, List.append_assoc, step_LONG4, field4_append _ _ h, Option.map_some,
            decodeLong_encodeLong]

theorem step_saveFloat (x : Nat) (h : x < 2 ^ 64) (r : Bs) (st : MState) :
    step (saveFloat x ++ r) st = some (r, st.push (.val (.float x))) := by
  have hlen : (leBytes 8 x).reverse.length = 8 := by rw [List.length_reverse, leBytes_length]
  simp only [saveFloat, List.cons_append, step_BINFLOAT, fieldN_append hlen, Option.map_some, List.reverse_reverse,
    fromLE_leBytes]
  rw [Nat.mod_eq_of_lt h]

theorem step_saveStr (x : Bs) (h : x.length < 2 ^ 32) (r : Bs) (st : MState) :
    step (saveStr x ++ r) st = some (r, st.push (.val (.str x))) := by
  simp only [saveStr, List.cons_append, List.append_assoc, step_BINUNICODE, field4_append x r h, Option.map_some]

theorem step_saveBytes (x : Bs) (h : x.length < 2 ^ 32) (r : Bs) (st : MState) :
    step (saveBytes x ++ r) st = some (r, st.push (.val (.bytes x))) := by
  unfold saveBytes
  split
  · simp only [List.cons_append, step_SHORT_BINBYTES, fieldN_append rfl, Option.map_some]
  · simp only [List.cons_append, List.append_assoc, step_BINBYTES, field4_append x r h, Option.map_some]

section mono
variable (e : PyVal → Memo → Bs × Memo)

theorem seqM_mono (he : ∀ x m, m.next ≤ (e x m).2.next) : ∀ (l : List PyVal) (m : Memo), m.next ≤ (seqM e l m).2.next
  | [], _ => Nat.le_refl _
  | x :: xs, m => Nat.le_trans (he x m) (seqM_mono he xs _)

theorem seqKV_mono (he : ∀ x m, m.next ≤ (e x m).2.next) :
    ∀ (l : List (PyVal × PyVal)) (m : Memo), m.next ≤ (seqKV e l m).2.next
  | [], _ => Nat.le_refl _
  | (k, v) :: xs, m => Nat.le_trans (he k m) (Nat.le_trans (he v _) (seqKV_mono he xs _))

theorem saveClass_mono (c : Cls) (m : Memo) : m.next ≤ (saveClass c m).2.next := by
  unfold saveClass
  split
  · exact Nat.le_refl _
  · cases c <;> simp

theorem saveList_next_succ_le (he : ∀ x m, m.next ≤ (e x m).2.next) (l : List PyVal) (m : Memo) :
    m.next + 1 ≤ (saveList e l m).2.next :=
  seqM_mono e he l (memoize m).2

omit e in
theorem saveTuple_snd (e : PyVal → Memo → Bs × Memo) (x : PyVal) (xs : List PyVal) (m : Memo) :
    (saveTuple e (x :: xs) m).2 = (memoize (seqM e (x :: xs) m).2).2 := by
  simp only [saveTuple, List.isEmpty_cons, Bool.false_eq_true, if_false]
  split <;> rfl

theorem saveTuple_mono (he : ∀ x m, m.next ≤ (e x m).2.next) (l : List PyVal) (m : Memo) :
    m.next ≤ (saveTuple e l m).2.next := by
  cases l with
  | nil => exact Nat.le_refl _
  | cons x xs => rw [saveTuple_snd]; exact Nat.le_succ_of_le (seqM_mono e he _ m)

theorem wrapper_mono (he : ∀ x m, m.next ≤ (e x m).2.next) (c : Cls) (l : List PyVal) (m : Memo) :
    m.next ≤ (wrapper e c l m).2.next :=
  Nat.le_trans (saveClass_mono c m)
    (Nat.le_trans (Nat.le_add_right _ 3) (saveList_next_succ_le e he l (memoize (memoize (saveClass c m).2).2).2))

end mono

theorem encF_mono (H : Bs → Bs) : ∀ (f : Nat) (v : PyVal) (m : Memo), m.next ≤ (encF H .fixed f v m).2.next := by
  intro f
  induction f with
  | zero => exact fun _ _ => Nat.le_refl _
  | succ f ih =>
    intro v m
    cases v with
    | none | bool _ | int _ | float _ | str _ | bytes _ => exact Nat.le_refl _
    | list l => exact Nat.le_of_succ_le (saveList_next_succ_le _ ih l m)
    | tuple l => exact saveTuple_mono _ ih l m
    | set l | frozenset l => exact wrapper_mono _ ih _ _ m
    | dict items => exact Nat.le_of_succ_le (seqKV_mono _ ih _ (memoize m).2)

/-- Running `b` pushes `out` (top first) and turns the memo `mm` into `mm'`. -/
def Part (b : Bs) (out : List SV) (mm mm' : List SV) : Prop :=
  ∀ rest stk, Steps (b ++ rest, ⟨stk, mm⟩) (rest, ⟨out ++ stk, mm'⟩)

/-- The streams `bs`, run one after the other, push `os` one after the other (memo threaded through). -/
inductive Parts : List Bs → List (List SV) → List SV → List SV → Prop
  | nil (mm : List SV) : Parts [] [] mm mm
  | cons {b : Bs} {o : List SV} {bs : List Bs} {os : List (List SV)} {mm mm1 mm2 : List SV} :
      Part b o mm mm1 → Parts bs os mm1 mm2 → Parts (b :: bs) (o :: os) mm mm2

theorem Part.append {b1 b2 : Bs} {o1 o2 mm mm1 mm2 : List SV} (h1 : Part b1 o1 mm mm1) (h2 : Part b2 o2 mm1 mm2) :
    Part (b1 ++ b2) (o2 ++ o1) mm mm2 := by
  intro rest stk
  rw [List.append_assoc, List.append_assoc]
  exact (h1 (b2 ++ rest) stk).trans (h2 rest (o1 ++ stk))

theorem Parts.length_eq {bs os mm mm'} (h : Parts bs os mm mm') : bs.length = os.length := by
  induction h with
  | nil _ => rfl
  | cons _ _ ih => simp [ih]

theorem Parts.run {bs os mm mm'} (h : Parts bs os mm mm') : Part bs.flatten os.reverse.flatten mm mm' := by
  induction h with
  | nil _ => exact fun _ _ => .refl _
  | cons hp _ ih => simpa using hp.append ih

theorem Parts.split {bs os mm mm'} (h : Parts bs os mm mm') (n : Nat) :
    ∃ mid, Parts (bs.take n) (os.take n) mm mid ∧ Parts (bs.drop n) (os.drop n) mid mm' := by
  induction h generalizing n with
  | nil mm => exact ⟨mm, by simpa using Parts.nil mm, by simpa using Parts.nil mm⟩
  | @cons b o bs os mm mm1 mm2 hp hps ih =>
    cases n with
    | zero => exact ⟨mm, by simpa using Parts.nil mm, by simpa using Parts.cons hp hps⟩
    | succ n =>
      obtain ⟨mid, h1, h2⟩ := ih n
      exact ⟨mid, by simpa using Parts.cons hp h1, by simpa using h2⟩

theorem Parts.nil_inv {os mm mm'} (h : Parts [] os mm mm') : os = [] ∧ mm' = mm := by
  cases h; exact ⟨rfl, rfl⟩

theorem flatten_reverse_vals (vs : List PyVal) :
    ((vs.map fun v => [SV.val v]).reverse).flatten = vs.reverse.map SV.val := by
  rw [← List.map_reverse, ← List.flatMap_def, ← List.map_eq_flatMap]

theorem flatten_reverse_kvs (kvs : List (PyVal × PyVal)) :
    ((kvs.map fun kv => [SV.val kv.2, SV.val kv.1]).reverse).flatten = (flatKV kvs).reverse.map SV.val := by
  induction kvs with
  | nil => rfl
  | cons kv kvs ih => simp [ih, flatKV]

/-- One pass of the loop body of `_batch_appends` / `_batch_setitems`. -/
def chunkOf (one many : Nat) (tmp : List Bs) : Bs :=
  if tmp.length > 1 then MARK :: (tmp.flatten ++ [many])
  else if tmp.length = 1 then tmp.flatten ++ [one]
  else []

theorem batchF_succ (one many fuel : Nat) (items : List Bs) :
    batchF one many (fuel + 1) items =
      chunkOf one many (items.take BATCHSIZE) ++
        (if (items.take BATCHSIZE).length < BATCHSIZE then [] else batchF one many fuel (items.drop BATCHSIZE)) := rfl

/-! `_batch_appends` and `_batch_setitems` are one loop: items of type `β` (a value, or a key and a
value) each leave `push b` on the stack; `one` adds the item on top to the container `C acc` below
it, `many` adds all items down to the mark. -/
section batch
variable {β : Type} (C : List β → PyVal) (push : β → List SV) (one many : Nat)
variable (hone : ∀ r b acc stk mm,
  step (one :: r) ⟨push b ++ .val (C acc) :: stk, mm⟩ = some (r, ⟨.val (C (acc ++ [b])) :: stk, mm⟩))
variable (hmany : ∀ r bs acc stk mm,
  step (many :: r) ⟨((bs.map push).reverse).flatten ++ .mark :: .val (C acc) :: stk, mm⟩
    = some (r, ⟨.val (C (acc ++ bs)) :: stk, mm⟩))
include hone hmany

theorem chunk_run {tmp : List Bs} {vt : List β} {mm mid : List SV}
    (h : Parts tmp (vt.map push) mm mid) (acc : List β) (R : Bs) (stk : List SV) :
    Steps (chunkOf one many tmp ++ R, ⟨.val (C acc) :: stk, mm⟩) (R, ⟨.val (C (acc ++ vt)) :: stk, mid⟩) := by
  have hlen := h.length_eq
  rw [List.length_map] at hlen
  unfold chunkOf
  split
  · have h1 := h.run (many :: R) (.mark :: .val (C acc) :: stk)
    simp only [List.cons_append, List.append_assoc, List.nil_append]
    exact .cons (step_MARK _ _ _) (h1.trans (.one (hmany _ _ _ _ _)))
  · split
    · rename_i h1len
      obtain ⟨b, rfl⟩ := List.length_eq_one_iff.mp (hlen ▸ h1len)
      have h1 := h.run (one :: R) (.val (C acc) :: stk)
      simp only [List.map_cons, List.map_nil, List.reverse_cons, List.reverse_nil, List.nil_append,
        List.flatten_cons, List.flatten_nil, List.append_nil] at h1
      simp only [List.append_assoc, List.cons_append, List.nil_append]
      exact h1.trans (Steps.one (hone _ _ _ _ _))
    · have h0 : tmp.length = 0 := by omega
      obtain rfl := List.eq_nil_of_length_eq_zero h0
      obtain rfl := List.eq_nil_of_length_eq_zero (hlen ▸ h0)
      obtain ⟨_, rfl⟩ := h.nil_inv
      rw [List.append_nil]; exact .refl _

theorem batch_run (fuel : Nat) (bs : List Bs) (vs : List β) (mm mm' : List SV) (acc : List β)
    (h : Parts bs (vs.map push) mm mm') (hf : bs.length / BATCHSIZE + 1 ≤ fuel) (rest : Bs) (stk : List SV) :
    Steps (batchF one many fuel bs ++ rest, ⟨.val (C acc) :: stk, mm⟩) (rest, ⟨.val (C (acc ++ vs)) :: stk, mm'⟩) := by
  induction fuel generalizing bs vs mm acc with
  | zero => exact (Nat.not_succ_le_zero _ hf).elim
  | succ fuel ih =>
    obtain ⟨mid, h1, h2⟩ := h.split BATCHSIZE
    rw [← List.map_take] at h1
    rw [← List.map_drop] at h2
    rw [batchF_succ, List.append_assoc]
    refine (chunk_run C push one many hone hmany h1 acc _ stk).trans ?_
    split
    · rename_i hlt
      have hb : bs.drop BATCHSIZE = [] := by
        rw [List.length_take] at hlt
        apply List.drop_eq_nil_of_le; omega
      rw [hb] at h2
      obtain ⟨ho, hm⟩ := h2.nil_inv
      have hv := List.take_append_drop BATCHSIZE vs
      rw [List.map_eq_nil_iff.mp ho, List.append_nil] at hv
      rw [hv, hm]
      exact .refl _
    · rename_i hge
      rw [List.length_take] at hge
      have hfu : (bs.drop BATCHSIZE).length / BATCHSIZE + 1 ≤ fuel := by
        simp only [List.length_drop, BATCHSIZE] at *
        omega
      have := ih _ _ mid (acc ++ vs.take BATCHSIZE) h2 hfu
      rwa [List.append_assoc, List.take_append_drop] at this

end batch

/-- The machine's memo mirrors the pickler's: same length, and the classes sit where the
pickler remembers them. -/
def MemoOK (m : Memo) (mm : List SV) : Prop :=
  mm.length = m.next ∧ ∀ c i, m.cls c = some i → mm[i]? = some (.cls c)

/-- From any mirrored memo (and while fewer than 2^32 objects are memoised — beyond that the real
pickler raises), the stream `g m` pushes `out` and leaves a mirrored memo. -/
def Pushes (g : Memo → Bs × Memo) (out : List SV) : Prop :=
  ∀ m mm, MemoOK m mm → (g m).2.next ≤ 2 ^ 32 → ∃ mm', Part (g m).1 out mm mm' ∧ MemoOK (g m).2 mm'

/-- `save(x)` pushes the value `out` (the output is the argument before the value). -/
def Runs (e : PyVal → Memo → Bs × Memo) (out : PyVal) (x : PyVal) : Prop := Pushes (e x) [.val out]

theorem Memo.cls_setCls (m : Memo) (c : Cls) (i n : Nat) (c' : Cls) :
    ({ m.setCls c i with next := n } : Memo).cls c' = if c' = c then some i else m.cls c' := by
  cases c <;> cases c' <;> rfl

theorem MemoOK.extend {m m' : Memo} {mm : List SV} (h : MemoOK m mm) (top : SV) (hn : m'.next = m.next + 1)
    (hc : ∀ c i, m'.cls c = some i → m.cls c = some i ∨ (i = m.next ∧ top = .cls c)) :
    MemoOK m' (mm ++ [top]) := by
  refine ⟨by rw [List.length_append, h.1, hn]; rfl, fun c i hci => ?_⟩
  rcases hc c i hci with hold | ⟨rfl, rfl⟩
  · have hg := h.2 c i hold
    rw [List.getElem?_append_left (List.getElem?_eq_some_iff.mp hg).1]; exact hg
  · rw [← h.1]; exact List.getElem?_concat_length

theorem MemoOK.memoize {m : Memo} {mm : List SV} (h : MemoOK m mm) (top : SV) :
    MemoOK (memoize m).2 (mm ++ [top]) :=
  h.extend top rfl fun c i hc => Or.inl (by cases c <;> exact hc)

section runs
variable (e : PyVal → Memo → Bs × Memo) (canon : PyVal → PyVal)
variable (hm : ∀ x m, m.next ≤ (e x m).2.next)
include hm

theorem seqM_parts (l : List PyVal) (hl : ∀ x ∈ l, Runs e (canon x) x) (m : Memo) (mm : List SV) (ok : MemoOK m mm)
    (hb : (seqM e l m).2.next ≤ 2 ^ 32) :
    ∃ mm', Parts (seqM e l m).1 ((l.map canon).map fun v => [SV.val v]) mm mm' ∧ MemoOK (seqM e l m).2 mm' := by
  induction l generalizing m mm with
  | nil => exact ⟨mm, .nil mm, ok⟩
  | cons x xs ih =>
    obtain ⟨mm1, p1, ok1⟩ := hl x List.mem_cons_self m mm ok (Nat.le_trans (seqM_mono e hm xs _) hb)
    obtain ⟨mm2, p2, ok2⟩ := ih (fun y hy => hl y (List.mem_cons_of_mem _ hy)) _ mm1 ok1 hb
    exact ⟨mm2, .cons p1 p2, ok2⟩

theorem seqKV_parts (l : List (PyVal × PyVal)) (hl : ∀ kv ∈ l, Runs e (canon kv.1) kv.1 ∧ Runs e (canon kv.2) kv.2)
    (m : Memo) (mm : List SV) (ok : MemoOK m mm) (hb : (seqKV e l m).2.next ≤ 2 ^ 32) :
    ∃ mm', Parts (seqKV e l m).1
        ((l.map fun kv => (canon kv.1, canon kv.2)).map fun kv => [SV.val kv.2, SV.val kv.1]) mm mm' ∧
      MemoOK (seqKV e l m).2 mm' := by
  induction l generalizing m mm with
  | nil => exact ⟨mm, .nil mm, ok⟩
  | cons kv xs ih =>
    have hb2 : (e kv.2 (e kv.1 m).2).2.next ≤ 2 ^ 32 := Nat.le_trans (seqKV_mono e hm xs _) hb
    obtain ⟨mm1, p1, ok1⟩ := (hl kv List.mem_cons_self).1 m mm ok (Nat.le_trans (hm kv.2 _) hb2)
    obtain ⟨mm2, p2, ok2⟩ := (hl kv List.mem_cons_self).2 _ mm1 ok1 hb2
    obtain ⟨mm3, p3, ok3⟩ := ih (fun y hy => hl y (List.mem_cons_of_mem _ hy)) _ mm2 ok2 hb
    exact ⟨mm3, .cons (p1.append p2) p3, ok3⟩

theorem saveList_run (l : List PyVal) (hl : ∀ x ∈ l, Runs e (canon x) x) :
    Pushes (saveList e l) [.val (.list (l.map canon))] := by
  intro m mm ok hb
  obtain ⟨mm', ps, ok'⟩ := seqM_parts e canon hm l hl (memoize m).2 (mm ++ [.val (.list [])]) (ok.memoize _) hb
  refine ⟨mm', fun rest stk => ?_, ok'⟩
  have s3 := batch_run .list (fun v => [SV.val v]) APPEND APPENDS (fun r v acc stk mm => step_APPEND r stk mm v acc)
    (fun r vs acc stk mm => by rw [flatten_reverse_vals]; exact step_APPENDS r stk mm vs acc)
    _ _ _ _ _ [] ps (Nat.le_refl _) rest stk
  simp only [saveList, List.cons_append, List.append_assoc, memoize, batch] at s3 ⊢
  exact .cons (step_EMPTY_LIST _ _ _) (.cons (step_put _ _ _ _ _) s3)

theorem saveTuple_run (l : List PyVal) (hl : ∀ x ∈ l, Runs e (canon x) x) :
    Pushes (saveTuple e l) [.val (.tuple (l.map canon))] := by
  intro m mm ok hb
  cases l with
  | nil => exact ⟨mm, fun rest stk => Steps.one (step_EMPTY_TUPLE _ _ _), ok⟩
  | cons x xs =>
    rw [saveTuple_snd] at hb ⊢
    obtain ⟨mm1, ps, ok1⟩ := seqM_parts e canon hm _ hl m mm ok (Nat.le_of_succ_le hb)
    refine ⟨mm1 ++ [.val (.tuple ((x :: xs).map canon))], fun rest stk => ?_, ok1.memoize _⟩
    simp only [saveTuple, List.isEmpty_cons, Bool.false_eq_true, if_false]
    split
    · rename_i hlen
      have run := ps.run ((TUPLE1 + xs.length) :: (put (seqM e (x :: xs) m).2.next ++ rest)) stk
      rw [flatten_reverse_vals] at run
      simp only [List.append_assoc, List.cons_append, memoize, List.length_cons, Nat.add_sub_cancel] at run ⊢
      exact run.trans (.cons (step_TUPLEn _ _ _ _ _ (by simp) (Nat.le_of_succ_le_succ hlen))
        (.one (step_put _ _ _ _ _)))
    · have run := ps.run (TUPLE :: (put (seqM e (x :: xs) m).2.next ++ rest)) (.mark :: stk)
      rw [flatten_reverse_vals] at run
      simp only [List.append_assoc, List.cons_append, memoize] at run ⊢
      exact .cons (step_MARK _ _ _) (run.trans (.cons (step_TUPLE _ _ _ _) (.one (step_put _ _ _ _ _))))

omit hm in
theorem saveClass_run (c : Cls) (hc : c ≠ .fz) : Pushes (saveClass c) [.cls c] := by
  intro m mm ok hb
  unfold saveClass at hb ⊢
  split
  · rename_i i hi
    have h2 := ok.2 c i hi
    rw [hi] at hb
    have h1 := Nat.lt_of_lt_of_le (Nat.lt_of_lt_of_eq (List.getElem?_eq_some_iff.mp h2).1 ok.1) hb
    exact ⟨mm, fun rest stk => Steps.one (step_get rest stk mm i _ h1 h2), ok⟩
  · refine ⟨mm ++ [.cls c], fun rest stk => ?_, ok.extend _ rfl fun c' i hc' => ?_⟩
    · simp only [List.cons_append, List.append_assoc]
      exact .cons (step_GLOBAL c hc _ ⟨stk, mm⟩) (.one (step_put _ _ _ _ _))
    · rw [Memo.cls_setCls] at hc'
      split at hc'
      · rename_i hcc; cases hcc; cases hc'; exact Or.inr ⟨rfl, rfl⟩
      · exact Or.inl hc'

theorem wrapper_run (c : Cls) (hc : c ≠ .fz) (seq : List PyVal) (hl : ∀ x ∈ seq, Runs e (canon x) x)
    (out : PyVal) (hout : c.build (seq.map canon) = some out) : Pushes (wrapper e c seq) [.val out] := by
  intro m mm ok hb
  have hb1 : (saveClass c m).2.next ≤ 2 ^ 32 :=
    Nat.le_trans (Nat.le_add_right _ 3)
      (Nat.le_trans (saveList_next_succ_le e hm seq (memoize (memoize (saveClass c m).2).2).2) hb)
  obtain ⟨mm1, p1, ok1⟩ := saveClass_run c hc m mm ok hb1
  obtain ⟨mm4, p4, ok4⟩ := saveList_run e canon hm seq hl _ _ ((ok1.memoize (.obj c)).memoize (.val (.dict []))) hb
  refine ⟨mm4, fun rest stk => ?_, ok4⟩
  simp only [wrapper, List.append_assoc, List.cons_append, List.nil_append]
  refine (p1 _ stk).trans ?_
  exact .cons (step_EMPTY_TUPLE _ _ _) <| .cons (step_NEWOBJ _ _ _ _) <| .cons (step_put _ _ _ _ _) <|
    .cons (step_EMPTY_DICT _ _ _) <| .cons (step_put _ _ _ _ _) <|
    .cons (step_saveStr SEQUENCE (by decide) _ _) <| (p4 _ _).trans <| .cons (step_SETITEM _ _ _ _ _ _) <|
    .one ((step_BUILD _ _ _ c _ rfl _).trans (by rw [hout]; rfl))

/-- The function is the `.dict` branch of `encF` after `itemsOf` and `sortOn` (the model gives it no name). -/
theorem dict_run (items : List (PyVal × PyVal))
    (hl : ∀ kv ∈ items, Runs e (canon kv.1) kv.1 ∧ Runs e (canon kv.2) kv.2) :
    Pushes (fun m => (EMPTY_DICT :: ((memoize m).1 ++ batch SETITEM SETITEMS (seqKV e items (memoize m).2).1),
        (seqKV e items (memoize m).2).2))
      [.val (.dict (items.map fun kv => (canon kv.1, canon kv.2)))] := by
  intro m mm ok hb
  obtain ⟨mm', ps, ok'⟩ := seqKV_parts e canon hm items hl (memoize m).2 (mm ++ [.val (.dict [])]) (ok.memoize _) hb
  refine ⟨mm', fun rest stk => ?_, ok'⟩
  have s3 := batch_run .dict (fun kv => [SV.val kv.2, SV.val kv.1]) SETITEM SETITEMS
    (fun r kv acc stk mm => step_SETITEM r stk mm kv.1 kv.2 acc)
    (fun r kvs acc stk mm => by rw [flatten_reverse_kvs]; exact step_SETITEMS r stk mm kvs acc)
    _ _ _ _ _ [] ps (Nat.le_refl _) rest stk
  simp only [List.cons_append, List.append_assoc, memoize, batch] at s3 ⊢
  exact .cons (step_EMPTY_DICT _ _ _) (.cons (step_put _ _ _ _ _) s3)

end runs

/-- The fragment on which `encode` is injective: the value is at most `f` levels deep, every
dict / set / frozenset node sorts its keys directly (never takes the digest fallback), floats are
64-bit patterns, and nothing is too long for its 4-byte length field (beyond which the real
pickler raises instead of producing a stream).  Nothing is `Plain` at fuel 0, where `encF` writes no byte
and nothing could be decoded: the fuel has to suffice (it is taken at `depth v`; `Plain.mono` gives more).
For a concrete value it is established by evaluation (`decPlain`).  No lemma relates it to `KeysStrict`: `Plain` allows equal
keys in one listing, `KeysStrict` allows the fallback. -/
def Plain : Nat → PyVal → Prop
  | 0, _ => False
  | f + 1, v =>
    match v with
    | .none => True
    | .bool _ => True
    | .int i => (encodeLong i).length < 2 ^ 32
    | .float x => x < 2 ^ 64
    | .str s => s.length < 2 ^ 32
    | .bytes s => s.length < 2 ^ 32
    | .list l => ∀ x ∈ l, Plain f x
    | .tuple l => ∀ x ∈ l, Plain f x
    | .set l => orderable .fixed l = true ∧ ∀ x ∈ l, Plain f x
    | .frozenset l => orderable .fixed l = true ∧ ∀ x ∈ l, Plain f x
    | .dict items => orderable .fixed (items.map Prod.fst) = true ∧ ∀ kv ∈ items, Plain f kv.1 ∧ Plain f kv.2

instance decPlain : ∀ f v, Decidable (Plain f v)
  | 0, _ => .isFalse id
  | _ + 1, .none | _ + 1, .bool _ => .isTrue trivial
  | _ + 1, .int i => inferInstanceAs (Decidable ((encodeLong i).length < 2 ^ 32))
  | _ + 1, .float x => inferInstanceAs (Decidable (x < 2 ^ 64))
  | _ + 1, .str s | _ + 1, .bytes s => inferInstanceAs (Decidable (s.length < 2 ^ 32))
  | f + 1, .list l | f + 1, .tuple l =>
    have := decPlain f; inferInstanceAs (Decidable (∀ x ∈ l, Plain f x))
  | f + 1, .set l | f + 1, .frozenset l =>
    have := decPlain f; inferInstanceAs (Decidable (orderable .fixed l = true ∧ ∀ x ∈ l, Plain f x))
  | f + 1, .dict items =>
    have := decPlain f
    inferInstanceAs (Decidable (orderable .fixed (items.map Prod.fst) = true ∧
      ∀ kv ∈ items, Plain f kv.1 ∧ Plain f kv.2))

theorem Plain.mono : ∀ {f : Nat} {v : PyVal}, Plain f v → Plain (f + 1) v
  | 0, _, h => h.elim
  | f + 1, v, h => by
    cases v with
    | none | bool | int | float | str | bytes => exact h
    | list l | tuple l => exact fun x hx => (h x hx).mono
    | set l | frozenset l => exact ⟨h.1, fun x hx => (h.2 x hx).mono⟩
    | dict l => exact ⟨h.1, fun kv hkv => ⟨(h.2 kv hkv).1.mono, (h.2 kv hkv).2.mono⟩⟩

/-- Every set / frozenset / dict part listed in `sortOn` order: the canonical listing of a `Plain` value
(where `sortOn` really sorts). -/
def canonF : Nat → PyVal → PyVal
  | 0, v => v
  | f + 1, v =>
    match v with
    | .list l => .list (l.map (canonF f))
    | .tuple l => .tuple (l.map (canonF f))
    | .set l => .set ((sortOn id l).map (canonF f))
    | .frozenset l => .frozenset ((sortOn id l).map (canonF f))
    | .dict items => .dict ((sortOn Prod.fst items).map fun kv => (canonF f kv.1, canonF f kv.2))
    | .none => .none
    | .bool b => .bool b
    | .int i => .int i
    | .float x => .float x
    | .str s => .str s
    | .bytes s => .bytes s

theorem runs_leaf (b : Bs) (out : PyVal) (h : ∀ r st, step (b ++ r) st = some (r, st.push (.val out))) :
    Pushes (fun m => (b, m)) [.val out] :=
  fun _ mm ok _ => ⟨mm, fun rest stk => Steps.one (h rest ⟨stk, mm⟩), ok⟩

theorem encF_run (H : Bs → Bs) : ∀ (f : Nat) (v : PyVal), Plain f v → Runs (encF H .fixed f) (canonF f v) v := by
  intro f
  induction f with
  | zero => intro v h; exact absurd h (by simp [Plain])
  | succ f ih =>
    intro v hp
    have hm := encF_mono H f
    cases v with
    | none => exact runs_leaf _ _ fun _ _ => rfl
    | bool b => cases b <;> exact runs_leaf _ _ fun _ _ => rfl
    | int i => exact runs_leaf _ _ (step_saveLong i hp)
    | float x => exact runs_leaf _ _ (step_saveFloat x hp)
    | str s => exact runs_leaf _ _ (step_saveStr s hp)
    | bytes s => exact runs_leaf _ _ (step_saveBytes s hp)
    | list l => exact saveList_run _ (canonF f) hm l (fun x hx => ih x (hp x hx))
    | tuple l => exact saveTuple_run _ (canonF f) hm l (fun x hx => ih x (hp x hx))
    | set l | frozenset l =>
      obtain ⟨ho, hl⟩ := hp
      simp only [Runs, encF, keysOf_of_orderable _ _ _ ho]
      exact wrapper_run _ (canonF f) hm _ (by decide) (sortOn id l)
        (fun x hx => ih x (hl x ((sortOn_perm id l).subset hx))) _ rfl
    | dict items =>
      obtain ⟨ho, hl⟩ := hp
      simp only [Runs, encF, itemsOf_of_orderable _ _ _ ho]
      exact dict_run _ (canonF f) hm (sortOn Prod.fst items)
        (fun kv hkv => ⟨ih _ (hl kv ((sortOn_perm Prod.fst items).subset hkv)).1,
          ih _ (hl kv ((sortOn_perm Prod.fst items).subset hkv)).2⟩)

/-- Running the machine on the whole stream ends, stuck on STOP, with exactly the canonical
listing of the value on the stack. -/
theorem encode_run (H : Bs → Bs) (v : PyVal) (hp : Plain (depth v) v) (hb : memoCount H v ≤ 2 ^ 32) :
    ∃ mm', Steps (encode H v, ⟨[], []⟩) ([STOP], ⟨[.val (canonF (depth v) v)], mm'⟩) := by
  have ok : MemoOK Memo.init [] := ⟨rfl, fun c _ h => by cases c <;> nomatch h⟩
  obtain ⟨mm', p, _⟩ := encF_run H (depth v) v hp Memo.init [] ok hb
  refine ⟨mm', ?_⟩
  have s := p [STOP] []
  unfold encode encodeV frame
  exact .cons (step_PROTO _ _ 3) s

theorem encode_inj (H : Bs → Bs) (v w : PyVal) (hv : Plain (depth v) v) (hw : Plain (depth w) w)
    (bv : memoCount H v ≤ 2 ^ 32) (bw : memoCount H w ≤ 2 ^ 32)
    (h : encode H v = encode H w) : canonF (depth v) v = canonF (depth w) w := by
  obtain ⟨m1, s1⟩ := encode_run H v hv bv
  obtain ⟨m2, s2⟩ := encode_run H w hw bw
  rw [h] at s1
  have := Steps.final_unique s1 s2 (step_STOP _ _) (step_STOP _ _)
  exact SV.val.inj (List.cons.inj (congrArg (·.2.stack) this)).1

theorem reorderL_map (g : PyVal → PyVal) : ∀ (l : List PyVal), (∀ x ∈ l, Reorder x (g x)) → ReorderL l (l.map g)
  | [], _ => .nil
  | x :: xs, h => .cons (h x List.mem_cons_self) (reorderL_map g xs (fun y hy => h y (List.mem_cons_of_mem _ hy)))

theorem reorderD_map (g : PyVal → PyVal) : ∀ (l : List (PyVal × PyVal)),
    (∀ kv ∈ l, Reorder kv.1 (g kv.1) ∧ Reorder kv.2 (g kv.2)) → ReorderD l (l.map fun kv => (g kv.1, g kv.2))
  | [], _ => .nil
  | (k, v) :: xs, h => .cons (h (k, v) List.mem_cons_self).1 (h (k, v) List.mem_cons_self).2
      (reorderD_map g xs (fun y hy => h y (List.mem_cons_of_mem _ hy)))

theorem reorder_canonF : ∀ (f : Nat) (v : PyVal), Reorder v (canonF f v) := by
  intro f
  induction f with
  | zero => intro v; exact Reorder.refl v
  | succ f ih =>
    intro v
    cases v with
    | none | bool _ | int _ | float _ | str _ | bytes _ => exact Reorder.refl _
    | list l => exact .list (reorderL_map _ l (fun x _ => ih x))
    | tuple l => exact .tuple (reorderL_map _ l (fun x _ => ih x))
    | set l => exact .set (reorderL_map _ l (fun x _ => ih x)) ((sortOn_perm id l).symm.map _)
    | frozenset l => exact .frozenset (reorderL_map _ l (fun x _ => ih x)) ((sortOn_perm id l).symm.map _)
    | dict l =>
      exact .dict (reorderD_map _ l (fun kv _ => ⟨ih kv.1, ih kv.2⟩)) ((sortOn_perm Prod.fst l).symm.map _)

inductive Ty where
  | none | bool | int | float | str | bytes | list | tuple | set | frozenset | dict
deriving DecidableEq, Repr

def tyOf : PyVal → Ty
  | .none => .none
  | .bool _ => .bool
  | .int _ => .int
  | .float _ => .float
  | .str _ => .str
  | .bytes _ => .bytes
  | .list _ => .list
  | .tuple _ => .tuple
  | .set _ => .set
  | .frozenset _ => .frozenset
  | .dict _ => .dict

theorem tyOf_canonF (f : Nat) (v : PyVal) : tyOf (canonF f v) = tyOf v := by
  cases f <;> cases v <;> rfl

/-- A value with no dict / set / frozenset inside: its listing is unique.  Looked at `f` levels deep like `canonF`,
which changes nothing at fuel 0: hence `True` there. -/
def Ordered : Nat → PyVal → Prop
  | 0, _ => True
  | f + 1, v =>
    match v with
    | .list l => ∀ x ∈ l, Ordered f x
    | .tuple l => ∀ x ∈ l, Ordered f x
    | .set _ => False
    | .frozenset _ => False
    | .dict _ => False
    | _ => True

theorem canonF_ordered : ∀ (f : Nat) (v : PyVal), Ordered f v → canonF f v = v := by
  intro f
  induction f with
  | zero => intro v _; rfl
  | succ f ih =>
    intro v h
    cases v with
    | list l => exact congrArg PyVal.list ((List.map_congr_left fun x hx => ih x (h x hx)).trans (List.map_id l))
    | tuple l => exact congrArg PyVal.tuple ((List.map_congr_left fun x hx => ih x (h x hx)).trans (List.map_id l))
    | set _ | frozenset _ | dict _ => exact h.elim
    | none | bool _ | int _ | float _ | str _ | bytes _ => rfl

end JoblibModel.HashStream
