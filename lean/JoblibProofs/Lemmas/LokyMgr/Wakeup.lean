import JoblibProofs.Lemmas.LokyMgr
/-! The fine-grained layer of `JoblibModel.LokyMgr` (`WState`, `wstep`): wait set, wake-up pipe, shutdown lock.

Three invariants of `wrun` from a fresh executor, each under its own switch of `Cfg`:
`LockInv` (`closeUnlocked = false`), `CoverInv` (`managerFirst = false`, no clean worker exit: what holds of the order before
F53) and `WakeInv` (`wakeupBeforeRespawn = false`: the code as it is). A step is taken apart by `managerMicro_cases` /
`managerMicro_frame` (manager), `envStep_frame` (workers, OS) and `wstep_callSubmit` / `wstep_callShutdown` (the caller enters);
`callerStep` is unfolded per invariant, on purpose: each looks at other fields. A further invariant: the structure, `_init`, `_step`
(`wakeInv_step` is the one to copy), `_run`. `Stranded` is the hang of the other start order.

The two layers share their operations, not their histories: the fine manager is `addCallItems`, then `waitStep` on a sentinel list
(`managerStep_eq`, `waitStep_frame`; on the full list it is `managerStep`: `C10.full_wait_set_is_manager_step`), and `register`,
`shutdown` are the caller's statements run together (`register_eq`, `shutdown_eq`). `Inv` is NOT carried over to `s.base`, so
C10 §1–7 say nothing about `wrun` histories. -/
namespace JoblibModel.LokyMgr

theorem register_eq (s : State) (arg : Nat) : register s arg = writeWakeup (registerItem s arg) := rfl
theorem shutdown_eq (s : State) (kw : Bool) : shutdown s kw = writeWakeup (flagShutdown s kw) := rfl

/-- A worker or OS event as the invariants of this layer see it: `step_env` without the bookkeeping of tasks. -/
structure EnvFrame (s : State) (e : EnvEv) (s' : State) : Prop where
  len : s'.processes.length = s.processes.length
  pids : ∀ w ∈ s'.processes, ∃ w' ∈ s.processes, w'.pid = w.pid
  mgr : s'.mgr = s.mgr
  size : s'.max_workers = s.max_workers
  wakeups : s'.wakeups = s.wakeups
  pidMsg : ∀ q, Msg.pid q ∈ s'.result_pipe → Msg.pid q ∈ s.result_pipe ∨ e = .announceExit q

theorem envStep_frame (fn : Nat → Nat) (s : State) (e : EnvEv) : EnvFrame s e (step fn s e.toEvent) := by
  obtain ⟨pid, f, cq, ms, pm, M⟩ := step_env fn s e
  rw [M.eq]
  refine ⟨by simp [updWorker], fun w hw => ?_, rfl, rfl, rfl, fun q hq => ?_⟩
  · obtain ⟨w0, hw0, rfl⟩ := mem_updWorker hw
    refine ⟨w0, hw0, ?_⟩
    split
    · exact (M.pid_eq w0).symm
    · rfl
  · rcases List.mem_append.mp hq with hq | hq
    · exact Or.inl hq
    · rcases M.pipe with ⟨rfl, _⟩ | ⟨w, _, _, _, hms⟩
      · cases hq
      · rcases hms _ hq with h | ⟨h, he⟩ | ⟨_, _, h | h⟩
        · cases h
        · cases h; exact Or.inr he
        · cases h
        · cases h

/-- A statement of the manager: nothing; `addCallItems` at the top of the loop (then crashed, or entering `wait` on the sentinels of
all processes); inside `wait`, the rest of the iteration; the close of the wake-up pipe. -/
theorem managerMicro_cases (cfg : Cfg) (s : WState) :
    managerMicro cfg s = s ∨
    (s.base.mgr = .running ∧ s.mph = .top ∧
      (((addCallItems s.base).mgr = .crashed ∧ managerMicro cfg s = { s with base := addCallItems s.base }) ∨
       ((addCallItems s.base).mgr = .running ∧ managerMicro cfg s =
          { s with base := addCallItems s.base, mph := .waiting (pidsOf (addCallItems s.base).processes) }))) ∨
    (∃ ws mph', s.base.mgr = .running ∧ s.mph = .waiting ws ∧
      managerMicro cfg s = { s with base := (waitStep s.base ws).1, mph := mph' } ∧
      WaitEnd s.base ws (waitStep s.base ws) ∧
      ((mph' = .top ∧ (waitStep s.base ws).2 = .progressed) ∨ (mph' = .closing ∧ (waitStep s.base ws).2 = .exited) ∨
       (mph' = s.mph ∧ (waitStep s.base ws).2 = .crashed))) ∨
    (s.base.mgr = .exited ∧ (s.lock = false ∨ cfg.closeUnlocked = true) ∧
      managerMicro cfg s = { s with closed := true, mph := .done }) := by
  unfold managerMicro
  split
  · rename_i hr hph
    obtain ⟨_, _, _, _, _, heq, hmg⟩ := addCallItems_eq s.base
    refine Or.inr (Or.inl ⟨hr, hph, ?_⟩)
    simp only []
    split
    · exact Or.inl ⟨‹_›, rfl⟩
    · rename_i hc
      refine Or.inr ⟨?_, rfl⟩
      rw [heq] at hc ⊢
      exact (hmg.resolve_right hc).trans hr
  · rename_i ws hr hph
    have F := waitStep_frame s.base ws
    simp only []
    split
    · exact Or.inl rfl
    · split
      · exact Or.inl rfl
      · split
        · exact Or.inr (Or.inr (Or.inl ⟨ws, .top, hr, hph, rfl, F, Or.inl ⟨rfl, ‹_›⟩⟩))
        · exact Or.inr (Or.inr (Or.inl ⟨ws, .closing, hr, hph, rfl, F, Or.inr (Or.inl ⟨rfl, ‹_›⟩)⟩))
        · exact Or.inr (Or.inr (Or.inl ⟨ws, s.mph, hr, hph, rfl, F, Or.inr (Or.inr ⟨rfl, ‹_›⟩)⟩))
        · exact Or.inl rfl
  · rename_i he _
    split
    · exact Or.inl rfl
    · rename_i h
      simp only [Bool.and_eq_true, Bool.not_eq_true', not_and, Bool.not_eq_false] at h
      refine Or.inr (Or.inr (Or.inr ⟨he, ?_, rfl⟩))
      cases hl : s.lock with
      | false => exact Or.inl rfl
      | true => exact Or.inr (h hl)
  · exact Or.inl rfl

theorem wstep_callSubmit (cfg : Cfg) (fn : Nat → Nat) (s : WState) (arg : Nat) :
    wstep cfg fn s (.callSubmit arg) = s ∨
    (s.cpc = .idle ∧ s.lock = false ∧ wstep cfg fn s (.callSubmit arg) =
      { s with base := registerItem s.base arg, cpc := if cfg.wakeupBeforeRespawn then .subTest else .subEns1, lock := true }) := by
  simp only [wstep]
  split
  · exact Or.inl rfl
  · rename_i hg
    simp only [ne_eq, Bool.or_eq_true, decide_eq_true_eq, not_or, Decidable.not_not, Bool.not_eq_true] at hg
    split
    · exact Or.inl rfl
    · exact Or.inr ⟨hg.1, hg.2, rfl⟩

theorem wstep_callShutdown (cfg : Cfg) (fn : Nat → Nat) (s : WState) (kw : Bool) :
    wstep cfg fn s (.callShutdown kw) = s ∨
    (s.cpc = .idle ∧ s.lock = false ∧
      wstep cfg fn s (.callShutdown kw) = { s with base := flagShutdown s.base kw, cpc := .shutAcquire }) := by
  simp only [wstep]
  split
  · exact Or.inl rfl
  · rename_i hg
    simp only [ne_eq, Bool.or_eq_true, decide_eq_true_eq, not_or, Decidable.not_not, Bool.not_eq_true] at hg
    exact Or.inr ⟨hg.1, hg.2, rfl⟩

/-- The statements of the caller thread that run with `_shutdown_lock` held. -/
def holdsLock : CPc → Bool
  | .subTest | .subWrite | .subEns1 | .subEns2 | .shutTest | .shutWrite => true
  | .idle | .shutAcquire => false

/-- the caller holds `_shutdown_lock` from the `_closed` test to the write, so the manager cannot close the pipe in between
(`lockInv_step`; C10 §9) -/
structure LockInv (s : WState) : Prop where
  held : s.lock = holdsLock s.cpc
  writing : s.cpc = .subWrite ∨ s.cpc = .shutWrite → s.closed = false
  noerr : s.oserror = false

theorem lockInv_init (mw qs fp : Nat) : LockInv (WState.init mw qs fp) :=
  ⟨rfl, by simp [WState.init], rfl⟩

/-- What a statement of the manager does to the caller's side of `WState`: nothing but closing the pipe, with the lock free
(or `closeUnlocked`). -/
structure MicroFrame (cfg : Cfg) (s s' : WState) : Prop where
  cpc : s'.cpc = s.cpc
  lock : s'.lock = s.lock
  oserror : s'.oserror = s.oserror
  closed : s'.closed = s.closed ∨ s.lock = false ∨ cfg.closeUnlocked = true

theorem managerMicro_frame (cfg : Cfg) (s : WState) : MicroFrame cfg s (managerMicro cfg s) := by
  rcases managerMicro_cases cfg s with e | ⟨_, _, ⟨_, e⟩ | ⟨_, e⟩⟩ | ⟨_, _, _, _, e, _⟩ | ⟨_, hl, e⟩ <;> rw [e]
  · exact ⟨rfl, rfl, rfl, Or.inl rfl⟩
  · exact ⟨rfl, rfl, rfl, Or.inl rfl⟩
  · exact ⟨rfl, rfl, rfl, Or.inl rfl⟩
  · exact ⟨rfl, rfl, rfl, Or.inl rfl⟩
  · exact ⟨rfl, rfl, rfl, Or.inr hl⟩

theorem lockInv_step (cfg : Cfg) (hcfg : cfg.closeUnlocked = false) (fn : Nat → Nat) (s : WState)
    (h : LockInv s) (ev : WEvent) : LockInv (wstep cfg fn s ev) := by
  obtain ⟨h1, h2, h3⟩ := h
  cases ev with
  | callSubmit arg =>
    rcases wstep_callSubmit cfg fn s arg with e | ⟨_, _, e⟩ <;> rw [e]
    · exact ⟨h1, h2, h3⟩
    · cases cfg.wakeupBeforeRespawn <;> exact ⟨rfl, by simp, h3⟩
  | callShutdown kw =>
    rcases wstep_callShutdown cfg fn s kw with e | ⟨_, hl, e⟩ <;> rw [e]
    · exact ⟨h1, h2, h3⟩
    · exact ⟨hl, by simp, h3⟩
  | caller =>
    -- inside `submit`, and in `shutdown` from its test on, the caller holds the lock
    have hl : holdsLock s.cpc = true → s.lock = true := fun hp => h1.trans hp
    simp only [wstep, callerStep]
    cases hc : s.cpc with
    | idle => simp only []; exact ⟨h1, h2, h3⟩
    | subTest =>
      simp only []
      split
      · split
        · exact ⟨hl (hc ▸ rfl), by simp, h3⟩
        · exact ⟨rfl, by simp [submitReturns], h3⟩
      · rename_i hcl
        exact ⟨hl (hc ▸ rfl), by simpa using hcl, h3⟩
    | subWrite =>
      have : s.closed = false := h2 (Or.inl hc)
      simp only [this]
      simp only [Bool.false_eq_true, if_false]
      split
      · exact ⟨hl (hc ▸ rfl), by simp, h3⟩
      · exact ⟨rfl, by simp [submitReturns], h3⟩
    | subEns1 =>
      simp only []
      (repeat' split) <;> exact ⟨hl (hc ▸ rfl), by simp, h3⟩
    | subEns2 =>
      simp only []
      (repeat' split) <;>
        first
        | exact ⟨hl (hc ▸ rfl), by simp, h3⟩
        | exact ⟨rfl, by simp [submitReturns], h3⟩
    | shutAcquire =>
      simp only []
      split
      · exact ⟨h1, h2, h3⟩
      · exact ⟨rfl, by simp, h3⟩
    | shutTest =>
      simp only []
      split
      · exact ⟨rfl, by simp, h3⟩
      · rename_i hcl
        exact ⟨hl (hc ▸ rfl), by simpa using hcl, h3⟩
    | shutWrite =>
      have : s.closed = false := h2 (Or.inr hc)
      simp only [this]
      exact ⟨rfl, by simp, h3⟩
  | manager =>
    simp only [wstep]
    have F := managerMicro_frame cfg s
    refine ⟨by rw [F.cpc, F.lock]; exact h1, ?_, by rw [F.oserror]; exact h3⟩
    intro hw
    rw [F.cpc] at hw
    rcases F.closed with f4 | f4 | f4
    · rw [f4]; exact h2 hw
    · exfalso
      rw [h1] at f4
      rcases hw with hw | hw <;> (rw [hw] at f4; simp [holdsLock] at f4)
    · rw [hcfg] at f4; cases f4
  | env e => exact ⟨h1, h2, h3⟩

theorem lockInv_run (cfg : Cfg) (hcfg : cfg.closeUnlocked = false) (fn : Nat → Nat) (s : WState) (h : LockInv s)
    (evs : List WEvent) : LockInv (wrun cfg fn s evs) :=
  List.foldlRecOn evs _ h (fun s h e _ => lockInv_step cfg hcfg fn s h e)

/-- without a clean worker exit, whatever the place of the wake-up (`coverInv_step`): once the manager runs the executor is full,
nobody spawns, and a wait set built from all processes stays complete -/
structure CoverInv (s : WState) : Prop where
  nopid : ∀ q, Msg.pid q ∉ s.base.result_pipe
  full : s.base.mgr = .running → s.base.max_workers ≤ s.base.processes.length
  /-- carries "spawning is finished" from `subEns1` to the `startManager` of `subEns2`, where `full` has to hold -/
  ens2 : s.cpc = .subEns2 → s.base.mgr = .notStarted → s.base.max_workers ≤ s.base.processes.length
  fresh : s.base.mgr = .notStarted → s.mph = .top
  cover : ∀ ws, s.base.mgr = .running → s.mph = .waiting ws → ∀ w ∈ s.base.processes, w.pid ∈ ws

theorem coverInv_init (mw qs fp : Nat) : CoverInv (WState.init mw qs fp) := by
  refine ⟨by simp [WState.init, State.init], ?_, by simp [WState.init], fun _ => rfl, ?_⟩
  · intro h; simp [WState.init, State.init] at h
  · intro ws h; simp [WState.init, State.init] at h

theorem coverInv_of_base_same {s s' : WState} (h : CoverInv s)
    (h1 : s'.base.result_pipe = s.base.result_pipe) (h2 : s'.base.processes = s.base.processes)
    (h3 : s'.base.max_workers = s.base.max_workers) (h4 : s'.base.mgr = s.base.mgr)
    (h5 : s'.mph = s.mph) (h6 : s'.cpc = .subEns2 → s.cpc = .subEns2) : CoverInv s' := by
  refine ⟨by rw [h1]; exact h.nopid, by rw [h2, h3, h4]; exact h.full, ?_,
    by rw [h4, h5]; exact h.fresh, by rw [h2, h4, h5]; exact h.cover⟩
  intro a b
  rw [h2, h3]
  exact h.ens2 (h6 a) (by rw [← h4]; exact b)

theorem coverInv_caller (cfg : Cfg) (hcfg : cfg.managerFirst = false) (s : WState) (h : CoverInv s) :
    CoverInv (callerStep cfg s) := by
  unfold callerStep
  cases hc : s.cpc with
  | idle => exact h
  | subTest | subWrite =>
    simp only []
    (repeat' split) <;> exact coverInv_of_base_same h rfl rfl rfl rfl rfl (by simp [submitReturns])
  | subEns1 =>
    simp only [hcfg]
    simp only [Bool.false_eq_true, if_false]
    split
    · rename_i hlt
      have hnr : s.base.mgr ≠ .running := fun hr => by have := h.full hr; omega
      exact ⟨h.nopid, fun hr => absurd hr hnr, by simp, h.fresh, fun ws hr => absurd hr hnr⟩
    · rename_i hge
      exact ⟨h.nopid, h.full, fun _ _ => by simpa using hge, h.fresh, h.cover⟩
  | subEns2 =>
    simp only [hcfg]
    simp only [Bool.false_eq_true, if_false]
    have key : ∀ (c : CPc) (l : Bool), c ≠ .subEns2 →
        CoverInv { s with base := startManager s.base, cpc := c, lock := l } := by
      intro c l hcne
      refine ⟨h.nopid, ?_, fun hx => absurd hx hcne, ?_, ?_⟩
      · intro hr
        show s.base.max_workers ≤ s.base.processes.length
        by_cases hn : s.base.mgr = .notStarted
        · exact h.ens2 hc hn
        · apply h.full
          simpa [startManager, hn] using hr
      · intro hn
        exfalso
        simp only [startManager] at hn
        split at hn <;> simp_all
      · intro ws hr hw w hmem
        by_cases hn : s.base.mgr = .notStarted
        · have := h.fresh hn
          simp only [] at hw
          rw [this] at hw; cases hw
        · exact h.cover ws (by simpa [startManager, hn] using hr) hw w hmem
    split
    · exact key .idle false (by simp)
    · exact key .subTest s.lock (by simp)
  | shutAcquire =>
    simp only []
    split
    · exact h
    · exact coverInv_of_base_same h rfl rfl rfl rfl rfl (by simp)
  | shutTest | shutWrite =>
    simp only []
    split <;> exact coverInv_of_base_same h rfl rfl rfl rfl rfl (by simp)

theorem CoverInv.of_stopped {s : WState} (hm : s.base.mgr = .exited ∨ s.base.mgr = .crashed)
    (h1 : ∀ q, Msg.pid q ∉ s.base.result_pipe) : CoverInv s := by
  refine ⟨h1, ?_, ?_, ?_, ?_⟩ <;> intros <;> rcases hm with hm | hm <;> simp_all

theorem coverInv_manager (cfg : Cfg) (s : WState) (h : CoverInv s) : CoverInv (managerMicro cfg s) := by
  rcases managerMicro_cases cfg s with e | ⟨hr, _, hc⟩ | ⟨ws, mph', hr, hph, e, F, hres⟩ | ⟨he, _, e⟩
  · rw [e]; exact h
  · obtain ⟨_, _, _, _, m, heq, _⟩ := addCallItems_eq s.base
    rw [heq] at hc
    rcases hc with ⟨hm, e⟩ | ⟨hm, e⟩ <;> rw [e]
    · exact .of_stopped (Or.inr hm) h.nopid
    · refine ⟨h.nopid, fun _ => h.full hr, fun _ hx => ?_, fun hx => ?_, fun ws _ hw w hmem => ?_⟩
      · rw [hm] at hx; cases hx
      · rw [hm] at hx; cases hx
      · cases hw; exact List.mem_map.mpr ⟨w, hmem, rfl⟩
  · rw [e]
    obtain ⟨w1, w2, w3⟩ := F.procs h.nopid
    have hnp : ∀ q, Msg.pid q ∉ (waitStep s.base ws).1.result_pipe := fun q hq => h.nopid q (w2 _ hq)
    rcases w3 with ⟨e1, e2⟩ | ⟨e1, e2 | e2⟩
    · exact .of_stopped (Or.inl e1) hnp
    · -- the thread goes on with the same processes; a new wait set is built only from the top of the loop
      refine ⟨hnp, fun _ => by rw [e1, w1]; exact h.full hr, fun _ hx => ?_,
        fun hx => ?_, fun ws' _ hw w hmem => ?_⟩
      · rw [e2, hr] at hx; cases hx
      · rw [e2, hr] at hx; cases hx
      rw [e1] at hmem
      rcases hres with ⟨rfl, _⟩ | ⟨rfl, _⟩ | ⟨rfl, _⟩
      · cases hw
      · cases hw
      · exact h.cover ws' hr hw w hmem
    · exact .of_stopped (Or.inr e2) hnp
  · rw [e]; exact .of_stopped (Or.inl he) h.nopid

def NoCleanExit (evs : List WEvent) : Prop := ∀ p, WEvent.env (.announceExit p) ∉ evs

theorem coverInv_step (cfg : Cfg) (hcfg : cfg.managerFirst = false) (fn : Nat → Nat) (s : WState)
    (h : CoverInv s) (ev : WEvent) (hev : ∀ p, ev ≠ .env (.announceExit p)) : CoverInv (wstep cfg fn s ev) := by
  cases ev with
  | callSubmit arg =>
    rcases wstep_callSubmit cfg fn s arg with e | ⟨_, _, e⟩ <;> rw [e]
    · exact h
    · cases cfg.wakeupBeforeRespawn <;> exact coverInv_of_base_same h rfl rfl rfl rfl rfl (by simp)
  | callShutdown kw =>
    rcases wstep_callShutdown cfg fn s kw with e | ⟨_, _, e⟩ <;> rw [e]
    · exact h
    · exact coverInv_of_base_same h rfl rfl rfl rfl rfl (by simp)
  | caller => exact coverInv_caller cfg hcfg s h
  | manager => exact coverInv_manager cfg s h
  | env e =>
    simp only [wstep]
    have F := envStep_frame fn s.base e
    refine ⟨fun q hq => h.nopid q ((F.pidMsg q hq).resolve_right (fun he => hev q (by rw [he]))), ?_, ?_, ?_, ?_⟩
    · intro hr; simp only [F.len, F.size]; exact h.full (by rw [← F.mgr]; exact hr)
    · intro hc hn; simp only [F.len, F.size]; exact h.ens2 hc (by rw [← F.mgr]; exact hn)
    · intro hn; exact h.fresh (by rw [← F.mgr]; exact hn)
    · intro ws hr hw w hmem
      obtain ⟨w', hw', hp⟩ := F.pids w hmem
      rw [← hp]
      exact h.cover ws (by rw [← F.mgr]; exact hr) hw w' hw'

theorem coverInv_run (cfg : Cfg) (hcfg : cfg.managerFirst = false) (fn : Nat → Nat) (s : WState) (h : CoverInv s)
    (evs : List WEvent) (hev : NoCleanExit evs) : CoverInv (wrun cfg fn s evs) :=
  List.foldlRecOn evs _ h (fun s h e he => coverInv_step cfg hcfg fn s h e (fun p hp => hev p (hp ▸ he)))

/-- The state `C10.manager_first_counterexample` ends in: the manager asleep on an empty sentinel list, and nothing left that
a worker, the OS or the caller's pending statements could do to wake it. -/
structure Stranded (s : WState) : Prop where
  run : s.base.mgr = .running
  ph : s.mph = .waiting []
  wk : s.base.wakeups = 0
  pipe : s.base.result_pipe = []
  part : s.base.partialMsg = none
  cq : s.base.call_queue = []
  idle : s.cpc = .idle
  procs : ∀ w ∈ s.base.processes, w.alive = false ∨ w.current = none

/-- Everything but the caller entering `submit`/`shutdown` and a clean exit (idle time-out) of a worker. -/
def Quiet : WEvent → Prop
  | .manager => True
  | .caller => True
  | .env (.announceExit _) => False
  | .env _ => True
  | .callSubmit _ => False
  | .callShutdown _ => False

theorem managerMicro_of_asleep (cfg : Cfg) {s : WState} (h : s.asleep = true) : managerMicro cfg s = s := by
  unfold WState.asleep at h
  unfold managerMicro
  split at h <;> simp_all

theorem stranded_asleep {s : WState} (h : Stranded s) : s.asleep = true := by
  simp [WState.asleep, h.run, h.ph, waitReady, h.pipe, h.part, h.wk, deadWaited]

theorem awake_of_cover {s : WState} {ws : List Nat} {p : Nat} (hr : s.base.mgr = .running) (hw : s.mph = .waiting ws)
    (hd : DeadIn s.base p) (hc : (∀ w ∈ s.base.processes, w.pid ∈ ws) ∨ s.base.wakeups > 0) :
    waitReady s.base ws = true ∧ (waitStep s.base ws).2 ≠ .blockedInWait ∧ s.asleep = false := by
  have hready : waitReady s.base ws = true := by
    rcases hc with c | c
    · have ⟨w, hmem, hp, _⟩ := hd
      simp [waitReady, hd.deadWaited (hp ▸ c w hmem)]
    · simp [waitReady, c]
  exact ⟨hready, (waitStep_frame s.base ws).awake hready, by simp [WState.asleep, hr, hw, hready]⟩

/- `WorkerMove` says what an event may do, not when it is enabled, so this unfolds `step` beside `step_env`. -/
theorem step_env_disabled (fn : Nat → Nat) (s : State) (e : EnvEv) (hcq : s.call_queue = [])
    (hp : ∀ w ∈ s.processes, w.alive = false ∨ w.current = none)
    (hne : ∀ p, e ≠ .announceExit p ∧ e ≠ .kill p) : step fn s e.toEvent = s := by
  cases e with
  | announceExit p => exact absurd rfl (hne p).1
  | kill p => exact absurd rfl (hne p).2
  | take pid | unpickleFail pid => simp [EnvEv.toEvent, step, hcq]
  | sendResult pid | sendTaskExc pid | beginSend pid | endSend pid =>
    cases hg : getWorker s.processes pid with
    | none => simp [EnvEv.toEvent, step, hg]
    | some w =>
      cases hc : w.current with
      | none => simp [EnvEv.toEvent, step, hg, hc]
      | some it => simp [EnvEv.toEvent, step, hg, hc, (hp w (getWorker_mem hg).1).resolve_right (by simp [hc])]

theorem stranded_step (cfg : Cfg) (fn : Nat → Nat) (s : WState) (h : Stranded s) (ev : WEvent) (hq : Quiet ev) :
    Stranded (wstep cfg fn s ev) ∧ (wstep cfg fn s ev).base.futures = s.base.futures := by
  cases ev with
  | callSubmit a => exact absurd hq (by simp [Quiet])
  | callShutdown kw => exact absurd hq (by simp [Quiet])
  | caller =>
    have : wstep cfg fn s .caller = s := by simp [wstep, callerStep, h.idle]
    rw [this]; exact ⟨h, rfl⟩
  | manager =>
    have : wstep cfg fn s .manager = s := managerMicro_of_asleep cfg (stranded_asleep h)
    rw [this]; exact ⟨h, rfl⟩
  | env e =>
    by_cases hk : ∃ pid, e = .kill pid
    · obtain ⟨pid, rfl⟩ := hk
      refine ⟨⟨h.run, h.ph, h.wk, h.pipe, h.part, h.cq, h.idle, ?_⟩, rfl⟩
      intro w' hw'
      obtain ⟨w, hw, rfl⟩ := mem_updWorker hw'
      split
      · exact Or.inl rfl
      · exact h.procs w hw
    · have : step fn s.base e.toEvent = s.base := by
        refine step_env_disabled fn s.base e h.cq h.procs (fun p => ⟨?_, fun he => hk ⟨p, he⟩⟩)
        rintro rfl; exact hq
      simp only [wstep, this]; exact ⟨h, trivial⟩

theorem stranded_run (cfg : Cfg) (fn : Nat → Nat) (s : WState) (h : Stranded s) (evs : List WEvent)
    (hq : ∀ e ∈ evs, Quiet e) :
    Stranded (wrun cfg fn s evs) ∧ (wrun cfg fn s evs).base.futures = s.base.futures :=
  List.foldlRecOn (motive := fun s' => Stranded s' ∧ s'.base.futures = s.base.futures) evs _ ⟨h, rfl⟩
    (fun s' h' e he => let ⟨h1, h2⟩ := stranded_step cfg fn s' h'.1 e (hq e he); ⟨h1, h2.trans h'.2⟩)

/-- The caller is inside `submit`, before the write of its wake-up (in the repaired order `wakeup()` is the last
statement of `submit`). -/
def preWrite : CPc → Bool
  | .subEns1 | .subEns2 | .subTest | .subWrite => true
  | .idle | .shutAcquire | .shutTest | .shutWrite => false

/-- clean exits and respawns included (`wakeInv_step`): a process missing from the wait set was spawned by a `submit` whose
wake-up is still to be written (`preWrite`) or still in the pipe -/
structure WakeInv (s : WState) : Prop where
  /-- so that `subTest` / `subWrite` on a closed pipe, which leave `submit` without a wake-up, are `of_stopped` -/
  closedExited : s.closed = true → s.base.mgr = .exited
  fresh : s.base.mgr = .notStarted → s.mph = .top
  cover : ∀ ws, s.base.mgr = .running → s.mph = .waiting ws →
    (∀ w ∈ s.base.processes, w.pid ∈ ws) ∨ s.base.wakeups > 0 ∨ preWrite s.cpc = true

theorem wakeInv_init (mw qs fp : Nat) : WakeInv (WState.init mw qs fp) := by
  refine ⟨by simp [WState.init], fun _ => rfl, ?_⟩
  intro ws h; simp [WState.init, State.init] at h

theorem WakeInv.of_stopped {s : WState}
    (hm : s.base.mgr = .exited ∨ s.base.mgr = .crashed ∧ s.closed = false) : WakeInv s := by
  refine ⟨?_, ?_, ?_⟩ <;> intros <;> rcases hm with hm | ⟨hm, hc⟩ <;> simp_all

theorem startManager_mgr (s : State) :
    (startManager s).mgr ≠ .notStarted ∧ (s.mgr = .exited → (startManager s).mgr = .exited) := by
  refine ⟨?_, fun h => by simp [startManager, h]⟩
  simp only [startManager]; split <;> simp_all

theorem wakeInv_step (cfg : Cfg) (hcfg : cfg.wakeupBeforeRespawn = false) (fn : Nat → Nat) (s : WState)
    (h : WakeInv s) (ev : WEvent) : WakeInv (wstep cfg fn s ev) := by
  -- the caller outside `submit`, before and after the step: nothing `cover` reads is written, a wake-up may be added
  have same : ∀ s' : WState, s'.base.processes = s.base.processes → s.base.wakeups ≤ s'.base.wakeups →
      s'.base.mgr = s.base.mgr → s'.mph = s.mph → s'.closed = s.closed →
      preWrite s.cpc = false → WakeInv s' := by
    intro s' e1 e2 e3 e4 e5 e6
    refine ⟨by rw [e5, e3]; exact h.closedExited, by rw [e3, e4]; exact h.fresh, ?_⟩
    intro ws hr hw
    rcases h.cover ws (by rw [← e3]; exact hr) (by rw [← e4]; exact hw) with c | c | c
    · exact Or.inl (by rw [e1]; exact c)
    · exact Or.inr (Or.inl (by omega))
    · rw [e6] at c; cases c
  -- the caller inside `submit` before its write, after the step: the third disjunct of `cover` holds whatever was spawned
  have inSubmit : ∀ s' : WState, preWrite s'.cpc = true → s'.mph = s.mph → s'.closed = s.closed →
      (s'.base.mgr = s.base.mgr ∨ s'.base = startManager s.base) → WakeInv s' := by
    intro s' e1 e4 e5 e3
    refine ⟨?_, ?_, fun ws _ _ => Or.inr (Or.inr e1)⟩
    · intro hc
      rw [e5] at hc
      rcases e3 with e3 | e3
      · rw [e3]; exact h.closedExited hc
      · rw [e3]; exact (startManager_mgr s.base).2 (h.closedExited hc)
    · intro hn
      rcases e3 with e3 | e3
      · rw [e4]; exact h.fresh (by rw [← e3]; exact hn)
      · rw [e3] at hn; exact absurd hn (startManager_mgr s.base).1
  cases ev with
  | callSubmit arg =>
    rcases wstep_callSubmit cfg fn s arg with e | ⟨_, _, e⟩ <;> rw [e]
    · exact h
    · exact inSubmit _ (by simp [hcfg, preWrite]) rfl rfl (Or.inl rfl)
  | callShutdown kw =>
    rcases wstep_callShutdown cfg fn s kw with e | ⟨hi, _, e⟩ <;> rw [e]
    · exact h
    · exact same _ rfl (Nat.le_refl _) rfl rfl rfl (hi ▸ rfl)
  | caller =>
    simp only [wstep, callerStep, hcfg]
    cases hc : s.cpc with
    | idle => simp only []; exact h
    | subTest =>
      simp only [Bool.false_eq_true, if_false]
      split
      · rename_i hcl; exact .of_stopped (Or.inl (h.closedExited hcl))
      · exact inSubmit _ rfl rfl rfl (Or.inl rfl)
    | subWrite =>
      simp only [Bool.false_eq_true, if_false]
      split
      · rename_i hcl; exact .of_stopped (Or.inl (h.closedExited hcl))
      · refine ⟨h.closedExited, h.fresh, ?_⟩
        intro ws _ _
        exact Or.inr (Or.inl (by simp [submitReturns, writeWakeup]))
    | subEns1 =>
      simp only []
      split
      · exact inSubmit _ rfl rfl rfl (Or.inr rfl)
      · split
        · exact inSubmit _ rfl rfl rfl (Or.inl (by simp [spawn]))
        · exact inSubmit _ rfl rfl rfl (Or.inl rfl)
    | subEns2 =>
      simp only [Bool.false_eq_true, if_false]
      split
      · split
        · exact inSubmit _ rfl rfl rfl (Or.inl (by simp [spawn]))
        · exact inSubmit _ rfl rfl rfl (Or.inl rfl)
      · exact inSubmit _ rfl rfl rfl (Or.inr rfl)
    | shutAcquire =>
      simp only []
      split
      · exact h
      · exact same _ rfl (Nat.le_refl _) rfl rfl rfl (hc ▸ rfl)
    | shutTest =>
      simp only []
      split <;> exact same _ rfl (Nat.le_refl _) rfl rfl rfl (hc ▸ rfl)
    | shutWrite =>
      simp only []
      split
      · exact same _ rfl (Nat.le_refl _) rfl rfl rfl (hc ▸ rfl)
      · exact same _ rfl (by simp [writeWakeup]) rfl rfl rfl (hc ▸ rfl)
  | manager =>
    simp only [wstep]
    have hncl : s.base.mgr = .running → s.closed = false := fun hr => by
      cases hcl : s.closed with
      | false => rfl
      | true => have := h.closedExited hcl; rw [hr] at this; cases this
    rcases managerMicro_cases cfg s with e | ⟨hr, _, hc⟩ | ⟨ws, mph', hr, hph, e, F, hres⟩ | ⟨he, _, e⟩
    · rw [e]; exact h
    · obtain ⟨_, _, _, _, m, heq, _⟩ := addCallItems_eq s.base
      rw [heq] at hc
      rcases hc with ⟨hm, e⟩ | ⟨hm, e⟩ <;> rw [e]
      · exact .of_stopped (Or.inr ⟨hm, hncl hr⟩)
      · refine ⟨fun hc => ?_, fun hx => ?_, fun ws _ hw => ?_⟩
        · rw [hncl hr] at hc; cases hc
        · rw [hm] at hx; cases hx
        · cases hw; exact Or.inl (fun w hmem => List.mem_map.mpr ⟨w, hmem, rfl⟩)
    · rw [e]
      rcases hres with ⟨rfl, _⟩ | ⟨rfl, hx⟩ | ⟨rfl, hx⟩
      · -- back at the top of the loop: no wait set
        refine ⟨fun hc => ?_, fun _ => rfl, fun ws' _ hw => by cases hw⟩
        rw [hncl hr] at hc; cases hc
      · exact .of_stopped (Or.inl (F.exited hx))
      · exact .of_stopped (Or.inr ⟨F.crashed hx, hncl hr⟩)
    · rw [e]; exact .of_stopped (Or.inl he)
  | env e =>
    simp only [wstep]
    have F := envStep_frame fn s.base e
    refine ⟨by simp only [F.mgr]; exact h.closedExited, by simp only [F.mgr]; exact h.fresh, ?_⟩
    intro ws hr hw
    rcases h.cover ws (by rw [← F.mgr]; exact hr) hw with c | c | c
    · left
      intro w hmem
      obtain ⟨w', hw', hp⟩ := F.pids w hmem
      rw [← hp]; exact c w' hw'
    · exact Or.inr (Or.inl (by simp only [F.wakeups]; exact c))
    · exact Or.inr (Or.inr c)

theorem wakeInv_run (cfg : Cfg) (hcfg : cfg.wakeupBeforeRespawn = false) (fn : Nat → Nat) (s : WState) (h : WakeInv s)
    (evs : List WEvent) : WakeInv (wrun cfg fn s evs) :=
  List.foldlRecOn evs _ h (fun s h e _ => wakeInv_step cfg hcfg fn s h e)

end JoblibModel.LokyMgr
