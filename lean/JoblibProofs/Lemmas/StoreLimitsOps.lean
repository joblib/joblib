import JoblibModel.StoreLimitsOps
import JoblibProofs.Lemmas.StoreLimits
/-! The interruption / history part of C18 (`JoblibModel.StoreLimitsOps`). The idea is `enforceLoopInt_eq`: an interruption at call `k`
leaves `sel.take k` cleared and `sel.take (k + 1)` as the calls started; with it `reduceSizeInt_some_eq` is the analogue of
`reduceSize_eq`. -/
namespace JoblibModel.StoreLimits
open JoblibModel.Lru

theorem enforceLoopInt_eq (raises : Path → Bool) (k : Nat) (sel : List (Item Path)) (t : Dir) (calls : List Path) :
    enforceLoopInt raises k sel t calls =
      (clearAll (sel.take k) t, calls ++ (sel.take (k + 1)).map (·.id), decide (k < sel.length)) := by
  induction sel generalizing k t calls with
  | nil => cases k <;> simp [enforceLoopInt, clearAll]
  | cons it r ih =>
    cases k with
    | zero => simp [enforceLoopInt, clearAll]
    | succ k =>
      simp only [enforceLoopInt, clearLocation]
      cases raises it.id <;> simp [ih, clearAll]

theorem reduceSizeInt_some_eq {bytes : Option BytesArg} {b items deadline : Option Int} {raises : Path → Bool}
    {k : Nat} {t : Dir} (hb : resolveBytes bytes = .ok b) :
    reduceSizeInt true bytes items deadline raises (some k) t =
      if k < (itemsToDelete (getItems t) ⟨b, items, deadline⟩).length then
        .interrupted (clearAll ((itemsToDelete (getItems t) ⟨b, items, deadline⟩).take k) t)
          (((itemsToDelete (getItems t) ⟨b, items, deadline⟩).take (k + 1)).map (·.id))
      else .returned (clearAll (itemsToDelete (getItems t) ⟨b, items, deadline⟩) t)
        ((itemsToDelete (getItems t) ⟨b, items, deadline⟩).map (·.id)) := by
  unfold reduceSizeInt
  simp only [Bool.not_true, Bool.false_eq_true, if_false]
  split
  · rename_i h
    rw [itemsToDelete_of_earlyReturn t hb h]; rfl
  · simp only [enforceStoreLimitsInt, hb, enforceLoopInt_eq, List.nil_append]
    generalize itemsToDelete (getItems t) ⟨b, items, deadline⟩ = sel
    by_cases hk : k < sel.length
    · simp only [hk, decide_true, if_true]
    · simp only [hk, decide_false, if_false]
      rw [List.take_of_length_le (by omega), List.take_of_length_le (by omega)]

theorem reduceSizeInt_none (hasBackend : Bool) (bytes : Option BytesArg) (items deadline : Option Int)
    (raises : Path → Bool) (t : Dir) :
    reduceSizeInt hasBackend bytes items deadline raises none t
      = .ofOutcome (reduceSize hasBackend bytes items deadline raises t) := by
  unfold reduceSizeInt reduceSize
  split
  · rfl
  · split
    · rfl
    · rfl

theorem ofOutcome_returned {o : Outcome} {t : Dir} {c : List Path} (h : OutcomeI.ofOutcome o = .returned t c) :
    o = .returned t c := by
  cases o with
  | returned t' c' => simp only [OutcomeI.ofOutcome] at h; injection h with h1 h2; rw [h1, h2]
  | raised e => simp [OutcomeI.ofOutcome] at h

end JoblibModel.StoreLimits
