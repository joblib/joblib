import JoblibProofs.Lemmas.StoreFacts
import JoblibProofs.Lemmas.Common
/-! Programs that only look and remove (`RmOnly`): `shutil.rmtree` is one — from which both its rely/guarantee triple and
the facts about its solo run follow — and the inventory walk of `reduce_size` is one that only looks.
Then: sequential `shutil.rmtree(<function directory>, ignore_errors=True)` really removes every result file
(needed by C05: after the source of a cached function changed, no result of the old source survives the clearing). -/
namespace JoblibModel.Store

variable {α : Type} {fs fs' : FS} {p q : Path} {o : Op} {π : Par} {s : Bool}

abbrev RmQuiet {α : Type} (p : Prog α) : Prop := RmOnly (fun _ => True) False p

section
variable {S : Path → Prop} (hS : ∀ p n, S p → S (p ++ [n])) {X : Prop} (strict : Bool) (hX : strict = true → X)
include hS hX

theorem rmLoop_rmOnly (recur : Path → Nat → Prog Unit)
    (hrec : ∀ q j, S q → RmOnly S X (recur q j)) (p : Path) (hp : S p) (di : Nat) :
    ∀ l, RmOnly S X (rmLoop strict recur p di l) := by
  intro l
  induction l with
  | nil => exact .ret _
  | cons x rest ih =>
    obtain ⟨n, isDir⟩ := x
    have skip : ∀ (e : Err), RmOnly S X
        (if strict then (Prog.raise e : Prog Unit) else rmLoop strict recur p di rest) := by
      intro e
      cases strict with
      | true => exact .raise e (hX rfl)
      | false => exact ih
    have fail : ∀ (e : Err) (r : Res), RmOnly S X
        (if (strict && r != .ok) = true then (Prog.raise e : Prog Unit) else rmLoop strict recur p di rest) := by
      intro e r
      by_cases h : (strict && r != .ok) = true
      · rw [if_pos h]; exact .raise e (hX (by simp at h; exact h.1))
      · rw [if_neg h]; exact ih
    cases isDir with
    | true =>
      unfold rmLoop
      refine .look _ _ rfl fun r0 => ?_
      by_cases hr : (r0 == Res.no) = true
      · rw [if_pos hr]; exact skip _
      · rw [if_neg hr]
        refine .look _ _ rfl fun r => ?_
        cases r with
        | fd j =>
          simp only
          by_cases hs : (r0 == Res.fd j) = true
          · rw [if_pos hs]
            exact (hrec _ j (hS p n hp)).bind fun _ => .rmdir _ _ _ (hS p n hp) (fail _)
          · rw [if_neg hs]; exact skip _
        | _ => exact skip _
    | false =>
      unfold rmLoop
      exact .unlink _ _ _ (hS p n hp) (fail _)

theorem rmSafeFd_rmOnly (rank : Name → Nat) :
    ∀ (fuel : Nat) (p : Path) (i : Nat), S p → RmOnly S X (rmSafeFd rank strict fuel p i) := by
  intro fuel
  induction fuel with
  | zero => intro p i _; exact .ret _
  | succ fuel ih =>
    intro p i hp
    unfold rmSafeFd
    exact RmOnly.scan fun _ => rmLoop_rmOnly hS strict hX _ (fun q j hq => ih q j hq) p hp i _

theorem rmtree_rmOnly (rank : Name → Nat) (p0 : Path) (hp : S p0) :
    RmOnly S X (rmtree rank strict p0) := by
  unfold rmtree
  have skip : ∀ (e : Err), RmOnly S X (if strict then (Prog.raise e : Prog Unit) else Prog.ret ()) := by
    intro e
    cases strict with
    | true => exact .raise e (hX rfl)
    | false => exact .ret _
  refine .look _ _ rfl fun r0 => ?_
  by_cases hr : (r0 == Res.no) = true
  · rw [if_pos hr]; exact skip _
  · rw [if_neg hr]
    refine .look _ _ rfl fun r => ?_
    cases r with
    | fd i =>
      simp only
      by_cases hs : (r0 == Res.fd i) = true
      · rw [if_pos hs]
        refine (rmSafeFd_rmOnly hS strict hX rank 5 p0 i hp).bind fun _ => .rmdir _ _ _ hp fun r => ?_
        by_cases h : (strict && r != .ok) = true
        · rw [if_pos h]; exact .raise _ (hX (by simp at h; exact h.1))
        · rw [if_neg h]; exact .ret _
      · rw [if_neg hs]; exact skip _
    | _ => exact skip _

end

theorem rmLoop_quiet (recur : Path → Nat → Prog Unit) (hrec : ∀ q j, RmQuiet (recur q j)) (p : Path) (di : Nat)
    (l : List (Name × Bool)) : RmQuiet (rmLoop false recur p di l) :=
  rmLoop_rmOnly (fun _ _ _ => trivial) false nofun recur (fun q j _ => hrec q j) p trivial di l

theorem rmSafeFd_quiet (rank : Name → Nat) (fuel : Nat) (p : Path) (i : Nat) : RmQuiet (rmSafeFd rank false fuel p i) :=
  rmSafeFd_rmOnly (fun _ _ _ => trivial) false nofun rank fuel p i trivial

theorem rmtree_quiet (rank : Name → Nat) (p : Path) : RmQuiet (rmtree rank false p) :=
  rmtree_rmOnly (fun _ _ _ => trivial) false nofun rank p trivial

theorem obsOnly_sat {R : FS → FS → Prop} {G : FS → Op → Prop} {P : FS → Prop} {p : Prog α}
    (hG : ∀ fs o, (∀ p i d, o ≠ .write p i d) → (apply o fs).2 = fs → G fs o) (hP : Stable R P) (h : ObsOnly p) :
    Sat R G P p (fun _ fs => P fs) (fun _ fs => P fs) :=
  (h.sat hP (fun fs o ho => hG fs o (reads_not_write ho) (reads_noop ho fs)) (fun _ _ _ _ h => h.elim)
    (fun _ _ _ _ h => h.elim)).post (fun _ _ h => h) (fun _ _ h => h.2)

theorem obsOnly_foldr_stat (l : List α) (f : α → Path) (tl : Prog Unit) (ht : ObsOnly tl) :
    ObsOnly (l.foldr (fun d acc => Prog.op (.stat (f d)) fun _ => acc) tl) := by
  induction l with
  | nil => exact ht
  | cons x r ih => exact .look _ _ rfl fun _ => ih

theorem obsOnly_itemStats (a : Nat) (files : List (Name × Bool)) : ObsOnly (itemStats a files) := by
  unfold itemStats
  have sizes : ∀ fl : List (Name × Bool), ObsOnly (fl.foldr (fun nf acc =>
      Prog.op (.stat (pEntry a ++ [nf.1])) fun r => if r == .yes then acc else Prog.ret false) (Prog.ret true)) := by
    intro fl
    induction fl with
    | nil => exact .ret _
    | cons x r ih =>
      refine .look _ _ rfl fun res => ?_
      by_cases h : (res == Res.yes) = true
      · rw [if_pos h]; exact ih
      · rw [if_neg h]; exact .ret _
  refine .look _ _ rfl fun r => ?_
  by_cases h : (r == Res.yes) = true
  · simp only [h, if_true]; exact sizes files
  · simp only [h]
    refine .look _ _ rfl fun r' => ?_
    by_cases h' : (r' == Res.yes) = true
    · simp only [h', if_true]; exact sizes files
    · simp only [h']; exact .ret _

theorem obsOnly_walk (rank : Name → Nat) : ∀ (fuel : Nat) (p : Path), ObsOnly (walk rank fuel p) := by
  intro fuel
  induction fuel with
  | zero => intro p; exact .ret _
  | succ fuel ih =>
    intro p
    unfold walk
    refine .look _ _ rfl fun r => ?_
    cases r with
    | fd i =>
      refine RmOnly.scan fun l => ?_
      refine RmOnly.bind ?_ fun found => ?_
      · split
        · split
          · exact (obsOnly_itemStats _ _).bind fun _ => .ret _
          · exact .ret _
        · exact .ret _
      · refine RmOnly.bind (obsOnly_foldr_stat _ _ _ (.ret _)) fun _ => ?_
        refine RmOnly.bind ?_ fun _ => .ret _
        generalize (l.filter (·.2)) = dl
        induction dl with
        | nil => exact .ret _
        | cons x r ihl => exact (ih _).bind fun _ => ihl.bind fun _ => .ret _
    | _ => exact .ret _

/-- every name is gone or holds what it held in `fs` -/
def Mono (fs fs1 : FS) : Prop := ∀ q, fs1.get q = none ∨ fs1.get q = fs.get q

theorem Mono.refl (fs : FS) : Mono fs fs := fun _ => Or.inr rfl

theorem Mono.trans {a b c : FS} (h1 : Mono a b) (h2 : Mono b c) : Mono a c := by
  intro q
  rcases h2 q with h | h
  · exact Or.inl h
  · rcases h1 q with h' | h'
    · exact Or.inl (by rw [h, h'])
    · exact Or.inr (by rw [h, h'])

theorem mono_none {fs fs1 : FS} (h : Mono fs fs1) (hq : fs.get q = none) : fs1.get q = none := by
  rcases h q with h | h
  · exact h
  · rw [h, hq]

theorem mono_notDir {fs fs1 : FS} (h : Mono fs fs1) (hq : NotDir fs q) : NotDir fs1 q := by
  intro j hj
  rcases h q with h | h <;> rw [h] at hj
  · cases hj
  · exact hq j hj

theorem mono_remove (hg : ∀ q, fs'.get q = getUpd fs p none q) : Mono fs fs' := by
  intro q
  by_cases h0 : q = []
  · subst h0; exact Or.inr (by rw [get_nil, get_nil])
  · rcases getUpd_cases hg h0 with ⟨_, e⟩ | e
    · exact Or.inl e
    · exact Or.inr e

theorem unlink_mono (p : Path) (g : Option Nat) (fs : FS) : Mono fs (apply (.unlink p g) fs).2 := by
  rcases unlink_spec p g fs with ⟨e, _⟩ | ⟨_, _, _, _, _, _, _, hg⟩
  · rw [e]; exact Mono.refl fs
  · exact mono_remove hg

theorem rmdir_mono (p : Path) (g : Option Nat) (fs : FS) : Mono fs (apply (.rmdir p g) fs).2 := by
  rcases rmdir_spec p g fs with ⟨e, _⟩ | ⟨_, _, _, _, _, _, _, hg⟩
  · rw [e]; exact Mono.refl fs
  · exact mono_remove hg

theorem RmOnly.mono_run {S : Path → Prop} {p : Prog α} (hp : RmOnly S False p) :
    ∀ fs, Mono fs (run p fs).2 := by
  induction hp with
  | ret a => intro fs; exact Mono.refl fs
  | raise e h => exact h.elim
  | look o k ho _ ih =>
    intro fs
    have h0 : Mono fs (apply o fs).2 := by rw [reads_noop ho]; exact Mono.refl fs
    exact h0.trans (ih _ _)
  | unlink t g k _ _ ih => intro fs; exact (unlink_mono t g fs).trans (ih _ _)
  | rmdir t g k _ _ ih => intro fs; exact (rmdir_mono t g fs).trans (ih _ _)

/-! `RmProg` is a special case of `RmQuiet` (`RmProg.quiet`) with one theorem of its own, `rmProg_keeps`; the derivations of
`rmtree` use `RmOnly`/`RmQuiet`, and none shows a program to be `RmProg`. -/

def IsObs (o : Op) : Prop :=
  (∃ p, o = .stat p) ∨ (∃ p, o = .openr p) ∨ (∃ p i, o = .read p i) ∨ (∃ p g, o = .opendir p g) ∨ (∃ p i, o = .readdir p i)

theorem IsObs.reads (h : IsObs o) : o.reads = true := by
  rcases h with ⟨_, rfl⟩ | ⟨_, rfl⟩ | ⟨_, _, rfl⟩ | ⟨_, _, rfl⟩ | ⟨_, _, rfl⟩ <;> rfl

/-- programs that only observe and remove, and never raise -/
inductive RmProg {α : Type} : Prog α → Prop
  | ret (a : α) : RmProg (.ret a)
  | obs (o : Op) (k : Res → Prog α) : IsObs o → (∀ r, RmProg (k r)) → RmProg (.op o k)
  | lstat (p : Path) (g : Option Nat) (k : Res → Prog α) : (∀ r, RmProg (k r)) → RmProg (.op (.lstat p g) k)
  | unlink (p : Path) (g : Option Nat) (k : Res → Prog α) : (∀ r, RmProg (k r)) → RmProg (.op (.unlink p g) k)
  | rmdir (p : Path) (g : Option Nat) (k : Res → Prog α) : (∀ r, RmProg (k r)) → RmProg (.op (.rmdir p g) k)

theorem RmProg.quiet {p : Prog α} (hp : RmProg p) : RmQuiet p := by
  induction hp with
  | ret a => exact .ret a
  | obs o k ho _ ih => exact .look o k ho.reads ih
  | lstat p g k _ ih => exact .look _ k rfl ih
  | unlink p g k _ ih => exact .unlink p g k trivial ih
  | rmdir p g k _ ih => exact .rmdir p g k trivial ih

theorem rmProg_keeps {α : Type} {p : Prog α} (hp : RmProg p) (q : Path) :
    ∀ fs, (fs.get q = none → (run p fs).2.get q = none) ∧ (NotDir fs q → NotDir (run p fs).2 q) :=
  fun fs => ⟨mono_none (hp.quiet.mono_run fs), mono_notDir (hp.quiet.mono_run fs)⟩

theorem up_run (p : Prog α) : ∀ fs, Up fs → Up (run p fs).2 := by
  induction p with
  | ret a => exact fun _ h => h
  | raise e => exact fun _ h => h
  | op o k ih => exact fun fs h => ih _ _ (up_apply o fs h)

theorem sortRank_perm (rank : Name → Nat) (l : List (Name × Bool)) : (sortRank rank l).Perm l :=
  List.perm_of_sort (sortRank rank) rfl (fun _ _ => rfl)
    (List.perm_of_insert (insertRank rank) (fun _ => rfl) fun _ _ _ => rfl) l

theorem mem_sortRank {rank : Name → Nat} {y : Name × Bool} {l : List (Name × Bool)} :
    y ∈ sortRank rank l ↔ y ∈ l :=
  (sortRank_perm rank l).mem_iff

theorem run_op (o : Op) (k : Res → Prog α) (fs : FS) :
    run (.op o k) fs = run (k (apply o fs).1) (apply o fs).2 := rfl

/-- so one iteration is itself a loop (`rmLoop_quiet`), and what is known of whole programs (`run_ok`, `mono_run`, `up_run`) holds of it -/
theorem rmLoop_cons_eq (recur : Path → Nat → Prog Unit) (p : Path) (di : Nat) (x : Name × Bool) (rest : List (Name × Bool)) :
    rmLoop false recur p di (x :: rest) = (rmLoop false recur p di [x]).bind fun _ => rmLoop false recur p di rest := by
  obtain ⟨n, d⟩ := x
  cases d with
  | false => simp [rmLoop, Prog.bind]
  | true =>
    simp only [rmLoop, Prog.bind, Bool.false_eq_true, if_false, Bool.false_and, Prog.ite_bind]
    congr 1; funext r0
    congr 1; congr 1; funext r
    cases r <;> simp only [Prog.bind, Prog.ite_bind, Prog.bind_assoc]

/-- the directory the loop works in (`dir_fd`) is still the one it opened, or is gone -/
def DirOrGone (fs : FS) (p : Path) (di : Nat) : Prop := fs.get p = none ∨ fs.get p = some (.dir di)

theorem dirOrGone_mono {fs fs1 : FS} {di : Nat} (h : Mono fs fs1) (hd : DirOrGone fs p di) :
    DirOrGone fs1 p di := by
  rcases h p with e | e
  · exact Or.inl e
  · rw [DirOrGone, e]; exact hd

theorem child_of_notDir {n : Name} (hu : Up fs) (h : NotDir fs p) : fs.get (p ++ [n]) = none := by
  cases hg : fs.get (p ++ [n]) with
  | none => rfl
  | some nd =>
    obtain ⟨j, hj⟩ := hu (p ++ [n]) (by simp) (by rw [hg]; rfl)
    have : parent (p ++ [n]) = p := by simp [parent]
    exact absurd (this ▸ hj) (h j)

theorem guard_pass {n : Name} {di : Nat} (h : fs.get p = some (.dir di)) :
    guardOK fs (p ++ [n]) (some di) = true := by
  have : parent (p ++ [n]) = p := by simp [parent]
  simp [guardOK, this, h]

/-- The loop removes `x` if the iteration for the listed entry `e` does, given an assertion `K` that the (monotone,
tree-preserving) iterations before it keep. -/
theorem rmLoop_gone (recur : Path → Nat → Prog Unit) (hrec : ∀ q j, RmQuiet (recur q j)) (p : Path) (di : Nat)
    (x : Path) (e : Name × Bool) (K : FS → Prop)
    (hK : ∀ fs fs1, Mono fs fs1 → (Up fs → Up fs1) → K fs → K fs1)
    (hit : ∀ fs, K fs → (run (rmLoop false recur p di [e]) fs).2.get x = none) :
    ∀ (l : List (Name × Bool)) (fs : FS), e ∈ l → K fs → (run (rmLoop false recur p di l) fs).2.get x = none := by
  intro l
  induction l with
  | nil => intro fs h; cases h
  | cons y rest ih =>
    intro fs hmem hk
    have hq := rmLoop_quiet recur hrec p di [y]
    obtain ⟨u, hu⟩ := hq.run_ok fs
    rw [rmLoop_cons_eq, run_bind, hu]
    by_cases hy : y = e
    · subst hy
      exact mono_none ((rmLoop_quiet recur hrec p di rest).mono_run _) (hit fs hk)
    · exact ih _ ((List.mem_cons.mp hmem).resolve_left fun h => hy h.symm) (hK fs _ (hq.mono_run fs) (up_run _ fs) hk)

theorem rmLoop_removes_file (recur : Path → Nat → Prog Unit) (hrec : ∀ q j, RmQuiet (recur q j)) (p : Path) (di : Nat)
    (n : Name) (l : List (Name × Bool)) (fs : FS) (hmem : (n, false) ∈ l) (hnd : NotDir fs (p ++ [n])) (hu : Up fs)
    (hd : DirOrGone fs p di) : (run (rmLoop false recur p di l) fs).2.get (p ++ [n]) = none := by
  refine rmLoop_gone recur hrec p di _ _ (fun fs => NotDir fs (p ++ [n]) ∧ Up fs ∧ DirOrGone fs p di)
    (fun fs fs1 hm hup h => ⟨mono_notDir hm h.1, hup h.2.1, dirOrGone_mono hm h.2.2⟩) ?_ l fs hmem ⟨hnd, hu, hd⟩
  rintro fs ⟨hnd, hu, hd⟩
  show (apply (.unlink (p ++ [n]) (some di)) fs).2.get (p ++ [n]) = none
  rcases hd with hd | hd
  · exact mono_none (unlink_mono _ _ _) (child_of_notDir hu (notDir_none hd))
  · rcases unlink_spec (p ++ [n]) (some di) fs with ⟨e, hne⟩ | ⟨_, _, _, _, _, _, _, hg⟩
    · rw [e]
      cases hg : fs.get (p ++ [n]) with
      | none => rfl
      | some nd =>
        cases nd with
        | dir j => exact absurd hg (hnd j)
        | file i c => simp [apply, hg, guard_pass hd] at hne
    · rw [hg]; exact getUpd_self (by simp)

theorem run_rmSafeFd (rank : Name → Nat) (strict : Bool) (fuel : Nat) {j : Nat} (h : fs.get p = some (.dir j)) :
    run (rmSafeFd rank strict (fuel + 1) p j) fs =
      run (rmLoop strict (rmSafeFd rank strict fuel) p j (sortRank rank (fs.children p))) fs := by
  unfold rmSafeFd scandir
  rw [run_op, readdir_dir h]

theorem rmSafeFd_removes_file (rank : Name → Nat) (fuel : Nat) (d : Path) (j : Nat) (m : Name) (fs : FS)
    (hu : Up fs) (hd : fs.get d = some (.dir j)) (hnd : NotDir fs (d ++ [m])) :
    (run (rmSafeFd rank false (fuel + 1) d j) fs).2.get (d ++ [m]) = none := by
  rw [run_rmSafeFd rank false fuel hd]
  cases hc : fs.get (d ++ [m]) with
  | none =>
    exact mono_none ((rmLoop_quiet _ (fun q i => rmSafeFd_quiet rank fuel q i) d j _).mono_run fs) hc
  | some nd =>
    cases nd with
    | dir i => exact absurd hc (hnd i)
    | file i c =>
      exact rmLoop_removes_file _ (fun q i => rmSafeFd_quiet rank fuel q i) d j m _ fs
        (mem_sortRank.mpr (children_complete hc)) hnd hu (Or.inr hd)

theorem rmLoop_removes_grandchild (rank : Name → Nat) (fuel : Nat) (p : Path) (di : Nat) (n m : Name)
    (l : List (Name × Bool)) (fs : FS) (hmem : (n, true) ∈ l) (hu : Up fs) (hd : DirOrGone fs p di)
    (hnd : NotDir fs (p ++ [n] ++ [m])) (hdir : (fs.get (p ++ [n])).isSome = true → ∃ j, fs.get (p ++ [n]) = some (.dir j)) :
    (run (rmLoop false (rmSafeFd rank false (fuel + 1)) p di l) fs).2.get (p ++ [n] ++ [m]) = none := by
  have hrec : ∀ q j, RmQuiet (rmSafeFd rank false (fuel + 1) q j) := fun q j => rmSafeFd_quiet rank _ q j
  refine rmLoop_gone _ hrec p di _ _ (fun fs => Up fs ∧ DirOrGone fs p di ∧ NotDir fs (p ++ [n] ++ [m]) ∧
      ((fs.get (p ++ [n])).isSome = true → ∃ j, fs.get (p ++ [n]) = some (.dir j))) ?_ ?_ l fs hmem ⟨hu, hd, hnd, hdir⟩
  · rintro fs fs1 hm hup ⟨hu, hd, hnd, hdir⟩
    refine ⟨hup hu, dirOrGone_mono hm hd, mono_notDir hm hnd, fun hs => ?_⟩
    rcases hm (p ++ [n]) with h | h <;> rw [h] at hs ⊢
    · cases hs
    · exact hdir hs
  · rintro fs ⟨hu, hd, hnd, hdir⟩
    cases hg : fs.get (p ++ [n]) with
    | none => exact mono_none ((rmLoop_quiet _ hrec p di _).mono_run fs) (child_of_notDir hu (notDir_none hg))
    | some nd =>
      obtain ⟨j, hj⟩ := hdir (by rw [hg]; rfl)
      have hpd : fs.get p = some (.dir di) := by
        rcases hd with hd | hd
        · rw [child_of_notDir hu (notDir_none hd)] at hj; cases hj
        · exact hd
      obtain ⟨a, ha⟩ := (hrec (p ++ [n]) j).run_ok fs
      rw [rmLoop, run_op, lstat_dir hj (guard_pass hpd)]
      simp only [show (Res.fd j == Res.no) = false by simp, Bool.false_eq_true, if_false]
      rw [run_op, opendir_dir hj (guard_pass hpd)]
      simp only [beq_self_eq_true, if_true]
      rw [run_bind, ha, run_op]
      exact mono_none (rmdir_mono _ _ _) (rmSafeFd_removes_file rank fuel (p ++ [n]) j m fs hu hj hnd)

/-- no result file exists -/
def NoOut (fs : FS) : Prop := ∀ a, fs.get (pOut a) = none

/-- `shutil.rmtree(p, ignore_errors=True)`, alone, leaves no file two levels below `p` -/
theorem rmtree_removes_grandchild (rank : Name → Nat) (p : Path) (n m : Name) (fs : FS) (hu : Up fs)
    (hnd : NotDir fs (p ++ [n] ++ [m])) : (run (rmtree rank false p) fs).2.get (p ++ [n] ++ [m]) = none := by
  -- below what is not a directory there is nothing, and nothing appears
  have fin : fs.get (p ++ [n] ++ [m]) = none → (run (rmtree rank false p) fs).2.get (p ++ [n] ++ [m]) = none :=
    mono_none ((rmtree_quiet rank p).mono_run fs)
  have top : NotDir fs p → fs.get (p ++ [n] ++ [m]) = none :=
    fun h => child_of_notDir hu (notDir_none (child_of_notDir hu h))
  cases hf : fs.get p with
  | none => exact fin (top (notDir_none hf))
  | some nd =>
    cases nd with
    | file i c => exact fin (top (notDir_file hf))
    | dir j =>
      cases hg : fs.get (p ++ [n]) with
      | none => exact fin (child_of_notDir hu (notDir_none hg))
      | some nd =>
        cases nd with
        | file i c => exact fin (child_of_notDir hu (notDir_file hg))
        | dir j' =>
          unfold rmtree
          rw [run_op, lstat_dir hf rfl]
          simp only [show (Res.fd j == Res.no) = false by simp, Bool.false_eq_true, if_false]
          rw [run_op, opendir_dir hf rfl]
          simp only [beq_self_eq_true, if_true]
          rw [run_bind]
          obtain ⟨u, hu'⟩ := (rmSafeFd_quiet rank 5 p j).run_ok fs
          rw [hu']
          simp only
          have hk : RmQuiet (Prog.op (.rmdir p) fun r =>
              if (false && r != Res.ok) = true then (Prog.raise .osError : Prog Unit) else Prog.ret ()) :=
            .rmdir _ _ _ trivial fun r => by simpa using (RmOnly.ret () : RmQuiet (Prog.ret ()))
          refine mono_none (hk.mono_run _) ?_
          -- the listing of `p` contains the directory `p/n`, whose listing contains the file `p/n/m` if it exists
          show (run (rmSafeFd rank false (4 + 1) p j) fs).2.get (p ++ [n] ++ [m]) = none
          rw [run_rmSafeFd rank false 4 hf]
          exact rmLoop_removes_grandchild rank 3 p j n m _ fs (mem_sortRank.mpr (children_complete hg)) hu (Or.inr hf) hnd
            fun _ => ⟨j', hg⟩

theorem rmtree_func_noOut (rank : Name → Nat) (fs : FS) (hi : Inv π s fs) :
    NoOut (run (rmtree rank false pFunc) fs).2 := fun a =>
  rmtree_removes_grandchild rank pFunc (.entry a) .output fs hi.up
    fun j hj => hi.typD (pOut a) j hj (sealed_file ⟨a, Or.inl rfl⟩)

end JoblibModel.Store
