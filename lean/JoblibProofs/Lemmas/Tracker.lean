import JoblibModel.Tracker
import JoblibProofs.Lemmas.PyDict
/-! Lemmas behind C20, tracker side. The refinement rests on three things: `exec_spec` (the one specification of `exec`,
through `execAt` and `execActs`; outside this file through `exec_acts`, `exec_distinct`, `exec_get_same`, `exec_get_other`),
`enc` (a count as the registry shows it) and the square `execAt_enc`; `step_refines`, `run_refines`, `mem_step_cleanup` follow.
EOF is `finish_eq` with `mem_unlinkResources*`; the parser ends in `classify_send`. The dict (`lookup`, `setItem`, `delItem`) is
`dget`, `dset`, `dpop` of `Lemmas/PyDict`, whose lemmas are restated for it. `step` and `classify` have no case relation: the
proofs split on `classify l` (`classify_cases`, `step_req`, `step_not_req` and the four equations beside them; `step_distinct`
and `mem_step_cleanup` unfold `step` and split themselves). -/
namespace JoblibModel.Tracker

/-- `Registry.Distinct r` is `∀ t, (keys (r.get t)).Nodup` with `keys` written out (`distinct_iff`, by `Iff.rfl`): the proofs
pass `hd t` where `(keys _).Nodup` is asked. -/
def keys (d : RTypeRegistry) : List Name := d.map Prod.fst

section dict
open JoblibModel.FilterArgs

theorem lookup_eq_dget : ∀ (d : RTypeRegistry) (n : Name), lookup d n = dget n d
  | [], _ => rfl
  | (k, v) :: r, n => by simp only [lookup, dget, lookup_eq_dget r n]

theorem setItem_eq_dset : ∀ (d : RTypeRegistry) (n : Name) (v : Int), setItem d n v = dset n v d
  | [], _, _ => rfl
  | (k, c) :: r, n, v => by
    simp only [setItem, dset, setItem_eq_dset r n v]; split
    · next h => rw [h]
    · rfl

theorem delItem_eq_dpop : ∀ (d : RTypeRegistry) (n : Name), delItem d n = dpop n d
  | [], _ => rfl
  | (k, c) :: r, n => by simp only [delItem, dpop, delItem_eq_dpop r n]

theorem lookup_setItem_self (d : RTypeRegistry) (n : Name) (v : Int) :
    lookup (setItem d n v) n = some v := by
  rw [setItem_eq_dset, lookup_eq_dget]; exact dget_dset_self ..

theorem lookup_setItem_ne (d : RTypeRegistry) (n m : Name) (v : Int) (h : m ≠ n) :
    lookup (setItem d n v) m = lookup d m := by
  rw [setItem_eq_dset, lookup_eq_dget, lookup_eq_dget]; exact dget_dset_ne h ..

theorem lookup_delItem_ne (d : RTypeRegistry) (n m : Name) (h : m ≠ n) :
    lookup (delItem d n) m = lookup d m := by
  rw [delItem_eq_dpop, lookup_eq_dget, lookup_eq_dget]; exact dget_dpop_ne h ..

theorem lookup_eq_none_iff (d : RTypeRegistry) (n : Name) : lookup d n = none ↔ n ∉ keys d := by
  rw [lookup_eq_dget]; exact dget_none_iff ..

theorem lookup_delItem_self (d : RTypeRegistry) (n : Name) (hd : (keys d).Nodup) :
    lookup (delItem d n) n = none := by
  rw [delItem_eq_dpop, lookup_eq_dget, dpop_eq_filter hd, dget_filter_key fun k => decide (k ≠ n)]; simp

theorem keys_setItem (d : RTypeRegistry) (n : Name) (v : Int) :
    keys (setItem d n v) = if n ∈ keys d then keys d else keys d ++ [n] := by
  simp only [setItem_eq_dset, keys, keys_dset, dget_isSome_iff]; congr

theorem nodup_setItem (d : RTypeRegistry) (n : Name) (v : Int) (hd : (keys d).Nodup) :
    (keys (setItem d n v)).Nodup := by
  rw [setItem_eq_dset]; exact nodup_keys_dset n v hd

theorem keys_delItem_sublist (d : RTypeRegistry) (n : Name) : (keys (delItem d n)).Sublist (keys d) := by
  rw [delItem_eq_dpop]; exact (dpop_sublist n d).map _

theorem nodup_delItem (d : RTypeRegistry) (n : Name) (hd : (keys d).Nodup) :
    (keys (delItem d n)).Nodup := by
  rw [delItem_eq_dpop]; exact nodup_keys_dpop n hd

theorem mem_of_lookup {d : RTypeRegistry} {n : Name} {v : Int} (h : lookup d n = some v) : (n, v) ∈ d :=
  mem_of_dget (lookup_eq_dget d n ▸ h)

theorem lookup_of_mem {d : RTypeRegistry} {n : Name} {v : Int} (hd : (keys d).Nodup) (h : (n, v) ∈ d) :
    lookup d n = some v := by
  rw [lookup_eq_dget]; exact dget_of_mem hd h

end dict

@[simp] theorem get_set_same (r : Registry) (t : RType) (d : RTypeRegistry) : (r.set t d).get t = d := by
  cases t <;> rfl

theorem get_set_ne (r : Registry) (t t' : RType) (d : RTypeRegistry) (h : t' ≠ t) :
    (r.set t d).get t' = r.get t' := by
  cases t <;> cases t' <;> first | rfl | exact absurd rfl h

theorem distinct_iff (r : Registry) : r.Distinct ↔ ∀ t, (keys (r.get t)).Nodup := Iff.rfl

theorem empty_distinct : Registry.empty.Distinct := by
  intro t; cases t <;> simp [Registry.empty, Registry.get]

theorem set_distinct (r : Registry) (t : RType) (d : RTypeRegistry) (hr : r.Distinct)
    (hd : (keys d).Nodup) : (r.set t d).Distinct := by
  intro t'
  by_cases h : t' = t
  · subst h; rw [get_set_same]; exact hd
  · rw [get_set_ne _ _ _ _ h]; exact hr t'

/-- What `exec` leaves at key `name` of `registry[rt]`. -/
def execAt (c : Cmd) (old : Option Int) : Option Int :=
  match c, old with
  | .register, none => some 1
  | .register, some n => some (n + 1)
  | .unregister, _ => none
  | .maybeUnlink, none => none
  | .maybeUnlink, some n => if n - 1 = 0 then none else some (n - 1)

theorem execAt_register_ne_none (old : Option Int) : execAt .register old ≠ none := by
  cases old <;> simp [execAt]

/-- What `exec` does besides updating the registry. -/
def execActs (c : Cmd) (rt : RType) (name : Name) (old : Option Int) : List Action :=
  match c, old with
  | .register, _ => []
  | .unregister, none => [.report .keyError]
  | .unregister, some _ => []
  | .maybeUnlink, none => [.report .keyError]
  | .maybeUnlink, some n => if n - 1 = 0 then [.cleanup rt name] else []

theorem exec_reg_none {reg : Registry} {rt : RType} {name : Name} (h : lookup (reg.get rt) name = none) :
    exec reg .register rt name = (reg.set rt (setItem (reg.get rt) name 1), []) := by simp [exec, h]
theorem exec_reg_some {reg : Registry} {rt : RType} {name : Name} {n : Int}
    (h : lookup (reg.get rt) name = some n) :
    exec reg .register rt name = (reg.set rt (setItem (reg.get rt) name (n + 1)), []) := by simp [exec, h]
theorem exec_unreg_none {reg : Registry} {rt : RType} {name : Name} (h : lookup (reg.get rt) name = none) :
    exec reg .unregister rt name = (reg, [.report .keyError]) := by simp [exec, h]
theorem exec_unreg_some {reg : Registry} {rt : RType} {name : Name} {n : Int}
    (h : lookup (reg.get rt) name = some n) :
    exec reg .unregister rt name = (reg.set rt (delItem (reg.get rt) name), []) := by simp [exec, h]
theorem exec_mu_none {reg : Registry} {rt : RType} {name : Name} (h : lookup (reg.get rt) name = none) :
    exec reg .maybeUnlink rt name = (reg, [.report .keyError]) := by simp [exec, h]
theorem exec_mu_zero {reg : Registry} {rt : RType} {name : Name} {n : Int}
    (h : lookup (reg.get rt) name = some n) (h0 : n - 1 = 0) :
    exec reg .maybeUnlink rt name
      = (reg.set rt (delItem (setItem (reg.get rt) name (n - 1)) name), [.cleanup rt name]) := by
  simp [exec, h, h0]
theorem exec_mu_pos {reg : Registry} {rt : RType} {name : Name} {n : Int}
    (h : lookup (reg.get rt) name = some n) (h0 : ¬ n - 1 = 0) :
    exec reg .maybeUnlink rt name = (reg.set rt (setItem (reg.get rt) name (n - 1)), []) := by
  simp [exec, h, h0]

theorem set_get_self (r : Registry) (t : RType) : r.set t (r.get t) = r := by cases t <;> rfl

theorem exec_spec (reg : Registry) (c : Cmd) (rt : RType) (name : Name) :
    ∃ d', exec reg c rt name = (reg.set rt d', execActs c rt name (lookup (reg.get rt) name)) ∧
      (∀ m, m ≠ name → lookup d' m = lookup (reg.get rt) m) ∧
      ((keys (reg.get rt)).Nodup → (keys d').Nodup ∧ lookup d' name = execAt c (lookup (reg.get rt) name)) := by
  cases c <;> cases h : lookup (reg.get rt) name
  · exact ⟨_, exec_reg_none h, fun m hm => lookup_setItem_ne _ _ _ _ hm,
      fun hk => ⟨nodup_setItem _ _ _ hk, lookup_setItem_self ..⟩⟩
  · exact ⟨_, exec_reg_some h, fun m hm => lookup_setItem_ne _ _ _ _ hm,
      fun hk => ⟨nodup_setItem _ _ _ hk, lookup_setItem_self ..⟩⟩
  · exact ⟨_, by rw [set_get_self]; exact exec_unreg_none h, fun _ _ => rfl, fun hk => ⟨hk, h⟩⟩
  · exact ⟨_, exec_unreg_some h, fun m hm => lookup_delItem_ne _ _ _ hm,
      fun hk => ⟨nodup_delItem _ _ hk, lookup_delItem_self _ _ hk⟩⟩
  · exact ⟨_, by rw [set_get_self]; exact exec_mu_none h, fun _ _ => rfl, fun hk => ⟨hk, h⟩⟩
  · rename_i n
    by_cases h0 : n - 1 = 0
    · refine ⟨_, (exec_mu_zero h h0).trans (congrArg (Prod.mk _) (if_pos h0).symm),
        fun m hm => by rw [lookup_delItem_ne _ _ _ hm, lookup_setItem_ne _ _ _ _ hm], fun hk => ?_⟩
      simp only [execAt, h0, if_true]
      exact ⟨nodup_delItem _ _ (nodup_setItem _ _ _ hk), lookup_delItem_self _ _ (nodup_setItem _ _ _ hk)⟩
    · refine ⟨_, (exec_mu_pos h h0).trans (congrArg (Prod.mk _) (if_neg h0).symm),
        fun m hm => lookup_setItem_ne _ _ _ _ hm, fun hk => ?_⟩
      simp only [execAt, h0, if_false]
      exact ⟨nodup_setItem _ _ _ hk, lookup_setItem_self ..⟩

theorem exec_acts (reg : Registry) (c : Cmd) (rt : RType) (name : Name) :
    (exec reg c rt name).2 = execActs c rt name (lookup (reg.get rt) name) := by
  obtain ⟨d', e, _⟩ := exec_spec reg c rt name
  rw [e]

theorem exec_distinct (reg : Registry) (c : Cmd) (rt : RType) (name : Name) (hd : reg.Distinct) :
    (exec reg c rt name).1.Distinct := by
  obtain ⟨d', e, _, h2⟩ := exec_spec reg c rt name
  rw [e]; exact set_distinct _ _ _ hd (h2 (hd rt)).1

theorem exec_get_same (reg : Registry) (c : Cmd) (rt : RType) (name : Name) (hd : reg.Distinct) :
    lookup ((exec reg c rt name).1.get rt) name = execAt c (lookup (reg.get rt) name) := by
  obtain ⟨d', e, _, h2⟩ := exec_spec reg c rt name
  rw [e, get_set_same]; exact (h2 (hd rt)).2

theorem exec_get_other (reg : Registry) (c : Cmd) (rt : RType) (name : Name) (t : RType) (m : Name)
    (h : ¬ (t = rt ∧ m = name)) :
    lookup ((exec reg c rt name).1.get t) m = lookup (reg.get t) m := by
  obtain ⟨d', e, h1, _⟩ := exec_spec reg c rt name
  rw [e]
  by_cases ht : t = rt
  · subst ht; rw [get_set_same]; exact h1 m fun e => h ⟨rfl, e⟩
  · rw [get_set_ne _ _ _ _ ht]

theorem step_req (reg : Registry) (l : Line) (c : Cmd) (rt : RType) (name : Name)
    (h : classify l = .req c rt name) : step reg l = exec reg c rt name := by
  simp [step, h]

theorem step_undecodable (reg : Registry) {l : Line} (h : classify l = .undecodable) :
    step reg l = (reg, [.report .unicodeDecodeError]) := by simp [step, h]

theorem step_probe (reg : Registry) {l : Line} (h : classify l = .probe) : step reg l = (reg, []) := by
  simp [step, h]

theorem step_unknownType (reg : Registry) {l : Line} {c n r : Name} (h : classify l = .unknownType c n r) :
    step reg l = (reg, [.report .valueError]) := by simp [step, h]

theorem step_unknownCmd (reg : Registry) {l : Line} {c n : Name} {rt : RType} (h : classify l = .unknownCmd c n rt) :
    step reg l = (reg, [.report .runtimeError]) := by simp [step, h]

theorem step_not_req (reg : Registry) (l : Line) (h : ∀ c rt name, classify l ≠ .req c rt name) :
    (step reg l).1 = reg := by
  unfold step
  cases hc : classify l <;> simp
  exact absurd hc (h _ _ _)

theorem step_distinct (reg : Registry) (l : Line) (hd : reg.Distinct) : (step reg l).1.Distinct := by
  unfold step
  cases hc : classify l <;> simp <;> first | exact hd | exact exec_distinct _ _ _ _ hd

theorem run_distinct (reg : Registry) (ls : List Line) (hd : reg.Distinct) : (run reg ls).1.Distinct := by
  induction ls generalizing reg with
  | nil => exact hd
  | cons l ls ih => exact ih _ (step_distinct reg l hd)

theorem run_append (reg : Registry) (a b : List Line) :
    run reg (a ++ b) = ((run (run reg a).1 b).1, (run reg a).2 ++ (run (run reg a).1 b).2) := by
  induction a generalizing reg with
  | nil => simp [run]
  | cons l ls ih => simp [run, ih, List.append_assoc]

theorem run_snoc (reg : Registry) (ls : List Line) (l : Line) :
    (run reg (ls ++ [l])).1 = (step (run reg ls).1 l).1 := by
  rw [run_append]; simp [run]

/-- How the abstract count shows in the registry: absent at 0, the count itself otherwise. -/
def enc (n : Nat) : Option Int := if n = 0 then none else some (n : Int)

/-- What a request for this very (type, name) does to the abstract count (`absStep` on a matching line). -/
def absAt (c : Cmd) (n : Nat) : Nat :=
  match c with
  | .register => n + 1
  | .unregister => 0
  | .maybeUnlink => n - 1

theorem execAt_enc (c : Cmd) (n : Nat) : execAt c (enc n) = enc (absAt c n) := by
  have e : ∀ k : Nat, enc (k + 1) = some ((k : Int) + 1) := fun k => rfl
  cases n with
  | zero => cases c <;> rfl
  | succ k =>
    rw [e]
    cases c
    · exact (e (k + 1)).symm
    · rfl
    · cases k with
      | zero => rfl
      | succ j => simp [execAt, absAt, e]; omega

theorem enc_eq_some_one (n : Nat) : enc n = some 1 ↔ n = 1 := by
  unfold enc
  by_cases h : n = 0
  · subst h; simp
  · simp [h]; omega

theorem enc_eq_none (n : Nat) : enc n = none ↔ n = 0 := by
  unfold enc
  by_cases h : n = 0 <;> simp [h]

theorem classify_cases (l : Line) :
    (∃ c rt name, classify l = .req c rt name) ∨ ∀ c rt name, classify l ≠ .req c rt name := by
  cases h : classify l <;> first | exact Or.inl ⟨_, _, _, rfl⟩ | exact Or.inr (fun _ _ _ e => by cases e)

theorem absStep_req {l : Line} {c : Cmd} {rt' : RType} {name' : Name} (h : classify l = .req c rt' name')
    (rt : RType) (name : Name) (n : Nat) :
    absStep rt name n l = if rt' = rt ∧ name' = name then absAt c n else n := by
  unfold absStep; rw [h]; cases c <;> rfl

theorem absStep_not_req {l : Line} (h : ∀ c rt name, classify l ≠ .req c rt name) (rt : RType) (name : Name)
    (n : Nat) : absStep rt name n l = n := by
  unfold absStep; split
  · exact absurd ‹_› (h _ _ _)
  · rfl

theorem step_refines (reg : Registry) (l : Line) (rt : RType) (name : Name) (n : Nat) (hd : reg.Distinct)
    (h : lookup (reg.get rt) name = enc n) :
    lookup ((step reg l).1.get rt) name = enc (absStep rt name n l) := by
  rcases classify_cases l with ⟨c, rt', name', hc⟩ | hc
  · rw [step_req _ _ _ _ _ hc, absStep_req hc]
    split
    · rename_i hk; obtain ⟨rfl, rfl⟩ := hk
      rw [exec_get_same _ _ _ _ hd, h, execAt_enc]
    · rename_i hk
      rw [exec_get_other _ _ _ _ _ _ (fun ⟨a, b⟩ => hk ⟨a.symm, b.symm⟩), h]
  · rw [step_not_req _ _ hc, absStep_not_req hc, h]

theorem run_refines (reg : Registry) (ls : List Line) (rt : RType) (name : Name) (n : Nat) (hd : reg.Distinct)
    (h : lookup (reg.get rt) name = enc n) :
    lookup ((run reg ls).1.get rt) name = enc (absCountFrom rt name n ls) := by
  induction ls generalizing reg n with
  | nil => exact h
  | cons l ls ih =>
    exact ih _ _ (step_distinct reg l hd) (step_refines reg l rt name n hd h)

theorem run_empty_refines (lines : List Line) (rt : RType) (name : Name) :
    lookup ((run Registry.empty lines).1.get rt) name = enc (absCount rt name lines) :=
  run_refines Registry.empty lines rt name 0 empty_distinct (by cases rt <;> rfl)

theorem absCountFrom_append (rt : RType) (name : Name) (n : Nat) (a b : List Line) :
    absCountFrom rt name n (a ++ b) = absCountFrom rt name (absCountFrom rt name n a) b := by
  induction a generalizing n with
  | nil => rfl
  | cons l ls ih => simp [absCountFrom, ih]

theorem registered_of_pos (rt : RType) (name : Name) (ls : List Line) (n : Nat)
    (h : 0 < absCountFrom rt name n ls) :
    0 < n ∨ ∃ l ∈ ls, classify l = .req .register rt name := by
  induction ls generalizing n with
  | nil => exact Or.inl h
  | cons l ls ih =>
    rcases ih _ h with h1 | ⟨l', hl', hc⟩
    · rcases classify_cases l with ⟨c, rt', name', hc⟩ | hc
      · rw [absStep_req hc] at h1
        split at h1
        · rename_i hk; obtain ⟨rfl, rfl⟩ := hk
          cases c
          · exact Or.inr ⟨l, by simp, hc⟩
          · cases h1
          · exact Or.inl (by simp only [absAt] at h1; omega)
        · exact Or.inl h1
      · exact Or.inl (absStep_not_req hc rt name n ▸ h1)
    · exact Or.inr ⟨l', by simp [hl'], hc⟩

theorem balanced_net (rt : RType) (name : Name) (n : Nat) (ls : List Line)
    (hb : BalancedFrom rt name n ls) :
    (absCountFrom rt name n ls : Int) = netFrom rt name n ls := by
  induction ls generalizing n with
  | nil => rfl
  | cons l ls ih =>
    obtain ⟨h1, h2⟩ := hb
    rw [absCountFrom, netFrom, ih _ h2]
    congr 1
    unfold absStep
    cases hc : classify l <;> simp only
    rename_i c rt' name'
    by_cases hk : rt' = rt ∧ name' = name
    · obtain ⟨rfl, rfl⟩ := hk
      simp only [and_self, if_true]
      cases c <;> simp
      have := h1 hc; omega
    · simp [hk]

theorem mem_unlinkResources_cleanup (d : RTypeRegistry) (rt rt' : RType) (name : Name) :
    Action.cleanup rt' name ∈ unlinkResources d rt ↔ rt' = rt ∧ name ∈ keys d := by
  unfold unlinkResources keys
  constructor
  · intro h
    rcases List.mem_append.mp h with h | h
    · split at h <;> simp at h
    · obtain ⟨e, he, heq⟩ := List.mem_map.mp h
      simp at heq
      exact ⟨heq.1.symm, List.mem_map.mpr ⟨e, he, heq.2⟩⟩
  · rintro ⟨rfl, h⟩
    obtain ⟨e, he, heq⟩ := List.mem_map.mp h
    exact List.mem_append.mpr (Or.inr (List.mem_map.mpr ⟨e, he, by simp [heq]⟩))

theorem mem_unlinkResources (d : RTypeRegistry) (rt : RType) (a : Action)
    (h : a ∈ unlinkResources d rt) : a = .leakWarning rt d.length ∨ ∃ name, a = .cleanup rt name := by
  unfold unlinkResources at h
  rcases List.mem_append.mp h with h | h
  · split at h
    · simp at h
    · simp at h; exact Or.inl h
  · obtain ⟨e, _, heq⟩ := List.mem_map.mp h
    exact Or.inr ⟨e.1, heq.symm⟩

/- The resource types are written out one by one here, in `finish_nodup` and in `finish_folders_last`; everywhere else a
`cases rt <;> …` covers a further type. -/
theorem finish_eq (reg : Registry) :
    finish reg = unlinkResources reg.file .file ++ unlinkResources reg.semlock .semlock
      ++ unlinkResources reg.folder .folder := by
  simp [finish, rtypes, Registry.get]

theorem mem_run_acts (reg : Registry) (ls : List Line) (a : Action) (h : a ∈ (run reg ls).2) :
    ∃ pre l post, ls = pre ++ l :: post ∧ a ∈ (step (run reg pre).1 l).2 := by
  induction ls generalizing reg with
  | nil => simp [run] at h
  | cons l ls ih =>
    simp only [run, List.mem_append] at h
    rcases h with h | h
    · exact ⟨[], l, ls, rfl, h⟩
    · obtain ⟨pre, l', post, e, hm⟩ := ih _ h
      exact ⟨l :: pre, l', post, by simp [e], by simpa [run] using hm⟩

theorem mem_execActs_cleanup (c : Cmd) (rt rt' : RType) (name name' : Name) (old : Option Int) :
    Action.cleanup rt name ∈ execActs c rt' name' old ↔
      c = .maybeUnlink ∧ rt' = rt ∧ name' = name ∧ old = some 1 := by
  unfold execActs
  cases c <;> cases old <;> simp
  rename_i n
  by_cases h0 : n - 1 = 0
  · have : n = 1 := by omega
    simp [this]
    constructor <;> rintro ⟨a, b⟩ <;> exact ⟨a.symm, b.symm⟩
  · have : ¬ n = 1 := by omega
    simp [h0, this]

theorem nodup_unlinkResources (d : RTypeRegistry) (rt : RType) (hd : (keys d).Nodup) :
    (unlinkResources d rt).Nodup := by
  unfold unlinkResources
  rw [List.nodup_append]
  refine ⟨by split <;> simp, ?_, ?_⟩
  · induction d with
    | nil => simp
    | cons e r ih =>
      simp only [keys, List.map_cons, List.nodup_cons] at hd ⊢
      refine ⟨?_, ih hd.2⟩
      intro hm
      obtain ⟨e', he', heq⟩ := List.mem_map.mp hm
      simp at heq
      exact hd.1 (List.mem_map.mpr ⟨e', he', heq⟩)
  · intro a ha b hb
    split at ha
    · simp at ha
    · simp at ha; subst ha
      obtain ⟨e, _, heq⟩ := List.mem_map.mp hb
      intro e2; rw [← e2] at heq; simp at heq

theorem mem_step_cleanup (reg : Registry) (l : Line) (rt : RType) (name : Name) :
    Action.cleanup rt name ∈ (step reg l).2 ↔
      classify l = .req .maybeUnlink rt name ∧ lookup (reg.get rt) name = some 1 := by
  unfold step
  cases hc : classify l <;> simp only [] <;> try (simp; done)
  rw [exec_acts, mem_execActs_cleanup]
  constructor
  · rintro ⟨rfl, rfl, rfl, h1⟩; exact ⟨rfl, h1⟩
  · rintro ⟨h, h1⟩; cases h; exact ⟨rfl, rfl, rfl, h1⟩

theorem step_cleanup_single (reg : Registry) (hd : reg.Distinct) (l : Line) (rt : RType) (name : Name)
    (h : Action.cleanup rt name ∈ (step reg l).2) :
    (step reg l).2 = [.cleanup rt name] ∧ lookup ((step reg l).1.get rt) name = none := by
  obtain ⟨hc, h1⟩ := (mem_step_cleanup reg l rt name).mp h
  rw [step_req _ _ _ _ _ hc, exec_acts, exec_get_same _ _ _ _ hd, h1]
  exact ⟨rfl, rfl⟩

theorem mem_finish_cleanup (reg : Registry) (rt : RType) (name : Name) :
    Action.cleanup rt name ∈ finish reg ↔ lookup (reg.get rt) name ≠ none := by
  rw [finish_eq, Ne, lookup_eq_none_iff, Decidable.not_not]
  simp only [List.mem_append, mem_unlinkResources_cleanup]
  cases rt <;> simp [Registry.get]

theorem finish_nodup (reg : Registry) (hd : reg.Distinct) : (finish reg).Nodup := by
  rw [finish_eq]
  have h1 := nodup_unlinkResources reg.file .file (hd .file)
  have h2 := nodup_unlinkResources reg.semlock .semlock (hd .semlock)
  have h3 := nodup_unlinkResources reg.folder .folder (hd .folder)
  -- the three parts speak of three different resource types
  have hne : ∀ {d d' : RTypeRegistry} {t t' : RType}, t ≠ t' → ∀ a ∈ unlinkResources d t, ∀ b ∈ unlinkResources d' t',
      a ≠ b := by
    intro d d' t t' ht a ha b hb e
    subst e
    rcases mem_unlinkResources _ _ _ ha with rfl | ⟨n, rfl⟩ <;>
      rcases mem_unlinkResources _ _ _ hb with h | ⟨m, h⟩ <;> simp at h <;> exact ht (by simp [h])
  rw [List.nodup_append, List.nodup_append]
  refine ⟨⟨h1, h2, hne (by simp)⟩, h3, fun a ha => ?_⟩
  rcases List.mem_append.mp ha with ha | ha
  · exact hne (by simp) a ha
  · exact hne (by simp) a ha

theorem finish_folders_last (reg : Registry) :
    ∃ others folders, finish reg = others ++ folders ∧
      (∀ a ∈ others, ∀ name, a ≠ .cleanup .folder name) ∧
      (∀ a ∈ folders, (∃ name, a = .cleanup .folder name) ∨ ∃ n, a = .leakWarning .folder n) := by
  refine ⟨unlinkResources reg.file .file ++ unlinkResources reg.semlock .semlock,
    unlinkResources reg.folder .folder, finish_eq reg, fun a ha name e => ?_, fun a ha => ?_⟩
  · subst e
    rcases List.mem_append.mp ha with ha | ha <;>
      rcases mem_unlinkResources _ _ _ ha with h | ⟨m, h⟩ <;> simp at h
  · rcases mem_unlinkResources _ _ _ ha with h | ⟨m, h⟩
    · exact Or.inr ⟨_, h⟩
    · exact Or.inl ⟨m, h⟩

theorem splitColon_no_colon (a : Name) (h : 58 ∉ a) : splitColon a = (a, []) := by
  induction a with
  | nil => rfl
  | cons c r ih =>
    simp only [List.mem_cons, not_or] at h
    have hc : ¬ c = 58 := fun e => h.1 e.symm
    simp [splitColon, hc, ih h.2]

theorem fields_append (a b : Name) (h : 58 ∉ a) : fields (a ++ 58 :: b) = a :: fields b := by
  induction a with
  | nil => simp [fields, splitColon]
  | cons c r ih =>
    simp only [List.mem_cons, not_or] at h
    have hc : ¬ c = 58 := fun e => h.1 e.symm
    have := ih h.2
    simp only [fields, List.cons.injEq] at this
    simp [fields, splitColon, hc, this.1, this.2]

theorem fields_snoc (n r : Name) (h : 58 ∉ r) : fields (n ++ 58 :: r) = fields n ++ [r] := by
  induction n with
  | nil => simp [fields, splitColon, splitColon_no_colon r h]
  | cons c n ih =>
    simp only [fields, List.cons_append, List.cons.injEq] at ih
    by_cases hc : c = 58
    · simp [fields, splitColon, hc, ih.1, ih.2]
    · simp [fields, splitColon, hc, ih.1, ih.2]

theorem joinColon_fields (s : Name) : joinColon (fields s) = s := by
  induction s with
  | nil => simp [fields, splitColon, joinColon]
  | cons c r ih =>
    by_cases hc : c = 58
    · simp only [fields] at ih
      simp [fields, splitColon, hc, joinColon, ih]
    · simp only [fields] at ih
      simp only [fields, splitColon, hc, if_false]
      cases h2 : (splitColon r).2 with
      | nil => rw [h2] at ih; simp [joinColon] at ih ⊢; exact ih
      | cons y t => rw [h2] at ih; simp [joinColon] at ih ⊢; exact ih

theorem lastField_append (h : Name) (l : List Name) (x : Name) : lastField h (l ++ [x]) = x := by
  induction l generalizing h with
  | nil => rfl
  | cons y t ih => simp [lastField, ih]

theorem strip_line (b0 bl : Nat) (mid : Line) (h0 : isSpace b0 = false) (hl : isSpace bl = false) :
    strip ((b0 :: mid ++ [bl]) ++ [10]) = b0 :: mid ++ [bl] := by
  unfold strip
  have e1 : List.dropWhile isSpace ((b0 :: mid ++ [bl]) ++ [10]) = (b0 :: mid ++ [bl]) ++ [10] := by
    simp [h0]
  rw [e1]
  have e2 : ((b0 :: mid ++ [bl]) ++ [10]).reverse = 10 :: bl :: (b0 :: mid).reverse := by simp
  rw [e2]
  have h10 : isSpace 10 = true := by decide
  rw [List.dropWhile_cons, if_pos h10, List.dropWhile_cons, hl]
  simp

theorem parse_send {c0 rl : Nat} {cs ri : Name} (name : Name) (h0 : isSpace c0 = false) (hl : isSpace rl = false)
    (hc : 58 ∉ c0 :: cs) (hr : 58 ∉ ri ++ [rl])
    (ha : ∀ b ∈ c0 :: (cs ++ 58 :: name ++ 58 :: ri) ++ [rl], b < 128) :
    parse ((c0 :: cs) ++ 58 :: name ++ 58 :: (ri ++ [rl]) ++ [10]) = some (c0 :: cs, name, ri ++ [rl]) := by
  have e : (c0 :: cs) ++ 58 :: name ++ 58 :: (ri ++ [rl]) ++ [10]
      = (c0 :: (cs ++ 58 :: name ++ 58 :: ri) ++ [rl]) ++ [10] := by simp
  have e2 : c0 :: (cs ++ 58 :: name ++ 58 :: ri) ++ [rl] = (c0 :: cs) ++ 58 :: (name ++ 58 :: (ri ++ [rl])) := by simp
  have hf := fields_append (c0 :: cs) (name ++ 58 :: (ri ++ [rl])) hc
  rw [fields_snoc _ _ hr, fields, List.cons.injEq] at hf
  rw [parse, e, strip_line _ _ _ h0 hl, decodeAscii, if_pos (List.all_eq_true.mpr fun b hb => decide_eq_true (ha b hb))]
  simp only [e2, hf.1, hf.2, List.dropLast_concat]
  rw [joinColon_fields, lastField_append]

theorem rtypeOf_str (rt : RType) : rtypeOf rt.str = some rt := by cases rt <;> rfl

/-- What `ResourceTracker._send` writes is read back as that very request, for every ASCII name. `cs` spells the
three commands (`TrackerClient.cmdStr`, `C20.cmdStr`). -/
theorem classify_send (cs : Cmd → Name) (h1 : cs .register = sREGISTER) (h2 : cs .unregister = sUNREGISTER)
    (h3 : cs .maybeUnlink = sMAYBE_UNLINK) (c : Cmd) (rt : RType) (name : Name) (hascii : ∀ b ∈ name, b < 128) :
    classify (cs c ++ 58 :: name ++ 58 :: rt.str ++ [10]) = .req c rt name := by
  have hcmd : ∃ c0 r, cs c = c0 :: r ∧ isSpace c0 = false ∧ 58 ∉ c0 :: r ∧ ∀ b ∈ c0 :: r, b < 128 := by
    cases c
    · exact ⟨_, _, h1, by decide, by decide, by decide⟩
    · exact ⟨_, _, h2, by decide, by decide, by decide⟩
    · exact ⟨_, _, h3, by decide, by decide, by decide⟩
  have hrt : ∃ ri rl, rt.str = ri ++ [rl] ∧ isSpace rl = false ∧ 58 ∉ ri ++ [rl] ∧ ∀ b ∈ ri ++ [rl], b < 128 :=
    ⟨rt.str.dropLast, rt.str.getLastD 0, by cases rt <;> decide⟩
  obtain ⟨c0, r, e1, h0, hc, hac⟩ := hcmd
  obtain ⟨ri, rl, e2, hl, hr, har⟩ := hrt
  have hp : parse (cs c ++ 58 :: name ++ 58 :: rt.str ++ [10]) = some (cs c, name, rt.str) := by
    rw [e1, e2]
    refine parse_send name h0 hl hc hr ?_
    intro b hb
    simp only [List.cons_append, List.mem_cons, List.mem_append, List.append_assoc] at hb hac har
    rcases hb with rfl | hb | rfl | hb | rfl | hb | hb
    · exact hac _ (Or.inl rfl)
    · exact hac _ (Or.inr hb)
    · omega
    · exact hascii _ hb
    · omega
    · exact har _ (Or.inl hb)
    · exact har _ (Or.inr hb)
  rw [classify, hp]
  simp only [rtypeOf_str]
  cases c
  · rw [h1]; rfl
  · rw [h2]; rfl
  · rw [h3]; rfl
end JoblibModel.Tracker
