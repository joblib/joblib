import JoblibProofs.Lemmas.StoreFacts
/-! What one participant of the store guarantees and knows (`OwnG`, `World`, `Good`), then the first derivations (`Sat`) for the
procedures of `JoblibModel.Store`, up to `configure` and `writeFuncCode`. (`rmtree` and the inventory `walk` of `reduce_size` are in
StoreRm, the call itself in StoreCall.) -/
namespace JoblibModel.Store

variable {α : Type} {fs : FS} {p q p' : Path} {o : Op} {i : Nat} {d : Bytes} {P : FS → Prop} {E : Err → FS → Prop}

section
variable (π : Par) (s : Bool) (lvl : Level) (me : Nat) (R : FS → FS → Prop) (strong quiet : Prop) (τ : Nat)

/-- every result file present holds the value of the live source -/
def LiveOut (fs : FS) : Prop := ∀ a i d, fs.get (pOut a) = some (.file i d) → ∃ g, d = π.cd.pickle ⟨π.ver, a, g⟩

/-- `func_code.py` is only completed (made equal to the text of the live source) when every result present is of the
live source; otherwise only a strict prefix is written onto the empty file (a torn write) -/
def CodeSafe (fs : FS) (o : Op) : Prop :=
  ∀ p i d c, o = .write p i d → fs.get pCode = some (.file i c) →
    LiveOut π fs ∨ (c = [] ∧ d <+: π.cd.codeText π.ver ∧ d ≠ π.cd.codeText π.ver)

/-- What the derivations of `exists`, `makedirs`, `inplace`'s `creat` and `configure` ask of a guarantee `G`: it admits `me`'s calls
that only create or look, and its writing `.gitignore`. They are stated for any such `G`, so that one which also records which
calls are made (`ownB_up`) serves `Sat.frame`. -/
def Admits (π : Par) (me : Nat) (G : FS → Op → Prop) : Prop :=
  (∀ fs o, Builds o → (∀ p i d, o ≠ .write p i d) → Allowed π .calls (fun x => x = me) fs o → G fs o) ∧
  ∀ fs i d, LocOnly i pGit fs → Allowed π .calls (fun x => x = me) fs (.write pGit i d) → G fs (.write pGit i d)

/-- what the `dump_item` of a process of generation `τ` leaves when nobody else acts, and what `store_metadata` may put its
stamp next to -/
def OutFresh (π : Par) (τ a : Nat) (fs : FS) : Prop := ∀ d, fs.dataAt (pOut a) = some d → d = π.cd.pickle ⟨π.ver, a, τ⟩

/-- The `os.replace` of `t` onto the final name `f` by a process of generation `τ` is in the order of `_after_call`
(`dump_item`, then `store_metadata` with `_persist_input`'s `time.time()`): under `output.pkl` goes a value of generation `τ`;
under `metadata.json` the stamp `τ`, and only next to such a value. -/
def StampSafe (π : Par) (τ : Nat) (fs : FS) (t f : Path) : Prop :=
  ∀ a, (f = pOut a → ∀ d, fs.dataAt t = some d → d = π.cd.pickle ⟨π.ver, a, τ⟩) ∧
    (f = pMeta a → ∀ e, fs.dataAt t = some e → e = π.cd.metaText τ ∧ OutFresh π τ a fs)

/-- What participant `me` guarantees for each of its calls: it is allowed at level `clear` (a call whose `func_code.py` does not
match empties the function directory); where `strong`, it never completes `func_code.py` next to results of another source; where
`quiet` (nobody else acts, `World.quietW`), a rename that changes anything is `StampSafe`. `strong` is also what the derivations
assume (`strong → AbsK`, in `StartOK π s strong`) and return (`Lvs π s strong`). What the parameters are where the derivations are used:

| used by | `s` | `strong` | `quiet` | `World` |
|---|---|---|---|---|
| `callProc_env` (C11: interleaved) | `true` | `True` | `False` | `world_env lvl me`: `R = Env π lvl me`, any `lvl` |
| `C05.workload_sat` (what is killed) | `false` | `True` | `True` | `solo`: no `R`-step, `lvl = .calls` |
| `callProc_solo`, `recover_value` (the call after the kill) | `false` | any, `False` | `False` | `solo` | -/
structure OwnG (π : Par) (me : Nat) (strong quiet : Prop) (τ : Nat) (fs : FS) (o : Op) : Prop where
  allowed : Allowed π .clear (fun x => x = me) fs o
  codeSafe : strong → CodeSafe π fs o
  stampSafe : quiet → ∀ t f, o = .rename t f → (apply o fs).2 ≠ fs → StampSafe π τ fs t f

/-- knowledge of a directory, where the environment cannot take it away -/
def DK (lvl : Level) (q : Path) (fs : FS) : Prop := Protected lvl q → IsDirAt q fs

/-- An environment `R` no larger than `Env`; when the directory may hold results of an older source (`s = false`) the
participant is alone. -/
structure World (π : Par) (s : Bool) (lvl : Level) (me : Nat) (R : FS → FS → Prop) (quiet : Prop) : Prop where
  sub : ∀ fs fs', R fs fs' → Env π lvl me fs fs'
  /-- so knowledge of the form `s = false → …` is stable: vacuous at `s = true`, and no environment step to survive otherwise -/
  alone : s = false → ∀ fs fs', ¬ R fs fs'
  /-- `quiet` may only be claimed where no other participant acts and nothing is ever removed -/
  quietW : quiet → (∀ fs fs', ¬ R fs fs') ∧ lvl = .calls

/-- a standing assertion: stable under the environment, kept by the participant's own calls that remove nothing and
leave `func_code.py` alone, implies the invariant (`Good π s me R P`: its parameters are the section's variables it mentions) -/
structure Good (P : FS → Prop) : Prop where
  stable : Stable R P
  own : ∀ fs o, P fs → Allowed π .calls (fun x => x = me) fs o → (apply o fs).2.get pCode = fs.get pCode →
    P (apply o fs).2
  inv : ∀ fs, P fs → Inv π s fs

/-- … and also by own calls that rewrite `func_code.py` -/
def OwnFull (π : Par) (me : Nat) (P : FS → Prop) : Prop := ∀ fs o, P fs → Allowed π .calls (fun x => x = me) fs o → P (apply o fs).2

/-- exceptions are only excused when the environment may clear the cache (`EL lvl`) -/
def EL : Err → FS → Prop := fun _ _ => lvl = .clear

variable {π s lvl me R strong quiet τ}

theorem inv_true_of_live (hi : Inv π s fs) (hl : LiveOut π fs) : Inv π true fs :=
  ⟨hi.wf, hi.typD, hi.typF, fun a i d hg => by
    obtain ⟨g, hg'⟩ := hl a i d hg
    exact ⟨π.ver, g, hg', fun _ => rfl⟩, hi.metaOk, hi.up⟩

theorem dk_stable (hW : World π s lvl me R quiet) (q : Path) : Stable R (DK lvl q) := by
  intro fs fs' h hR hp
  obtain ⟨o, ha, rfl⟩ := hW.sub _ _ hR
  exact dir_stable (h hp) ha hp

theorem good_inv (hW : World π s lvl me R quiet) : Good π s me R (Inv π s) :=
  ⟨fun _ _ h hR => inv_stable_env _ _ h (hW.sub _ _ hR), fun _ _ h ha _ => inv_apply h ha, fun _ h => h⟩

theorem ownFull_inv : OwnFull π me (Inv π s) := fun _ _ h ha => inv_apply h ha

theorem Good.and_dk (hW : World π s lvl me R quiet) (hP : Good π s me R P) (q : Path) :
    Good π s me R (fun fs => P fs ∧ DK lvl q fs) :=
  ⟨fun _ _ h hR => ⟨hP.stable _ _ h.1 hR, dk_stable hW _ _ _ h.2 hR⟩,
   fun fs o h ha hc => ⟨hP.own fs o h.1 ha hc, fun hp => dir_stable (h.2 hp) ha trivial⟩,
   fun fs h => hP.inv fs h.1⟩

theorem OwnFull.and_dk (hP : OwnFull π me P) (q : Path) :
    OwnFull π me (fun fs => P fs ∧ DK lvl q fs) :=
  fun fs o h ha => ⟨hP fs o h.1 ha, fun hp => dir_stable (h.2 hp) ha trivial⟩

theorem own_noop {lvl' : Level} {fs : FS} {o : Op} (hw : ∀ p i d, o ≠ .write p i d) (h : (apply o fs).2 = fs) :
    Allowed π lvl' (fun x => x = me) fs o := .noop o hw h

theorem codeSafe_nw (hnw : ∀ p i d, o ≠ .write p i d) : CodeSafe π fs o :=
  fun p i d _ e => absurd e (hnw p i d)

theorem codeSafe_other (hl : LocOnly i p fs) (hne : p ≠ pCode) :
    CodeSafe π fs (.write p' i d) := by
  intro p1 i1 d1 c e hg
  cases e
  exact absurd (hl.2 pCode (Or.inl ⟨c, hg⟩)).symm hne

theorem stampSafe_out {t : Path} {a : Nat} (h : ∀ d, fs.dataAt t = some d → d = π.cd.pickle ⟨π.ver, a, τ⟩) :
    StampSafe π τ fs t (pOut a) := fun a' =>
  ⟨fun e d hd => by cases (show a = a' by simpa [pOut] using e); exact h d hd, fun e => by simp [pOut, pMeta] at e⟩

theorem stampSafe_meta {t : Path} {a : Nat} (h : ∀ e, fs.dataAt t = some e → e = π.cd.metaText τ) (ho : OutFresh π τ a fs) :
    StampSafe π τ fs t (pMeta a) := fun a' =>
  ⟨fun e => by simp [pOut, pMeta] at e, fun e d hd => by cases (show a = a' by simpa [pMeta] using e); exact ⟨h d hd, ho⟩⟩

theorem StampSafe.out {t : Path} {a : Nat} (h : StampSafe π τ fs t (pOut a)) :
    ∀ d, fs.dataAt t = some d → d = π.cd.pickle ⟨π.ver, a, τ⟩ := (h a).1 rfl

theorem StampSafe.meta {t : Path} {a : Nat} (h : StampSafe π τ fs t (pMeta a)) :
    ∀ e, fs.dataAt t = some e → e = π.cd.metaText τ ∧ OutFresh π τ a fs := (h a).2 rfl

theorem World.qstable (hW : World π s lvl me R quiet) (K : FS → Prop) : Stable R fun fs => quiet → K fs :=
  fun _ _ _ hR hq => ((hW.quietW hq).1 _ _ hR).elim

theorem World.qdir (hW : World π s lvl me R quiet) (hq : quiet) (h : DK lvl q fs) : ∃ j, fs.get q = some (.dir j) :=
  h (by rw [(hW.quietW hq).2]; trivial)

theorem World.not_clear (hW : World π s lvl me R quiet) (h : lvl = .clear) : ¬ quiet :=
  fun hq => by rw [(hW.quietW hq).2] at h; cases h

theorem own_write_other (hl : LocOnly i p fs) (hne : p ≠ pCode)
    (ha : Allowed π .calls (fun x => x = me) fs (.write p' i d)) : OwnG π me strong quiet τ fs (.write p' i d) :=
  ⟨ha.mono_level (Or.inl rfl), fun _ => codeSafe_other hl hne, fun _ _ _ e => nomatch e⟩

theorem own_up : Admits π me (OwnG π me strong quiet τ) := ⟨fun _ _ hb hnw ha =>
  ⟨ha.mono_level (Or.inl rfl), fun _ => codeSafe_nw hnw, fun _ _ _ e => by rw [e] at hb; cases hb⟩,
  fun _ _ _ hl ha => own_write_other hl (by simp [pGit, pCode]) ha⟩

theorem ownB_up : Admits π me fun fs o => OwnG π me strong quiet τ fs o ∧ Builds o :=
  ⟨fun _ _ hb hnw ha => ⟨own_up.1 _ _ hb hnw ha, hb⟩, fun _ _ _ hl ha => ⟨own_up.2 _ _ _ hl ha, rfl⟩⟩

theorem own_obs (hw : ∀ p i d, o ≠ .write p i d) (h : (apply o fs).2 = fs) : OwnG π me strong quiet τ fs o :=
  ⟨.noop o hw h, fun _ => codeSafe_nw hw, fun _ _ _ _ hne => absurd h hne⟩

theorem own_look (ho : o.reads = true) : OwnG π me strong quiet τ fs o :=
  own_obs (reads_not_write ho) (reads_noop ho fs)

theorem dirShaped_get (hi : Inv π s fs) (hd : DirShaped p) (h : (fs.get p).isSome = true) :
    IsDirAt p fs := by
  cases hg : fs.get p with
  | none => rw [hg] at h; cases h
  | some nd =>
    cases nd with
    | dir j => exact ⟨j, hg⟩
    | file i c => exact absurd hd (hi.typF _ _ _ hg)

/-- the directories above the entry directories -/
def Core (q : Path) : Prop := q = [] ∨ q = pCache ∨ q = pLoc ∨ q = pMod ∨ q = pFunc

theorem core_protected (hq : Core q) (hl : lvl ≠ .clear) : Protected lvl q := by
  cases lvl with
  | calls => trivial
  | clear => exact absurd rfl hl
  | evict =>
    intro a hpre
    have := hpre.length_le
    rcases hq with rfl | rfl | rfl | rfl | rfl <;> simp [pEntry, pCache, pLoc, pMod, pFunc] at this

theorem Core.cache : Core pCache := Or.inr (Or.inl rfl)
theorem Core.loc : Core pLoc := Or.inr (Or.inr (Or.inl rfl))
theorem Core.mod : Core pMod := Or.inr (Or.inr (Or.inr (Or.inl rfl)))
theorem Core.func : Core pFunc := Or.inr (Or.inr (Or.inr (Or.inr rfl)))

theorem core_shape (hq : Core q) : q = [] ∨ DirShaped q :=
  hq.imp_right fun h => h.elim Or.inl fun h => h.elim (Or.inr ∘ Or.inl) fun h =>
    h.elim (Or.inr ∘ Or.inr ∘ Or.inl) (Or.inr ∘ Or.inr ∘ Or.inr ∘ Or.inl)

theorem core_parent (hq : Core q) : Core (parent q) := by
  rcases hq with rfl | rfl | rfl | rfl | rfl
  · exact Or.inl rfl
  · exact Or.inl rfl
  · exact Core.cache
  · exact Core.loc
  · exact Core.mod

theorem dk_root (fs : FS) : DK lvl [] fs := fun _ => ⟨0, get_nil fs⟩

theorem parent_length (p : Path) : (parent p).length = p.length - 1 := by simp [parent]

theorem parent_gone (hc : Core (parent p)) (hdk : DK lvl (parent p) fs)
    (h : ∀ j, fs.get (parent p) ≠ some (.dir j)) : lvl = .clear := by
  cases hl : lvl with
  | clear => rfl
  | _ =>
    obtain ⟨j, hj⟩ := hdk (core_protected hc (by rw [hl]; decide))
    exact absurd hj (h j)

theorem mkdir_keeps_code (p : Path) (hd : DirShaped p) (fs : FS) :
    (apply (.mkdir p) fs).2.get pCode = fs.get pCode := by
  rcases mkdir_spec p fs with ⟨e, _⟩ | ⟨_, _, _, _, _, hg⟩
  · rw [e]
  · rw [hg]
    exact getUpd_ne (by simp [pCode]) (by rintro rfl; exact dir_not_file hd FileShaped.code)

/-- `with open(p, …) as f: f.write(d)` for `p` = `.gitignore` (`"w"`; its two `write`s are one call here) or `func_code.py` (`'wb'`): written in place -/
def inplace (p : Path) (d : Bytes) : Prog Unit :=
  .op (.creat p) fun r =>
    match r with
    | .fd i => .op (.write p i d) fun _ => .ret ()
    | .eisdir => .raise .isADirectory
    | .enotdir => .raise .notADirectory
    | _ => .raise .fileNotFound

theorem creat_keeps_code (p : Path) (hne : p ≠ pCode) (fs : FS) :
    (apply (.creat p) fs).2.get pCode = fs.get pCode := by
  have h0 : pCode ≠ [] := by simp [pCode]
  rcases creat_spec p fs with ⟨e, _⟩ | ⟨_, _, _, _, _, _, hg⟩ | ⟨_, _, _, _, _, hg⟩
  · rw [e]
  · rw [hg]; exact getUpd_ne h0 (fun e => hne e.symm)
  · rw [hg]; exact getUpd_ne h0 (fun e => hne e.symm)

theorem write_keeps_code (hl : LocOnly i p fs) (hne : p ≠ pCode) :
    (apply (.write p' i d) fs).2.get pCode = fs.get pCode := by
  rw [(write_spec p' i d fs).2.2.2]
  cases hg : fs.get pCode with
  | none => rfl
  | some nd =>
    cases nd with
    | dir j => rfl
    | file j c =>
      by_cases hji : j = i
      · subst hji
        exact absurd (hl.2 pCode (Or.inl ⟨c, hg⟩)).symm hne
      · simp [wr, hji]

/-- what `makedirs p` and its `mkdir` can end with: `FileExistsError` means the directory is there -/
abbrev MkErr (lvl : Level) (P : FS → Prop) (p : Path) : Err → FS → Prop :=
  fun e fs => P fs ∧ (e = .fileExists → DK lvl p fs) ∧ (e ≠ .fileExists → lvl = .clear)

/-- `except FileExistsError: pass` -/
theorem ignore_exists {G : FS → Op → Prop} (e : Err) :
    Sat R G (MkErr lvl P p e) (if e = .fileExists then Prog.ret () else Prog.raise e)
      (fun _ fs => P fs ∧ DK lvl p fs) (fun e' fs => P fs ∧ e' ≠ .fileExists ∧ lvl = .clear) := by
  by_cases he : e = .fileExists
  · rw [if_pos he]; exact .ret fun fs h => ⟨h.1, h.2.1 he⟩
  · rw [if_neg he]; exact .raise fun fs h => ⟨h.1, he, h.2.2 he⟩

section
variable {G : FS → Op → Prop}
  (hG : Admits π me G)
include hG

theorem look_calls (ho : o.reads = true) (fs : FS) : G fs o :=
  hG.1 fs o (by cases o <;> first | rfl | cases ho) (reads_not_write ho) (.noop o (reads_not_write ho) (reads_noop ho fs))

/-- `os.path.exists(p)`: nothing changes, nothing is learnt -/
theorem exists_sat (hP : Stable R P) (p : Path) :
    Sat R G P (exists_ p) (fun _ fs => P fs) E :=
  Sat.look (fun fs _ => look_calls hG rfl fs) rfl hP fun _ => .ret fun _ h => h

/-- `stat(p)` for a directory-shaped path: a positive answer is knowledge (where protected) -/
theorem stat_dir_sat {k : Res → Prog α} {Q : α → FS → Prop}
    (hW : World π s lvl me R quiet) (hP : Stable R P) (hI : ∀ fs, P fs → Inv π s fs) (p : Path) (hd : DirShaped p)
    (hk : ∀ r, Sat R G (fun fs => P fs ∧ (r = .yes → DK lvl p fs)) (k r) Q E) : Sat R G P (.op (.stat p) k) Q E := by
  refine Sat.obs (fun r fs => r = .yes → DK lvl p fs) (fun fs _ => look_calls hG rfl fs) rfl ?_ hP ?_ hk
  · intro fs hp hr _
    simp only [apply] at hr
    split at hr
    · rename_i hsome; exact dirShaped_get (hI fs hp) hd hsome
    · cases hr
  · intro r fs fs' h hR hr
    exact dk_stable hW _ _ _ (h hr) hR

theorem exists_dir_sat (hW : World π s lvl me R quiet) (hP : Stable R P)
    (hI : ∀ fs, P fs → Inv π s fs) (p : Path) (hd : DirShaped p) :
    Sat R G P (exists_ p) (fun b fs => P fs ∧ (b = true → DK lvl p fs)) E :=
  stat_dir_sat hG hW hP hI p hd fun _ => .ret fun _ h => ⟨h.1, fun hb => h.2 (by simpa using hb)⟩

/-- `os.mkdir(p)` below a core directory -/
theorem mkdir1_sat (hW : World π s lvl me R quiet) (hP : Good π s me R P) (p : Path) (hd : DirShaped p)
    (hpar : Core (parent p)) :
    Sat R G (fun fs => P fs ∧ DK lvl (parent p) fs) (mkdir1 p)
      (fun _ fs => P fs ∧ DK lvl p fs) (MkErr lvl P p) := by
  unfold mkdir1
  refine .op (fun r fs => P fs ∧ ((r = .ok ∨ r = .eexist) → DK lvl p fs) ∧
      (r ≠ .ok → r ≠ .eexist → lvl = .clear)) ?_ ?_ ?_
  · intro fs ⟨hs, hdk⟩
    have ha : Allowed π .calls (fun x => x = me) fs (.mkdir p) := .mkdir p hd
    refine ⟨hG.1 _ _ rfl nofun ha, hP.own _ _ hs ha (mkdir_keeps_code p hd fs), ?_, ?_⟩
    · intro hr _
      rcases mkdir_spec p fs with ⟨e, hne⟩ | ⟨_, hpn, _, _, _, hg⟩
      · rw [e]
        rcases hr with hr | hr
        · exact absurd hr hne
        · -- EEXIST: something is there; it is a directory
          simp only [apply] at hr
          split at hr
          · rename_i v hv
            exact dirShaped_get (hP.inv _ hs) hd (by rw [hv]; rfl)
          · split at hr <;> cases hr
      · exact ⟨fs.next, (hg p).trans (getUpd_self (notDir_none hpn).ne_nil)⟩
    · intro h1 h2
      -- ENOENT / ENOTDIR: the parent is not a directory
      refine parent_gone hpar hdk fun j hgq => ?_
      cases hgp : fs.get p with
      | some v => simp [apply, hgp] at h2
      | none => simp [apply, hgp, hgq] at h1
  · rintro r fs fs' ⟨h1, h2, h3⟩ hR
    exact ⟨hP.stable _ _ h1 hR, fun hr => dk_stable hW _ _ _ (h2 hr) hR, h3⟩
  · intro r
    cases r with
    | ok => exact .ret fun fs h => ⟨h.1, h.2.1 (Or.inl rfl)⟩
    | eexist => exact .raise fun fs h => ⟨h.1, fun _ => h.2.1 (Or.inr rfl), fun hne => absurd rfl hne⟩
    | _ => exact .raise fun fs h => ⟨h.1, fun e => absurd e (by decide), fun _ => h.2.2 (by simp) (by simp)⟩

/-- `os.makedirs(p)` -/
theorem makedirs_sat (hW : World π s lvl me R quiet) (hP : Good π s me R P) (fuel : Nat) :
    ∀ (p : Path), DirShaped p → Core (parent p) → p.length ≤ fuel + 1 →
    Sat R G P (makedirs fuel p) (fun _ fs => P fs ∧ DK lvl p fs) (MkErr lvl P p) := by
  induction fuel with
  | zero =>
    intro p hd hc hlen
    unfold makedirs
    have : parent p = [] := List.eq_nil_of_length_eq_zero (by rw [parent_length]; omega)
    exact (mkdir1_sat hG hW hP p hd hc).pre fun fs h => ⟨h, by rw [this]; exact dk_root fs⟩
  | succ fuel ih =>
    intro p hd hc hlen
    unfold makedirs
    by_cases hp : parent p = []
    · rw [if_pos hp]
      exact (mkdir1_sat hG hW hP p hd hc).pre fun fs h => ⟨h, by rw [hp]; exact dk_root fs⟩
    · rw [if_neg hp]
      have hpd : DirShaped (parent p) := (core_shape hc).resolve_left hp
      refine stat_dir_sat hG hW hP.stable hP.inv _ hpd fun r => ?_
      by_cases hr : r = .yes
      · subst hr
        exact (mkdir1_sat hG hW hP p hd hc).pre fun fs h => ⟨h.1, h.2 rfl⟩
      · rw [if_neg (by simpa using hr)]
        have hrec := ih (parent p) hpd (core_parent hc) (by rw [parent_length]; omega)
        refine Sat.bind (Q' := fun _ fs => P fs ∧ DK lvl (parent p) fs) ?_ (fun _ => mkdir1_sat hG hW hP p hd hc)
        exact Sat.tryCatch (hrec.pre fun fs h => h.1) fun e => (ignore_exists e).post (fun _ _ h => h)
          fun _ _ h => ⟨h.1, fun x => absurd x h.2.1, fun _ => h.2.2⟩

/-- `joblib.disk.mkdirp(p)` -/
theorem mkdirp_sat (hW : World π s lvl me R quiet) (hP : Good π s me R P) (p : Path) (hd : DirShaped p)
    (hc : Core (parent p)) :
    Sat R G P (mkdirp p) (fun _ fs => P fs ∧ DK lvl p fs) (fun _ fs => P fs ∧ lvl = .clear) :=
  Sat.tryCatch (makedirs_sat hG hW hP p.length p hd hc (by omega)) fun e =>
    (ignore_exists e).post (fun _ _ h => h) fun _ _ h => ⟨h.1, h.2.2⟩

theorem inplace_sat (hW : World π s lvl me R quiet) (hP : Good π s me R P) (p : Path)
    (hp : p = pGit ∨ p = pCode) (d : Bytes)
    (hd : p = pCode → d <+: π.cd.codeText π.ver) (hfull : p = pCode → OwnFull π me P)
    (hGw : ∀ fs i, P fs → LocOnly i p fs → Allowed π .calls (fun x => x = me) fs (.write p i d) → G fs (.write p i d)) :
    Sat R G (fun fs => P fs ∧ DK lvl (parent p) fs) (inplace p d)
      (fun _ fs => P fs ∧ DK lvl (parent p) fs) (fun _ fs => P fs ∧ lvl = .clear) := by
  have hmine : Mine me p := by rcases hp with rfl | rfl; exact Or.inr (Or.inr rfl); exact Or.inr (Or.inl rfl)
  have hcore : Core (parent p) := by
    rcases hp with rfl | rfl
    · exact Core.cache
    · exact Core.func
  have hfile : FileShaped p := by
    rcases hp with rfl | rfl
    · exact FileShaped.git
    · exact FileShaped.code
  -- own calls that leave `func_code.py` alone keep `P`; when `p` is `func_code.py` all own calls do
  have step : ∀ fs o, P fs → Allowed π .calls (fun x => x = me) fs o →
      (p = pGit → (apply o fs).2.get pCode = fs.get pCode) → P (apply o fs).2 := by
    intro fs o h ha hk
    rcases hp with rfl | rfl
    · exact hP.own _ _ h ha (hk rfl)
    · exact hfull rfl _ _ h ha
  unfold inplace
  refine .op (fun r fs => P fs ∧ DK lvl (parent p) fs ∧ (∀ i, r = .fd i → LocOnly i p fs) ∧
      ((∀ i, r ≠ .fd i) → lvl = .clear)) ?_ ?_ ?_
  · intro fs ⟨h1, h2⟩
    have ha : Allowed π .calls (fun x => x = me) fs (.creat p) := .creat p (mine_creatable hmine)
    refine ⟨hG.1 _ _ rfl nofun ha, step _ _ h1 ha (fun e => creat_keeps_code p (by rw [e]; simp [pGit, pCode]) fs),
      fun hpr => dir_stable (h2 hpr) ha trivial, fun i hr => (own_creat (hP.inv _ h1).wf hr).1, fun hno => ?_⟩
    -- no descriptor: `p` is not a directory (shape), so its parent is missing (`creat_ok`)
    refine parent_gone hcore h2 fun j hgq => ?_
    obtain ⟨i, hi⟩ := creat_ok hgq fun j hj => (hP.inv _ h1).typD _ _ hj hfile
    exact hno i hi
  · rintro r fs fs' ⟨h1, h2, h3, h4⟩ hR
    exact ⟨hP.stable _ _ h1 hR, dk_stable hW _ _ _ h2 hR,
      fun i hr => locOnly_stable hmine _ _ (h3 i hr) (hW.sub _ _ hR), h4⟩
  · intro r
    cases r with
    | fd i =>
      refine .op (fun _ fs => P fs ∧ DK lvl (parent p) fs) ?_ ?_ (fun _ => .ret fun fs h => h)
      · intro fs ⟨h1, h2, h3, _⟩
        have ha : Allowed π .calls (fun x => x = me) fs (.write p i d) := own_write_allowed hmine (h3 i rfl) hd
        exact ⟨hGw _ _ h1 (h3 i rfl) ha, step _ _ h1 ha (fun e => write_keeps_code (h3 i rfl) (by rw [e]; simp [pGit, pCode])),
          fun hpr => dir_stable (h2 hpr) ha trivial⟩
      · rintro _ fs fs' ⟨h1, h2⟩ hR
        exact ⟨hP.stable _ _ h1 hR, dk_stable hW _ _ _ h2 hR⟩
    | _ => exact .raise fun fs h => ⟨h.1, h.2.2.2 (by simp)⟩

end

/-- the configuration of the participant agrees with the parameters of the invariant (repaired code) -/
structure CfgOK (π : Par) (me : Nat) (c : Cfg) : Prop where
  cd : c.codec = π.cd
  ver : c.ver = π.ver
  me : c.me = me
  legacy : c.legacy = false
  /-- … and is the code, not one of the seeded variants -/
  mfirst : c.metadataFirst = false
  keeprej : c.keepRejected = false
  skipcb : c.skipCallbackWithoutMetadata = false

/-- `CfgOK` without `mfirst` and `keeprej`: the derivations hold whichever of `dump_item` / `store_metadata` `_after_call` runs
first and whether or not `_is_in_cache_and_valid` does `clear_item` on an entry its callback rejected (the two halves of the
seeded change C05-r4-m1), so they are stated for this. -/
structure CfgBase (π : Par) (me : Nat) (c : Cfg) : Prop where
  cd : c.codec = π.cd
  ver : c.ver = π.ver
  me : c.me = me
  legacy : c.legacy = false
  skipcb : c.skipCallbackWithoutMetadata = false

theorem CfgOK.base {π : Par} {me : Nat} {c : Cfg} (h : CfgOK π me c) : CfgBase π me c :=
  ⟨h.cd, h.ver, h.me, h.legacy, h.skipcb⟩

theorem loc_protected : Protected lvl pLoc := by
  cases lvl with
  | calls => trivial
  | evict => intro a h; have := h.length_le; simp [pEntry, pLoc] at this
  | clear =>
    refine ⟨fun h => h.2 rfl, fun a h => ?_⟩
    have := h.length_le; simp [pEntry, pLoc] at this

theorem dirAt_parent (hi : Inv π s fs) (hp : p ≠ []) (h : IsDirAt p fs) : IsDirAt (parent p) fs := by
  obtain ⟨j, hj⟩ := h
  exact hi.up p hp (by rw [hj]; rfl)

theorem el_of {P P' : FS → Prop} {α : Type} {p : Prog α} {Q : α → FS → Prop} {R : FS → FS → Prop} {G : FS → Op → Prop}
    (h : Sat R G P p Q (fun _ fs => P' fs ∧ lvl = .clear)) : Sat R G P p Q (EL lvl) :=
  h.post (fun _ _ h => h) (fun _ _ h => h.2)

/-- `FileSystemStoreBackend.configure` -/
theorem configure_sat {G : FS → Op → Prop} (hG : Admits π me G)
    (hW : World π s lvl me R quiet) (hP : Good π s me R P) (c : Cfg) :
    Sat R G P (configure c) (fun _ fs => P fs ∧ DK lvl pLoc fs) (fun _ fs => P fs ∧ lvl = .clear) := by
  unfold configure
  refine Sat.bind (exists_dir_sat hG hW hP.stable hP.inv pLoc .loc) fun e => ?_
  refine Sat.bind (Q' := fun _ fs => P fs ∧ DK lvl pLoc fs) ?_ fun _ => ?_
  · cases e with
    | true => exact .ret fun fs h => ⟨h.1, h.2 rfl⟩
    | false => exact (mkdirp_sat hG hW hP pLoc .loc Core.cache).pre fun fs h => h.1
  · have := inplace_sat hG hW (hP.and_dk hW pLoc) pGit (Or.inl rfl) c.codec.gitText (by intro e; cases e)
      (by intro e; simp [pGit, pCode] at e) (fun fs i _ hl ha => hG.2 fs i _ hl ha)
    refine (this.pre fun fs h => ⟨h, fun _ => ?_⟩).post (fun _ fs h => h.1) (fun _ _ h => ⟨h.1.1, h.2⟩)
    exact dirAt_parent (p := pLoc) (hP.inv _ h.1) (by simp [pLoc]) (h.2 loc_protected)

/-- `store_cached_func_code([func_id])` (no code): make sure the function directory exists -/
theorem ensureFuncDir_sat {G : FS → Op → Prop}
    (hG : Admits π me G)
    (hW : World π s lvl me R quiet) (hP : Good π s me R P) :
    Sat R G P ensureFuncDir (fun _ fs => P fs ∧ DK lvl pFunc fs) (fun _ fs => P fs ∧ lvl = .clear) := by
  unfold ensureFuncDir
  refine Sat.bind (exists_dir_sat hG hW hP.stable hP.inv pFunc .func) fun e => ?_
  cases e with
  | true => exact .ret fun fs h => ⟨h.1, h.2 rfl⟩
  | false => exact ((mkdirp_sat hG hW hP pFunc .func Core.mod).pre fun fs h => h.1)

/-- `_write_func_code` → `store_cached_func_code([func_id], code)` -/
theorem writeFuncCode_sat (hW : World π s lvl me R quiet) (hP : Good π s me R P) (hF : OwnFull π me P)
    (c : Cfg) (hc : CfgBase π me c) (hlive : strong → ∀ fs, P fs → LiveOut π fs) :
    Sat R (OwnG π me strong quiet τ) P (writeFuncCode c) (fun _ fs => P fs ∧ DK lvl pFunc fs) (fun _ fs => P fs ∧ lvl = .clear) := by
  unfold writeFuncCode
  refine Sat.bind (ensureFuncDir_sat own_up hW hP) fun _ => ?_
  exact inplace_sat own_up hW hP pCode (Or.inr rfl) (c.codec.codeText c.ver)
    (by intro _; rw [hc.cd, hc.ver]; exact List.prefix_refl _) (fun _ => hF)
    (fun fs i hp _ ha => ⟨ha.mono_level (Or.inl rfl), fun hs _ _ _ _ _ _ => Or.inl (hlive hs fs hp), fun _ _ _ e => nomatch e⟩)

end
end JoblibModel.Store
