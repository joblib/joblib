import JoblibModel.ExcTransport
import JoblibProofs.Lemmas.ParallelStartup
/-!
# C04 — Task failures surface as that exception; Parallel stays reusable and clean

Statement (properties.jsonl): if a task raises, the `Parallel` call raises an exception of the same type and
arguments as one raised by its tasks instead of returning results; an exception raised by the input iterable is
raised in the caller; when the caller has to wait longer than `timeout` for a result `TimeoutError` is raised. The
call always terminates, and afterwards the same `Parallel` object can be called again and returns exactly the
results of the new tasks, with nothing left over from the failed call.

Model: `JoblibModel.ParallelProto` (M1). `Exc.task id` is the exception raised by task `id`, `Exc.iter pos` the one
raised by the input at global position `pos`; `St.failIds` are the ids of the tasks that raise.

Quantifier reached: ALL schedules (any `sched`, any leftovers of earlier calls in `parked`, failures arriving
before / after their neighbours, late completions after the abort and after the next call started), ALL positions
of failing tasks and of the failing iterator step, ALL configurations with `n_jobs ≥ 2`, scripted batch sizes ≥ 1,
`pre_dispatch = 'all'` or ≥ 1, completions arriving at the hook points between two calls and inside
`backend.abort_everything` (`between_calls_noop`, `abort_deliveries_are_noops`), all three `return_as` modes (except `timeout_raises`, stated for the ordered
retrieval branch), all sequences of calls on one object (through `Idle`, which every call re-establishes). By
invariants and induction, never by enumeration.

Worker-side traceback capture / EXCEPTION TRANSPORT of the pool backends (section "exception transport" at the end,
model `JoblibModel.ExcTransport`): ALL outcomes of a submitted callable whose returned value is a list (what
`BatchedCalls.__call__` returns), BOTH result channels (thread pool: identity; process pool: pickle round trip),
ALL pickle behaviours satisfying "a round trip that succeeds preserves class and args" (`RoundTripLaw`), ALL
exception classes / args / traceback strings. Not covered: loky's own executor-side capture (the loky backend does
not use `_TracebackCapturingWrapper`; covered by native runs), the CONTENT of the formatted traceback string.

Failures DURING THE START-UP of a call (F52; section "start-up failures" below, model
`JoblibModel.ParallelStartup`): ALL fault placements (`len(iterable)`, `backend.configure`, `n_jobs == 0`,
`backend.start_call`, `iter(iterable)`, the `pre_dispatch` resolution, `islice`), ALL idle states of the object (any
history of calls, failed start-ups and between-calls completions: `Reach`), ALL schedules, both `n_jobs ≠ 1` and the
sequential path; `startGuard = false` (the code before the repair): every failed start-up, from every idle state,
blocks the next call (`failed_start_unguarded_blocks_next_call`), with a concrete two-call history as witness.

The predicates of the statements are defined with their lemmas, in `Lemmas/ParallelProto/`: `Inv` (Inv.lean), `Idle`
(CallStart.lean), `Clean` (Retrieve.lean), `GoodR` (Loop.lean), `GenGood`, `GenGoodU` (Call.lean); `Reach` in
`Lemmas/ParallelStartup.lean`.
-/
namespace C04
open JoblibModel.ParallelProto

/-- ERROR SURFACES. If a list-mode call on an idle object ends by raising `e`, then `e` is the exception of a
failing task of THIS call (`id ∈ failIds`, `base ≤ id < base + n`), or the exception of this call's failing
iterator step, or `TimeoutError` with a timeout configured — never `AttributeError` / `KeyError` (internal
errors) and never `RuntimeError`. The object is left idle and clean. -/
theorem error_surfaces {c : Cfg} (hnj : 2 ≤ c.nj) (hbs : ∀ b ∈ c.bs, 1 ≤ b)
    (hpd : c.pdMode = 1 ∨ 1 ≤ c.pd) {fuel base : Nat} {spec : CallSpec} {s₀ s' : St} {e : Exc} (hi : Idle s₀)
    (hh : s₀.hung = false) (hfuel : 2 * spec.n + s₀.sched.length + s₀.parked.length + 2 ≤ fuel)
    (hcall : callList c fuel base spec s₀ = (s', .raised e)) :
    ((∃ id, e = .task id ∧ id ∈ s₀.failIds ∧ base ≤ id ∧ id < base + spec.n) ∨
     (∃ pos, e = .iter pos ∧ 0 ≤ spec.iterfail ∧ (pos : Int) = base + spec.iterfail) ∨
     (e = .timeout ∧ 0 ≤ c.timeout)) ∧
    Idle s' ∧ Clean s' ∧ s'.exception = true := by
  have h := callList_spec (cfgOK_of hnj hbs) (base := base) (spec := spec) hi hh hpd hfuel
  rw [hcall] at h
  have h5 := h.legit
  refine ⟨?_, h.idle, h.clean, h.exception⟩
  cases e with
  | task id => exact Or.inl ⟨id, rfl, h5.1, h5.2.1, h5.2.2⟩
  | iter pos => exact Or.inr (Or.inl ⟨pos, rfl, h5.1, h5.2⟩)
  | timeout => exact Or.inr (Or.inr ⟨rfl, h5⟩)
  | runtime | attr | key => exact h5.elim

/-- A call on an object that is already running (an unfinished generator) raises `RuntimeError` and changes
nothing. -/
theorem overlapping_call_raises (c : Cfg) (fuel base : Nat) (spec : CallSpec) (s : St) (h : s.running = true) :
    callList c fuel base spec s = (s, .raised .runtime) := by
  unfold callList
  rw [callStart_running c fuel base spec s h]

/-- FAILURE IS RAISED (1/3). When the backend completes a parked batch of the running call that contains a
failing task — i.e. its completion callback runs while the call is in progress — the call is aborting and
`_exception` is set afterwards. -/
theorem failing_batch_aborts {c : Cfg} (hnj : 2 ≤ c.nj) (hbs : ∀ b ∈ c.bs, 1 ≤ b) {t0 : Nat} {s : St} {k i : Nat}
    (h : Inv c t0 s) (hk : s.parked[k]? = some i) (hi0 : t0 ≤ i) (hi1 : i < s.trk.length)
    (hfail : ∃ id ∈ (getTrk s i).items, id ∈ s.failIds) :
    (deliver c k s).aborting = true ∧ (deliver c k s).exception = true :=
  deliver_failing (cfgOK_of hnj hbs) h hk hi0 hi1 hfail

/-- FAILURE IS RAISED (2/3). Within a call the abort flag is never cleared: not by hook points (completions),
not by dispatching, not by `get_status`. (`_exception` equals `_aborting` in every state of the invariant.) -/
theorem aborting_is_monotone {c : Cfg} (hnj : 2 ≤ c.nj) (hbs : ∀ b ∈ c.bs, 1 ≤ b) {t0 : Nat} {s : St}
    (h : Inv c t0 s) (hab : s.aborting = true) :
    (∀ sleep, (hook c sleep s).aborting = true) ∧ (∀ k, (deliver c k s).aborting = true) ∧
    (dispatchOneMain c s).1.aborting = true ∧
    (∀ i, t0 ≤ i → i < s.trk.length → (getStatus c s i).1.aborting = true) ∧ s.exception = true := by
  have hc := cfgOK_of hnj hbs
  exact ⟨fun sl => (hook_spec hc sl h).later.frame.abort_mono hab,
    fun k => (deliver_spec hc k h).1.later.frame.abort_mono hab,
    (dispatchOneMain_spec hc h).later.frame.abort_mono hab,
    fun i h0 h1 => (getStatus_spec h h0 h1).later.frame.abort_mono hab, by rw [h.T.abort_exc]; exact hab⟩

/-- FAILURE IS RAISED (3/3). A call that returns normally ends with `_exception = False`: no error was
registered on any of its trackers during the call, so by (1/3) and (2/3) no batch containing a failing task
completed while the call was in progress. A call whose flag is set does not return: it raises (`error_surfaces`). -/
theorem ret_means_no_exception {c : Cfg} (hnj : 2 ≤ c.nj) (hbs : ∀ b ∈ c.bs, 1 ≤ b)
    (hpd : c.pdMode = 1 ∨ 1 ≤ c.pd) {fuel base : Nat} {spec : CallSpec} {s₀ s' : St} {v : List Nat} (hi : Idle s₀)
    (hh : s₀.hung = false) (hfuel : 2 * spec.n + s₀.sched.length + s₀.parked.length + 2 ≤ fuel)
    (hcall : callList c fuel base spec s₀ = (s', .ret v)) : s'.exception = false := by
  have h := callList_spec (cfgOK_of hnj hbs) (base := base) (spec := spec) hi hh hpd hfuel
  rw [hcall] at h
  exact h.exception

/-- ITERATOR ERROR IS RAISED. If the input iterable of the call raises at one of its steps (`0 ≤ iterfail ≤ n`)
the call never returns normally, for any schedule: it raises (that exception, or the exception of a task that
failed earlier — `error_surfaces`). -/
theorem iterator_error_is_raised {c : Cfg} (hnj : 2 ≤ c.nj) (hbs : ∀ b ∈ c.bs, 1 ≤ b)
    (hpd : c.pdMode = 1 ∨ 1 ≤ c.pd) {fuel base : Nat} {spec : CallSpec} {s₀ : St} (hi : Idle s₀)
    (hh : s₀.hung = false) (hfuel : 2 * spec.n + s₀.sched.length + s₀.parked.length + 2 ≤ fuel)
    (hit : 0 ≤ spec.iterfail ∧ spec.iterfail ≤ spec.n) :
    ∃ e, (callList c fuel base spec s₀).2 = .raised e := by
  have h := callList_spec (cfgOK_of hnj hbs) (base := base) (spec := spec) hi hh hpd hfuel
  generalize callList c fuel base spec s₀ = r at h
  obtain ⟨s', o⟩ := r
  cases o with
  | ret v =>
    exact absurd hit h.noiter
  | raised e => exact ⟨e, rfl⟩
  | hung => exact h.elim

/-- TIMEOUT RAISES. If the tracker the caller is waiting for (head of the job queue) is still pending and more
than `timeout` clock ticks have passed since the caller started waiting for it, the next retrieval step raises
`TimeoutError`, and the object is left idle and clean. -/
theorem timeout_raises {c : Cfg} {t0 : Nat} (hra : c.ra ≠ 2) (fuel : Nat) {s : St} {g : Gen} {i : Nat}
    {rest : List Nat} {ctr : Int} (h : GoodR c t0 s) (hph : g.phase = .start ∨ g.phase = .retrieve)
    (hb : g.buf = []) (hna : s.aborting = false) (hj : s.jobs = i :: rest)
    (hp : (getTrk s i).status = .pending) (hto : 0 ≤ c.timeout) (hctr : (getTrk s i).toCounter = some ctr)
    (hlate : s.now - ctr > c.timeout) :
    ∃ s' g', genNext c (fuel + 1) s g = (s', g', .raise .timeout) ∧ Idle s' ∧ Clean s' ∧ s'.exception = true :=
  timeout_step (by simp [ordered, hra]) fuel h hph hb hna hj hp hto hctr hlate

/-- CALL TERMINATES. Whatever fails and whatever the schedule, the call returns or raises — it never hangs
(given the fuel `2 n + |sched| + |parked| + 2`) — and `hung` stays false. -/
theorem call_terminates {c : Cfg} (hnj : 2 ≤ c.nj) (hbs : ∀ b ∈ c.bs, 1 ≤ b)
    (hpd : c.pdMode = 1 ∨ 1 ≤ c.pd) {fuel base : Nat} {spec : CallSpec} {s₀ : St} (hi : Idle s₀)
    (hh : s₀.hung = false) (hfuel : 2 * spec.n + s₀.sched.length + s₀.parked.length + 2 ≤ fuel) :
    (callList c fuel base spec s₀).2 ≠ .hung ∧ (callList c fuel base spec s₀).1.hung = false := by
  obtain ⟨h1, _, _, h4, _⟩ := callList_ends (cfgOK_of hnj hbs) (base := base) (spec := spec) hi hh hpd hfuel
  exact ⟨h1, h4⟩

/-- CLEAN AFTER CALL. However a list-mode call ends (return or raise), afterwards `_running = False`, `_jobs`
and `_jobs_set` are empty, `_calling = False`, and the object is idle (ready for the next call). -/
theorem clean_after_call {c : Cfg} (hnj : 2 ≤ c.nj) (hbs : ∀ b ∈ c.bs, 1 ≤ b)
    (hpd : c.pdMode = 1 ∨ 1 ≤ c.pd) {fuel base : Nat} {spec : CallSpec} {s₀ : St} (hi : Idle s₀)
    (hh : s₀.hung = false) (hfuel : 2 * spec.n + s₀.sched.length + s₀.parked.length + 2 ≤ fuel) :
    Clean (callList c fuel base spec s₀).1 ∧ Idle (callList c fuel base spec s₀).1 := by
  obtain ⟨_, h2, h3, _⟩ := callList_ends (cfgOK_of hnj hbs) (base := base) (spec := spec) hi hh hpd hfuel
  exact ⟨h3, h2⟩

/-- CLEAN AFTER CLOSE. Closing (or dropping) the output generator while the call is in progress leaves
`_running = False`, empty `_jobs` / `_jobs_set`, `_calling = False`; after the generator has reached its tail loop
or its end, closing changes nothing. -/
theorem clean_after_close (c : Cfg) (s : St) (g : Gen) :
    ((g.phase = .start ∨ g.phase = .retrieve) → Clean (genClose c s g).1) ∧
    ((g.phase = .tail ∨ g.phase = .done) → (genClose c s g).1 = s) := by
  constructor
  · intro h
    rw [genClose_active c s h]
    obtain ⟨lg, pk, sc, ib, he, _, _⟩ := handleException_eq c s
    show Clean (handleException c s)
    rw [he]
    exact ⟨rfl, rfl, rfl, rfl⟩
  · intro h
    rw [genClose_inactive c s h]

/-- CLEAN AFTER EXHAUSTION. When `next()` on a well-formed generator ends it (`StopIteration` or an exception),
the object is clean and idle. -/
theorem clean_after_exhaustion {c : Cfg} (hnj : 2 ≤ c.nj) (hbs : ∀ b ∈ c.bs, 1 ≤ b) (hra : c.ra ≠ 2) {t0 fuel : Nat}
    {s s' : St} {g g' : Gen} {o : Out} (hg : GenGood c t0 fuel s g) (hn : genNext c fuel s g = (s', g', o))
    (ho : o = .stop ∨ ∃ e, o = .raise e) : Clean s' ∧ Idle s' ∧ g'.phase = .done := by
  obtain ⟨hok, hf⟩ := (GenGood_iff (by simp [ordered, hra])).mp hg
  have h := genNext_next (cfgOK_of hnj hbs) hok hf
  rw [hn] at h
  rcases ho with rfl | ⟨e, rfl⟩
  · exact ⟨h.clean, h.idle, h.done⟩
  · exact ⟨h.clean, h.idle, h.done⟩

/-- STALE CALLBACKS ARE NO-OPS. A completion callback whose tracker belongs to another call returns at its
call-id guard without touching the `Parallel` object. -/
theorem stale_callbacks_are_noops (c : Cfg) (s : St) (i : Nat) (failed : Option Nat)
    (h : (getTrk s i).callId ≠ s.callId) : callback c s i failed = s :=
  stale_callback_noop c s i failed h

/-- NEXT CALL IS FRESH (1/2). From any idle state, `callStart` hands to `_start` a state whose look-ahead queue is
empty, whose counters are zero, whose input is the new iterable at position 0, and whose call id is fresh: it is
larger than the call id of every existing tracker — so every tracker of an earlier call (in particular every late
completion still parked) is stale for the new call — and no tracker table entry is changed. -/
theorem next_call_is_fresh (c : Cfg) (fuel base : Nat) (spec : CallSpec) {s : St} (hi : Idle s)
    (hh : s.hung = false) :
    ∃ sF, callStart c fuel base spec s = (start c fuel sF, none) ∧
      sF.ready = [] ∧ sF.srcPos = 0 ∧ sF.jobs = [] ∧ sF.jobsSet = [] ∧ sF.nCompleted = 0 ∧ sF.nDispTasks = 0 ∧
      sF.aborting = false ∧ sF.exception = false ∧ sF.base = base ∧ sF.spec = spec ∧ sF.trk = s.trk ∧
      (∀ i, (getTrk sF i).callId < sF.callId) := by
  obtain ⟨sF, he, hF⟩ := callStart_fresh c fuel base spec hi hh
  obtain ⟨z1, z2, z3, z4, _, z6, z7, z8, _, z10⟩ := hF.zero
  refine ⟨sF, he, z2, z1, z3, z4, z6, z7, z8, z10, hF.base, hF.spec, hF.trk, ?_⟩
  intro i
  rw [getTrk_same hF.trk, hF.callId]
  have := hi.callId_le i
  omega

/-- BETWEEN CALLS. At the hook point between two calls (and after the last call) the object is idle; whatever
the schedule delivers there — completions of batches of older calls (stale call id) or of the call that just ended
(after a normal end none of them is parked any more; after an abort / close `_aborting` is still set and the callback
returns at its abort guard) — changes only the backend's bookkeeping (`parked`, the log, the schedule position): the
`Parallel` object itself is untouched and stays idle. -/
theorem between_calls_noop (c : Cfg) {s : St} (hi : Idle s) :
    (∃ lg pk sc ib, hook c false s = { s with log := lg, parked := pk, sched := sc, inCb := ib } ∧
      pk.Sublist s.parked ∧ sc.length ≤ s.sched.length) ∧ Idle (hook c false s) :=
  JoblibModel.ParallelProto.between_calls_noop c hi

/-- DURING ABORT. `backend.abort_everything` is a hook point (batches in flight may complete while the backend is
cancelling them). `_aborting` is set before, so every callback delivered there returns at its abort guard: `_abort`
as a whole changes nothing but the two abort flags and the backend's bookkeeping; the same holds for the exception
handler + `finally` (`handleException`), which in addition clears the job queues and the running flags. -/
theorem abort_deliveries_are_noops (c : Cfg) (s : St) :
    (∃ lg pk sc ib, abort c s = { s with log := lg, parked := pk, sched := sc, inCb := ib, aborting := true, aborted := true } ∧
      pk.Sublist s.parked ∧ sc.length ≤ s.sched.length) ∧
    (∃ lg pk sc ib, handleException c s = { s with log := lg, parked := pk, sched := sc, inCb := ib, exception := true, aborting := true, aborted := true, jobs := [], jobsSet := [], running := false, calling := false } ∧
      pk.Sublist s.parked ∧ sc.length ≤ s.sched.length) :=
  ⟨abort_eq c s, handleException_eq c s⟩

/-- What the between-calls hook preserves of the state a call ended in. -/
theorem between_keeps {c : Cfg} {s : St} (hi : Idle s) :
    Idle (hook c false s) ∧ (hook c false s).hung = s.hung ∧ (hook c false s).failIds = s.failIds :=
  hook_between_keeps c hi

/-- CLEAN AFTER EXHAUSTION, unordered mode. -/
theorem clean_after_exhaustion_unordered {c : Cfg} (hnj : 2 ≤ c.nj) (hbs : ∀ b ∈ c.bs, 1 ≤ b) (hra : c.ra = 2)
    {t0 fuel : Nat} {s s' : St} {g g' : Gen} {o : Out} (hg : GenGoodU c t0 fuel s g)
    (hn : genNext c fuel s g = (s', g', o)) (ho : o = .stop ∨ ∃ e, o = .raise e) :
    Clean s' ∧ Idle s' ∧ g'.phase = .done := by
  obtain ⟨hok, hf⟩ := (GenGoodU_iff (by simp [ordered, hra])).mp hg
  have h := genNext_next (cfgOK_of hnj hbs) hok hf
  rw [hn] at h
  rcases ho with rfl | ⟨e, rfl⟩
  · exact ⟨h.clean, h.idle, h.done⟩
  · exact ⟨h.clean, h.idle, h.done⟩

/-! ### the hypotheses are satisfiable -/

/-- A failing first call (task 3 of 8 raises, one completion delivered between every two caller actions) followed
by a clean second call on the same object. -/
example : (callList (⟨3, false, [2], 0, 2, 0, -1, false, false⟩ : Cfg) 200 0 ⟨8, [3], -1, []⟩
      ({ sched := [[0], [0], [0], [0], [0], [0]], failIds := [3] } : St)).2 = .raised (.task 3) := by decide +kernel

example : (callList (⟨3, false, [2], 0, 2, 0, -1, false, false⟩ : Cfg) 200 8 ⟨5, [], -1, []⟩
      (hook (⟨3, false, [2], 0, 2, 0, -1, false, false⟩ : Cfg) false
        (callList (⟨3, false, [2], 0, 2, 0, -1, false, false⟩ : Cfg) 200 0 ⟨8, [3], -1, []⟩
          ({ sched := [[0], [0], [0], [0], [0], [0]], failIds := [3] } : St)).1)).2 = .ret [8, 9, 10, 11, 12] := by
  decide +kernel

/-- The backend does not cancel (`abort_drops = false`): after the failing first call two of its batches are still
parked; one completes at the hook point between the calls (a no-op: the call is aborting), the other one stays
parked into the second call (stale call id there), which returns exactly its own results. -/
example : ((callList (⟨3, false, [2], 0, 3, 0, -1, false, false⟩ : Cfg) 200 0 ⟨12, [1], -1, []⟩
      ({ sched := [[], [1], [], [0]], failIds := [1] } : St)).1.parked,
    (hook (⟨3, false, [2], 0, 3, 0, -1, false, false⟩ : Cfg) false
      (callList (⟨3, false, [2], 0, 3, 0, -1, false, false⟩ : Cfg) 200 0 ⟨12, [1], -1, []⟩
        ({ sched := [[], [1], [], [0]], failIds := [1] } : St)).1).parked,
    (callList (⟨3, false, [2], 0, 3, 0, -1, false, false⟩ : Cfg) 200 12 ⟨5, [], -1, []⟩
      (hook (⟨3, false, [2], 0, 3, 0, -1, false, false⟩ : Cfg) false
        (callList (⟨3, false, [2], 0, 3, 0, -1, false, false⟩ : Cfg) 200 0 ⟨12, [1], -1, []⟩
          ({ sched := [[], [1], [], [0]], failIds := [1] } : St)).1)).2) =
    ([0, 2], [2], .ret [12, 13, 14, 15, 16]) := by decide +kernel


/-! ### the sequential path (`n_jobs == 1`) -/

section Sequential
open JoblibModel.ParallelSeq

/-- SEQUENTIAL ERROR SURFACES. If a sequential list-mode call on an idle object raises `e`, then `e` is the exception
of the FIRST failing task of this call in submission order — every earlier task of the call was executed and did
not fail, the failing one was executed, and no later task was (`nDispTasks = nCompleted + 1`) — or it is the
exception of the failing step of the input iterable; on an object that is already running the call raises
`RuntimeError` and changes nothing. -/
theorem sequential_error_surfaces (c : Cfg) {fuel base : Nat} {spec : CallSpec} {s₀ : St} :
    (s₀.running = true → seqCallList c fuel base spec s₀ = (s₀, .raised .runtime)) ∧
    (Idle s₀ → spec.n + 2 ≤ fuel → ∀ s' e, seqCallList c fuel base spec s₀ = (s', .raised e) →
      s'.exception = true ∧ (∀ id, base ≤ id → id < base + s'.nCompleted → id ∉ s₀.failIds) ∧
      ((e = .task (base + s'.nCompleted) ∧ base + s'.nCompleted ∈ s₀.failIds ∧ s'.nCompleted < spec.n ∧
          s'.nDispTasks = s'.nCompleted + 1) ∨
       (∃ pos, e = .iter pos ∧ 0 ≤ spec.iterfail ∧ (pos : Int) = (base : Int) + spec.iterfail))) := by
  constructor
  · intro hr
    unfold seqCallList
    rw [seqStart_running c base spec s₀ hr]
  · intro hi hf s' e he
    have := seqCallList_spec c (base := base) (spec := spec) hi hf
    rw [he] at this
    exact ⟨this.2.exc, this.2.ok, this.2.why⟩

/-- SEQUENTIAL CLEAN AFTER CALL. However a sequential call ends, `_running = False`, the job queues are (still)
empty, `hung`, the failing-id table and `_calling` are untouched, and the object is idle. -/
theorem sequential_clean_after_call (c : Cfg) {fuel base : Nat} {spec : CallSpec} {s₀ : St} (hi : Idle s₀)
    (hfuel : spec.n + 2 ≤ fuel) :
    (seqCallList c fuel base spec s₀).1.running = false ∧ (seqCallList c fuel base spec s₀).1.jobs = [] ∧
    (seqCallList c fuel base spec s₀).1.jobsSet = [] ∧
    (seqCallList c fuel base spec s₀).1.calling = s₀.calling ∧
    (seqCallList c fuel base spec s₀).1.hung = s₀.hung ∧ Idle (seqCallList c fuel base spec s₀).1 := by
  have h := seqCallList_spec c (base := base) (spec := spec) hi hfuel
  generalize seqCallList c fuel base spec s₀ = r at h
  obtain ⟨s', o⟩ := r
  have hk : SCKeep s₀ s' := by
    cases o with
    | ret v | raised e => exact h.1
    | hung => exact h.elim
  exact ⟨hk.idle.running, hk.idle.jobs, hk.idle.jobsSet, hk.calling, hk.hung, hk.idle⟩

example : (seqCallList (⟨1, false, [2], 0, 2, 0, -1, false, true⟩ : Cfg) 20 0 ⟨6, [2, 4], -1, []⟩
    ({ failIds := [2, 4] } : St)).2 = .raised (.task 2) := by decide +kernel

end Sequential

/-! ### start-up failures (F52) -/

section Startup
open JoblibModel.ParallelStartup JoblibModel.ParallelSeq

/-- FAILED START RAISES THE FAULT. On an idle object — with or without the guard, whatever the schedule delivers
while `backend.configure` runs — a call whose start-up hits a reached fault ends with exactly the event
`raise <the fault's exception>` appended to the state `failedStart` computes, and in that state NOTHING was
dispatched and no task of this call ran: the tracker table is unchanged (no batch was created), the job queues are
empty, the dispatch / completion counters are 0, and the backend's parked batches are a sublist of those parked
before (anything the backend executed meanwhile was a leftover batch of an EARLIER call, completing as a no-op). The
same holds on the sequential path for the faults that strike before the `n_jobs == 1` test. -/
theorem failed_start_raises_the_fault (c : Cfg) (guard : Bool) (fuel base : Nat) (spec : CallSpec) (f : Fault)
    {s : St} (hi : Idle s) :
    (reached f s = true →
      runCallF c guard fuel base spec f s = ev (failedStart c guard f base spec s) ("raise " ++ faultStr f)) ∧
    (reachedCommon f s = true →
      seqRunCallF c guard fuel base spec f s = ev (failedStart c guard f base spec s) ("raise " ++ faultStr f)) ∧
    (failedStart c guard f base spec s).trk = s.trk ∧
    (failedStart c guard f base spec s).parked.Sublist s.parked ∧
    (failedStart c guard f base spec s).jobs = [] ∧ (failedStart c guard f base spec s).jobsSet = [] ∧
    (failedStart c guard f base spec s).nDispTasks = 0 ∧ (failedStart c guard f base spec s).nDispBatches = 0 ∧
    (failedStart c guard f base spec s).nCompleted = 0 := by
  refine ⟨fun hr => ?_, fun hr => ?_, ?_⟩
  · unfold runCallF
    rw [if_pos hr, if_neg (by simp [hi.running])]
  · unfold seqRunCallF
    rw [if_pos hr, if_neg (by simp [hi.running])]
  · obtain ⟨X, e, hP, _⟩ := failedStart_pre c guard f base spec hi
    rw [e]
    cases guard with
    | false =>
      rw [guardCleanup_false]
      exact ⟨hP.trk, hP.parked, hP.jobs.trans hi.jobs, hP.jobsSet.trans hi.jobsSet, hP.zero.1, hP.zero.2.1,
        hP.zero.2.2.1⟩
    | true =>
      have hQ := hP.post
      exact ⟨hQ.trk, hQ.parked, hQ.jobs.trans hi.jobs, hQ.jobsSet.trans hi.jobsSet, hQ.zero.1, hQ.zero.2.1,
        hQ.zero.2.2.1⟩

/-- FAILED START LEAVES CLEAN. With the guard of `Parallel.__call__` (/repo as it is), after a start-up that failed
at ANY of the seven fault points the object is `Clean` (`_running = False`, `_calling = False`, empty job queues) and
`Idle` in the sense of `clean_after_call` — exactly the state class every other call ends in — inside or outside a
`with` block (`managed` unchanged), with nothing hung. -/
theorem failed_start_leaves_clean (c : Cfg) (f : Fault) (base : Nat) (spec : CallSpec) {s : St} (hi : Idle s) :
    Clean (failedStart c true f base spec s) ∧ Idle (failedStart c true f base spec s) ∧
    (failedStart c true f base spec s).hung = s.hung ∧ (failedStart c true f base spec s).managed = s.managed ∧
    (failedStart c true f base spec s).failIds = s.failIds := by
  have hP := failedStart_post c f base spec hi
  exact ⟨hP.clean hi, hP.idle hi, hP.hung, hP.managed, hP.failIds⟩

/-- FAILED START RELEASES THE BACKEND as any other call does. With the guard, the state left is the state `X` in which
the failing statement was reached, with `_running` and `_calling` cleared and, appended to the event log (newest
first): `stop_call` iff `_calling` was set, then `terminate` iff the object is not used as a context manager. From
`iter(iterable)` on (kinds 5, 6, 7) `_calling` is set and `start_call` was the backend's last event: the
`start_call` of the failed call is immediately answered by `stop_call`. -/
theorem failed_start_releases_backend (c : Cfg) (f : Fault) (base : Nat) (spec : CallSpec) {s : St} (hi : Idle s) :
    ∃ X : St, failedStart c true f base spec s =
        { X with running := false, calling := false,
                 log := (if X.managed then [] else ["terminate"]) ++ (if X.calling then ["stop_call"] else []) ++ X.log } ∧
      X.managed = s.managed ∧ (5 ≤ f.kind → X.calling = true ∧ X.log.head? = some "start_call") := by
  obtain ⟨X, e, hP, h5⟩ := failedStart_pre c true f base spec hi
  obtain ⟨lg, e2, hlg⟩ := guardCleanup_true X hP.running
  exact ⟨X, by rw [e, e2, hlg], hP.managed, h5⟩

/-- NEXT CALL AFTER A FAILED START IS FRESH. After a failed start-up and whatever the schedule delivers at the hook
point before the next call, `callStart` accepts the next call (no `RuntimeError`) and hands `_start` a fresh state: empty
look-ahead queue and job queues, zero counters, the new input at position 0, a call id larger than that of every
existing tracker. -/
theorem next_call_after_failed_start_is_fresh (c : Cfg) (f : Fault) (fuel base₁ base₂ : Nat) (spec₁ spec₂ : CallSpec)
    {s : St} (hi : Idle s) (hh : s.hung = false) :
    ∃ sF, callStart c fuel base₂ spec₂ (hook c false (failedStart c true f base₁ spec₁ s)) = (start c fuel sF, none) ∧
      sF.ready = [] ∧ sF.srcPos = 0 ∧ sF.jobs = [] ∧ sF.jobsSet = [] ∧ sF.nCompleted = 0 ∧ sF.nDispTasks = 0 ∧
      sF.aborting = false ∧ sF.exception = false ∧ sF.base = base₂ ∧ sF.spec = spec₂ ∧
      (∀ i, (getTrk sF i).callId < sF.callId) := by
  obtain ⟨_, h2, h3, _, _⟩ := failed_start_leaves_clean c f base₁ spec₁ hi
  obtain ⟨b1, b2, _⟩ := between_keeps (c := c) h2
  obtain ⟨sF, he, z1, z2, z3, z4, z5, z6, z7, z8, z9, z10, _, z12⟩ :=
    next_call_is_fresh c fuel base₂ spec₂ b1 (b2.trans (h3.trans hh))
  exact ⟨sF, he, z1, z2, z3, z4, z5, z6, z7, z8, z9, z10, z12⟩

/-- SECOND CALL CORRECT, histories with failed starts. After ANY history on one object — list-mode calls that return
or raise (failing tasks, failing iterator, any schedule), start-ups that failed at any fault point, completions of
leftover batches delivered between the calls, in any order and number (`Reach`) — a call whose own tasks do not fail
returns exactly the results of ITS tasks, in order, and leaves the object idle and clean. -/
theorem second_call_correct_after_failed_starts {c : Cfg} (hnj : 2 ≤ c.nj) (hbs : ∀ b ∈ c.bs, 1 ≤ b) (hra : c.ra ≠ 2)
    (hpd : c.pdMode = 1 ∨ 1 ≤ c.pd) (hto : c.timeout = -1) {s₀ s : St} (hi : Idle s₀) (hh : s₀.hung = false)
    (hr : Reach c s₀ s) {fuel base : Nat} {spec : CallSpec}
    (hfail : ∀ id ∈ s₀.failIds, ¬ (base ≤ id ∧ id < base + spec.n)) (hiter : spec.iterfail = -1)
    (hfuel : 2 * spec.n + s.sched.length + s.parked.length + 2 ≤ fuel) :
    ∃ s', callList c fuel base spec s = (s', .ret (List.range' base spec.n)) ∧ Idle s' ∧ Clean s' := by
  have hc := cfgOK_of hnj hbs
  obtain ⟨r1, r2, r3⟩ := hr.idle hc hpd hi hh
  obtain ⟨s', out, e, hr, q1, q2, _⟩ := callList_returns hc (base := base) (spec := spec) r1 r2 hpd
    ⟨by show ∀ id ∈ s.failIds, _; rw [r3]; exact hfail, by show spec.iterfail < 0; omega, by omega⟩ hfuel
  obtain rfl := hr.eq (by simp [ordered, hra])
  exact ⟨s', e, q1, q2⟩

/-- The same in unordered mode: a rearrangement of the results of the call's own tasks, each exactly once. -/
theorem second_call_correct_after_failed_starts_unordered {c : Cfg} (hnj : 2 ≤ c.nj) (hbs : ∀ b ∈ c.bs, 1 ≤ b)
    (hra : c.ra = 2) (hpd : c.pdMode = 1 ∨ 1 ≤ c.pd) (hto : c.timeout = -1) {s₀ s : St} (hi : Idle s₀)
    (hh : s₀.hung = false) (hr : Reach c s₀ s) {fuel base : Nat} {spec : CallSpec}
    (hfail : ∀ id ∈ s₀.failIds, ¬ (base ≤ id ∧ id < base + spec.n)) (hiter : spec.iterfail = -1)
    (hfuel : 2 * spec.n + s.sched.length + s.parked.length + 2 ≤ fuel) :
    ∃ s' out, callList c fuel base spec s = (s', .ret out) ∧ out.Perm (List.range' base spec.n) ∧ Idle s' ∧
      Clean s' := by
  have hc := cfgOK_of hnj hbs
  obtain ⟨r1, r2, r3⟩ := hr.idle hc hpd hi hh
  obtain ⟨s', out, e, hr, q1, q2, _⟩ := callList_returns hc (base := base) (spec := spec) r1 r2 hpd
    ⟨by show ∀ id ∈ s.failIds, _; rw [r3]; exact hfail, by show spec.iterfail < 0; omega, by omega⟩ hfuel
  exact ⟨s', out, e, hr.perm.symm, q1, q2⟩

/-- Every history of calls / failed start-ups / between-calls completions ends in an idle object; anything may fail
in the calls of the history. -/
theorem history_leaves_idle {c : Cfg} (hnj : 2 ≤ c.nj) (hbs : ∀ b ∈ c.bs, 1 ≤ b) (hpd : c.pdMode = 1 ∨ 1 ≤ c.pd)
    {s₀ s : St} (hi : Idle s₀) (hh : s₀.hung = false) (hr : Reach c s₀ s) :
    Idle s ∧ s.hung = false ∧ s.failIds = s₀.failIds :=
  hr.idle (cfgOK_of hnj hbs) hpd hi hh

/-- SEQUENTIAL PATH. (1) The faults that strike before the `n_jobs == 1` test run the same `failedStart`
(`failed_start_leaves_clean` needs no hypothesis on `n_jobs`). (2) `iter(iterable)` raises inside the output generator:
its `except BaseException` / `finally` leave the object idle with `_exception` set, no task executed, `_calling`
untouched. (3) After either, a sequential list-mode call that returns, returns exactly the results of its own tasks. -/
theorem sequential_failed_start (c : Cfg) (f : Fault) (fuel base₁ base₂ : Nat) (spec₁ spec₂ : CallSpec) {s : St}
    (hi : Idle s) (hfuel : spec₂.n + 2 ≤ fuel) :
    (∃ s1 bs, seqStart c base₁ spec₁ s = (s1, { bs := bs }, none) ∧ Idle (failed s1) ∧ (failed s1).exception = true ∧
      (failed s1).nCompleted = 0 ∧ (failed s1).calling = s.calling) ∧
    (∀ s' v, seqCallList c fuel base₂ spec₂ (hook c false (failedStart c true f base₁ spec₁ s)) = (s', .ret v) →
      v = List.range' base₂ spec₂.n ∧ Idle s') ∧
    (∀ s' e, seqCallList c fuel base₂ spec₂ (hook c false (failedStart c true f base₁ spec₁ s)) = (s', .raised e) →
      e ≠ .runtime ∧ Idle s') := by
  obtain ⟨_, h2, _, _, _⟩ := failed_start_leaves_clean c f base₁ spec₁ hi
  obtain ⟨b1, _, _⟩ := between_keeps (c := c) h2
  have hsp := seqCallList_spec c (fuel := fuel) (base := base₂) (spec := spec₂) b1 hfuel
  refine ⟨seq_iter_fault_idle c base₁ spec₁ hi, ?_, ?_⟩
  · intro s' v hv
    rw [hv] at hsp
    exact ⟨hsp.2.1, hsp.1.idle⟩
  · intro s' e hv
    rw [hv] at hsp
    refine ⟨?_, hsp.1.idle⟩
    rcases hsp.2.why with ⟨h, _⟩ | ⟨pos, h, _⟩ <;> rw [h] <;> simp

/-- COUNTEREXAMPLE for the code before the F52 repair (`startGuard = false`): a call whose `backend.start_call` raises,
then a plain one-task call on the same object — the second call raises `RuntimeError` ("already running"). With the
guard the same history returns the second call's result. -/
theorem failed_start_counterexample :
    (callList (⟨2, false, [1], 0, 2, 0, -1, false, true⟩ : Cfg) 50 1 ⟨1, [], -1, []⟩
      (hook (⟨2, false, [1], 0, 2, 0, -1, false, true⟩ : Cfg) false
        (failedStart (⟨2, false, [1], 0, 2, 0, -1, false, true⟩ : Cfg) false ⟨4, 0⟩ 0 ⟨1, [], -1, []⟩ {}))).2
      = .raised .runtime ∧
    (callList (⟨2, false, [1], 0, 2, 0, -1, false, true⟩ : Cfg) 50 1 ⟨1, [], -1, []⟩
      (hook (⟨2, false, [1], 0, 2, 0, -1, false, true⟩ : Cfg) false
        (failedStart (⟨2, false, [1], 0, 2, 0, -1, false, true⟩ : Cfg) true ⟨4, 0⟩ 0 ⟨1, [], -1, []⟩ {}))).2
      = .ret [1] := by decide +kernel

/-- Without the guard EVERY failed start-up, at any fault point, from any idle state, leaves `_running` set — so the
next call raises `RuntimeError` and changes nothing (`overlapping_call_raises`). -/
theorem failed_start_unguarded_blocks_next_call (c : Cfg) (f : Fault) (fuel base₁ base₂ : Nat) (spec₁ spec₂ : CallSpec)
    {s : St} (hi : Idle s) :
    (failedStart c false f base₁ spec₁ s).running = true ∧
    callList c fuel base₂ spec₂ (failedStart c false f base₁ spec₁ s) =
      (failedStart c false f base₁ spec₁ s, .raised .runtime) := by
  have h := failedStart_unguarded_running c f base₁ spec₁ hi
  exact ⟨h, overlapping_call_raises c fuel base₂ spec₂ _ h⟩

/-- CONSERVATIVE EXTENSION. A scenario in which no fault is placed has, in the model with start-up faults, exactly the event
log of `runScenario` / `runScenarioSeq` — on both paths and for either position of the guard switch: every theorem above about `callList`,
`runCallList`, … is a theorem about the fault-free calls of the extended scenarios. -/
theorem no_fault_is_old_model (c : Cfg) (guard : Bool) (calls : List CallSpec) (sched : List (List Nat)) :
    runScenarioF c guard {} (calls.map (fun cs => (cs, ({} : Fault)))) sched = runScenario c calls sched ∧
    runScenarioSeqF c guard {} (calls.map (fun cs => (cs, ({} : Fault)))) sched = runScenarioSeq c calls sched :=
  ⟨runScenarioF_nofault c guard calls sched, runScenarioSeqF_nofault c guard calls sched⟩

/-! the hypotheses are satisfiable: the whole scenario of harness/ctl.py, two calls, the first one's `pre_dispatch`
cannot be resolved (`ValueError`), outside a with block -/

example : runScenarioF (⟨2, false, [1], 0, 2, 0, -1, false, true⟩ : Cfg) true {}
      [(⟨3, [], -1, []⟩, ⟨6, 1⟩), (⟨1, [], -1, []⟩, {})] [] =
    ["call 0", "configure", "start_call", "stop_call", "terminate", "raise ValueError",
     "call 1", "configure", "start_call", "pull 3", "submit 3", "complete 3", "exec 3", "stop_call", "terminate",
     "ret 3"] := by decide +kernel

example : runScenarioF (⟨2, false, [1], 0, 2, 0, -1, false, true⟩ : Cfg) false {}
      [(⟨3, [], -1, []⟩, ⟨6, 1⟩), (⟨1, [], -1, []⟩, {})] [] =
    ["call 0", "configure", "start_call", "raise ValueError", "call 1", "raise RuntimeError"] := by decide +kernel

end Startup

/-- NEXT CALL IS FRESH (2/2): two consecutive calls on one object, with the hook point between them. Whatever the
first call does — any failing tasks, failing iterator, timeout, any schedule; it may return or raise — and whatever
completions of its still-parked batches the schedule delivers between the two calls, a second call whose own tasks do
not fail returns exactly the results of ITS tasks: nothing is left over from the first call. -/
theorem second_call_correct {c : Cfg} (hnj : 2 ≤ c.nj) (hbs : ∀ b ∈ c.bs, 1 ≤ b) (hra : c.ra ≠ 2)
    (hpd : c.pdMode = 1 ∨ 1 ≤ c.pd) (hto : c.timeout = -1) {fuel₁ fuel₂ base₁ base₂ : Nat} {spec₁ spec₂ : CallSpec}
    {s₀ : St} (hi : Idle s₀) (hh : s₀.hung = false)
    (hfuel₁ : 2 * spec₁.n + s₀.sched.length + s₀.parked.length + 2 ≤ fuel₁)
    (hfail₂ : ∀ id ∈ s₀.failIds, ¬ (base₂ ≤ id ∧ id < base₂ + spec₂.n)) (hiter₂ : spec₂.iterfail = -1)
    (hfuel₂ : 2 * spec₂.n + (hook c false (callList c fuel₁ base₁ spec₁ s₀).1).sched.length +
      (hook c false (callList c fuel₁ base₁ spec₁ s₀).1).parked.length + 2 ≤ fuel₂) :
    ∃ s₂, callList c fuel₂ base₂ spec₂ (hook c false (callList c fuel₁ base₁ spec₁ s₀).1) =
      (s₂, .ret (List.range' base₂ spec₂.n)) ∧ Idle s₂ ∧ Clean s₂ :=
  second_call_correct_after_failed_starts hnj hbs hra hpd hto hi hh (.between (.call fuel₁ base₁ spec₁ .start hfuel₁))
    hfail₂ hiter₂ hfuel₂

/-- NEXT CALL IS FRESH, unordered mode: the second call returns a rearrangement of the results of ITS tasks (each
exactly once), whatever the first call did and whatever is delivered at the hook point between the calls. -/
theorem second_call_correct_unordered {c : Cfg} (hnj : 2 ≤ c.nj) (hbs : ∀ b ∈ c.bs, 1 ≤ b) (hra : c.ra = 2)
    (hpd : c.pdMode = 1 ∨ 1 ≤ c.pd) (hto : c.timeout = -1) {fuel₁ fuel₂ base₁ base₂ : Nat} {spec₁ spec₂ : CallSpec}
    {s₀ : St} (hi : Idle s₀) (hh : s₀.hung = false)
    (hfuel₁ : 2 * spec₁.n + s₀.sched.length + s₀.parked.length + 2 ≤ fuel₁)
    (hfail₂ : ∀ id ∈ s₀.failIds, ¬ (base₂ ≤ id ∧ id < base₂ + spec₂.n)) (hiter₂ : spec₂.iterfail = -1)
    (hfuel₂ : 2 * spec₂.n + (hook c false (callList c fuel₁ base₁ spec₁ s₀).1).sched.length +
      (hook c false (callList c fuel₁ base₁ spec₁ s₀).1).parked.length + 2 ≤ fuel₂) :
    ∃ s₂ out, callList c fuel₂ base₂ spec₂ (hook c false (callList c fuel₁ base₁ spec₁ s₀).1) = (s₂, .ret out) ∧
      out.Perm (List.range' base₂ spec₂.n) ∧ Idle s₂ ∧ Clean s₂ :=
  second_call_correct_after_failed_starts_unordered hnj hbs hra hpd hto hi hh
    (.between (.call fuel₁ base₁ spec₁ .start hfuel₁)) hfail₂ hiter₂ hfuel₂

/-! ## exception transport (worker-side traceback capture; model `JoblibModel.ExcTransport`)

`Exc.task id` of the protocol model above is "the exception task `id` raised"; this section is about how that
exception object gets from the worker to `retrieve_result_callback` in the pool backends
(`_TracebackCapturingWrapper` → pool result channel → `_retrieve_traceback_capturing_wrapped_call`). Tied to the
code by `harness/exc_transport.py` (a transcription of the model run against the real functions; see the header of
the model file for why it is not a driver run). -/
section ExcTransport
open JoblibModel JoblibModel.ExcTransport
-- `deliver` alone would be ambiguous with `ParallelProto.deliver` (opened above): written `ExcTransport.deliver`
attribute [local simp] ExcTransport.deliver wrap transport retrieve

/-- TRANSPORT PRESERVES THE OUTCOME. For every outcome `o` of a submitted callable whose returned value (if it
returns) is a list — `hlist`: true of every `BatchedCalls`, the only callables `Parallel` submits — every result
channel `t` and every pickle behaviour `rt` satisfying `RoundTripLaw`:
(1) a returned list arrives as that list;
(2) a raised exception `e` arrives as a RAISED exception of the same class and args whose `__cause__` is the remote
traceback `tb` formatted in the worker — or, only in the process pool and only when the instance cannot make the
pickle round trip (`rt e = none`), as the separate outcome `transportError` (never as a returned value, never as an
exception of another class);
(3) the caller gets a return value only if the task returned it (a raise is never swallowed). -/
theorem transport_preserves_outcome (t : Transport) (rt : ExcV → Option ExcV) (hlaw : RoundTripLaw rt)
    (o : Outcome) (tb : Nat) (hlist : ∀ v, o = .returns v → ∃ xs, v = .list xs) :
    (∀ xs, o = .returns (.list xs) → ExcTransport.deliver t rt o tb = .ret (.list xs)) ∧
    (∀ e, o = .raises e →
      (∃ e', ExcTransport.deliver t rt o tb = .raised e' ∧ e'.cls = e.cls ∧ e'.args = e.args ∧ e'.cause = some tb) ∨
      (t = .process ∧ rt e = none ∧ ExcTransport.deliver t rt o tb = .transportError)) ∧
    (∀ v, ExcTransport.deliver t rt o tb = .ret v → o = .returns v) := by
  cases o with
  | returns v =>
    obtain ⟨xs, rfl⟩ := hlist v rfl
    refine ⟨?_, ?_, ?_⟩
    · intro ys h; cases h; cases t <;> rfl
    · intro e h; cases h
    · intro v h; cases t <;> simp at h <;> simp [h]
  | raises e =>
    refine ⟨?_, ?_, ?_⟩
    · intro ys h; cases h
    · intro e₁ h; cases h
      cases t with
      | thread => exact .inl ⟨rebuildExc e tb, rfl, rfl, rfl, rfl⟩
      | process =>
        cases hrt : rt e with
        | none => exact .inr ⟨rfl, rfl, by simp [hrt]⟩
        | some e' =>
          obtain ⟨hc, ha⟩ := hlaw e e' hrt
          exact .inl ⟨rebuildExc e' tb, by simp [hrt], hc, ha, rfl⟩
    · intro v h
      cases t with
      | thread => simp at h
      | process =>
        cases hrt : rt e <;> simp [hrt] at h

/-- In the thread pool nothing is pickled: the very instance the task raised is raised in the caller, with
`__cause__` set to the remote traceback — whatever pickle would have done with it. -/
theorem thread_transport_is_exact (rt : ExcV → Option ExcV) (e : ExcV) (tb : Nat) :
    ExcTransport.deliver .thread rt (.raises e) tb = .raised { e with cause := some tb } := rfl

/-- RAW POOL EXCEPTION. `PoolManagerMixin.submit` registers the completion callback as `error_callback` too; an
exception instance the pool hands to it (a failure outside the task body: no `_ExceptionWithTraceback` around it)
is raised by `retrieve_result_callback` as it is — it is not returned as a result. -/
theorem raw_pool_exception_is_raised (e : ExcV) : retrieve (poolRaw e) = .raised e := rfl

/-- HONEST WITNESS: the hypothesis `hlist` of `transport_preserves_outcome` cannot be dropped. A callable — not a
`BatchedCalls` — that RETURNS an exception instance `ValueError(3)` has it RAISED in the caller
(`if isinstance(out, BaseException): raise out` cannot tell it from the unpickled `_ExceptionWithTraceback`), and no
channel and no pickle behaviour ever delivers a returned exception instance as a return value. Harmless in joblib:
`BatchedCalls.__call__` returns a list, so a task function returning an exception instance yields a list holding it. -/
theorem returned_exception_instance_is_raised_witness :
    ExcTransport.deliver .thread rtGrid (.returns (.excInst ⟨1, [3], none⟩)) 5 = .raised ⟨1, [3], none⟩ ∧
    (∀ (t : Transport) (rt : ExcV → Option ExcV) (e : ExcV) (tb : Nat),
      ExcTransport.deliver t rt (.returns (.excInst e)) tb ≠ .ret (.excInst e)) := by
  refine ⟨by decide, ?_⟩
  intro t rt e tb h
  cases t with
  | thread => simp at h
  | process => cases hrt : rt e <;> simp [hrt] at h

/-- the finite table of the model on the harness's grid; the literal rows below are READ by
harness/exc_transport.py and compared with its Python transcription of `deliver`. -/
theorem transport_table : table = [
    ("thread", "returns-list", "ret-list"),
    ("thread", "returns-exc", "raised"),
    ("thread", "raises", "raised-with-remote-traceback"),
    ("thread", "raises-unrebuildable", "raised-with-remote-traceback"),
    ("thread", "returns-exc-unrebuildable", "raised"),
    ("process", "returns-list", "ret-list"),
    ("process", "returns-exc", "raised"),
    ("process", "raises", "raised-with-remote-traceback"),
    ("process", "raises-unrebuildable", "transport-error"),
    ("process", "returns-exc-unrebuildable", "transport-error")] := by decide

/-! the hypotheses are satisfiable by a non-trivial instance: `rtGrid` satisfies the law, is not the identity
(it drops `__cause__`, as pickle does) and fails on one class -/

example : RoundTripLaw rtGrid := by
  intro e e' h
  unfold rtGrid at h
  split at h
  · cases h
  · cases h; exact ⟨rfl, rfl⟩

example : ∃ e, rtGrid e ≠ some e ∧ (rtGrid e).isSome := ⟨⟨1, [3], some 4⟩, by decide⟩
example : ExcTransport.deliver .process rtGrid (.raises ⟨1, [3], some 4⟩) 5 = .raised ⟨1, [3], some 5⟩ := by decide +kernel

end ExcTransport
end C04
