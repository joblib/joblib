import JoblibProofs.Lemmas.ZlibFile
import JoblibProofs.Lemmas.ZFileLegacy
/-!
# C14 — truncated or over-long files make load fail cleanly: never hang or lie

Statement (properties.jsonl): loading a file that is a strict prefix of a valid joblib file (any truncation
point, any compressor), or a valid file followed by extra bytes, always terminates and either raises an
exception or returns exactly the original object — never a different object and never an endless loop.
Consequently a damaged cache entry makes Memory recompute instead of failing or returning garbage.

What is proved, and for which code. The theorems are about joblib's own zlib/gzip file object
(`BinaryZlibFile._fill_buffer` and what is built on it) with the repair `fixes/F07-zlib-trailing-bytes.diff`
(`rawSource`/`rawStep`); the unchanged loop (`rawSourceOld`) is kept in the section "Unchanged code" with its
DIVERGENCE theorems — finding F7.

Quantifier reached:
* `fill_terminates`: EVERY file content (valid, truncated, corrupt, with trailing bytes), every file position,
  every codec (any function at all, including one that raises), every reachable decompressor state, every
  buffer state — `_fill_buffer` executes at most `⌈remaining/8192⌉ + 1` loop bodies.
* `truncation_never_lies`, `trailing_bytes_ignored`, `damaged_file_is_a_stream`, `load_class`,
  `load_error_or_original`: every valid file `raw` of every payload `p`, EVERY truncation length `k < |raw|`,
  EVERY suffix `t` of extra bytes (any length, including a second valid stream), every operation sequence.
  The codec law `ValidFile` (strict prefixes decode monotonically without error and without end-of-stream;
  the whole file, whatever follows it, decodes to the payload and reports end-of-stream at `|raw|` — probed on
  CPython's zlib) and the unpickler contract `UnpicklerContract` are EXPLICIT HYPOTHESES: CPython's zlib and
  pickle are modelled, not verified.

* `legacy_truncation_never_lies`, `legacy_trailing_bytes_ignored`, `legacy_load_class`: the LEGACY Z-file format
  (joblib < 0.10, `numpy_pickle_compat.read_zfile`, still reached by `joblib.load(<file name>)`): every data `p`,
  every zlib stream `z` of it, every well-formed length field, narrow and wide (python 2, joblib <= 0.8.4) header,
  EVERY truncation length, EVERY suffix. `zlib.decompress` is a parameter with the law `ZValid` as hypothesis.
  `read_zfile` is straight-line code: the model `readZfile` is a total function WITHOUT fuel — that it can be
  written so is the termination statement (a variant that streams through `decompressobj` in a loop has no such
  model).

Not covered by theorems (correspondence only, `harness/props/c14.py`): bz2/lzma/xz (CPython's own file
objects), the uncompressed path (the unpickler contract alone), `io.BufferedReader` (modelled as asking for
1 MiB at a time until the unpickler is satisfied: `loadZ`). No theorem mentions the model's `predictLoad`,
`detectCompressor`, `loadPlain`, `scriptCodec` (they are the driver's; that the `rounds` it passes satisfy `load_class`
is not proved). The unpickler contract appears twice, with no lemma between: as the length `need` inside `loadZ` /
`loadCompat`, and as `UnpicklerContract`. The legacy length field is a hypothesis (`hf`, `hp`): there is no model of
`write_zfile` and no lemma about `pyIntHex`.

`StreamLaw`, `ValidFile`, `rawBound` of the statements are defined in `Lemmas/ZlibFile.lean`, `ZValid`, `legacyFile` in
`Lemmas/ZFileLegacy.lean`.
-/
namespace C14
open JoblibModel.ZlibFile

/-- TERMINATION. For every codec, every file content and position, every reachable decompressor state
(`Decomp.WF`: `unused_data` is empty before end-of-stream — see `wf_reachable`) and every buffer state, the
repaired `_fill_buffer` needs at most `blocksLeft + 1 = ⌈(len(file) − pos)/8192⌉ + 1` executions of its loop
body: with that much fuel it never runs out. The measure `blocksLeft` (raw blocks left in `_fp`) strictly
decreases with every loop body that does not leave the loop (`rawStep_chunk_blocks`) — that is the proof. -/
theorem fill_terminates (c : Codec) (s : ZFile RawSrc) (hwf : s.src.dec.WF) (fuel : Nat)
    (hf : (s.src.file.length - s.src.fpos + 8191) / 8192 + 1 ≤ fuel) :
    fillBuffer (rawSource c) fuel s ≠ .error .outOfFuel := by
  unfold fillBuffer
  split
  · nofun
  · exact fillLoop_terminates (·.dec.WF) blocksLeft (fun r b r' => rawStep_chunk_blocks c r r' b) fuel s hwf
      (by rw [blocksLeft, BUFFER_SIZE_eq]; exact hf)

/-- Every decompressor state the file object can be in is well formed: the fresh one (open, `_rewind`), and
whatever `decompress` leaves behind. -/
theorem wf_reachable (c : Codec) (f : Bytes) :
    (openRaw f).src.dec.WF ∧ (∀ r : RawSrc, (rawRewind r).dec.WF) ∧
    (∀ (r r' : RawSrc) (b : Bytes), r.dec.WF → rawStep c r = .chunk b r' → r'.dec.WF) := by
  refine ⟨fun _ => rfl, fun _ _ => rfl, fun r r' b h hs => (rawStep_chunk_blocks c r r' b h hs).2⟩

/-- For ANY file `f` on which the codec is monotone (`StreamLaw`: no prefix is rejected, output only grows,
nothing comes after the end-of-stream marker) the repaired `BinaryZlibFile(f)` is, for every in-scope
operation sequence, indistinguishable from `io.BytesIO(out |f|)` — the bytes decodable from the whole file —
and no operation hangs (C13's refinement, instantiated at the raw-block level). -/
theorem damaged_file_is_a_stream {c : Codec} {f : Bytes} {E : Option Nat} {out : Nat → Bytes}
    (law : StreamLaw c f E out) (ops : List Op) (pos' : Nat) (outs : List Out) {fuel : Nat}
    (hf : rawBound f + (out f.length).length + 2 ≤ fuel)
    (hspec : Spec.run (out f.length) 0 ops = some (pos', outs)) :
    (runOps (rawSource c) fuel (openRaw f) ops).2 = outs :=
  (raw_runOps law rfl hf ops pos' outs hspec).1

/-- TRUNCATION NEVER LIES. `raw` a valid file of payload `p` (codec law as hypothesis), `k < |raw|`: on the
truncated file `read()` terminates, raises nothing, and returns a PREFIX of the payload (possibly all of it:
zlib's 4 trailing checksum bytes carry no data) — never anything else. -/
theorem truncation_never_lies {c : Codec} {raw p : Bytes} {out : Nat → Bytes} (hv : ValidFile c raw p out)
    (k : Nat) (hk : k < raw.length) {fuel : Nat} (hf : k / 8192 + 3 ≤ fuel) :
    ∃ s' d, read (rawSource c) fuel (-1) (openRaw (raw.take k)) = .ok (s', d) ∧ d <+: p ∧ d = out k := by
  have hl : (raw.take k).length = k := List.length_take_of_le (Nat.le_of_lt hk)
  obtain ⟨s', h1⟩ := raw_read_all (trunc_law hv k hk) (congrArg out hl)
    (by rw [rawBound, BUFFER_SIZE_eq, hl]; exact hf)
  exact ⟨s', out k, h1, hv.out_whole ▸ hv.mono k raw.length (Nat.le_of_lt hk) (Nat.le_refl _), rfl⟩

/-- EXTRA BYTES ARE IGNORED (repaired code). A valid file followed by ANY bytes `t` (garbage, zeros, a
second valid stream): `read()` terminates and returns exactly the payload. -/
theorem trailing_bytes_ignored {c : Codec} {raw p : Bytes} {out : Nat → Bytes} (hv : ValidFile c raw p out)
    (t : Bytes) {fuel : Nat} (hf : (raw ++ t).length / 8192 + 3 ≤ fuel) :
    ∃ s', read (rawSource c) fuel (-1) (openRaw (raw ++ t)) = .ok (s', p) :=
  raw_read_all (trail_law hv t) (if_neg (by rw [List.length_append]; omega))
    (by rw [rawBound, BUFFER_SIZE_eq]; exact hf)

/-- The contract of `pickle.Unpickler` for the pickle `pk` of the object `obj` (hypothesis): it stops at the
STOP opcode that ends `pk` whatever follows; on a strict prefix of `pk` it raises (`none`). -/
structure UnpicklerContract {Obj : Type} (unpickle : Bytes → Option Obj) (pk : Bytes) (obj : Obj) : Prop where
  stops_at_stop : ∀ t, unpickle (pk ++ t) = some obj
  prefix_raises : ∀ s, s <+: pk → s ≠ pk → unpickle s = none

/-- ERROR OR ORIGINAL. Whatever a truncated zlib/gzip file (any `k < |raw|`) or an extended one (any `t`)
delivers, unpickling it either raises or gives back exactly the original object. -/
theorem load_error_or_original {Obj : Type} {c : Codec} {raw p : Bytes} {out : Nat → Bytes}
    (hv : ValidFile c raw p out) (unpickle : Bytes → Option Obj) (obj : Obj)
    (hu : UnpicklerContract unpickle p obj) :
    (∀ k, k < raw.length → ∀ fuel, k / 8192 + 3 ≤ fuel →
      ∃ s' d, read (rawSource c) fuel (-1) (openRaw (raw.take k)) = .ok (s', d) ∧
        (unpickle d = none ∨ unpickle d = some obj)) ∧
    (∀ t fuel, (raw ++ t).length / 8192 + 3 ≤ fuel →
      ∃ s' d, read (rawSource c) fuel (-1) (openRaw (raw ++ t)) = .ok (s', d) ∧ unpickle d = some obj) := by
  have hp : unpickle p = some obj := List.append_nil p ▸ hu.stops_at_stop []
  constructor
  · intro k hk fuel hf
    obtain ⟨s', d, h1, h2, _⟩ := truncation_never_lies hv k hk hf
    refine ⟨s', d, h1, ?_⟩
    by_cases hd : d = p
    · exact Or.inr (hd ▸ hp)
    · exact Or.inl (hu.prefix_raises d h2 hd)
  · intro t fuel hf
    obtain ⟨s', h1⟩ := trailing_bytes_ignored hv t hf
    exact ⟨s', p, h1, hp⟩

/-- THE CLASS `load` ENDS IN (what the driver computes, `loadZ` = BufferedReader(1 MiB) + unpickler contract),
for any file on which the codec is monotone: never `hang`; `returns-original` exactly when the decodable bytes
contain the `need` bytes of the pickle, `raises` otherwise. -/
theorem load_class {c : Codec} {f : Bytes} {E : Option Nat} {out : Nat → Bytes}
    (law : StreamLaw c f E out) (need : Nat) (hneed : 0 < need) {fuel rounds : Nat}
    (hf : rawBound f + 2 ≤ fuel)
    (hr : ((out f.length).length + (IO_BUFFER_SIZE - 1)) / IO_BUFFER_SIZE + 1 ≤ rounds) :
    loadZ (rawSource c) fuel need rounds 0 (openRaw f) =
      if need ≤ (out f.length).length then .returnsOriginal else .raises := by
  obtain ⟨cs, hI⟩ := openRaw_inv law
  rw [loadZ_spec (raw_regular law) hf need rounds 0 (openRaw f) 0 cs hI hneed hr, Nat.zero_add]
  rfl

/-- `_read_bytes(fp, size)` (the exact-length loop that fetches array data) on any such file: it terminates
(never out of fuel: at most two reads), and returns EXACTLY the next `size` bytes of the stream or raises
ValueError when fewer are left — never a short or different result. -/
theorem read_bytes_terminates_exact {c : Codec} {f : Bytes} {E : Option Nat} {out : Nat → Bytes}
    (law : StreamLaw c f E out) (size : Nat) {fuel : Nat} (hf : rawBound f + 2 ≤ fuel) :
    (size ≤ (out f.length).length →
      ∃ s', readBytes (rawSource c) fuel size (openRaw f) = .ok (s', (out f.length).take size)) ∧
    ((out f.length).length < size →
      readBytes (rawSource c) fuel size (openRaw f) = .error (.exc .valueError)) := by
  obtain ⟨cs, hI⟩ := openRaw_inv law
  exact readBytes_spec (raw_regular law) hf size hI

/-- Consequently (`_cached_call`: `try: load … except Exception: recompute`): a damaged zlib/gzip cache entry
is either served as the original value or recomputed — the cached call never hangs. -/
theorem damaged_entry_recomputes {c : Codec} {f : Bytes} {E : Option Nat} {out : Nat → Bytes}
    (law : StreamLaw c f E out) (need : Nat) (hneed : 0 < need) {fuel rounds : Nat}
    (hf : rawBound f + 2 ≤ fuel)
    (hr : ((out f.length).length + (IO_BUFFER_SIZE - 1)) / IO_BUFFER_SIZE + 1 ≤ rounds) :
    cachedCall (loadZ (rawSource c) fuel need rounds 0 (openRaw f)) =
      if need ≤ (out f.length).length then .servedFromCache else .recomputed := by
  rw [load_class law need hneed hf hr]
  split <;> rfl

/-! ## The legacy Z-file format (joblib < 0.10): `numpy_pickle_compat.read_zfile` -/
section Legacy
open JoblibModel.ZFileLegacy

/-- LEGACY TRUNCATION NEVER LIES. `b"ZF" ++ field ++ [b" "] ++ z` a valid legacy file of the data `p` (`field` the
19-byte length field with `int(field, 16) = len(p)`, one more space in the wide header of joblib <= 0.8.4, `z` a
zlib stream of `p`: law `ZValid` as hypothesis). For EVERY truncation length `k` — inside the magic number, inside
the length field (whatever the cut field still parses to), between header and payload, anywhere inside the zlib
stream — `read_zfile` RAISES: it never returns data, so `joblib.load` can return nothing but an exception.
Termination: `readZfile` is a total function without fuel (no loop in `read_zfile`). -/
theorem legacy_truncation_never_lies {D : Bytes → Option Bytes} {z p field : Bytes} (hz : ZValid D z p)
    (hf : field.length = MAX_LEN) (hp : pyIntHex field = some (p.length : Int)) (wide : Bool)
    (k : Nat) (hk : k < (legacyFile field wide z).length) :
    ∃ e, readZfile D ((legacyFile field wide z).take k) = .error e := by
  by_cases hle : k ≤ HEADER_LENGTH
  · exact readZfile_short D (hz.prefix_raises 0 (List.length_pos_iff.mpr hz.nonempty)) _
      (Nat.le_trans (List.length_take_le _ _) hle)
  · have hpad : (pad wide).length ≤ 1 := by cases wide <;> decide
    rw [legacyFile_length hf] at hk
    rw [legacyFile_take hf wide z (by omega), readZfile_legacy D hf p.length hp wide (by
      rw [List.head?_take]; split
      · nofun
      · exact hz.not_space), hz.prefix_raises _ (by omega)]
    exact ⟨_, rfl⟩

/-- LEGACY: EXTRA BYTES ARE IGNORED. A valid legacy file followed by ANY bytes `t` (`t = []`: the intact file):
`read_zfile` returns exactly the data `p`. -/
theorem legacy_trailing_bytes_ignored {D : Bytes → Option Bytes} {z p field : Bytes} (hz : ZValid D z p)
    (hf : field.length = MAX_LEN) (hp : pyIntHex field = some (p.length : Int)) (wide : Bool) (t : Bytes) :
    readZfile D (legacyFile field wide z ++ t) = .ok p := by
  have hfile : legacyFile field wide z ++ t = legacyFile field wide (z ++ t) := by
    simp only [legacyFile, List.append_assoc]
  have hns : (z ++ t).head? ≠ some 0x20 := by
    obtain ⟨a, r, rfl⟩ := List.exists_cons_of_ne_nil hz.nonempty
    exact hz.not_space
  rw [hfile, readZfile_legacy D hf p.length hp wide hns, hz.whole t]
  exact if_pos rfl

/-- LEGACY: THE CLASS `load` ENDS IN (`loadCompat` = `read_zfile` + the unpickler contract, `p` being the pickle):
every truncation raises, every extension returns the original; never anything else, and no fuel is involved. -/
theorem legacy_load_class {D : Bytes → Option Bytes} {z p field : Bytes} (hz : ZValid D z p)
    (hf : field.length = MAX_LEN) (hp : pyIntHex field = some (p.length : Int)) (wide : Bool) :
    (∀ k, k < (legacyFile field wide z).length →
      loadCompat D p.length ((legacyFile field wide z).take k) = .raises) ∧
    (∀ t, loadCompat D p.length (legacyFile field wide z ++ t) = .returnsOriginal) := by
  constructor
  · intro k hk
    obtain ⟨e, he⟩ := legacy_truncation_never_lies hz hf hp wide k hk
    rw [loadCompat, he]
  · intro t
    rw [loadCompat, legacy_trailing_bytes_ignored hz hf hp wide t]
    exact if_pos (Nat.le_refl _)

end Legacy

/-! ## Unchanged code (pinned tree): finding F7 -/
section UnchangedCode

/-- DIVERGENCE of the unchanged `_fill_buffer`. In the state every valid zlib/gzip file followed by at least
one extra byte reaches — buffer used up, decompressor at end-of-stream holding non-empty `unused_data` — the
loop `rawblock = unused_data or read(8192); buffer = decompress(rawblock)` makes no progress: for EVERY amount
of fuel it is still running (`decompress` after eof returns `b''` and appends its argument to `unused_data`,
which doubles). There is no termination measure; `fill_terminates` is false of the unchanged code. -/
theorem old_fill_diverges (c : Codec) (s : ZFile RawSrc) (hm : s.mode = .read)
    (hoff : s.bufferOffset = (s.buffer.length : Int))
    (he : s.src.dec.eof = true) (hu : s.src.dec.unused ≠ []) :
    ∀ fuel, fillBuffer (rawSourceOld c) fuel s = .error .outOfFuel := by
  intro fuel
  unfold fillBuffer
  simp only [hm, show ¬ (Mode.read = Mode.readEof) by decide, if_false]
  exact fillLoop_diverges _ (rawStepOld_stuck c) fuel s hoff ⟨he, hu⟩

/-- …and that state is reached: on the unchanged code, `read()` of a valid file followed by ANY non-empty
suffix `t` (file within one raw block) never returns, for every fuel. -/
theorem old_read_diverges {c : Codec} {raw p : Bytes} {out : Nat → Bytes} (hv : ValidFile c raw p out)
    (t : Bytes) (ht : t ≠ []) (hlen : (raw ++ t).length ≤ 8192) :
    ∀ fuel, read (rawSourceOld c) fuel (-1) (openRaw (raw ++ t)) = .error .outOfFuel :=
  -- `read(-1)` on an open file is `_read_all`
  old_readAll_diverges hv t ht (BUFFER_SIZE_eq ▸ hlen)

end UnchangedCode

/-- Toy stream format: `1 b` emits byte `b`, `0` is the end-of-stream marker. -/
def toyGo : Bytes → Bytes → Nat → Bytes × Option Nat
  | [], acc, _ => (acc, none)
  | 0 :: _, acc, n => (acc, some (n + 1))
  | [_], acc, _ => (acc, none)
  | _ :: b :: r, acc, n => toyGo r (acc ++ [b]) (n + 2)
def toyCodec : Codec := ⟨fun fed => some (toyGo fed [] 0)⟩
def toyRaw : Bytes := [1, 7, 1, 46, 0]
def toyOut (k : Nat) : Bytes := ([7, 46] : Bytes).take (k / 2)

private theorem toyValid : ValidFile toyCodec toyRaw [7, 46] toyOut where
  prefix_ok := by decide +kernel
  whole := by intro t; simp [toyCodec, toyRaw, toyGo]
  mono := by intro a b hab _; exact List.take_prefix_take_left (by omega)
  out_zero := rfl
  out_whole := rfl
  nonempty := by decide +kernel

example : ValidFile toyCodec toyRaw [7, 46] toyOut := toyValid

/-- Toy unpickler: the object is everything before the first `.` (0x2e); no `.` ⇒ it raises. -/
def toyUnpickle : Bytes → Option Bytes
  | [] => none
  | b :: r => if b = 46 then some [] else (toyUnpickle r).map (b :: ·)

example : UnpicklerContract toyUnpickle [7, 46] [7] where
  stops_at_stop := by intro t; simp [toyUnpickle]
  prefix_raises := by
    intro s hs hne
    obtain ⟨r, hr⟩ := hs
    match s, hr with
    | [], _ => rfl
    | [a], hr => simp at hr; rw [hr.1]; rfl
    | [a, b], hr => simp at hr; exact absurd (by rw [hr.1, hr.2.1]) hne
    | a :: b :: c :: s', hr => simp at hr

/-- The concrete trailing-bytes witness: toy file + one extra byte. Unchanged code: still running after 50
loop bodies (and after any number, by `old_read_diverges`); repaired code: the payload. -/
example : (match read (rawSourceOld toyCodec) 50 (-1) (openRaw (toyRaw ++ [88])) with
    | .error .outOfFuel => true | _ => false) = true := by decide +kernel
example : ∀ fuel, read (rawSourceOld toyCodec) fuel (-1) (openRaw (toyRaw ++ [88])) = .error .outOfFuel :=
  old_read_diverges toyValid [88] (by decide) (by decide)
example : (match read (rawSource toyCodec) 50 (-1) (openRaw (toyRaw ++ [88])) with
    | .ok (_, d) => d | _ => []) = [7, 46] := by decide +kernel
/-- A truncation: 3 of the 5 bytes deliver the strict prefix `[7]`; the toy unpickler raises on it. -/
example : (match read (rawSource toyCodec) 50 (-1) (openRaw (toyRaw.take 3)) with
    | .ok (_, d) => toyUnpickle d | _ => some []) = none := by decide +kernel

/-- Non-vacuity of the legacy theorems: a toy `zlib.decompress` (the stream `[120, b, 0]` decodes to `[b]`), the
length field `0x1` padded to 19 bytes, both header widths; `int(·, 16)` on cut fields. -/
def toyD : Bytes → Option Bytes
  | 120 :: b :: 0 :: _ => some [b]
  | _ => none
def toyField : Bytes := [48, 120, 49] ++ List.replicate 16 32

example : JoblibModel.ZFileLegacy.ZValid toyD [120, 46, 0] [46] where
  whole := by intro t; rfl
  prefix_raises := by decide +kernel
  nonempty := by decide +kernel
  not_space := by decide +kernel
example : toyField.length = JoblibModel.ZFileLegacy.MAX_LEN := by decide +kernel
example : JoblibModel.ZFileLegacy.pyIntHex toyField = some 1 := by decide +kernel
example : JoblibModel.ZFileLegacy.pyIntHex [48, 120] = none := by decide +kernel              -- int(b"0x", 16)
example : JoblibModel.ZFileLegacy.pyIntHex [48] = some 0 := by decide +kernel                 -- int(b"0", 16)
example : (match JoblibModel.ZFileLegacy.readZfile toyD
    (JoblibModel.ZFileLegacy.legacyFile toyField true [120, 46, 0] ++ [7, 7]) with
    | .ok d => d | _ => []) = [46] := by decide +kernel
example : (match JoblibModel.ZFileLegacy.readZfile toyD
    ((JoblibModel.ZFileLegacy.legacyFile toyField false [120, 46, 0]).take 23) with
    | .error .zlibError => true | _ => false) = true := by decide +kernel
example : (match JoblibModel.ZFileLegacy.readZfile toyD
    ((JoblibModel.ZFileLegacy.legacyFile toyField false [120, 46, 0]).take 4) with
    | .error .valueError => true | _ => false) = true := by decide +kernel

end C14
