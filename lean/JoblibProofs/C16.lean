import JoblibProofs.Lemmas.ParallelCalls
import JoblibProofs.Lemmas.ParallelSeq
/-!
# C16 — Generator outputs: prompt, in the promised order, safe to abandon

Statement (properties.jsonl): with `return_as='generator'` each result becomes available as soon as it and all
earlier-submitted tasks have completed, without waiting for later tasks; with `'generator_unordered'` results are
delivered in completion order, each exactly once. Closing or dropping the generator before exhaustion stops further
dispatch, terminates cleanly and leaves the `Parallel` object reusable, while calling the object again during an
unfinished run raises `RuntimeError` instead of mixing the two runs.

Model: `JoblibModel.ParallelProto` (M1): `genNext` is `next(g)`, `hook c false` a pause of the consumer (completions
may arrive), `genClose` is `g.close()` / dropping the last reference, `exitBlock` is `Parallel.__exit__` (leaving the `with` block
while the generator is alive, consumer op 6).

Quantifier reached: ALL schedules, ALL points at which the consumer pulls / pauses / closes (any interleaving of
`genNext`, `hook c false`, `genClose` from any state satisfying the generator invariant `GenGood`, which `callStart`
establishes and every one of these operations preserves), all configurations as in C01. Ordered mode
(`return_as='generator'`) in full; for `'generator_unordered'`: every value exactly once
(`unordered_each_exactly_once`, multiset tracking through the whole run) plus the two local FIFO facts about the
completed-jobs queue (`unordered_completion_order_partial`).

The predicates of the statements are defined with their lemmas, in `Lemmas/ParallelProto/`: `Inv`, `Legit` (Inv.lean),
`Idle` (CallStart.lean), `Clean` (Retrieve.lean), `GoodR` (Loop.lean), `GenGood`, `GenGoodU`, `restG`, `restGU` (Call.lean);
`SInv`, `SKeep`, `SStarted` in `Lemmas/ParallelSeq.lean`.
-/
namespace C16
open JoblibModel.ParallelProto

/-- PROMPTNESS. Ordered generator mode: if the generator's buffer is empty, the call is not aborting and the head
of the job queue has completed, then `next()` returns the first result of that batch WITHOUT consuming any
schedule entry: no hook point is passed, no clock tick, no further completion is waited for — whatever the state
of the later batches. (Also when it is the last batch: the value then comes from the tail loop.) -/
theorem promptness {c : Cfg} {t0 : Nat} (hra : c.ra ≠ 2) (fuel : Nat) {s : St} {g : Gen} {i : Nat} {rest : List Nat}
    (h : Inv c t0 s) (hph : g.phase = .start ∨ g.phase = .retrieve) (hb : g.buf = []) (hna : s.aborting = false)
    (hj : s.jobs = i :: rest) (hd : (getTrk s i).status = .done) :
    ∃ s' g' v r, genNext c (fuel + 2) s g = (s', g', .value v) ∧ (getTrk s i).items = v :: r ∧
      s'.sched = s.sched ∧ s'.now = s.now ∧ s'.parked = s.parked ∧ s'.hung = s.hung := by
  obtain ⟨s', g', v, r, h1, h2, _, h4, h5, h6, h7⟩ :=
    promptness_step (by simp [ordered, hra]) fuel h hph hb hna hj hd
  exact ⟨s', g', v, r, h1, h2, h4, h5, h6, h7⟩

/-- ORDERED YIELDS IN ORDER (1/3). When `callStart` hands over (call accepted, not aborting), what the generator
is going to yield is exactly the sequential result list, and the generator invariant holds. -/
theorem ordered_yields_in_order_init {c : Cfg} (hnj : 2 ≤ c.nj) (hbs : ∀ b ∈ c.bs, 1 ≤ b) (hra : c.ra ≠ 2)
    (hpd : c.pdMode = 1 ∨ 1 ≤ c.pd) {fuel base : Nat} {spec : CallSpec} {s₀ : St} (hi : Idle s₀)
    (hh : s₀.hung = false) (hfuel : 2 * spec.n + s₀.sched.length + s₀.parked.length + 2 ≤ fuel) :
    ∃ s1, callStart c fuel base spec s₀ = (s1, none) ∧ GenGood c s₀.trk.length fuel s1 {} ∧
      (s1.aborting = false → restG s1 {} = List.range' base spec.n) := by
  have ho : ordered c = true := by simp [ordered, hra]
  obtain ⟨s1, he, _, hg, hn, hr, _⟩ := callStart_genOK (cfgOK_of hnj hbs) (base := base) (spec := spec) hi hh hpd hfuel
  exact ⟨s1, he, (GenGood_iff ho).mpr ⟨hg, hn⟩, by rw [← restOut_ordered ho]; exact hr⟩

/-- ORDERED YIELDS IN ORDER (2/3). Every `next()` on a well-formed generator either yields the HEAD of what remains
to be yielded (and the rest remains), or stops when nothing remains, or raises a legitimate exception; it never
hangs; the generator stays well formed. Hence the values come out in submission order, each once. -/
theorem ordered_yields_in_order {c : Cfg} (hnj : 2 ≤ c.nj) (hbs : ∀ b ∈ c.bs, 1 ≤ b) (hra : c.ra ≠ 2)
    {t0 fuel : Nat} {s : St} {g : Gen} (hg : GenGood c t0 fuel s g) :
    match genNext c fuel s g with
    | (s', g', .value v) => GenGood c t0 fuel s' g' ∧
        ((g'.phase = .tail ∨ s'.aborting = false) → restG s g = v :: restG s' g')
    | (s', _, .stop) => restG s g = [] ∧ Idle s' ∧ Clean s'
    | (s', _, .raise e) => Legit c s e ∧ Idle s' ∧ Clean s'
    | (_, _, .hang) => False := by
  have ho : ordered c = true := by simp [ordered, hra]
  obtain ⟨hok, hf⟩ := (GenGood_iff ho).mp hg
  have h := genNext_next (cfgOK_of hnj hbs) hok hf
  generalize genNext c fuel s g = r at h
  obtain ⟨s', g', o⟩ := r
  simp only [← restOut_ordered ho]
  cases o with
  | value v => exact ⟨(GenGood_iff ho).mpr ⟨h.ok, Nat.le_trans h.need_le hf⟩, fun hl => (h.out hl).2.eq ho⟩
  | stop => exact ⟨h.out.eq_nil, h.idle, h.clean⟩
  | raise e => exact ⟨h.legit, h.idle, h.clean⟩
  | hang => exact h

/-- ORDERED YIELDS IN ORDER (3/3). A pause of the consumer — a hook point at which any completions may be
delivered — keeps the generator well formed and does not change what it is going to yield. -/
theorem pause_keeps_order {c : Cfg} (hnj : 2 ≤ c.nj) (hbs : ∀ b ∈ c.bs, 1 ≤ b) (hra : c.ra ≠ 2)
    {t0 fuel : Nat} {s : St} {g : Gen} (hg : GenGood c t0 fuel s g) :
    GenGood c t0 fuel (hook c false s) g ∧
    ((g.phase = .tail ∨ (hook c false s).aborting = false) → restG (hook c false s) g = restG s g) := by
  have ho : ordered c = true := by simp [ordered, hra]
  obtain ⟨hok, hf⟩ := (GenGood_iff ho).mp hg
  obtain ⟨h1, h2, h3⟩ := pause_next (cfgOK_of hnj hbs) hok
  exact ⟨(GenGood_iff ho).mpr ⟨h1, Nat.le_trans h2 hf⟩, by simp only [← restOut_ordered ho]; exact h3⟩

/-- UNORDERED: EACH EXACTLY ONCE. `return_as='generator_unordered'`: every `next()` on a well-formed generator
either yields a value that is one of the values still to come — and what remains is what remained before minus that
value, as a multiset — or stops when nothing remains, or raises a legitimate exception; it never hangs. So over a
whole run every result is delivered exactly once (and at the start what is to come is `List.range' base n`:
`return_correct_unordered` in C01). Pauses of the consumer do not change what is to come. -/
theorem unordered_each_exactly_once {c : Cfg} (hnj : 2 ≤ c.nj) (hbs : ∀ b ∈ c.bs, 1 ≤ b) (hra : c.ra = 2)
    {t0 fuel : Nat} {s : St} {g : Gen} (hg : GenGoodU c t0 fuel s g) :
    (match genNext c fuel s g with
    | (s', g', .value v) => GenGoodU c t0 fuel s' g' ∧
        ((g'.phase = .tail ∨ s'.aborting = false) → (restGU s g).Perm (v :: restGU s' g'))
    | (s', _, .stop) => restGU s g = [] ∧ Idle s' ∧ Clean s'
    | (s', _, .raise e) => Legit c s e ∧ Idle s' ∧ Clean s'
    | (_, _, .hang) => False) ∧
    (GenGoodU c t0 fuel (hook c false s) g ∧
      ((g.phase = .tail ∨ (hook c false s).aborting = false) → restGU (hook c false s) g = restGU s g)) := by
  have hc := cfgOK_of hnj hbs
  have ho : ordered c = false := by simp [ordered, hra]
  obtain ⟨hok, hf⟩ := (GenGoodU_iff ho).mp hg
  obtain ⟨p1, p2, p3⟩ := pause_next hc hok
  refine ⟨?_, (GenGoodU_iff ho).mpr ⟨p1, Nat.le_trans p2 hf⟩, by simp only [← restOut_unordered ho]; exact p3⟩
  have h := genNext_next hc hok hf
  generalize genNext c fuel s g = r at h
  obtain ⟨s', g', o⟩ := r
  simp only [← restOut_unordered ho]
  cases o with
  | value v => exact ⟨(GenGoodU_iff ho).mpr ⟨h.ok, Nat.le_trans h.need_le hf⟩, fun hl => (h.out hl).2.perm⟩
  | stop => exact ⟨h.out.eq_nil, h.idle, h.clean⟩
  | raise e => exact ⟨h.legit, h.idle, h.clean⟩
  | hang => exact h

/-
Full statement for the ORDER in `return_as='generator_unordered'` (not proved as a statement about whole runs):
  unordered_completion_order: the sequence of batches yielded by successive `next()` is the sequence in which
  `registerOutcome` appended them to `_jobs`.
What is proved: `unordered_each_exactly_once` (whole runs, as multisets) and the two local FIFO facts below
(append at the end on registration, pop at the head on retrieval; `_jobs` is duplicate-free by `InvU`). What is
missing is only the bookkeeping of the two sequences along a run (a ghost history the model does not carry).
-/

/-- UNORDERED COMPLETION ORDER (partial). (1) In unordered mode a completion callback appends its tracker at the
END of `_jobs`, and only the first time (a tracker whose outcome is already registered is not appended again).
(2) The retrieval loop takes the HEAD of `_jobs`: with an empty buffer, not aborting, still waiting, the head batch
being in `_jobs_set` and carrying its values, `next()` yields that batch's first value and removes the batch from
both `_jobs` and `_jobs_set`. -/
theorem unordered_completion_order_partial {c : Cfg} (hra : c.ra = 2) :
    (∀ (s : St) (i : Nat) (st : Status) (r : Res), (getTrk s i).status = .pending →
      (registerOutcome c s i st r).jobs = s.jobs ++ [i]) ∧
    (∀ (s : St) (i : Nat) (st : Status) (r : Res), (getTrk s i).status ≠ .pending →
      (registerOutcome c s i st r).jobs = s.jobs) ∧
    (∀ (fuel : Nat) (s : St) (g : Gen) (i : Nat) (rest : List Nat) (v : Nat) (l : List Nat),
      g.phase = .retrieve → g.buf = [] → s.aborting = false →
      (s.iterating = true ∨ s.nCompleted < s.nDispTasks) → s.jobs = i :: rest → i ∈ s.jobsSet →
      (getTrk s i).status = .done → (getTrk s i).result = .vals (v :: l) →
      ∃ s' g', genNext c (fuel + 2) s g = (s', g', .value v) ∧ g'.buf = l ∧ s'.jobs = rest ∧
        s'.jobsSet = removeFirst i s.jobsSet ∧ s'.sched = s.sched) := by
  have ho : ordered c = false := by simp [ordered, hra]
  refine ⟨?_, ?_, ?_⟩
  · intro s i st r hp
    unfold registerOutcome
    simp only [hp, ho]
    cases st <;> simp [setTrk]
  · intro s i st r hp
    rw [registerOutcome_nonpending hp]
  · intro fuel s g i rest v l hph hb hna hw hj hmem hd hres
    have hgn : genNext c (fuel + 2) s g = retrieveLoop c (fuel + 2) s g := by unfold genNext; rw [hph]
    rw [hgn, retrieveLoop_wait c (fuel + 1) hb hna hw, if_neg (by simp [ho])]
    simp only [waitUnordered, hj]
    -- the state `s0` after clearing the control job's timeout counter: the head batch and `_jobs_set` are untouched
    have key : ∀ s0 : St, (getTrk s0 i).status = (getTrk s i).status → (getTrk s0 i).result = (getTrk s i).result →
        s0.jobsSet = s.jobsSet → s0.sched = s.sched →
        ∃ s' g', popUnordered c (fuel + 1) s0 g i rest = (s', g', .value v) ∧
          g'.buf = l ∧ s'.jobs = rest ∧ s'.jobsSet = removeFirst i s.jobsSet ∧ s'.sched = s.sched := by
      intro s0 hst hrs hjs hsch
      rw [popUnordered, if_neg (by rw [hjs]; simp [hmem])]
      have hgi : getTrk { s0 with jobs := rest, jobsSet := removeFirst i s0.jobsSet } i = getTrk s0 i := rfl
      rw [getResult_vals (s := { s0 with jobs := rest, jobsSet := removeFirst i s0.jobsSet }) (l := v :: l)
        (by rw [hgi, hrs]; exact hres) (by rw [hgi, hst, hd]; simp)]
      simp only
      rw [retrieveLoop_yield c fuel _ (g := { g with tcj := none, buf := v :: l }) rfl]
      exact ⟨_, _, rfl, rfl, rfl, by show removeFirst i s0.jobsSet = _; rw [hjs], hsch⟩
    cases g.tcj with
    | none => exact key s rfl rfl rfl rfl
    | some j =>
      exact key (setTrk s j { getTrk s j with toCounter := none })
        (getTrk_set_proj (·.status) (s := s) (i := j) (t := { getTrk s j with toCounter := none }) rfl rfl i)
        (getTrk_set_proj (·.result) (s := s) (i := j) (t := { getTrk s j with toCounter := none }) rfl rfl i) rfl rfl

/-- OVERLAP RAISES. Calling the object while a run is unfinished (`_running`) raises `RuntimeError` and changes
nothing at all. -/
theorem overlap_raises (c : Cfg) (fuel base : Nat) (spec : CallSpec) (s : St) (h : s.running = true) :
    callStart c fuel base spec s = (s, some .runtime) :=
  callStart_running c fuel base spec s h

/-- CLOSE STOPS DISPATCH. After `close()` (or dropping the generator) during the run the call is aborting;
from then on — until the next call resets the flag — every `dispatch_one_batch` from any thread returns without
slicing the input or submitting a batch, and every completion delivered by the backend leaves the input position,
the tracker table and the queues unchanged. -/
theorem close_stops_dispatch (c : Cfg) (s : St) (g : Gen) (hph : g.phase = .start ∨ g.phase = .retrieve) :
    (genClose c s g).1.aborting = true ∧
    (∀ s' : St, s'.aborting = true →
      (∀ fo bs, dispatchLocked c fo bs s' = (s', false)) ∧ dispatchOneCb c s' = (s', false) ∧
      dispatchOneMain c s' = (s', false) ∧ (∀ b, dispatch c s' b = s') ∧
      (∀ k, ∃ lg pk ib, deliver c k s' = { s' with log := lg, parked := pk, inCb := ib })) := by
  constructor
  · rw [genClose_active c s hph]
    obtain ⟨lg, pk, sc, ib, he, _, _⟩ := handleException_eq c s
    show (handleException c s).aborting = true
    rw [he]
  · exact fun s' hab => aborting_stops_dispatch c hab

/-- CLOSE LEAVES CLEAN. Closing the generator of a run in progress leaves the object clean (`_running = False`,
no job queue, `_calling = False`) and idle — so the next call is accepted and, by C04 `next_call_is_fresh` /
C01 `return_correct`, returns exactly the results of its own tasks. -/
theorem close_leaves_clean {c : Cfg} {t0 : Nat} {s : St} {g : Gen} (h : GoodR c t0 s)
    (hph : g.phase = .start ∨ g.phase = .retrieve) :
    Clean (genClose c s g).1 ∧ Idle (genClose c s g).1 ∧ (genClose c s g).1.hung = false ∧
      (genClose c s g).2.phase = .done := by
  rw [genClose_active c s hph]
  have hov := raise_end (c := c) (s3 := s) h (fun _ => rfl) rfl rfl rfl rfl rfl
  exact ⟨hov.clean, hov.idle, hov.hung, rfl⟩

/-- LEAVING THE `with` BLOCK while the generator is alive (`Parallel.__exit__`, consumer op 6). `__exit__` changes
`managed`, `_calling`, the abort flags and the backend's bookkeeping only — in particular `_running` stays set (it
is cleared by the generator's own `finally`), the job queues, the tracker table and the input position are
untouched — and, in a generator mode with the call still in progress, the object is aborting afterwards. -/
theorem exit_block_effect (c : Cfg) (s : St) :
    ∃ lg pk sc ib ab abd,
      exitBlock c s = { s with log := lg, parked := pk, sched := sc, inCb := ib, managed := false, calling := false, aborting := ab, aborted := abd } ∧
      pk.Sublist s.parked ∧ sc.length ≤ s.sched.length ∧ (s.aborting = true → ab = true) ∧
      (c.ra ≠ 0 → s.calling = true → ab = true) := by
  obtain ⟨lg, pk, sc, ib, ab, abd, h1, h2, h3, h4, h5⟩ := exitBlock_eq c s
  exact ⟨lg, pk, sc, ib, ab, abd, h1, h2, h3, h4, fun hra hc => h5 (by simp [isGen, hra]) hc⟩

/-- CALL AGAIN AFTER LEAVING THE BLOCK. As long as the abandoned generator has not run its clean-up, calling the
object again after `__exit__` raises `RuntimeError` and changes nothing: the two runs are never mixed. -/
theorem call_again_after_exit_raises (c : Cfg) (fuel base : Nat) (spec : CallSpec) (s : St)
    (h : s.running = true) :
    callStart c fuel base spec (exitBlock c s) = (exitBlock c s, some .runtime) := by
  apply callStart_running
  obtain ⟨lg, pk, sc, ib, ab, abd, h1, _⟩ := exitBlock_eq c s
  rw [h1]; exact h

/-- LEAVING THE BLOCK STOPS DISPATCH. After `__exit__` in a generator mode with the call in progress the object is
aborting; from then on every `dispatch_one_batch` from any thread returns without slicing the input or submitting a
batch, and every completion delivered by the backend leaves the `Parallel` object unchanged. -/
theorem exit_stops_dispatch (c : Cfg) (s : St) (hra : c.ra ≠ 0) (hcalling : s.calling = true) :
    (exitBlock c s).aborting = true ∧
    (∀ fo bs, dispatchLocked c fo bs (exitBlock c s) = (exitBlock c s, false)) ∧
    dispatchOneCb c (exitBlock c s) = (exitBlock c s, false) ∧
    dispatchOneMain c (exitBlock c s) = (exitBlock c s, false) ∧
    (∀ k, ∃ lg pk ib, deliver c k (exitBlock c s) = { exitBlock c s with log := lg, parked := pk, inCb := ib }) := by
  have hab : (exitBlock c s).aborting = true := by
    obtain ⟨lg, pk, sc, ib, ab, abd, h1, _, _, _, h5⟩ := exitBlock_eq c s
    rw [h1]; exact h5 (by simp [isGen, hra]) hcalling
  obtain ⟨h1, h2, h3, _, h5⟩ := aborting_stops_dispatch c hab
  exact ⟨hab, h1, h2, h3, h5⟩

/-! ### the hypotheses are satisfiable -/

/-- A generator-mode run (`n_jobs=2`, `batch_size=1`, `pre_dispatch=2`): the first `next()` waits for batch 0 and
yields 0 although batch 1 completed first in the schedule. -/
example : (genNext (⟨2, false, [1], 0, 2, 1, -1, false, true⟩ : Cfg) 50
      (callStart (⟨2, false, [1], 0, 2, 1, -1, false, true⟩ : Cfg) 50 0 ⟨4, [], -1, []⟩
        ({ sched := [[1], [0]], failIds := [] } : St)).1 {}).2.2 = .value 0 := by decide +kernel


/-! ### the sequential path (`n_jobs == 1`) -/

section Sequential
open JoblibModel.ParallelSeq

/-- SEQUENTIAL PROMPTNESS. Every `next()` on a live sequential generator returns without consuming any schedule
entry (no hook point, no waiting: the task runs in the caller): it yields the next value, or raises, or — only when
all `n` tasks have been executed — stops; it never hangs. -/
theorem sequential_promptness (fuel : Nat) {s : St} {g : SGen} (h : SInv s g) :
    (seqNext (fuel + 2) s g).1.sched = s.sched ∧ (seqNext (fuel + 2) s g).1.now = s.now ∧
    (seqNext (fuel + 2) s g).2.2 ≠ .hang ∧
    ((seqNext (fuel + 2) s g).2.2 = .stop → s.nCompleted = s.spec.n) := by
  have := seqNext_spec fuel h
  generalize seqNext (fuel + 2) s g = r at this
  obtain ⟨s', g', o⟩ := r
  cases o with
  | stop =>
    exact ⟨this.1.keep.sched, this.1.keep.now, Out.noConfusion,
      fun _ => by rw [← this.1.count, ← this.1.keep.spec]; exact this.2.all⟩
  | hang => exact this.elim
  | value v => exact ⟨this.keep.sched, this.keep.now, Out.noConfusion, Out.noConfusion⟩
  | raise e => exact ⟨this.1.keep.sched, this.1.keep.now, Out.noConfusion, Out.noConfusion⟩

/-- SEQUENTIAL OVERLAP RAISES. Calling the object while a (sequential) run is unfinished raises `RuntimeError` and
changes nothing. -/
theorem sequential_overlap_raises (c : Cfg) (base : Nat) (spec : CallSpec) (s : St) (h : s.running = true) :
    seqStart c base spec s = (s, { live := false }, some .runtime) :=
  seqStart_running c base spec s h

/-- SEQUENTIAL CLOSE LEAVES CLEAN. Closing (or dropping) the live sequential generator clears `_running`, marks the
generator finished (further `next()` stop), and — in the context of the call it belongs to — leaves the object idle,
so the next call is accepted. -/
theorem sequential_close_leaves_clean {base : Nat} {spec : CallSpec} {s₀ s1 s : St} {g : SGen} (hi : Idle s₀)
    (hS : SStarted base spec s₀ s1) (hk : SKeep s1 s) (hl : g.live = true) :
    (seqClose s g).1.running = false ∧ (seqClose s g).2.live = false ∧ Idle (seqClose s g).1 ∧
    (seqClose s g).1.sched = s.sched := by
  rw [seqClose_live s hl]
  exact ⟨rfl, rfl, idle_after hi hS (hk.trans { SKeep.refl s with }) rfl, rfl⟩

end Sequential

end C16
