import JoblibProofs.Lemmas.StoreLimitsOps
/-!
# C18 — reduce_size enforces every limit by evicting the minimal LRU prefix

Statement (properties.jsonl): after `Memory.reduce_size(bytes_limit, items_limit, age_limit)`
returns with no concurrent writer, the cache satisfies every limit given; entries are evicted
strictly from least to most recently accessed and none is evicted that did not have to be —
the evicted set is the shortest least-recently-used prefix meeting all limits.

Quantifier reached here: inventories of ANY length, arbitrary sizes (including 0) and access
times (including ties), every combination of the three limits (each absent or any integer).

Model: `JoblibModel.Lru` (`_get_items_to_delete`) and `JoblibModel.StoreLimits` (the store as a directory tree,
`get_items`, `memstr_to_bytes`, `enforce_store_limits` with its per-item `try/except OSError`, `clear_location` under
a fault pattern, `Memory.reduce_size`). The deadline `now - age_limit` is an input.

Second half of the file (store level): trees of ANY shape and size, every stat result (value or `OSError`), EVERY
fault pattern `raises : Path → Bool`, `bytes_limit` as int or as any string. The end-to-end theorems
(`reduce_size_limits_hold`, `reduce_size_evicts_minimal_lru_prefix`) carry the hypothesis `Separated`: no hash
directory nested in another one. Without it the statement is FALSE of the code — `nested_hash_dir_counterexample`
(a cached function whose name starts with 32 hex digits: its function directory is inventoried as an entry, and
evicting it evicts every entry of the function); hence the `…_partial` reading: full statement

    ∀ tree, after `reduceSize` the entries left are the survivors of the minimal LRU prefix

is proved for `Separated` trees only.

Of the statements, `Sat`, `survivors` are defined in `JoblibModel.Lru`; `Separated`, `NoNesting`, `StatOk`, `hashPaths` in
`JoblibModel.StoreLimits`; `clearAll` in `Lemmas/StoreLimits.lean`; `WF`, `RootNotItem`, `inventoryAfter`, `callsOf` here.
-/
namespace C18
open JoblibModel.Lru
open JoblibModel.StoreLimits

variable {α : Type}

/-- Limits a caller can meaningfully ask for: non-negative byte and item limits.
(With a negative limit nothing can satisfy it; the code then evicts everything — see
`negative_limit_evicts_all_partial`.) -/
def WF (l : Limits) : Prop :=
  (∀ b, l.bytes = some b → 0 ≤ b) ∧ (∀ n, l.items = some n → 0 ≤ n)

/-- Eviction order is an LRU order: a stable rearrangement of the inventory, non-decreasing in
last access. -/
theorem lru_order (items : List (Item α)) :
    (sortByAccess items).Perm items ∧
    (sortByAccess items).Pairwise (fun a b => a.access ≤ b.access) :=
  ⟨sortByAccess_perm items, sortByAccess_sorted items⟩

/-- The evicted entries are a prefix of the LRU order ("strictly from least to most recently
accessed"). -/
theorem deleted_is_prefix (items : List (Item α)) (l : Limits) :
    itemsToDelete items l <+: sortByAccess items :=
  itemsToDelete_prefix items l

/-- After the eviction every limit given holds on what is left. -/
theorem limits_hold_after (items : List (Item α)) (l : Limits) (hwf : WF l) :
    Sat (survivors items l) l := by
  by_cases h : survivors items l = []
  · rw [h]; exact sat_nil l hwf.1 hwf.2
  · exact (itemsToDelete_spec items l).2.1 h

/-- No shorter LRU prefix would do: stopping the eviction after any `k` entries fewer than were
evicted leaves some limit violated. Together with `deleted_is_prefix` and `limits_hold_after`
this is "the shortest least-recently-used prefix meeting all limits". -/
theorem minimal (items : List (Item α)) (l : Limits) (k : Nat)
    (hk : k < (itemsToDelete items l).length) :
    ¬ Sat ((sortByAccess items).drop k) l :=
  (itemsToDelete_spec items l).2.2 k hk

/-- No limit given ⇒ nothing evicted. -/
theorem none_means_no_limit (items : List (Item α)) :
    itemsToDelete items ⟨none, none, none⟩ = [] :=
  itemsToDelete_no_limits items

/-- Limits already satisfied ⇒ nothing evicted (no entry "evicted that did not have to be"). -/
theorem satisfied_evicts_nothing (items : List (Item α)) (l : Limits)
    (h : Sat (sortByAccess items) l) : itemsToDelete items l = [] :=
  itemsToDelete_of_sat items l h

/-- A negative byte or item limit cannot be met; the code evicts everything. -/
theorem negative_limit_evicts_all_partial (items : List (Item α)) (l : Limits)
    (hneg : (∃ b, l.bytes = some b ∧ b < 0) ∨ (∃ n, l.items = some n ∧ n < 0)) :
    survivors items l = [] := by
  by_cases h : survivors items l = []
  · exact h
  · -- survivors, if any, would satisfy the limits
    obtain ⟨hbytes, hitems, _⟩ := (itemsToDelete_spec items l).2.1 h
    rcases hneg with ⟨b, hb, hb0⟩ | ⟨n, hn, hn0⟩
    · have := hbytes b hb
      have := total_nonneg (survivors items l)
      omega
    · have := hitems n hn
      omega

/-- A hash directory is skipped exactly when it cannot be read: neither `output.pkl` nor the directory gives an
access time, or some file's size cannot be read. Everything else is an item. -/
theorem get_items_skips_unreadable (t : Dir) :
    (getItems t).map (·.id) =
      ((osWalk t).filter (fun e =>
        isHashName e.name && (lastAccess e).isSome && (dirSize e.files).isSome)).map (·.path) :=
  getItems_ids t

/-- `get_items`, when every stat succeeds, lists exactly the hash-named directories of the tree, each walked
directory once, in walk order — identified by their PATHS, whatever their basenames: entries of two functions
that have the same argument hash (same basename) are two items. -/
theorem get_items_one_per_entry (t : Dir) (hok : StatOk t) :
    (getItems t).map (·.id) = hashPaths t := by
  rw [get_items_skips_unreadable]
  unfold hashPaths
  congr 1
  apply List.filter_congr
  intro e he
  obtain ⟨h1, h2⟩ := hok e he
  simp [lastAccess_isSome e h1, dirSize_eq, List.all_eq_true.mpr h2]

/-- The size of an item is the sum of the sizes of the files DIRECTLY in its directory (sub-directories do not
count), and its age is that of `output.pkl`, else of the directory. -/
theorem get_items_size_is_sum (t : Dir) (it : Item Path) (hit : it ∈ getItems t) :
    ∃ e ∈ osWalk t, e.path = it.id ∧ isHashName e.name = true ∧
      (∀ f ∈ e.files, f.size.isSome = true) ∧
      it.size = (e.files.map (fun f => f.size.getD 0)).sum ∧
      lastAccess e = some it.access := by
  unfold getItems at hit
  obtain ⟨e, he, hi⟩ := List.mem_filterMap.mp hit
  obtain ⟨h1, h2, h3, h4⟩ := itemOf_some hi
  rw [dirSize_eq] at h3
  split at h3
  · rename_i hall
    exact ⟨e, he, h4.symm, h1, List.all_eq_true.mp hall, (Option.some.inj h3).symm, h2⟩
  · cases h3

/-- Whatever `clear_location` calls raise `OSError`, the loop of `enforce_store_limits` calls it for EVERY selected
item, in the order selected (the LRU order), and the tree it leaves does not depend on which calls raised. -/
theorem enforce_attempts_every_selected (raises : Path → Bool) (bytes : Option BytesArg) (b items deadline : Option Int)
    (t t' : Dir) (calls : List Path) (hb : resolveBytes bytes = .ok b)
    (h : enforceStoreLimits bytes items deadline raises t = .returned t' calls) :
    calls = (itemsToDelete (getItems t) ⟨b, items, deadline⟩).map (·.id) ∧
    (itemsToDelete (getItems t) ⟨b, items, deadline⟩) <+: sortByAccess (getItems t) ∧
    t' = clearAll (itemsToDelete (getItems t) ⟨b, items, deadline⟩) t := by
  rw [enforceStoreLimits_eq hb] at h
  injection h with h1 h2
  exact ⟨h2.symm, itemsToDelete_prefix _ _, h1.symm⟩

/-- The loop itself, for every selection and fault pattern. -/
theorem enforce_loop_calls (raises : Path → Bool) (sel : List (Item Path)) (t : Dir) :
    (enforceLoop raises sel t []).2 = sel.map (·.id) := by
  simp [enforceLoop_eq]

/-- The path condition `Separated` is what a tree "without a hash directory nested in another one" satisfies:
sibling names distinct (any file system), no hash-named directory below a hash-named one, store location not
hash-named. -/
theorem no_nesting_separated (t : Dir) (h : NoNesting t) : Separated t := separated_of_noNesting t h

/-- The inventory left by an outcome (`none` = it raised). -/
def inventoryAfter : Outcome → Option (List (Item Path))
  | .returned t _ => some (getItems t)
  | .raised _ => none

def callsOf : Outcome → Option (List Path)
  | .returned _ c => some c
  | .raised _ => none

/-- The store location itself is not inventoried as an item (its basename does not start with 32 hex digits, or it
is unreadable). Always true for `Memory(location: str)`, whose store is `<location>/joblib`. -/
def RootNotItem (t : Dir) : Prop := ∀ it ∈ getItems t, it.id ≠ []

/-- END TO END. After `Memory.reduce_size(bytes_limit, items_limit, age_limit)` returns, the inventory of the store
satisfies every limit given — for EVERY tree in which the store location itself is not an item (nested hash
directories allowed), every `bytes_limit` (int, or string: then the limit is its `memstr_to_bytes` value), and EVERY
fault pattern of `clear_location` (the stale-handle `OSError` of a vanished entry does not stop the loop). -/
theorem reduce_size_limits_hold (t t' : Dir) (bytes : Option BytesArg) (b items deadline : Option Int)
    (raises : Path → Bool) (calls : List Path) (hb : resolveBytes bytes = .ok b)
    (hwf : WF ⟨b, items, deadline⟩) (hroot : RootNotItem t)
    (h : reduceSize true bytes items deadline raises t = .returned t' calls) :
    Sat (getItems t') ⟨b, items, deadline⟩ := by
  rw [reduceSize_eq hb] at h
  injection h with ht _
  subst ht
  exact sat_getItems_clearAll t _ _ _ ((List.Perm.of_eq (itemsToDelete_append_survivors _ _)).trans (sortByAccess_perm _)) hroot
    (limits_hold_after _ _ hwf)

/-- Without `RootNotItem` even "the limits hold" is FALSE of the code. Witness: `Memory(pathlib.Path(".../<32 hex
digits>"))` (a `Path` location is used as it is, no `joblib` sub-directory): the store location is inventoried as an
item, `clear_location(self.location)` is `rm_subdirs`, which keeps the location and its files — after
`reduce_size(items_limit=0)` the inventory still has one item. -/
def hashRootStore : Dir :=
  .mk "0123456789abcdef0123456789abcdef" (some 500) [⟨".gitignore", some 37, some 0⟩] [
    .mk "mod" (some 900) [] [
      .mk "f" (some 900) [⟨"func_code.py", some 73, some 0⟩] [
        .mk "7b3337d59e2b737bfc2c2faddac9f48c" (some 900) [⟨"output.pkl", some 104, some 200⟩] []]]]

theorem hash_named_root_counterexample :
    callsOf (reduceSize true none (some 0) none (fun _ => false) hashRootStore)
      = some [["mod", "f", "7b3337d59e2b737bfc2c2faddac9f48c"], []] ∧
    inventoryAfter (reduceSize true none (some 0) none (fun _ => false) hashRootStore) = some [⟨[], 37, 500⟩] ∧
    ¬ Sat ([⟨[], 37, 500⟩] : List (Item Path)) ⟨none, some 0, none⟩ := by
  -- the two runs share one walk of the store when the kernel evaluates them together
  exact and_assoc.mp ⟨by decide +kernel, fun h => absurd (h.2.1 0 rfl) (by decide)⟩

/-- END TO END, minimality and order. The `clear_location` calls of `reduce_size` are, in order, the first
`calls.length` entries of the LRU order of the inventory; what is left is the rest of that order; and stopping
any earlier (after `k < calls.length` entries) would have left some limit violated. Same quantifiers as
`reduce_size_limits_hold` (no well-formedness of the limits needed). -/
theorem reduce_size_evicts_minimal_lru_prefix (t t' : Dir) (bytes : Option BytesArg) (b items deadline : Option Int)
    (raises : Path → Bool) (calls : List Path) (hb : resolveBytes bytes = .ok b) (hsep : Separated t)
    (h : reduceSize true bytes items deadline raises t = .returned t' calls) :
    calls = ((sortByAccess (getItems t)).take calls.length).map (·.id) ∧
    (getItems t').Perm ((sortByAccess (getItems t)).drop calls.length) ∧
    ∀ k, k < calls.length → ¬ Sat ((sortByAccess (getItems t)).drop k) ⟨b, items, deadline⟩ := by
  rw [reduceSize_eq hb] at h
  injection h with ht hc
  subst ht hc
  have happ := itemsToDelete_append_survivors (getItems t) ⟨b, items, deadline⟩
  rw [List.length_map]
  refine ⟨?_, getItems_clearAll_perm t _ _ ((List.Perm.of_eq happ).trans (sortByAccess_perm _)) hsep, fun k hk => minimal (getItems t) _ k hk⟩
  rw [← happ, List.take_left' rfl]

/-- Without the hypothesis `Separated` the end-to-end minimality is FALSE of the code. Witness: the cached function
is called `deadbeefdeadbeefdeadbeefdeadbeef`; its function directory (holding `func_code.py`, last listed before
the three entries were last read) matches `[a-f0-9]{32}` and is inventoried as a fourth item; `items_limit=3` — which
the three entries already meet — selects it as the least recently used item, and `rmtree` of the function
directory evicts all three entries. -/
def nestedStore : Dir :=
  .mk "joblib" (some 900) [⟨".gitignore", some 29, some 0⟩] [
    .mk "mod" (some 900) [] [
      .mk "deadbeefdeadbeefdeadbeefdeadbeef" (some 150) [⟨"func_code.py", some 73, some 0⟩] [
        .mk "7b3337d59e2b737bfc2c2faddac9f48c" (some 900)
          [⟨"output.pkl", some 104, some 200⟩, ⟨"metadata.json", some 100, some 0⟩] [],
        .mk "5556f19cc5d04fa9894538e16fcc7603" (some 900)
          [⟨"output.pkl", some 104, some 300⟩, ⟨"metadata.json", some 100, some 0⟩] [],
        .mk "ce2175f47fb032fbcae50bc876000a6f" (some 900)
          [⟨"output.pkl", some 104, some 400⟩, ⟨"metadata.json", some 100, some 0⟩] []]]]

/-! Evaluating `isHashName` on a 32-character literal is the dear part of
walking a concrete store (`String.toList` decodes the literal from its UTF-8 bytes), so each name is judged once, through
`isHashName_ofList`: for the unifier and the kernel a literal IS `String.ofList` of its characters, and nothing is decoded.
The walks below then rewrite with the model's equations and these facts. -/
private theorem hash_short : isHashName "joblib" = false ∧ isHashName "mod" = false ∧ isHashName "f" = false ∧
    isHashName "g" = false ∧ isHashName "sub" = false := by decide +kernel
private theorem hash_dead : isHashName "deadbeefdeadbeefdeadbeefdeadbeef" = true :=
  (isHashName_ofList _).trans (by decide +kernel)
private theorem hash_7b : isHashName "7b3337d59e2b737bfc2c2faddac9f48c" = true :=
  (isHashName_ofList _).trans (by decide +kernel)
private theorem hash_55 : isHashName "5556f19cc5d04fa9894538e16fcc7603" = true :=
  (isHashName_ofList _).trans (by decide +kernel)
private theorem hash_ce : isHashName "ce2175f47fb032fbcae50bc876000a6f" = true :=
  (isHashName_ofList _).trans (by decide +kernel)

private theorem nestedStore_items : getItems nestedStore =
    [⟨["mod", "deadbeefdeadbeefdeadbeefdeadbeef"], 73, 150⟩,
     ⟨["mod", "deadbeefdeadbeefdeadbeefdeadbeef", "7b3337d59e2b737bfc2c2faddac9f48c"], 204, 200⟩,
     ⟨["mod", "deadbeefdeadbeefdeadbeefdeadbeef", "5556f19cc5d04fa9894538e16fcc7603"], 204, 300⟩,
     ⟨["mod", "deadbeefdeadbeefdeadbeefdeadbeef", "ce2175f47fb032fbcae50bc876000a6f"], 204, 400⟩] := by
  simp [getItems, osWalk, nestedStore, walkDir, walkSubs, Dir.name, itemOf, lastAccess, dirSize, hash_dead, hash_7b, hash_55,
    hash_ce, hash_short]

theorem nested_hash_dir_counterexample :
    (getItems nestedStore).length = 4 ∧
    callsOf (reduceSize true none (some 3) none (fun _ => false) nestedStore)
      = some [["mod", "deadbeefdeadbeefdeadbeefdeadbeef"]] ∧
    inventoryAfter (reduceSize true none (some 3) none (fun _ => false) nestedStore) = some [] ∧
    (survivors (getItems nestedStore) ⟨none, some 3, none⟩).length = 3 := by
  rw [reduceSize_eq resolveBytes_none, inventoryAfter,
    getItems_clearAll _ _ (by rw [nestedStore_items]; decide +kernel), nestedStore_items]
  decide +kernel

/-- `memstr_to_bytes` on the modelled grammar, with a point: sign, integer digits `ip`, `.`, fractional digits `fp`
(not both empty), unit `K|M|G` = `2^k` → exactly `trunc(± (ip·10^|fp| + fp) · 2^k / 10^|fp|)`, i.e. the value
`ip.fp × unit` truncated toward zero, in exact integer arithmetic. -/
theorem memstr_exact (sign : List Char) (neg : Bool) (ip fp : List Char) (u : Char) (k : Nat)
    (hsign : (sign = [] ∧ neg = false) ∨ (sign = ['+'] ∧ neg = false) ∨ (sign = ['-'] ∧ neg = true))
    (hip : ∀ c ∈ ip, isDigit c = true) (hfp : ∀ c ∈ fp, isDigit c = true)
    (hne : ¬ (ip = [] ∧ fp = [])) (hu : unitExp u = some k) :
    memstrChars (sign ++ ip ++ '.' :: fp ++ [u]) =
      .ok (scaled neg (natOfDigits 0 ip * 10 ^ fp.length + natOfDigits 0 fp) fp.length k) := by
  have hassoc : sign ++ ip ++ '.' :: fp ++ [u] = sign ++ (ip ++ '.' :: fp) ++ [u] := by simp
  rw [hassoc]
  exact memstrChars_signed sign neg _ u k _ _ hsign (parseUnsigned_point ip fp hip hfp hne) hu

/-- The same without a point: sign, digits (at least one), unit → `± digits · 2^k`. -/
theorem memstr_exact_int (sign : List Char) (neg : Bool) (ip : List Char) (u : Char) (k : Nat)
    (hsign : (sign = [] ∧ neg = false) ∨ (sign = ['+'] ∧ neg = false) ∨ (sign = ['-'] ∧ neg = true))
    (hip : ∀ c ∈ ip, isDigit c = true) (hne : ip ≠ []) (hu : unitExp u = some k) :
    memstrChars (sign ++ ip ++ [u]) = .ok (scaled neg (natOfDigits 0 ip) 0 k) :=
  memstrChars_signed sign neg ip u k _ _ hsign (parseUnsigned_int ip hip hne) hu

/-- `scaled` IS truncation toward zero of `± n · 2^k / 10^f`. -/
theorem scaled_is_trunc (neg : Bool) (n f k : Nat) :
    scaled neg n f k = Int.tdiv ((if neg then -1 else 1) * ((n * 2 ^ k : Nat) : Int)) ((10 ^ f : Nat) : Int) := by
  cases neg
  · simp only [scaled, Bool.false_eq_true, if_false, Int.one_mul]
    rw [← Int.ofNat_tdiv]
  · simp only [scaled, if_true, Int.neg_mul, Int.one_mul, Int.neg_tdiv]
    rw [← Int.ofNat_tdiv]

/-- The arithmetic core of "the float computation gives the exact value" (header of `StoreLimits.lean`): let
`x = p/q` be ANY rational — in the code the double `float(text[:-1])` — whose distance from the mantissa `n/10^f`,
scaled by the unit `2^k`, is below `10^-f` (`|p·10^f − n·q| · 2^k < q`; for the correctly rounded double this follows
from `n · 2^k < 2^53`). If `2^k · n/10^f` is not an integer, `int(2^k · x)` is the model's value. (If it is an
integer below `2^53`, the mantissa is itself a double and `x` is exact.) The IEEE rounding bound is the one step
left to the correspondence. -/
theorem memstr_float_margin (n f k p q : Nat) (hnonint : (n * 2 ^ k) % 10 ^ f ≠ 0)
    (herr1 : p * 2 ^ k * 10 ^ f < n * 2 ^ k * q + q) (herr2 : n * 2 ^ k * q < p * 2 ^ k * 10 ^ f + q) :
    scaled false n f k = ((p * 2 ^ k / q : Nat) : Int) := by
  simp only [scaled, Bool.false_eq_true, if_false]
  rw [trunc_robust (n * 2 ^ k) (10 ^ f) (p * 2 ^ k) q (Nat.pow_pos (by decide)) hnonint herr1 herr2]

/-- Non-vacuity: `'0.1K'`; the double nearest to 0.1 is 3602879701896397 / 2^55; 102.4 truncates to 102 either way. -/
example : scaled false 1 1 10 = ((3602879701896397 * 2 ^ 10 / 2 ^ 55 : Nat) : Int) :=
  memstr_float_margin 1 1 10 3602879701896397 (2 ^ 55) (by decide) (by decide) (by decide)

/-- A string whose last character is not `K`, `M` or `G` is a `ValueError`, whatever precedes it (also characters
outside the modelled alphabet); the empty string is an `IndexError`. -/
theorem memstr_rejects_bad_unit (m : List Char) (u : Char) (hu : u ≠ 'K' ∧ u ≠ 'M' ∧ u ≠ 'G') :
    memstrChars (m ++ [u]) = .valueError ∧ memstrChars [] = .indexError := by
  refine ⟨?_, rfl⟩
  rw [memstrChars_concat]
  simp [unitExp, hu.1, hu.2.1, hu.2.2]

/-- A malformed mantissa over the modelled alphabet is a `ValueError` too (here: the witnesses of the harness's
malformed stream), and `reduce_size` then raises before the store is read. -/
theorem memstr_rejects_malformed :
    memstrToBytes "K" = .valueError ∧ memstrToBytes "1.2.3K" = .valueError ∧ memstrToBytes "--1K" = .valueError ∧
    memstrToBytes ".K" = .valueError ∧ memstrToBytes "+K" = .valueError ∧ memstrToBytes "10" = .valueError ∧
    memstrToBytes "1k" = .valueError ∧ memstrToBytes "" = .indexError ∧ memstrToBytes "1 K" = .outside := by
  decide +kernel

/-- No limit given (all three `None`), or `Memory(location=None)`: nothing is called, the store is unchanged —
whatever the tree, the fault pattern and (without a backend) the arguments. -/
theorem no_limits_no_change (t : Dir) (raises : Path → Bool) (bytes : Option BytesArg) (items deadline : Option Int) :
    reduceSize true none none none raises t = .returned t [] ∧
    reduceSize false bytes items deadline raises t = .returned t [] := by
  constructor <;> simp [reduceSize]

/-- Limits already met by the inventory: no `clear_location` call at all, the tree is returned as it was. -/
theorem satisfied_store_untouched (t : Dir) (bytes : Option BytesArg) (b items deadline : Option Int)
    (raises : Path → Bool) (hb : resolveBytes bytes = .ok b)
    (hsat : Sat (sortByAccess (getItems t)) ⟨b, items, deadline⟩) :
    reduceSize true bytes items deadline raises t = .returned t [] := by
  rw [reduceSize_eq hb, satisfied_evicts_nothing (getItems t) _ hsat]
  rfl

/-! ## What an observer sees of the deletion loop: interruption after `k` removals; histories on one `Memory` object

"Entries are evicted strictly from least to most recently accessed" is a statement about the ORDER of the removals,
which a completed `reduce_size` does not show (the selected set alone fixes the final state) but an interruption
does: Ctrl-C (`KeyboardInterrupt`), `MemoryError`, an exception of a custom backend's `clear_location` that is no
`OSError`, a crash. `reduceSizeInt … (some k)` is `reduce_size` whose `clear_location` call number `k` raises such
an exception. -/

/-- INTERRUPTION. Whenever the deletion loop is left by an exception at call number `k` — for EVERY `k`, every tree
without nested hash directories, every limits, every `OSError` fault pattern of the calls before — exactly the `k`
least recently used entries are gone: the inventory left is the LRU order without its first `k` entries, and the
calls started are the first `k + 1` entries of that order. What has been removed so far is always a prefix of the LRU
order (and, by `deleted_is_prefix` / `minimal`, a prefix of the minimal one: `k` is below the selection's length). -/
theorem interrupted_eviction_is_lru_prefix (t t' : Dir) (bytes : Option BytesArg) (b items deadline : Option Int)
    (raises : Path → Bool) (k : Nat) (calls : List Path) (hb : resolveBytes bytes = .ok b) (hsep : Separated t)
    (h : reduceSizeInt true bytes items deadline raises (some k) t = .interrupted t' calls) :
    k < (itemsToDelete (getItems t) ⟨b, items, deadline⟩).length ∧
    calls = ((sortByAccess (getItems t)).take (k + 1)).map (·.id) ∧
    (getItems t').Perm ((sortByAccess (getItems t)).drop k) := by
  rw [reduceSizeInt_some_eq hb] at h
  split at h
  · rename_i hk
    injection h with ht hc
    subst ht hc
    have happ := itemsToDelete_append_survivors (getItems t) ⟨b, items, deadline⟩
    refine ⟨hk, ?_, getItems_clearAll_perm t _ _ ?_ hsep⟩
    · rw [← happ, List.take_append_of_le_length hk]
    · rw [← happ, List.drop_append_of_le_length (Nat.le_of_lt hk), ← List.append_assoc, List.take_append_drop, happ]
      exact sortByAccess_perm _
  · cases h

/-- Every `k` below the number of selected entries IS an interruption point (the theorem above is not vacuous), and
an interruption scheduled later never happens: the call completes exactly as `reduce_size` does. -/
theorem interruption_points (t : Dir) (bytes : Option BytesArg) (b items deadline : Option Int)
    (raises : Path → Bool) (k : Nat) (hb : resolveBytes bytes = .ok b)
    (hlim : (bytes.isNone && items.isNone && deadline.isNone) = false) :
    (k < (itemsToDelete (getItems t) ⟨b, items, deadline⟩).length →
      ∃ t' calls, reduceSizeInt true bytes items deadline raises (some k) t = .interrupted t' calls) ∧
    ((itemsToDelete (getItems t) ⟨b, items, deadline⟩).length ≤ k →
      reduceSizeInt true bytes items deadline raises (some k) t
        = .ofOutcome (reduceSize true bytes items deadline raises t)) := by
  rw [reduceSizeInt_some_eq hb, reduceSize_eq hb]
  exact ⟨fun hk => ⟨_, _, if_pos hk⟩, fun hk => if_neg (Nat.not_lt.mpr hk)⟩

/-- HISTORIES. `reduce_size` is a function of the store AS IT IS NOW: after ANY history on the same `Memory` object —
earlier `reduce_size` calls (completed, faulted or interrupted) interleaved with arbitrary changes of the tree made
behind its back (`Op.change f`: entries recomputed with another size after `MemorizedFunc.clear()` or a code change,
rewritten in place by `MemorizedFunc.call()`, removed by another `Memory` object or by hand, read, added) — a
`reduce_size` call is the call on the tree the history left, so its guarantees are about THAT tree's inventory:
the limits hold for the sizes and access times the directory has now, and the evicted entries are the minimal prefix
of the CURRENT LRU order. (In the model this is immediate — the model's only state is the tree, as the code's is:
`get_items` walks and stats the directory at every call; the harness ties it to the code over such histories.) -/
theorem reduce_size_history_independent (h : List Op) (t0 t' : Dir) (bytes : Option BytesArg)
    (b items deadline : Option Int) (raises : Path → Bool) (calls : List Path)
    (hb : resolveBytes bytes = .ok b) (hsep : Separated (runOps h t0))
    (hr : reduceAfter h t0 bytes items deadline raises none = .returned t' calls) :
    reduceSize true bytes items deadline raises (runOps h t0) = .returned t' calls ∧
    (WF ⟨b, items, deadline⟩ → Sat (getItems t') ⟨b, items, deadline⟩) ∧
    calls = ((sortByAccess (getItems (runOps h t0))).take calls.length).map (·.id) ∧
    (getItems t').Perm ((sortByAccess (getItems (runOps h t0))).drop calls.length) ∧
    ∀ k, k < calls.length → ¬ Sat ((sortByAccess (getItems (runOps h t0))).drop k) ⟨b, items, deadline⟩ := by
  unfold reduceAfter at hr
  rw [reduceSizeInt_none] at hr
  have hr' := ofOutcome_returned hr
  obtain ⟨h1, h2, h3⟩ := reduce_size_evicts_minimal_lru_prefix _ t' bytes b items deadline raises calls hb hsep hr'
  exact ⟨hr', fun hwf =>
    reduce_size_limits_hold _ t' bytes b items deadline raises calls hb hwf
      (show RootNotItem _ from (separated_items hsep).1) hr', h1, h2, h3⟩

/-! Non-vacuity: concrete inventories meet the hypotheses and exercise every limit. -/
def ex : List (Item Nat) := [⟨0, 10, 300⟩, ⟨1, 0, 100⟩, ⟨2, 7, 100⟩, ⟨3, 5, 200⟩]
example : WF ⟨some 12, some 3, some 150⟩ := by
  refine ⟨?_, ?_⟩ <;> intro x h <;> simp at h <;> omega
example : (itemsToDelete ex ⟨some 12, none, none⟩).map (·.id) = [1, 2, 3] := by decide +kernel
example : (itemsToDelete ex ⟨none, some 3, none⟩).map (·.id) = [1] := by decide +kernel
example : (itemsToDelete ex ⟨none, none, some 150⟩).map (·.id) = [1, 2] := by decide +kernel
example : (itemsToDelete ex ⟨some 22, some 4, some 50⟩).map (·.id) = [] := by decide +kernel

/-! Non-vacuity of the store-level theorems. One store, two cached functions `f` and `g` called with EQUAL arguments
(equal entry basenames), a name that merely starts with 32 hex digits, a stray directory with 31 digits, a
sub-directory inside an entry (its files do not count), an unreadable entry. -/
def H1 : String := "0123456789abcdef0123456789abcdef"
def H2 : String := "fedcba9876543210fedcba9876543210"
def exStore : Dir :=
  .mk "joblib" (some 900) [⟨".gitignore", some 29, some 0⟩] [
    .mk "f" (some 900) [⟨"func_code.py", some 50, some 0⟩] [
      .mk H1 (some 900) [⟨"output.pkl", some 100, some 300⟩, ⟨"metadata.json", some 20, some 0⟩]
        [.mk "sub" (some 0) [⟨"big", some 5000, some 0⟩] []],
      .mk H2 (some 900) [⟨"output.pkl", some 200, some 100⟩] []],
    .mk "g" (some 900) [⟨"func_code.py", some 50, some 0⟩] [
      .mk H1 (some 900) [⟨"output.pkl", some 300, some 200⟩] [],
      .mk (H2 ++ "_tmp") (some 250) [⟨"metadata.json", some 7, some 0⟩] [],
      .mk "0123456789abcdef0123456789abcde" (some 1) [⟨"output.pkl", some 999, some 1⟩] []]]

private theorem hash_H1 : isHashName H1 = true := (isHashName_ofList _).trans (by decide +kernel)
private theorem hash_H2 : isHashName H2 = true := (isHashName_ofList _).trans (by decide +kernel)
private theorem hash_31 : isHashName "0123456789abcdef0123456789abcde" = false :=
  (isHashName_ofList _).trans (by decide +kernel)

private theorem exStore_items : getItems exStore =
    [⟨["f", H1], 120, 300⟩, ⟨["f", H2], 200, 100⟩, ⟨["g", H1], 300, 200⟩, ⟨["g", H2 ++ "_tmp"], 7, 250⟩] := by
  -- Trap: `H1`, `H2` stay folded here; unfolded, `String.reduceAppend` merges `H2 ++ "_tmp"` into one literal that no fact matches.
  simp [getItems, osWalk, exStore, walkDir, walkSubs, Dir.name, itemOf, lastAccess, dirSize, hash_H1, hash_H2, isHashName_append,
    hash_31, hash_short]

private theorem exStore_statOk : StatOk exStore := by unfold StatOk; decide +kernel

private theorem exStore_noNesting : NoNesting exStore := by
  simp [NoNesting, exStore, flat, flatSubs, hashFree, hashFreeSubs, Dir.name, hash_H1, hash_H2, hash_31, hash_short]
  -- left: sibling names are distinct
  decide +kernel

private theorem nestedStore_not_separated : ¬ Separated nestedStore := fun h => by
  have := (separated_items h).2
  rw [nestedStore_items] at this
  revert this; decide +kernel

example : StatOk exStore := exStore_statOk
example : Separated exStore := no_nesting_separated _ exStore_noNesting
example : NoNesting exStore := exStore_noNesting
example : ¬ NoNesting nestedStore := fun h => nestedStore_not_separated (no_nesting_separated _ h)
example : ¬ Separated nestedStore := nestedStore_not_separated
/-- Two items with the same basename `H1` (under `f` and under `g`), the prefix-named one, not the 31-digit one;
the size of `f/H1` is 120: the 5000 bytes of its sub-directory do not count. -/
example : getItems exStore =
    [⟨["f", H1], 120, 300⟩, ⟨["f", H2], 200, 100⟩, ⟨["g", H1], 300, 200⟩, ⟨["g", H2 ++ "_tmp"], 7, 250⟩] :=
  exStore_items
example : hashPaths exStore = [["f", H1], ["f", H2], ["g", H1], ["g", H2 ++ "_tmp"]] := by
  rw [← get_items_one_per_entry exStore exStore_statOk, exStore_items]; rfl
/-- A `getsize` that raises hides the whole entry; an unreadable `output.pkl` falls back to the directory. -/
example : getItems (.mk "joblib" (some 9) [] [
    .mk H1 (some 9) [⟨"output.pkl", some 1, some 5⟩, ⟨"x.tmp", none, none⟩] [],
    .mk H2 (some 7) [⟨"output.pkl", some 3, none⟩] [],
    .mk (H2 ++ "0") none [⟨"metadata.json", some 3, some 1⟩] []]) = [⟨[H2], 3, 7⟩] := by
  simp [getItems, osWalk, walkDir, walkSubs, Dir.name, itemOf, lastAccess, dirSize, hash_H1, hash_H2, hash_short]
/-- items_limit=2 with the stale-handle fault on the FIRST victim: both victims are still attempted, in LRU order,
and two items are left. -/
example : callsOf (reduceSize true none (some 2) none (fun p => p == ["f", H2]) exStore)
    = some [["f", H2], ["g", H1]] := by
  rw [reduceSize_eq resolveBytes_none, exStore_items]; rfl
example : inventoryAfter (reduceSize true none (some 2) none (fun p => p == ["f", H2]) exStore)
    = some [⟨["f", H1], 120, 300⟩, ⟨["g", H2 ++ "_tmp"], 7, 250⟩] := by
  rw [reduceSize_eq resolveBytes_none, exStore_items, inventoryAfter,
    getItems_clearAll _ _ (by decide +kernel), exStore_items]
  decide +kernel
private theorem bytes_012K : resolveBytes (some (.str "0.12K")) = .ok (some 122) :=
  resolveBytes_str ((memstrToBytes_ofList _).trans (by decide +kernel))

/-- bytes_limit as a string: `'0.12K'` = 122 bytes (122.88 truncated) → three evictions, every call raising. -/
example : callsOf (reduceSize true (some (.str "0.12K")) none none (fun _ => true) exStore)
    = some [["f", H2], ["g", H1], ["g", H2 ++ "_tmp"]] := by
  rw [reduceSize_eq bytes_012K, exStore_items]; rfl
example : resolveBytes (some (.str "0.12K")) = .ok (some 122) := bytes_012K
example : WF ⟨some 122, some 2, none⟩ := by
  refine ⟨?_, ?_⟩ <;> intro x h <;> simp at h <;> omega
example : callsOf (reduceSize true (some (.str "1.2.3K")) (some 0) none (fun _ => false) exStore) = none := by decide +kernel
example : memstrToBytes "1.5K" = .ok 1536 ∧ memstrToBytes "-1.5K" = .ok (-1536) ∧ memstrToBytes "0.001M" = .ok 1048 ∧
    memstrToBytes ".5K" = .ok 512 ∧ memstrToBytes "1.K" = .ok 1024 ∧ memstrToBytes "+2G" = .ok 2147483648 ∧
    memstrToBytes "1.4990234375K" = .ok 1535 ∧ memstrToBytes "-0K" = .ok 0 := by
  repeat rw [memstrToBytes_ofList]
  decide +kernel
example : callsOf (reduceSize true none none none (fun _ => true) exStore) = some [] := by decide +kernel
example : callsOf (reduceSize false none (some 0) none (fun _ => true) exStore) = some [] := by decide +kernel

/-- Interruption at call 1 of 3 (`'0.12K'`, the first call raising `OSError`): exactly the least recently used entry
is gone; at call 3 or later the call completes. A history: the entry `f/H2` is rewritten with another size behind the
object's back between two calls — the second call works from the new size. -/
def interruptedAt : OutcomeI → Option (List Path × List (Item Path))
  | .interrupted t c => some (c, getItems t)
  | _ => none
example : interruptedAt (reduceSizeInt true (some (.str "0.12K")) none none (fun p => p == ["f", H2]) (some 1) exStore)
    = some ([["f", H2], ["g", H1]],
        [⟨["f", H1], 120, 300⟩, ⟨["g", H1], 300, 200⟩, ⟨["g", H2 ++ "_tmp"], 7, 250⟩]) := by
  rw [reduceSizeInt_some_eq bytes_012K, exStore_items,
    if_pos (by decide +kernel), interruptedAt, getItems_clearAll _ _ (by decide +kernel), exStore_items]
  decide +kernel
example : interruptedAt (reduceSizeInt true (some (.str "0.12K")) none none (fun _ => false) (some 3) exStore) = none := by
  rw [reduceSizeInt_some_eq bytes_012K, exStore_items,
    if_neg (by decide +kernel)]
  rfl
example : (getItems (runOps [.reduce none (some 3) none (fun _ => false) none, .change (fun _ => exStore)] exStore)).length
    = 4 := by
  show (getItems exStore).length = 4
  rw [exStore_items]; rfl

end C18
