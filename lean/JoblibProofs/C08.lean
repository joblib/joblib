import JoblibProofs.Lemmas.HashStream
import JoblibProofs.Lemmas.HashDecode
import JoblibProofs.Lemmas.HashMemo
/-!
# C08 — joblib.hash is a deterministic, order-insensitive, type-discriminating digest

Statement (properties.jsonl): joblib.hash is a pure function of the value: hashing the same value
again — in another interpreter process with a different string-hash seed, after rebuilding its
dicts, sets and frozensets in a different insertion order, or from equal but distinct string
objects — gives the same digest.  Values that differ in content or in type (1, 1.0 and True; 'a'
and b'a'; list and tuple; set and frozenset; any differing leaf of a nested container) get
different digests.

Model: `JoblibModel.HashStream` — `encode H v` is the byte stream `Hasher` hands to md5/sha1 for
the value `v` (tree with /verif/fixes/F06-frozenset-hash.diff applied), `encodeOld H v` the stream
of the pinned tree.  `H` is `joblib.hashing.hash` as a function bytes ↦ hex digits (a parameter:
no theorem is about md5).  The theorems are about the STREAM; "different stream ⇒ different
digest" is the collision-resistance assumption on md5/sha1, stated as such in the evidence.

Quantifier reached: every value of the recursive universe None/bool/int (any size)/float (bit
pattern)/str/bytes/list/tuple/set/frozenset/dict, any nesting depth and width (no bound), every
`H`.  String-hash seeds and insertion orders enter as the order in which the parts of a
set/frozenset/dict are listed in the model's input (`Reorder`); string identity does not enter
at all (the model's `str` has no identity: `Hasher.memoize` skips str/bytes, checked by the
correspondence with shared and distinct string objects).  Aliased tuples/containers are outside
the universe (property statement).

Hypotheses used
* determinism theorems: `KeysStrict H (depth v) v` — at every dict/set/frozenset node the things
  `sorted` is applied to are pairwise comparable and pairwise different (see its doc comment: true
  of every real Python value unless two keys of one container have colliding digests);
* injectivity theorems: `Plain (depth v) v` — no node of the value takes the digest fallback, and
  nothing exceeds a 4-byte length field — and `memoCount H v ≤ 2^32` (beyond either bound the real
  pickler raises instead of producing a stream).

FULL STATEMENT of the discrimination half: for ALL values of the universe, `encode H v = encode H w`
only if `v` and `w` are the same value.  It is FALSE on the digest-fallback path (F12, proved
below as `fallback_collision_counterexample`, a known finding); what is proved is
`encode_injective_partial`: the full statement for all values that never take the fallback.
Injectivity is proved through a decoder: a stack machine for the emitted pickle opcodes
(`Lemmas/HashDecode.lean`) that runs `encode H v` to the canonical listing of `v`, and is deterministic.
`Reorder`, `KeysStrict`, `reiter`, `memoCount` are defined in `Lemmas/HashStream.lean`; `Plain`, `Ordered`, `tyOf` in `Lemmas/HashDecode.lean`.
-/
namespace C08
open JoblibModel.HashStream

/-! ## determinism: insertion order and string-hash seed -/

/-- Rebuilding any dict / set / frozenset part of a value (at any depth) in another insertion
order does not change the stream: `Reorder v w` relates two listings of the same Python value.
Full strength, frozensets included (repaired code). -/
theorem encode_perm_invariant (H : Bs → Bs) (v w : PyVal) (h : Reorder v w)
    (hk : KeysStrict H (depth v) v) : encode H v = encode H w :=
  encode_reorder H v w h hk

/-- The stream does not depend on the string-hash seed: a seed only changes the order in which
sets and frozensets iterate (`iter`, an arbitrary permutation at every node), and every such
order is sorted away before use.  (The model has no other access to hash values.) -/
theorem encode_seed_free (H : Bs → Bs) (iter : List PyVal → List PyVal) (hit : ∀ l, (iter l).Perm l)
    (v : PyVal) (hk : KeysStrict H (depth v) v) : encode H (reiter iter v) = encode H v :=
  (encode_perm_invariant H v _ (reorder_reiter iter hit v) hk).symm

/-- The statement's three container kinds, one level, spelled out. -/
theorem encode_set_order (H : Bs → Bs) (l l' : List PyVal) (p : l.Perm l')
    (hk : KeysStrict H (depth (.set l)) (.set l)) : encode H (.set l) = encode H (.set l') :=
  encode_perm_invariant H _ _ (.set (ReorderL.refl l) p) hk

theorem encode_frozenset_order (H : Bs → Bs) (l l' : List PyVal) (p : l.Perm l')
    (hk : KeysStrict H (depth (.frozenset l)) (.frozenset l)) :
    encode H (.frozenset l) = encode H (.frozenset l') :=
  encode_perm_invariant H _ _ (.frozenset (ReorderL.refl l) p) hk

theorem encode_dict_order (H : Bs → Bs) (l l' : List (PyVal × PyVal)) (p : l.Perm l')
    (hk : KeysStrict H (depth (.dict l)) (.dict l)) : encode H (.dict l) = encode H (.dict l') :=
  encode_perm_invariant H _ _ (.dict (ReorderD.refl l) p) hk

/-! The hypotheses are satisfiable by non-trivial instances: a dict with a frozenset value and
orderable keys; a set with unorderable elements (fallback) under a digest function that keeps
the two keys apart. -/
example : KeysStrict (fun s => s) 3
    (.dict [(.int 2, .frozenset [.str [98], .str [97]]), (.float 0x3ff0000000000000, .none)]) := by
  decide +kernel

example : KeysStrict (fun s => s) 2 (.set [.int 1, .str [97]]) := by
  decide +kernel

example : Reorder (.set [.int 1, .tuple [.frozenset [.int 1, .int 2]]])
    (.set [.tuple [.frozenset [.int 2, .int 1]], .int 1]) :=
  .set (l' := [.int 1, .tuple [.frozenset [.int 2, .int 1]]])
    (.cons (.int 1) (.cons (.tuple (.cons (.frozenset (ReorderL.refl _) (List.Perm.swap _ _ _)) .nil)) .nil))
    (List.Perm.swap _ _ _)

/-! ## discrimination: different values, different streams -/

/-- `encode_injective_partial`: two values that never take the digest fallback and have the same
stream are two listings of the SAME value — they differ at most in the order in which the parts
of their dicts / sets / frozensets are listed (`Reorder` to a common `u`): same types everywhere,
same leaves, same structure.  Partial only in excluding the fallback path (where the full
statement is false: F12). -/
theorem encode_injective_partial (H : Bs → Bs) (v w : PyVal)
    (hv : Plain (depth v) v) (hw : Plain (depth w) w)
    (bv : memoCount H v ≤ 2 ^ 32) (bw : memoCount H w ≤ 2 ^ 32)
    (h : encode H v = encode H w) : ∃ u, Reorder v u ∧ Reorder w u := by
  have e := encode_inj H v w hv hw bv bw h
  exact ⟨canonF (depth v) v, reorder_canonF _ v, e ▸ reorder_canonF _ w⟩

/-- For values without dicts / sets / frozensets (nested lists and tuples of scalars) there is
nothing to reorder: equal streams ⇒ equal values.  "Any differing leaf of a nested container". -/
theorem encode_injective_ordered_partial (H : Bs → Bs) (v w : PyVal)
    (hv : Plain (depth v) v) (hw : Plain (depth w) w) (ov : Ordered (depth v) v) (ow : Ordered (depth w) w)
    (bv : memoCount H v ≤ 2 ^ 32) (bw : memoCount H w ≤ 2 ^ 32)
    (h : encode H v = encode H w) : v = w := by
  have e := encode_inj H v w hv hw bv bw h
  rwa [canonF_ordered _ v ov, canonF_ordered _ w ow] at e

/-- Type discrimination: values of different Python types never have the same stream (in
particular list vs tuple, set vs frozenset, int vs float vs bool, str vs bytes, whatever they
hold). -/
theorem type_discriminating_partial (H : Bs → Bs) (v w : PyVal)
    (hv : Plain (depth v) v) (hw : Plain (depth w) w)
    (bv : memoCount H v ≤ 2 ^ 32) (bw : memoCount H w ≤ 2 ^ 32)
    (ht : tyOf v ≠ tyOf w) : encode H v ≠ encode H w := by
  intro h
  have e := congrArg tyOf (encode_inj H v w hv hw bv bw h)
  rw [tyOf_canonF, tyOf_canonF] at e
  exact ht e

/-- list vs tuple, whatever the (plain) contents. -/
theorem discriminates_list_tuple (H : Bs → Bs) (l l' : List PyVal)
    (hv : Plain (depth (.list l)) (.list l)) (hw : Plain (depth (.tuple l')) (.tuple l'))
    (bv : memoCount H (.list l) ≤ 2 ^ 32) (bw : memoCount H (.tuple l') ≤ 2 ^ 32) :
    encode H (.list l) ≠ encode H (.tuple l') :=
  type_discriminating_partial H _ _ hv hw bv bw nofun

/-- set vs frozenset, whatever the (plain) contents — the repaired code keeps them apart. -/
theorem discriminates_set_frozenset (H : Bs → Bs) (l l' : List PyVal)
    (hv : Plain (depth (.set l)) (.set l)) (hw : Plain (depth (.frozenset l')) (.frozenset l'))
    (bv : memoCount H (.set l) ≤ 2 ^ 32) (bw : memoCount H (.frozenset l') ≤ 2 ^ 32) :
    encode H (.set l) ≠ encode H (.frozenset l') :=
  type_discriminating_partial H _ _ hv hw bv bw nofun

/-- `1`, `1.0` and `True` have three different streams (BININT1 / BINFLOAT / NEWTRUE). -/
theorem discriminates_1_1f_True (H : Bs → Bs) :
    encode H (.int 1) ≠ encode H (.float 0x3ff0000000000000) ∧
    encode H (.int 1) ≠ encode H (.bool true) ∧
    encode H (.float 0x3ff0000000000000) ≠ encode H (.bool true) :=
  ⟨type_discriminating_partial H _ _ (by decide) (by decide) (Nat.zero_le _) (Nat.zero_le _) nofun,
   type_discriminating_partial H _ _ (by decide) (by decide) (Nat.zero_le _) (Nat.zero_le _) nofun,
   type_discriminating_partial H _ _ (by decide) (by decide) (Nat.zero_le _) (Nat.zero_le _) nofun⟩

/-- `str` vs `bytes`, whatever the contents … -/
theorem discriminates_str_bytes_any (H : Bs → Bs) (s b : Bs) (hs : s.length < 2 ^ 32) (hb : b.length < 2 ^ 32) :
    encode H (.str s) ≠ encode H (.bytes b) :=
  type_discriminating_partial H _ _ hs hb (Nat.zero_le _) (Nat.zero_le _) nofun

/-- … in particular `'a'` and `b'a'`. -/
theorem discriminates_str_bytes (H : Bs → Bs) : encode H (.str [97]) ≠ encode H (.bytes [97]) := by
  have h1 : encode H (.str [97]) = [128, 3, 88, 1, 0, 0, 0, 97, 46] := rfl
  have h2 : encode H (.bytes [97]) = [128, 3, 67, 1, 97, 46] := rfl
  rw [h1, h2]; decide

/-- The hypotheses of the injectivity theorems are satisfiable by a non-trivial instance. -/
example : Plain 3 (.dict [(.int 2, .frozenset [.str [98], .str [97]]), (.float 0x3ff0000000000000, .list [.int (-5)])]) ∧
    memoCount (fun s => s)
      (.dict [(.int 2, .frozenset [.str [98], .str [97]]), (.float 0x3ff0000000000000, .list [.int (-5)])]) ≤ 2 ^ 32 := by
  decide +kernel

/-! ## F6 — the pinned code (old-code witness; the repaired code is what the theorems above are about) -/
section OldCode

/-- F6: on the pinned tree a frozenset is pickled in ITERATION order: the two iteration orders of
`frozenset([0, 8])` / `frozenset([8, 0])` (both occur in CPython, depending on insertion order)
give two streams, whatever the digest function. -/
theorem old_frozenset_order_dependent_counterexample (H : Bs → Bs) :
    encodeOld H (.frozenset [.int 0, .int 8]) ≠ encodeOld H (.frozenset [.int 8, .int 0]) := by
  have h1 : oldFrozensetBody H [.int 0, .int 8] = [93, 113, 1, 40, 75, 0, 75, 8, 101, 133, 113, 2, 82, 113, 3] := rfl
  have h2 : oldFrozensetBody H [.int 8, .int 0] = [93, 113, 1, 40, 75, 8, 75, 0, 101, 133, 113, 2, 82, 113, 3] := rfl
  intro h
  have h := oldFrozensetBody_eq_of_encodeOld_eq h
  rw [h1, h2] at h; revert h; decide

/-- … while the repaired code gives one stream for both. -/
theorem fixed_frozenset_witness (H : Bs → Bs) :
    encode H (.frozenset [.int 0, .int 8]) = encode H (.frozenset [.int 8, .int 0]) := by
  have ho : orderable .fixed [.int 0, .int 8] = true := by decide +kernel
  have hs : StrictOn id [PyVal.int 0, .int 8] := by decide +kernel
  refine encode_frozenset_order H _ _ (List.Perm.swap _ _ _) ⟨by rw [keysOf_of_orderable _ _ _ ho]; exact hs, fun x hx => ?_⟩
  cases hx with
  | head => trivial
  | tail _ hx => cases List.mem_singleton.mp hx; trivial

/-- The repair does not touch a value that holds no frozenset: same stream as the pinned code
(an instance with every other constructor of `encodeOld_eq_encode`; the correspondence also runs
both encoders against the pinned tree). -/
theorem fixed_eq_old_witness (H : Bs → Bs) :
    encode H (.list [.set [.int 2, .int 1], .dict [(.str [97], .tuple [.none, .bool true, .float 0])], .bytes [0]])
      = encodeOld H (.list [.set [.int 2, .int 1], .dict [(.str [97], .tuple [.none, .bool true, .float 0])], .bytes [0]]) :=
  (encodeOld_eq_encode H _ rfl).symm

end OldCode

/-! ## F12 — the md5 fallback replaces keys by their digests -/

/-- F12 (known finding): when the elements of a set are not mutually orderable they are replaced
by their digests, so `{1, 'a'}` and the set of the two digest STRINGS have the same stream — for
every digest function `H`. -/
theorem fallback_collision_counterexample (H : Bs → Bs) :
    let v : PyVal := .set [.int 1, .str [97]]
    let w : PyVal := .set [.str (H (encode H (.int 1))), .str (H (encode H (.str [97])))]
    v ≠ w ∧ encode H v = encode H w := by
  refine ⟨by simp, ?_⟩
  rfl

/-- The same for a dict: `{1: 'x', 'a': 'y'}` against `{hash(1): 'x', hash('a'): 'y'}`. -/
theorem fallback_collision_dict_counterexample (H : Bs → Bs) :
    let v : PyVal := .dict [(.int 1, .str [120]), (.str [97], .str [121])]
    let w : PyVal := .dict [(.str (H (encode H (.int 1))), .str [120]), (.str (H (encode H (.str [97]))), .str [121])]
    v ≠ w ∧ encode H v = encode H w := by
  refine ⟨by simp, ?_⟩
  rfl

/-! ## F40 — `Hasher._batch_setitems` on the one-shot item iterator of OrderedDict / dict subclasses

`encodeOD H iv items` is the stream of a top-level `collections.OrderedDict(items)` under the three
versions of `Hasher._batch_setitems` (`ItemsVer`); validated byte for byte by the correspondence
against the matching tree. -/
section OrderedDictIterator

/-- F40 (regression of the first F6 repair, commit aa0f898): the frozenset pre-scan exhausts the
iterator, so `OrderedDict(a=1)`, `OrderedDict(a=2)` and `OrderedDict()` have ONE stream, for every `H`. -/
theorem regressed_ordereddict_collision_counterexample (H : Bs → Bs) :
    encodeOD H .regressed [(.str [97], .int 1)] = encodeOD H .regressed [] ∧
    encodeOD H .regressed [(.str [97], .int 2)] = encodeOD H .regressed [] :=
  ⟨encodeOD_eq_of_iterItems_nil H _ _ fun e => iterItems_regressed_eq_nil H e _ rfl,
   encodeOD_eq_of_iterItems_nil H _ _ fun e => iterItems_regressed_eq_nil H e _ rfl⟩

/-- The repaired code (`items = list(items)` first) keeps the three apart: the items are in the stream. -/
theorem repaired_ordereddict_witness (H : Bs → Bs) :
    encodeOD H .repaired [(.str [97], .int 1)] ≠ encodeOD H .repaired [] ∧
    encodeOD H .repaired [(.str [97], .int 1)] ≠ encodeOD H .repaired [(.str [97], .int 2)] := by
  have h0 : odItems H .repaired [] = [] := rfl
  have h1 : odItems H .repaired [(.str [97], .int 1)] = [88, 1, 0, 0, 0, 97, 75, 1, 115] := rfl
  have h2 : odItems H .repaired [(.str [97], .int 2)] = [88, 1, 0, 0, 0, 97, 75, 2, 115] := rfl
  constructor <;> intro h <;> have h := odItems_eq_of_encodeOD_eq h
  · rw [h0, h1] at h; cases h
  · rw [h1, h2] at h; revert h; decide

/-- The pinned tree had the same hole on the fallback path: `sorted(iterator)` consumes the items
before raising `TypeError`, and the digest fallback then iterates nothing —
`OrderedDict({1: 'x', 'a': 'y'})` hashed like `OrderedDict()`. -/
theorem pinned_ordereddict_fallback_counterexample (H : Bs → Bs) :
    encodeOD H .pinned [(.int 1, .str [120]), (.str [97], .str [121])] = encodeOD H .pinned [] :=
  encodeOD_eq_of_iterItems_nil H _ _ fun e => iterItems_pinned_eq_nil H e _ rfl

end OrderedDictIterator

/-! ## Values with shared sub-objects: the memo numbering

Aliased values are outside `PyVal` (the byte-stream model and `encode_injective_partial` speak of trees); for them the
check is an oracle on the implementation (harness/props/c08.py, `aliased_family`).  What IS modelled is the one thing
their discrimination rests on: the second occurrence of an object is written as `BINGET idx`, and `idx` comes from
`Pickler.memoize` (`idx = len(self.memo)`), `JoblibModel.HashMemo`.

FULL STATEMENT (not proved: it needs a `ref k` node in the value universe and the decoder's memo):
`encode` is injective on values with shared references.  PROVED, the numbering half:
the i-th `memoize` call of a dump gets index i (`memo_indices_are_positions`; the check compares exactly this with the
real `Hasher.memo`), so no two live objects share an index and a `BINGET k` stands for at most one object
(`binget_unambiguous_partial`); and the numbering rests on the memo never shrinking: as soon as a live entry owns the
index `len(memo)`, the next `memoize` hands that index to a second object (`reissued_index_is_ambiguous`), which is what
popping three entries behind a surviving one does (`pop_reissues_index_counterexample`). -/
section SharedReferences

/-- The memo of a dump that memoised `objs` (in this order) numbers them 0, 1, 2, … -/
theorem memo_indices_are_positions (objs : List Nat) : JoblibModel.HashMemo.indices (JoblibModel.HashMemo.run objs) = List.range objs.length :=
  JoblibModel.HashMemo.indices_run objs

/-- No index is issued twice during a dump. -/
theorem memo_indices_distinct (objs : List Nat) : (JoblibModel.HashMemo.indices (JoblibModel.HashMemo.run objs)).Nodup := by
  rw [JoblibModel.HashMemo.indices_run]; exact List.nodup_range

/-- A `BINGET k` stands for at most one object of the memo. -/
theorem binget_unambiguous_partial (objs : List Nat) (k : Nat) : (JoblibModel.HashMemo.owners (JoblibModel.HashMemo.run objs) k).length ≤ 1 := by
  have hn := memo_indices_distinct objs
  have hc := JoblibModel.HashMemo.owners_length (JoblibModel.HashMemo.run objs) k
  rw [hc]
  exact List.nodup_iff_count.mp hn k

/-- If a live entry owns the index `len(memo)` (possible only after entries were removed), the next `memoize` makes
that index ambiguous: it then belongs to the old owner AND to the new object. -/
theorem reissued_index_is_ambiguous (m : JoblibModel.HashMemo.Memo) (o b : Nat) (h : (o, m.length) ∈ m) :
    o ∈ JoblibModel.HashMemo.owners (JoblibModel.HashMemo.memoize m b) m.length ∧ b ∈ JoblibModel.HashMemo.owners (JoblibModel.HashMemo.memoize m b) m.length :=
  ⟨JoblibModel.HashMemo.mem_owners.mpr (List.mem_append_left _ h),
    JoblibModel.HashMemo.mem_owners.mpr (List.mem_append_right _ (List.mem_singleton_self _))⟩

/-- Six objects memoised (0 … 5), the entries of 2, 3 and 4 popped (the proxy of a set, its `__dict__`, its sorted
list; 5 = an element of the set), three more objects memoised: the third one (8) is given index 5, which object 5
still owns — `BINGET 5` is ambiguous. -/
theorem pop_reissues_index_counterexample :
    JoblibModel.HashMemo.owners ([6, 7, 8].foldl JoblibModel.HashMemo.memoize ([2, 3, 4].foldl JoblibModel.HashMemo.pop (JoblibModel.HashMemo.run [0, 1, 2, 3, 4, 5]))) 5 = [5, 8] := by decide

end SharedReferences

end C08
