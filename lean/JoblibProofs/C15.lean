import JoblibProofs.Lemmas.NJobs
import JoblibProofs.Lemmas.Config  -- `parallelInit_ok` for `worker_uses_nested`
/-!
# C15 — n_jobs bounds concurrency; nesting never multiplies worker processes

Statement (properties.jsonl): a `Parallel` call never executes more tasks simultaneously than its
resolved `n_jobs`: a positive `n_jobs` is the bound, a negative one means `cpu_count()+1+n_jobs` but
at least 1, 0 is rejected with `ValueError`, 1 runs in the calling thread, and `cpu_count()` is at
least 1 and honours CPU affinity and `LOKY_MAX_CPU_COUNT`. By default `Parallel` calls nested inside
workers start no further worker processes: the first nesting level runs on threads and deeper
levels run sequentially.

Quantifier reached here: ALL integers `n_jobs` (and `None`), all CPU counts, all four backend
classes, every nesting level (also `None`), daemon / non-daemon processes, main / other threads,
any loky depth, multiprocessing available or not; every combination of `os.cpu_count()` (also `None`/0),
affinity, cgroup quota/period, `LOKY_MAX_CPU_COUNT` (unset, any integer incl. 0 and negatives, or
not a number), physical-core count; nesting of ANY depth (the statement asks depth ≤ 3).

PARTIAL, as DESIGN.md C15 says: "never more than `n_jobs` tasks at once" is, beyond the arithmetic
proved here (`resolve_*`, `pool_sized_to_n_jobs`), the fact that `ThreadPool(n)`,
`MemmappingPool(n)` and loky's executor with `max_workers=n` run at most `n` tasks at a time, and
`workerEnv` (which thread / process a worker is) describes those pools. That part is MEASURED by the
harness (high-water marks, pids, thread ids), not proved.

Model: `JoblibModel.NJobs` (+ the backend selection of `JoblibModel.Config` for the nested case).
Lemmas: `Lemmas/NJobs.lean` (its `oneJobGuard` is the text of `guarded` below, its `getReusableExecutor_spec` spells `PoolWF` out: hypotheses
pass by unfolding, `rw` does not see through); `ParallelInitOk`, `ActiveOk` of `worker_uses_nested` are in `Lemmas/Config.lean`.
-/
namespace C15
-- both namespaces have an `Err` with `valueError`: `Err.valueError` is ambiguous here, `.error .valueError` is not
open JoblibModel.NJobs JoblibModel.Config

/-- One of the guards of the backend class makes it run with a single job whatever was asked:
multiprocessing missing; (process backends) a daemonic process, a thread other than the main one
unless `nesting_level == 0`; (multiprocessing only) inside a loky worker. The sequential backend
always does. -/
def guarded (cls : BackendClass) (level : Option Nat) (env : EffEnv) : Bool :=
  match cls with
  | .sequential => true
  | .threading => env.mpNone
  | .loky => env.mpNone || env.daemon || nestedBelowThread env level
  | .multiprocessing =>
    env.mpNone || env.daemon || decide (env.lokyDepth > 0) || nestedBelowThread env level

/-- `resolve_pos`. A positive `n_jobs` is taken as it is. -/
theorem resolve_pos (cls : BackendClass) (level : Option Nat) (env : EffEnv) (n : Int)
    (hg : guarded cls level env = false) (hn : 0 < n) :
    effectiveNJobs cls level env (some n) = .ok n := by
  rw [effectiveNJobs_unguarded hg]
  exact unguardedNJobs_pos hn

/-- `resolve_neg`. A negative `n_jobs` means `cpu_count() + 1 + n_jobs`, but at least 1. -/
theorem resolve_neg (cls : BackendClass) (level : Option Nat) (env : EffEnv) (n : Int)
    (hg : guarded cls level env = false) (hn : n < 0) :
    effectiveNJobs cls level env (some n) = .ok (max (env.cpus + 1 + n) 1) := by
  rw [effectiveNJobs_unguarded hg]
  exact unguardedNJobs_neg hn

/-- Under a guard every request except 0 resolves to one job (for the multiprocessing backend 0
does too — see `mp_zero_under_guard`). -/
theorem guarded_resolves_one (cls : BackendClass) (level : Option Nat) (env : EffEnv)
    (n : Option Int) (hg : guarded cls level env = true) (hn : n ≠ some 0) :
    effectiveNJobs cls level env n = .ok 1 := by
  rw [effectiveNJobs_eq, show oneJobGuard cls level env = true from hg, if_pos rfl, if_neg hn]
  split <;> rfl

/-- `resolve_ge_one`. Whatever `effective_n_jobs` returns is at least 1. -/
theorem resolve_ge_one (cls : BackendClass) (level : Option Nat) (env : EffEnv) (n : Option Int)
    (k : Int) (h : effectiveNJobs cls level env n = .ok k) : 1 ≤ k := by
  rw [effectiveNJobs_eq] at h
  split at h
  · have : k = 1 := by
      split at h
      · cases h; rfl
      · split at h <;> cases h; rfl
    omega
  · exact unguardedNJobs_ge_one h

/-- `resolve_zero_rejected`. A `Parallel` whose `n_jobs` is 0 is rejected with `ValueError` when its
backend is initialised — by every backend class, in every situation (under a guard of the
multiprocessing backend it is the sequential fallback that rejects it). -/
theorem resolve_zero_rejected (cls : BackendClass) (level : Option Nat) (env : EffEnv) :
    initializeBackend cls level env (some 0) = .error .valueError := by
  rw [initializeBackend_eq, effectiveNJobs_eq]
  cases oneJobGuard cls level env
  · rfl
  · cases cls <;> rfl

/-- The bare method `effective_n_jobs(0)` raises for three of the four classes in every situation… -/
theorem effective_zero_rejected (cls : BackendClass) (level : Option Nat) (env : EffEnv)
    (hc : cls ≠ .multiprocessing) : effectiveNJobs cls level env (some 0) = .error .valueError := by
  rw [effectiveNJobs_eq]
  cases oneJobGuard cls level env
  · rfl
  · rw [if_pos rfl, if_neg hc]; rfl

/-- …and `MultiprocessingBackend.effective_n_jobs(0)` returns 1 under a guard (the guards are tested
first). This does not reach a `Parallel` call: `resolve_zero_rejected`. -/
theorem mp_zero_under_guard :
    effectiveNJobs .multiprocessing (some 0) ⟨false, true, true, 0, 4⟩ (some 0) = .ok 1 := by decide +kernel

/-- `one_is_sequential`. `n_jobs = 1` ends on the sequential backend with no pool at all — the
tasks run in the calling thread (`Parallel.__call__`: `if n_jobs == 1: _get_sequential_output`). -/
theorem one_is_sequential (cls : BackendClass) (level : Option Nat) (env : EffEnv) :
    initializeBackend cls level env (some 1) = .ok ⟨.sequential, 1, none⟩ := by
  have h : effectiveNJobs cls level env (some 1) = .ok 1 := by
    rw [effectiveNJobs_eq]
    cases oneJobGuard cls level env
    · rfl
    · cases cls <;> rfl
  rw [initializeBackend_eq, h]
  exact if_pos (.inr rfl)

/-- More generally: the call runs in the calling thread exactly when one job was resolved, and
otherwise the pool / executor is created with exactly the resolved `n_jobs` (≥ 2) workers. -/
theorem pool_sized_to_n_jobs (cls : BackendClass) (level : Option Nat) (env : EffEnv)
    (n : Option Int) (r : InitResult) (h : initializeBackend cls level env n = .ok r) :
    1 ≤ r.n_jobs ∧ (r.n_jobs = 1 ↔ r.cls = .sequential) ∧
      (r.cls = .sequential → r.pool = none) ∧
      (r.cls ≠ .sequential → r.cls = cls ∧ r.pool = some r.n_jobs ∧
        effectiveNJobs cls level env n = .ok r.n_jobs) := by
  rw [initializeBackend_eq] at h
  cases he : effectiveNJobs cls level env n with
  | error e => rw [he] at h; cases h
  | ok k =>
    have hk := resolve_ge_one cls level env n k he
    rw [he] at h
    dsimp only at h
    split at h
    · split at h
      · cases h
      · cases h; simp
    · rename_i hc
      cases h
      simp only [not_or] at hc
      simp [hk, hc.1, hc.2]

/-- `os_cpu_count` (`os.cpu_count() or 1`, capped on Windows) is at least 1 when the cap is. -/
theorem osCpuCount_ge_one (e : CpuEnv) (hw : ∀ w, e.winCap = some w → 1 ≤ w) :
    1 ≤ osCpuCount e := by
  have hc1 : 1 ≤ osCpuCountRaw e := by
    unfold osCpuCountRaw; split
    · omega
    · split <;> omega
  unfold osCpuCount
  cases hcap : e.winCap with
  | none => simp only []; omega
  | some w => have := hw w hcap; simp only []; omega

/-- `cpu_count_ge_one`. `cpu_count()` — with or without `only_physical_cores` — is at least 1
whenever it returns (it raises `ValueError` only for a `LOKY_MAX_CPU_COUNT` that is not an integer),
for every combination of inputs, including `LOKY_MAX_CPU_COUNT=0` or negative. -/
theorem cpu_count_ge_one (e : CpuEnv) (b : Bool) (k : Int) (h : cpuCount e b = .ok k) : 1 ≤ k := by
  obtain ⟨u, _, hk | ⟨p, _, _, _, hk⟩⟩ := cpuCount_ok h <;> omega

/-- The limits `cpu_count()` honours, each read as "at least one CPU". -/
structure WithinLimits (e : CpuEnv) (k : Int) : Prop where
  os : k ≤ max (osCpuCount e) 1
  affinity : ∀ a, e.affinity = some a → k ≤ max (a : Int) 1
  cgroup : ∀ q p, e.cgroup = some (q, p) → 0 < q → 0 < p → k ≤ max (ceilDiv q p) 1
  loky : ∀ v, e.lokyMax = some (some v) → k ≤ max v 1

/-- `cpu_count_le_each_limit`. The count never exceeds the machine's CPU count, the size of the
affinity mask, the cgroup CPU quota (`ceil(quota/period)`) or `LOKY_MAX_CPU_COUNT` — each limit
taken as at least 1. With `only_physical_cores=True` this needs the physical-core count not to
exceed the logical one (a fact about the machine, assumed). -/
theorem cpu_count_le_each_limit (e : CpuEnv) (b : Bool) (k : Int) (h : cpuCount e b = .ok k)
    (hp : ∀ p, e.physical = some p → (p : Int) ≤ osCpuCount e) : WithinLimits e k := by
  obtain ⟨u, hu, hk⟩ := cpuCount_ok h
  obtain ⟨haff, hcg, hlk⟩ := cpuCountUser_le hu
  -- also the physical count, which is returned only when the user's limits do not bind (`os ≤ u`)
  have key : k ≤ max (min (osCpuCount e) u) 1 := by
    rcases hk with hk | ⟨p, hph, _, hos, hk⟩
    · exact Int.le_of_eq hk
    · exact Int.le_trans (Int.le_min.2 ⟨hk ▸ hp p hph, hk ▸ Int.le_trans (hp p hph) hos⟩) (Int.le_max_left ..)
  exact ⟨le_limit (Int.min_comm .. ▸ key) (Int.le_refl _),
    fun a ha => le_limit key (haff a ha), fun q p hc hq hpp => le_limit key (hcg q p hc hq hpp),
    fun v hv => le_limit key (hlk v hv)⟩

/-- `ceilDiv q p` is the ceiling of `q / p`: the least integer whose product with `p` reaches `q`. -/
theorem cgroup_quota_is_ceiling (q p : Int) (hp : 0 < p) :
    q ≤ ceilDiv q p * p ∧ (ceilDiv q p - 1) * p < q := by
  unfold ceilDiv
  have h1 := Int.mul_ediv_add_emod (q + p - 1) p
  have h2 := Int.emod_nonneg (q + p - 1) (by omega : p ≠ 0)
  have h3 := Int.emod_lt_of_pos (q + p - 1) hp
  generalize (q + p - 1) / p = d at *
  generalize (q + p - 1) % p = m at *
  have e1 : d * p = p * d := Int.mul_comm _ _
  have e2 : (d - 1) * p = p * d - p := by
    rw [Int.sub_mul, Int.one_mul, Int.mul_comm]
  constructor <;> omega

/-- With nothing restricting it the count is the machine's. -/
theorem cpu_count_unrestricted (n : Nat) (hn : 1 ≤ n) :
    cpuCount ⟨some n, none, some n, none, none, none⟩ false = .ok n := by
  have : n ≠ 0 := by omega
  simp [cpuCount, cpuCountUser, cpuCountLoky, cpuCountAffinity, cpuCountCgroup, osCpuCount,
    osCpuCountRaw, bind, Except.bind, pure, Except.pure, this]
  omega

/-- One level below a backend that really uses workers. -/
theorem nested_level_one (cls : BackendClass) (level : Nat) (active : BackendClass × Nat)
    (hc : cls ≠ .sequential) :
    getNestedBackend cls level active =
      if level = 0 then (.threading, 1) else (.sequential, level + 1) := by
  cases cls
  · exact absurd rfl hc
  all_goals cases level <;> rfl

/-- Below a top-level call on ANY non-sequential backend (level 0), `Parallel(...)` without `backend=`
uses: depth 1 → the threading backend (level 1); every depth ≥ 2 → the sequential backend. -/
theorem default_chain (top : BackendClass × Nat) (hc : top.1 ≠ .sequential) (h0 : top.2 = 0) :
    defaultAt top 1 = (.threading, 1) ∧ ∀ d, 2 ≤ d → defaultAt top d = (.sequential, 2) := by
  have step : ∀ d, defaultAt top (d + 1) =
      getNestedBackend (defaultAt top d).1 (defaultAt top d).2 (defaultAt top d) := fun _ => rfl
  have h1 : defaultAt top 1 = (.threading, 1) := (nested_level_one top.1 top.2 top hc).trans (if_pos h0)
  refine ⟨h1, fun d hd => ?_⟩
  -- `(.sequential, 2)` is a fixed point: the sequential backend hands on the active backend
  obtain ⟨k, rfl⟩ : ∃ k, d = k + 2 := ⟨d - 2, by omega⟩
  clear hd
  induction k with
  | zero => exact (step 1).trans (by rw [h1]; rfl)
  | succ k ih => exact (step (k + 2)).trans (by rw [ih]; rfl)

/-- Backends that use threads never end with a process pool, whatever `n_jobs`. -/
theorem thread_backend_no_processes (cls : BackendClass) (level : Option Nat) (env : EffEnv)
    (n : Option Int) (r : InitResult) (hc : processBased cls = false)
    (h : initializeBackend cls level env n = .ok r) : processBased r.cls = false := by
  obtain ⟨_, _, _, h4⟩ := pool_sized_to_n_jobs cls level env n r h
  by_cases hs : r.cls = .sequential
  · rw [hs]; rfl
  · rw [(h4 hs).1]; exact hc

/-- Inside a worker, `BatchedCalls.__call__` installs `parallel_config(backend=nested, n_jobs=None)`;
a `Parallel` constructed there without `backend=` — whatever its `n_jobs`, `prefer`, `verbose`, … —
uses exactly that nested backend (link with the `Config` model: a backend set by a context is
"explicit", so hints do not move it; `require='sharedmem'` cannot either because the nested
backends support shared memory). -/
theorem worker_uses_nested (env : JoblibModel.Config.Env) (c : BackendClass) (l : Nat)
    (hsm : c.supportsSharedmem = true) (cm : Ctx) (cfg e : Config) (r : ParObs)
    (hin : parallelConfigInit Config.unset
        { Config.unset with backend := some (.backend c (some l)), n_jobs := some .none } = .ok (cm, cfg))
    (he : e.backend = none ∨ e.backend = some .none)
    (h : parallelInit env cfg e = .ok r) : r.backend = ⟨c, some l⟩ := by
  have hcfg : cfg.backend = some (.backend c (some l)) := by
    cases hin; rfl
  obtain ⟨a, x, b, ok, aok⟩ := parallelInit_ok h
  have hch := chooseBackend_ok ok.backend
  cases (contextBackend_of_backend env hcfg).symm.trans aok.context
  have hab : a.backend = ⟨c, some l⟩ := by
    rw [aok.backend, activeBackend_explicit, if_neg]
    exact fun hc => by rw [hsm] at hc; cases hc.2
  rcases he with he | he <;> rw [he] at hch <;> exact hch.trans hab

/-- A process backend asked for explicitly inside a *thread* worker (any nesting level ≥ 1) or inside
a `multiprocessing` worker (a daemonic process) still gets one job; inside a loky worker the
multiprocessing backend does too. -/
theorem process_backend_in_worker_one (cls : BackendClass) (hc : processBased cls = true)
    (level : Nat) (hl : 1 ≤ level) (env : EffEnv) (n : Option Int) (hn : n ≠ some 0) :
    effectiveNJobs cls (some level) (workerEnv .threading env) n = .ok 1 ∧
    effectiveNJobs cls (some level) (workerEnv .multiprocessing env) n = .ok 1 ∧
    effectiveNJobs .multiprocessing (some level) (workerEnv .loky env) n = .ok 1 := by
  have hlv : (some level == some 0) = false := by
    simp; omega
  refine ⟨?_, ?_, ?_⟩
  · apply guarded_resolves_one _ _ _ _ _ hn
    cases cls <;> simp_all [processBased, guarded, workerEnv, nestedBelowThread]
  · apply guarded_resolves_one _ _ _ _ _ hn
    cases cls <;> simp_all [processBased, guarded, workerEnv]
  · apply guarded_resolves_one _ _ _ _ _ hn
    simp [guarded, workerEnv]

/-- `nested_default_no_processes`. Start from a top-level call on any backend that uses workers
(level 0). At every depth `d ≥ 1` below it, a `Parallel` that does not name a backend runs on the
threading backend (d = 1) or the sequential backend (d ≥ 2), and initialising it — for ANY
`n_jobs` and in ANY process/thread situation — never yields a process-based backend: no further
worker processes. -/
theorem nested_default_no_processes (top : BackendClass × Nat) (hc : top.1 ≠ .sequential)
    (h0 : top.2 = 0) (d : Nat) (hd : 1 ≤ d) :
    ((d = 1 ∧ defaultAt top d = (.threading, 1)) ∨ (2 ≤ d ∧ defaultAt top d = (.sequential, 2))) ∧
    ∀ (env : EffEnv) (n : Option Int) (r : InitResult),
      initializeBackend (defaultAt top d).1 (some (defaultAt top d).2) env n = .ok r →
        processBased r.cls = false := by
  obtain ⟨h1, h2⟩ := default_chain top hc h0
  have hcase : (d = 1 ∧ defaultAt top d = (.threading, 1)) ∨
      (2 ≤ d ∧ defaultAt top d = (.sequential, 2)) := by
    by_cases hd1 : d = 1
    · subst hd1; exact .inl ⟨rfl, h1⟩
    · exact .inr ⟨by omega, h2 d (by omega)⟩
  refine ⟨hcase, ?_⟩
  intro env n r hr
  apply thread_backend_no_processes _ _ _ _ _ _ hr
  rcases hcase with ⟨_, h⟩ | ⟨_, h⟩ <;> rw [h] <;> rfl

/-- What an executor looks like between two calls: never more live workers than `_max_workers`,
and none before the first submit. -/
def PoolWF (p : Pool) : Prop := p.alive ≤ p.maxWorkers ∧ (p.started = false → p.alive = 0)

/-- `resize_worker_count_eq`. Whatever the previous calls asked for — more workers, fewer, the same
number, or nothing yet — the call that asks the reusable executor for `n` workers runs on exactly
`n` live worker processes (growing spawns the difference, SHRINKING retires the surplus), and the
executor is again well-formed for the next call. By induction this holds along any sequence of
calls with growing and shrinking `n_jobs`. -/
theorem resize_worker_count_eq (cur : Option Pool) (same_args : Bool) (n : Nat)
    (h : ∀ p, cur = some p → PoolWF p) :
    (submitEnsure (getReusableExecutor cur same_args n)).alive = n ∧
    (submitEnsure (getReusableExecutor cur same_args n)).maxWorkers = n ∧
    PoolWF (submitEnsure (getReusableExecutor cur same_args n)) := by
  obtain ⟨hm, ha⟩ := getReusableExecutor_spec cur same_args n h
  have : (submitEnsure (getReusableExecutor cur same_args n)).alive = n := by
    simp only [submitEnsure, hm]; exact Nat.max_eq_right ha
  exact ⟨this, hm, by rw [PoolWF, this]; exact ⟨Nat.le_of_eq hm.symm, nofun⟩⟩

/-- …along a whole sequence of calls (each may or may not find the executor reusable). -/
theorem sequence_worker_count_eq (calls : List (Bool × Nat)) (cur : Option Pool)
    (h : ∀ p, cur = some p → PoolWF p) :
    ∀ st, st = calls.foldl (fun (acc : Option Pool × List Nat) c =>
        let p := submitEnsure (getReusableExecutor acc.1 c.1 c.2)
        (some p, acc.2 ++ [p.alive])) (cur, []) → st.2 = calls.map (·.2) := by
  suffices H : ∀ (calls : List (Bool × Nat)) (cur : Option Pool) (done : List Nat),
      (∀ p, cur = some p → PoolWF p) →
      (calls.foldl (fun (acc : Option Pool × List Nat) c =>
        let p := submitEnsure (getReusableExecutor acc.1 c.1 c.2)
        (some p, acc.2 ++ [p.alive])) (cur, done)).2 = done ++ calls.map (·.2) by
    intro st hst; rw [hst]; simpa using H calls cur [] h
  intro calls
  induction calls with
  | nil => intro cur done _; simp
  | cons c rest ih =>
    intro cur done hwf
    obtain ⟨ha, _, hw⟩ := resize_worker_count_eq cur c.1 c.2 hwf
    simp only [List.foldl_cons, List.map_cons]
    rw [ih _ _ (fun p hp => by cases hp; exact hw), ha]
    simp

/-- The shortcut "shrinking needs no spawn, just lower `_max_workers`" would leave the surplus
workers alive: 4 then 2 keeps 4 (witness of why the shrink branch matters). -/
theorem shrink_shortcut_counterexample :
    let p : Pool := ⟨4, 4, true⟩
    (submitEnsure { p with maxWorkers := 2 }).alive = 4 ∧ (submitEnsure (resize p 2)).alive = 2 := by
  decide +kernel

/-- `thread_pool_exact`. One `ThreadingBackend` instance — at ANY nesting level: the instance a
`parallel_config(backend="threading")` block hands to every call, or the nested instance that
`BatchedCalls` installs for all the tasks of a batch in a thread, loky or multiprocessing worker —
serves ANY history of statements `Parallel(n_jobs=n)(…)` and `with Parallel(n_jobs=n) as p: p(…); p(…)`
with growing and shrinking `n` (also `n = 1`, which falls back to the sequential backend), each with
any number of tasks. Provided a `with` block contains only calls of its own `Parallel` object
(`TCall.clean`): EVERY task of EVERY call is put on a pool of exactly the call's resolved `n_jobs`
threads — never on a pool left by an earlier call — and once the history is over the instance holds
no pool. -/
theorem thread_pool_exact (cs : List TCall) (hc : ∀ c ∈ cs, c.clean = true) (b : TBackend)
    (hb : b.pool = none) :
    (∀ o ∈ (tRun .asIs b cs).2, ∀ k ∈ o.sizes, k = o.n) ∧ (tRun .asIs b cs).1.pool = none := by
  induction cs generalizing b with
  | nil => exact ⟨nofun, hb⟩
  | cons c rest ih =>
    have hrest : ∀ c ∈ rest, c.clean = true := fun c h => hc c (List.mem_cons_of_mem _ h)
    cases c with
    | plain n t =>
      obtain ⟨p1, p2, _⟩ := tPlain_asIs n t b hb
      obtain ⟨h1, h2⟩ := ih hrest _ p2
      exact ⟨List.forall_mem_cons.2 ⟨p1, h1⟩, h2⟩
    | managed n body =>
      obtain ⟨p1, p2⟩ := tManaged_asIs n body (hc _ (List.mem_cons_self ..)) b hb
      obtain ⟨h1, h2⟩ := ih hrest _ p2
      exact ⟨fun o ho => (List.mem_append.1 ho).elim (p1 o) (h1 o), h2⟩

/-- Every task of a plain call with `n ≠ 1` is observed (the statement above is not about an empty
list of sizes). -/
theorem thread_pool_sees_every_task (n t : Nat) (hn : n ≠ 1) (b : TBackend) (hb : b.pool = none) :
    (tPlain .asIs b n t).2 = List.replicate t n := by
  obtain ⟨h1, _, h3⟩ := tPlain_asIs n t b hb
  exact List.eq_replicate_iff.mpr ⟨h3 hn, h1⟩

/-- Why `terminate()` at the end of every unmanaged call (and a pool built lazily with exactly
`_n_jobs` threads) matters: an instance that keeps its pool for the next call and rebuilds it only
when it is too SMALL puts the three tasks of the `n_jobs=2` call on the 4 threads left by the
`n_jobs=4` call. -/
theorem kept_pool_counterexample :
    (tRun .keepLarger TBackend.fresh [.plain 4 3, .plain 2 3]).2
      = [⟨4, [4, 4, 4], some 4⟩, ⟨2, [4, 4, 4], some 4⟩] := by decide +kernel

/-- The hypothesis `clean` cannot be dropped, in the model AND in the code (finding reported by the
check under `C15_FOREIGN_IN_MANAGED=1`): another `Parallel(n_jobs=2)` call made inside
`with Parallel(n_jobs=4) as p` through the same instance runs on p's 4 threads, then terminates
them, and p's next call runs on 2. -/
theorem foreign_call_in_managed_block_counterexample :
    (tRun .asIs TBackend.fresh [.managed 4 [.own 2, .foreign 2 2, .own 2]]).2
      = [⟨4, [4, 4], some 4⟩, ⟨2, [4, 4], none⟩, ⟨4, [2, 2], some 2⟩] := by decide +kernel

example : PoolWF ⟨4, 4, true⟩ := by simp [PoolWF]
example : (tRun .asIs TBackend.fresh [.plain 4 2, .managed 3 [.own 1, .own 2], .plain 1 5, .plain 2 2]).2
    = [⟨4, [4, 4], none⟩, ⟨3, [3], some 3⟩, ⟨3, [3, 3], some 3⟩, ⟨1, [], none⟩, ⟨2, [2, 2], none⟩] := by decide +kernel
example : (submitEnsure (getReusableExecutor (some ⟨2, 2, true⟩) true 4)).alive = 4 := by decide +kernel
example : guarded .loky (some 0) ⟨false, false, true, 0, 8⟩ = false := by decide +kernel
example : guarded .multiprocessing (some 1) ⟨false, false, false, 0, 8⟩ = true := by decide +kernel
example : effectiveNJobs .loky (some 0) ⟨false, false, true, 0, 8⟩ (some (-2)) = .ok 7 := by decide +kernel
example : effectiveNJobs .threading (some 2) ⟨false, true, false, 3, 8⟩ (some (-20)) = .ok 1 := by decide +kernel
example : initializeBackend .loky (some 0) ⟨false, false, true, 0, 8⟩ (some (-1))
    = .ok ⟨.loky, 8, some 8⟩ := by decide +kernel
example : cpuCount ⟨some 16, none, some 6, some (250000, 100000), some (some 0), some 8⟩ false = .ok 1 := by
  decide +kernel
example : cpuCount ⟨some 16, none, some 6, some (250000, 100000), some (some 5), some 8⟩ true = .ok 3 := by
  decide +kernel
example : cpuCount ⟨some 16, none, some 16, none, none, some 8⟩ true = .ok 8 := by decide +kernel
example : (defaultAt (.loky, 0) 1, defaultAt (.loky, 0) 2, defaultAt (.loky, 0) 3)
    = ((.threading, 1), (.sequential, 2), (.sequential, 2)) := by decide +kernel

end C15
