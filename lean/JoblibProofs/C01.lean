import JoblibProofs.Lemmas.ParallelCalls
import JoblibProofs.Lemmas.AutoBatch
import JoblibProofs.Lemmas.ParallelSeq
/-!
# C01 — Parallel returns what the sequential loop returns, in order, each task once

Statement (properties.jsonl): for any finite iterable of delayed calls, `Parallel(...)(tasks)` with
`return_as='list'` or `'generator'` yields exactly `[f(*a, **k) for f, a, k in tasks]` in submission order, for every
backend, `n_jobs`, `batch_size` (fixed or `'auto'`) and `pre_dispatch` setting; every task is executed exactly once
whatever the order and timing in which workers finish their batches.

Model: `JoblibModel.ParallelProto` (M1). Task `i` of a call is the id `base + i`, and `f` is the identity on ids,
so "the values of the sequential loop" is `List.range' base n`. ALL non-determinism is in the schedule
`St.sched` (which parked batch completes at which hook point), in what earlier calls left parked, and in the
scripted batch sizes `Cfg.bs`.

Quantifier reached: ALL schedules (any `sched`, any leftovers of earlier calls in `parked`), ALL task counts `n`,
ALL configurations with `n_jobs ≥ 2` (hence ≥ 1), every scripted batch size ≥ 1 (fixed or auto: see
`auto_batch_size_ge_one`), `pre_dispatch = 'all'` or evaluating to ≥ 1, ordered modes `return_as ∈ {list,
generator}` — by invariants and induction on fuel / schedule, never by enumeration. Granularity: completion
callbacks are atomic and happen at the hook points of harness/ctl.py (DESIGN 13.2).
`pre_dispatch` evaluating to 0 is excluded: `pre_dispatch_zero_counterexample` (finding F11).
`return_as='generator_unordered'`: `return_correct_unordered` — the result is a rearrangement of the sequential
results, each value exactly once (whole batches in completion order: C16). The invariants `dispatch_conservation` /
`exactly_once` and `no_hang` hold in all three modes.

Further sections: the batch sizes of `batch_size='auto'` (model `JoblibModel.AutoBatch`: every size ≥ 1, also across
the calls of one object) and the sequential path `n_jobs == 1` (model `JoblibModel.ParallelSeq`: return value, each
task once, object idle afterwards).
-/
namespace C01
open JoblibModel.ParallelProto

/-- The configurations of the model's domain. -/
theorem cfgOK_of {c : Cfg} (hnj : 2 ≤ c.nj) (hbs : ∀ b ∈ c.bs, 1 ≤ b) : CfgOK c :=
  JoblibModel.ParallelProto.cfgOK_of hnj hbs

/-- The invariant `Inv c t0 s` (see `Lemmas/ParallelProto/Inv.lean`; `t0` = number of trackers that existed when
the call started) holds when `callStart` hands over to the retrieval phase, for every idle start state —
including late completions of earlier calls sitting in `parked` and arriving at `backend.configure()`. -/
theorem invariant_established {c : Cfg} (hnj : 2 ≤ c.nj) (hbs : ∀ b ∈ c.bs, 1 ≤ b) (fuel base : Nat)
    (spec : CallSpec) {s : St} (hi : Idle s) (hh : s.hung = false) :
    ∃ s1, callStart c fuel base spec s = (s1, none) ∧ Inv c s.trk.length s1 := by
  obtain ⟨s1, h1, h2⟩ := callStart_started (cfgOK_of hnj hbs) fuel base spec hi hh
  exact ⟨s1, h1, h2.inv⟩

/-- The invariant is preserved by every step of the protocol at the model's granularity: any hook point (the
schedule delivers any completions, each callback atomic, including `dispatch_next`), the locked region of
`dispatch_one_batch` from either thread, the caller's `dispatch_one_batch`, the dispatch loop of `_start`, `get_status`. (The steps of
the retrieval loop proper are covered by `retrieveLoop_next`, used in `return_correct`.) -/
theorem invariant_preserved {c : Cfg} (hnj : 2 ≤ c.nj) (hbs : ∀ b ∈ c.bs, 1 ≤ b) {t0 : Nat} {s : St}
    (h : Inv c t0 s) :
    (∀ sleep, Inv c t0 (hook c sleep s)) ∧
    (∀ k, Inv c t0 (deliver c k s)) ∧
    (∀ l, Inv c t0 (deliverAll c s l)) ∧
    (∀ fo bs, 1 ≤ bs → s.aborting = false → Inv c t0 (dispatchLocked c fo bs s).1) ∧
    Inv c t0 (dispatchOneMain c s).1 ∧
    (∀ fuel, Inv c t0 (startLoop c fuel s)) ∧
    (∀ i, t0 ≤ i → i < s.trk.length → Inv c t0 (getStatus c s i).1) := by
  have hc := cfgOK_of hnj hbs
  refine ⟨fun sl => (hook_spec hc sl h).inv, fun k => (deliver_spec hc k h).1.inv,
    fun l => (deliverAll_spec hc l s h).inv, ?_, (dispatchOneMain_spec hc h).inv,
    fun fuel => (startLoop_spec hc fuel s h).inv, fun i h0 h1 => (getStatus_spec h h0 h1).inv⟩
  intro fo bs hb hna
  have hd := dispatchLocked_dlspec hc (fo := fo) hb h.T h.S h.L hna
  exact ⟨hd.T, hd.S, hd.L, hd.iterp h.P⟩

/-- Trackers of other calls (stale callbacks) are no-ops on the `Parallel` object. -/
theorem stale_callback_noop (c : Cfg) (s : St) (i : Nat) (failed : Option Nat)
    (h : (getTrk s i).callId ≠ s.callId) : callback c s i failed = s :=
  JoblibModel.ParallelProto.stale_callback_noop c s i failed h

/-- CONSERVATION. In every state of a call that is not aborting: the ids in this call's trackers (in creation
order), then the look-ahead queue, then the not yet sliced input, are exactly the call's ids in order — nothing
lost, nothing duplicated, order kept. -/
theorem dispatch_conservation {c : Cfg} {t0 : Nat} {s : St} (h : Inv c t0 s) (hna : s.aborting = false) :
    dispItems t0 s ++ s.ready.flatten ++ List.range' (s.base + s.srcPos) (s.spec.n - s.srcPos) =
      List.range' s.base s.spec.n := by
  rw [h.S.cons hna]
  have := h.S.src_le
  have e : s.spec.n = s.srcPos + (s.spec.n - s.srcPos) := by omega
  conv => rhs; rw [e]
  rw [← List.range'_append]
  simp

/-- EXACTLY ONCE (at most once at any time). While the call is not aborting every task id occurs at most once
in all the batches dispatched by the call, and only ids of the call occur. -/
theorem exactly_once {c : Cfg} {t0 : Nat} {s : St} (h : Inv c t0 s) (hna : s.aborting = false) :
    (dispItems t0 s).Nodup ∧ ∀ id ∈ dispItems t0 s, s.base ≤ id ∧ id < s.base + s.spec.n := by
  have hc := h.S.cons hna
  have hn : (dispItems t0 s ++ s.ready.flatten).Nodup := by
    rw [hc]; exact List.nodup_range' (step := 1) (by omega)
  refine ⟨(List.nodup_append.mp hn).1, ?_⟩
  intro id hid
  have : id ∈ List.range' s.base s.srcPos := by rw [← hc]; exact List.mem_append_left _ hid
  rw [List.mem_range'_1] at this
  have := h.S.src_le
  omega

/-- EXACTLY ONCE (exactly once at normal return). When the retrieval loop takes its normal exit (not aborting,
`_iterating` cleared, after `_start`), the batches dispatched by the call contain exactly the call's ids, each
once, in order. -/
theorem exactly_once_at_exit {c : Cfg} {t0 : Nat} {s : St} (h : Inv c t0 s) (hp : Post s)
    (hna : s.aborting = false) (hit : s.iterating = false) :
    dispItems t0 s = List.range' s.base s.spec.n := by
  obtain ⟨h1, h2⟩ := hp hna hit
  have hc := h.S.cons hna
  rw [h1, (h.S.dead hna h2).1] at hc
  simpa using hc

/-- RETURN CORRECT (and no hang). A list-mode call on an idle `Parallel` object in which no task of the call
fails, the input does not raise and there is no timeout returns exactly the sequential results
`List.range' base n`, for EVERY schedule — including late completions of earlier calls in `parked` — every task
count, `n_jobs ≥ 2`, scripted batch sizes ≥ 1, `pre_dispatch = 'all'` or ≥ 1, ordered `return_as`; `hung` is
never set and the object is left idle and clean. Fuel: `2 n + |sched| + |parked| + 2`. -/
theorem return_correct {c : Cfg} (hnj : 2 ≤ c.nj) (hbs : ∀ b ∈ c.bs, 1 ≤ b) (hra : c.ra ≠ 2)
    (hpd : c.pdMode = 1 ∨ 1 ≤ c.pd) (hto : c.timeout = -1)
    {fuel base : Nat} {spec : CallSpec} {s₀ : St} (hi : Idle s₀) (hh : s₀.hung = false)
    (hfail : ∀ id ∈ s₀.failIds, ¬ (base ≤ id ∧ id < base + spec.n)) (hiter : spec.iterfail = -1)
    (hfuel : 2 * spec.n + s₀.sched.length + s₀.parked.length + 2 ≤ fuel) :
    ∃ s', callList c fuel base spec s₀ = (s', .ret (List.range' base spec.n)) ∧
      Idle s' ∧ Clean s' ∧ s'.hung = false ∧ s'.exception = false := by
  obtain ⟨s', out, e, hr, h⟩ := callList_returns (cfgOK_of hnj hbs) hi hh hpd ⟨hfail, by show spec.iterfail < 0; omega, by omega⟩ hfuel
  obtain rfl := hr.eq (by simp [ordered, hra])
  exact ⟨s', e, h⟩

/-- RETURN CORRECT, `return_as='generator_unordered'`. Under the same hypotheses the values returned are a
rearrangement of the sequential results: every task's value exactly once, none lost, none duplicated — for every
schedule. (They come out batch by batch in completion order: C16 `unordered_completion_order_partial`.) -/
theorem return_correct_unordered {c : Cfg} (hnj : 2 ≤ c.nj) (hbs : ∀ b ∈ c.bs, 1 ≤ b) (hra : c.ra = 2)
    (hpd : c.pdMode = 1 ∨ 1 ≤ c.pd) (hto : c.timeout = -1)
    {fuel base : Nat} {spec : CallSpec} {s₀ : St} (hi : Idle s₀) (hh : s₀.hung = false)
    (hfail : ∀ id ∈ s₀.failIds, ¬ (base ≤ id ∧ id < base + spec.n)) (hiter : spec.iterfail = -1)
    (hfuel : 2 * spec.n + s₀.sched.length + s₀.parked.length + 2 ≤ fuel) :
    ∃ s' out, callList c fuel base spec s₀ = (s', .ret out) ∧ out.Perm (List.range' base spec.n) ∧
      Idle s' ∧ Clean s' ∧ s'.hung = false ∧ s'.exception = false := by
  obtain ⟨s', out, e, hr, h⟩ := callList_returns (cfgOK_of hnj hbs) hi hh hpd ⟨hfail, by show spec.iterfail < 0; omega, by omega⟩ hfuel
  exact ⟨s', out, e, hr.perm.symm, h⟩

/-- QUIESCENT TERMINATION / NO HANG, with failures allowed. Whatever fails (tasks, the input iterable, the
timeout), whatever the schedule and whatever `return_as`, a call on an idle object never ends in `.hung`: it returns or
raises, with `hung = false`, leaving the object idle and clean. In particular when nothing is parked and no
callback is pending the retrieval loop exits instead of sleeping (`pending_exists`). -/
theorem no_hang {c : Cfg} (hnj : 2 ≤ c.nj) (hbs : ∀ b ∈ c.bs, 1 ≤ b)
    (hpd : c.pdMode = 1 ∨ 1 ≤ c.pd) {fuel base : Nat} {spec : CallSpec} {s₀ : St} (hi : Idle s₀)
    (hh : s₀.hung = false) (hfuel : 2 * spec.n + s₀.sched.length + s₀.parked.length + 2 ≤ fuel) :
    (callList c fuel base spec s₀).2 ≠ .hung ∧ (callList c fuel base spec s₀).1.hung = false ∧
      Idle (callList c fuel base spec s₀).1 := by
  obtain ⟨h1, h2, _, h4, _⟩ := callList_ends (cfgOK_of hnj hbs) (base := base) (spec := spec) hi hh hpd hfuel
  exact ⟨h1, h4, h2⟩

/-- While the retrieval loop has to wait (`_iterating`, or fewer tasks completed than dispatched) and the call is
not aborting, some batch of the call is parked at the backend: the loop never sleeps with nothing to wait for. -/
theorem waiting_means_parked {c : Cfg} {t0 : Nat} {s : St} (h : Inv c t0 s) (hna : s.aborting = false)
    (hw : s.iterating = true ∨ s.nCompleted < s.nDispTasks) : s.parked ≠ [] :=
  pending_exists h hna hw

/-- The state of a fresh `Parallel` object is idle, for every schedule and every set of failing ids. -/
theorem initial_idle (sched : List (List Nat)) (failIds : List Nat) :
    Idle ({ sched := sched, failIds := failIds } : St) :=
  ⟨rfl, rfl, rfl, fun i => by simp [getTrk], fun i hi => by simp at hi, by simp,
    Or.inr (fun i hi => by simp at hi)⟩

/-- F11 (known finding): with `pre_dispatch` evaluating to 0 nothing is dispatched and the call silently
returns `[]` although it has 3 tasks. `return_correct` therefore requires `pre_dispatch ≥ 1` or `'all'`. -/
theorem pre_dispatch_zero_counterexample :
    (callList (⟨2, false, [1], 0, 0, 0, -1, false, true⟩ : Cfg) 30 0 ⟨3, [], -1, []⟩ {}).2 = .ret [] := by
  decide +kernel

/-- The scripted batch sizes of the real auto-batching backends: for every sequence of `compute_batch_size` /
`batch_completed` operations from the initial state, every value `compute_batch_size` returns is ≥ 1. This
discharges M1's hypothesis "all scripted batch sizes ≥ 1" for `batch_size='auto'`. -/
theorem auto_batch_size_ge_one (ops : List JoblibModel.AutoBatch.Op) :
    ∀ b ∈ JoblibModel.AutoBatch.run {} ops, 1 ≤ b :=
  JoblibModel.AutoBatch.run_all_ge_one {} ops (by decide)

/-- The same ACROSS the calls of one `Parallel` object (seed `C01-r5-m2`): the loky / multiprocessing backends keep their
batching statistics between the calls of a managed `with Parallel(...)` (they are reset by `terminate()` only: `Op.reset`),
whatever the inputs of these calls are (`Op.newCall nTasks nDispatched nWorkers`: sized or unsized input, the counters of the
`Parallel` object, the number of workers — the mixin reads none of them). After ANY history `hist` of calls (computes,
completions, resets, new calls, in any order and number) the stored `_effective_batch_size` is ≥ 1, and every value
`compute_batch_size` returns in whatever follows (`next`) is ≥ 1 — so no later call can slice its input by `islice(it, 0)` and
take it for exhausted. -/
theorem auto_batch_size_ge_one_across_calls (hist next : List JoblibModel.AutoBatch.Op) :
    1 ≤ (JoblibModel.AutoBatch.final {} hist).eff ∧
    (∀ b ∈ JoblibModel.AutoBatch.run (JoblibModel.AutoBatch.final {} hist) next, 1 ≤ b) ∧
    JoblibModel.AutoBatch.run {} (hist ++ next) =
      JoblibModel.AutoBatch.run {} hist ++ JoblibModel.AutoBatch.run (JoblibModel.AutoBatch.final {} hist) next :=
  have h := JoblibModel.AutoBatch.final_eff_ge_one {} hist (by decide)
  ⟨h, JoblibModel.AutoBatch.run_all_ge_one _ next h, JoblibModel.AutoBatch.run_append {} hist next⟩

/-- The batch size depends on the history of `(batch size, duration)` records since the last reset ONLY: the inputs of the
calls (`newCall`) can be dropped from any history without changing a single returned value. -/
theorem auto_batch_size_ignores_call_inputs (s : JoblibModel.AutoBatch.St) (ops : List JoblibModel.AutoBatch.Op) :
    JoblibModel.AutoBatch.run s ops =
      JoblibModel.AutoBatch.run s (ops.filter (fun o => match o with | .newCall _ _ _ => false | _ => true)) := by
  induction ops generalizing s with
  | nil => rfl
  | cons op r ih =>
    cases op with
    | newCall a b c => exact ih s
    | compute | completed b d | reset => simp only [List.filter, JoblibModel.AutoBatch.run_cons]; rw [ih]

/-- A managed object: a 400-task list processed in fast batches (the size grows 1 → 2 → 4), then a second call with a short
sized input whose last `compute_batch_size` is made with nothing left to dispatch: all sizes ≥ 1 (a cap by "tasks left /
workers", cf. the counterexample of seed m2, would have given 0 here and in every later call). -/
example : JoblibModel.AutoBatch.run {} [.newCall (some 400) 0 2, .compute, .completed 1 ⟨1, 100⟩, .compute, .completed 2 ⟨1, 100⟩,
    .compute, .newCall (some 3) 0 2, .compute, .completed 4 ⟨1, 100⟩, .newCall (some 3) 3 2, .compute, .newCall none 0 2, .compute]
    = [1, 2, 4, 4, 8, 8] := by decide +kernel

/-! ### the hypotheses are satisfiable -/

/-- A configuration (`n_jobs=2`, auto batch sizes 1, 3, 2, …, `pre_dispatch=3`, list mode) and a non-trivial
schedule satisfying all hypotheses of `return_correct`. -/
example : ∃ s', callList (⟨2, true, [1, 3, 2], 0, 3, 0, -1, false, true⟩ : Cfg) 100 0 ⟨7, [], -1, []⟩
      ({ sched := [[0], [], [1, 0], [0]], failIds := [] } : St) = (s', .ret [0, 1, 2, 3, 4, 5, 6]) ∧
      Idle s' ∧ Clean s' ∧ s'.hung = false ∧ s'.exception = false :=
  return_correct (by decide) (by decide) (by decide) (by decide) rfl (initial_idle _ _) rfl (by simp) rfl
    (by decide)

example : (callList (⟨2, true, [1, 3, 2], 0, 3, 0, -1, false, true⟩ : Cfg) 100 0 ⟨7, [], -1, []⟩
      ({ sched := [[0], [], [1, 0], [0]], failIds := [] } : St)).2 = .ret [0, 1, 2, 3, 4, 5, 6] := by decide +kernel

/-- Unordered mode, same configuration, another schedule: a rearrangement (batches in completion order). -/
example : (callList (⟨2, true, [1, 3, 2], 0, 3, 2, -1, false, true⟩ : Cfg) 100 0 ⟨7, [], -1, []⟩
      ({ sched := [[1], [], [1, 0], [1]], failIds := [] } : St)).2 = .ret [0, 1, 4, 5, 2, 3, 6] := by decide +kernel


/-! ### the sequential path (`n_jobs == 1`, `Parallel._get_sequential_output`, model `JoblibModel.ParallelSeq`) -/

section Sequential
open JoblibModel.ParallelSeq

/-- SEQUENTIAL RETURN CORRECT. With `n_jobs == 1` a list-mode call on an idle object, none of whose tasks fails and
whose input does not raise, returns exactly the sequential results `List.range' base n` — for every schedule (the
hook points only consume schedule entries), every `batch_size` (the re-batching uses `max bs 1`), every leftover of
earlier calls. Fuel: `n + 2`. The object is idle afterwards and all `n` tasks have been executed. -/
theorem sequential_return_correct (c : Cfg) {fuel base : Nat} {spec : CallSpec} {s₀ : St} (hi : Idle s₀)
    (hfail : ∀ id ∈ s₀.failIds, ¬ (base ≤ id ∧ id < base + spec.n)) (hiter : spec.iterfail = -1)
    (hfuel : spec.n + 2 ≤ fuel) :
    ∃ s', seqCallList c fuel base spec s₀ = (s', .ret (List.range' base spec.n)) ∧ Idle s' ∧
      s'.nCompleted = spec.n ∧ s'.exception = false ∧ s'.hung = s₀.hung := by
  have h := seqCallList_spec c (base := base) (spec := spec) hi hfuel
  generalize seqCallList c fuel base spec s₀ = r at h
  obtain ⟨s', o⟩ := r
  cases o with
  | ret v =>
    obtain ⟨hk, hv, hs⟩ := h
    exact ⟨s', by rw [hv], hk.idle, hs.all, hs.noexc, hk.hung⟩
  | raised e =>
    rcases h.2.why with ⟨_, b2, b3, _⟩ | ⟨pos, _, b2, _⟩
    · exact absurd ⟨Nat.le_add_right _ _, by omega⟩ (hfail _ b2)
    · omega
  | hung => exact h.elim

/-- SEQUENTIAL EXACTLY ONCE. Every `next()` on a live sequential generator executes exactly the next id in order
(`base + nCompleted`) and counts it; when a list-mode call returns, `nCompleted = n`, the returned list is the ids in
order and has no duplicates: each task was executed exactly once. -/
theorem sequential_exactly_once (c : Cfg) :
    (∀ (fuel : Nat) (s : St) (g : SGen), SInv s g → ∀ s' g' v, seqNext (fuel + 2) s g = (s', g', .value v) →
      v = s.base + s.nCompleted ∧ s'.nCompleted = s.nCompleted + 1 ∧ SInv s' g') ∧
    (∀ (fuel base : Nat) (spec : CallSpec) (s₀ s' : St) (v : List Nat), Idle s₀ → spec.n + 2 ≤ fuel →
      seqCallList c fuel base spec s₀ = (s', .ret v) →
      v = List.range' base spec.n ∧ v.Nodup ∧ s'.nCompleted = spec.n) := by
  constructor
  · intro fuel s g h s' g' v he
    have := seqNext_spec fuel h
    rw [he] at this
    exact ⟨this.val, this.count, this.inv⟩
  · intro fuel base spec s₀ s' v hi hf he
    have := seqCallList_spec c (base := base) (spec := spec) hi hf
    rw [he] at this
    exact ⟨this.2.1, by rw [this.2.1]; exact List.nodup_range' (step := 1) (by omega), this.2.2.all⟩

/-- SEQUENTIAL LEAVES IDLE. However a sequential call on an idle object ends (return or raise, whatever fails), the
object is idle afterwards (`_running = False`, …): sequential and parallel calls compose in any order. -/
theorem sequential_leaves_idle (c : Cfg) {fuel base : Nat} {spec : CallSpec} {s₀ : St} (hi : Idle s₀)
    (hfuel : spec.n + 2 ≤ fuel) :
    Idle (seqCallList c fuel base spec s₀).1 ∧ (seqCallList c fuel base spec s₀).1.running = false ∧
    (seqCallList c fuel base spec s₀).2 ≠ .hung := by
  have h := seqCallList_spec c (base := base) (spec := spec) hi hfuel
  generalize seqCallList c fuel base spec s₀ = r at h
  obtain ⟨s', o⟩ := r
  cases o with
  | ret v | raised e => exact ⟨h.1.idle, h.1.idle.running, CallOutcome.noConfusion⟩
  | hung => exact h.elim

example : (seqCallList (⟨1, true, [3, 2], 0, 2, 0, -1, false, true⟩ : Cfg) 20 5 ⟨7, [], -1, []⟩
    ({ sched := [[0], [1]], failIds := [2] } : St)).2 = .ret [5, 6, 7, 8, 9, 10, 11] := by decide +kernel

end Sequential

end C01
