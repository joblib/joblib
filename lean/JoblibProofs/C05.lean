import JoblibProofs.Lemmas.StoreCrash
import JoblibModel.StoreIO
/-!
# C05 — killing the process at any instant never corrupts the Memory cache

Statement (properties.jsonl): if the process is killed at any instant while a cached function's result is being
computed, stored, invalidated or evicted, the cache directory stays usable: a later call in a fresh process returns the
correct value without raising (recomputing if necessary), including when a `cache_validation_callback` such as
`expires_after` is configured. A result file is never visible under its final name unless it is complete.

Model: `JoblibModel.Store` (repaired code: fixes F08, F09; `Cfg.legacy := true` is the code before them).
A workload is a program over single system calls; `crash k torn w fs` is the file system after its first `k` calls, the
k-th — when it is a `write` — cut to `torn` bytes; `run (callProc c a) _` is the same call made by a fresh process.
The eight workloads of the statement are instances of three programs:
* `callProc c a`  — cold first call, warm call, call after a source change (the directory was filled by another
  `ver`), callback-driven invalidation (`c.callback`), `call_and_shelve(...).get()` (`c.shelve`), compressed store
  (another `Codec`);
* `reduceProc c victims` — `Memory.reduce_size`;  `clearProc c` — `Memory.clear()`.

Quantifier reached: every workload and configuration, every initial directory satisfying `CacheOK` (any entries, any
leftovers of earlier crashes that satisfy it, any directory order `c.rank`), every `k`, every torn length, every
codec with `unpickle (pickle v) = v`, every `checkCode` for which no strict prefix of the text joblib writes compares
equal to the live source (`CodeOK`); the recovering call `f(a)` may use any argument, any callback, any participant id.
(The recovering call is `__call__`, `c.shelve = false`; the `call_and_shelve` WORKLOAD is covered, `get()` as the
recovering call is only covered by the kill sweep of the harness.) `unpickle p = error` for strict prefixes `p` (C14's
contract) turned out not to be needed: no torn result ever has a final name (`final_name_complete`).

Generations (section "Generations and validity stamps" at the end): values carry the generation of the execution that
produced them, `metadata.json` the generation of its time stamp; the theorems above say "a value of the live source for
the right argument, of SOME generation" (`∃ g, … = .ok ⟨π.ver, a, g⟩`); that the generation is recent enough under an
expiring callback (`since g`) is `expiry_recovery_partial` / `stamp_not_newer_than_value_partial` (finite family, every
`k`, every torn length) and, for every configuration and directory, `entry_without_metadata_is_not_valid_under_a_callback`,
`accepted_under_since_has_recent_stamp`, `accepted_under_since_has_recent_value`; the seeded orders are refuted by
`metadata_first_counterexample`, `skip_callback_without_metadata_counterexample`.

What is false (witnesses below, replayed on the real code by harness/props/c05.py):
* before the repairs: `crash_recovery` fails when `expires_after` finds `output.pkl` without `metadata.json`
  (`old_code_F8_witness`) and when `func_code.py` is torn inside its first line (`old_code_F9_witness`);
* still: after a kill inside the directory removal of a *source change*, once `func_code.py` is gone but old entries
  remain, the recovering call is right (`crash_recovery`) but re-creates `func_code.py` next to the old entries, so a
  LATER call for another argument returns the old source's value (`stale_after_crash_witness`, finding F36). The fragment
  that holds is `later_calls_correct_partial`.
-/
namespace C05
open JoblibModel.Store

variable {π : Par}

/-- `numpy_pickle.load(numpy_pickle.dump(v)) = v` -/
def CodecOK (cd : Codec) : Prop := ∀ v, cd.unpickle (cd.pickle v) = some v

/-- A cache directory nobody was killed in (with respect to the live source `π.ver`): final names are complete; if
`func_code.py` compares equal to the live source — or is absent — every result present is of the live source.
(A directory filled by an older source has a `func_code.py` that compares different.) -/
def CacheOK (π : Par) (fs : FS) : Prop := Inv π false fs ∧ TrustK π false fs ∧ AbsK π false fs

theorem cacheOK_iff {fs : FS} : CacheOK π fs ↔ StartOK π false True fs :=
  ⟨fun h => ⟨h.1, h.2.1, fun _ => h.2.2⟩, fun h => ⟨h.1, h.2.1, h.2.2 trivial⟩⟩

def FinalComplete (π : Par) (fs : FS) : Prop :=
  (∀ a d, fs.dataAt (pOut a) = some d → ∃ v g, d = π.cd.pickle ⟨v, a, g⟩) ∧
  (∀ a d, fs.dataAt (pMeta a) = some d → ∃ g, d = π.cd.metaText g)

inductive Workload
  | call (c : Cfg) (a : Nat)
  | reduce (c : Cfg) (victims : List Nat)
  | clear (c : Cfg)

def Workload.prog : Workload → Prog Unit
  | .call c a => (callProc c a).bind fun _ => .ret ()
  | .reduce c v => reduceProc c v
  | .clear c => clearProc c

/-- the workload's configuration agrees with the parameters (`call`: codec, version, participant id, repaired code) -/
def Workload.OK (π : Par) (me : Nat) : Workload → Prop
  | .call c _ => CfgOK π me c
  | _ => True

private theorem call_sat {me : Nat} {quiet : Prop} (c : Cfg) (hc : CfgBase π me c) (hmf : quiet → c.metadataFirst = false)
    (a : Nat) (hcd : CodecOK π.cd) :
    Sat (fun _ _ => False) (OwnG π me True quiet c.gen) (CacheOK π) (callProc c a) (fun _ _ => True) (fun _ _ => True) :=
  ((callProc_sat (s := false) (strong := True) solo c hc hmf a hcd).pre
    fun _ => cacheOK_iff.mp).post (fun _ _ _ => trivial) (fun _ _ _ => trivial)

def Workload.gen : Workload → Nat
  | .call c _ => c.gen
  | .reduce c _ => c.gen
  | .clear c => c.gen

/-- every workload guarantees for each of its calls what a calling process does when nobody else acts -/
theorem workload_sat {me : Nat} (w : Workload) (hw : w.OK π me) (hcd : CodecOK π.cd) :
    Sat (fun _ _ => False) (OwnG π me True True w.gen) (CacheOK π) w.prog (fun _ _ => True) (fun _ _ => True) := by
  cases w with
  | call c a => exact Sat.bind (call_sat c (CfgOK.base hw) (fun _ => hw.mfirst) a hcd) fun _ => .ret fun _ _ => trivial
  | reduce c v =>
    exact (((reduceProc_sat (s := false) solo c v).pre fun fs (hc : CacheOK π fs) => hc.1).post
      (fun _ _ _ => trivial) (fun _ _ _ => trivial)).mono_G fun _ _ hg => hg.2
  | clear c =>
    exact ((clearProc_sat (s := false) solo c).pre fun fs (hc : CacheOK π fs) => hc.1).post
      (fun _ _ _ => trivial) (fun _ _ _ => trivial)

theorem cacheOK_crashOK {fs : FS} (h : CacheOK π fs) : CrashOK π fs :=
  ⟨h.1, h.2.1⟩

/-- Every crash state of every workload satisfies `CrashOK`. -/
theorem crash_state_ok {me : Nat} (hco : CodeOK π) (hcd : CodecOK π.cd) (w : Workload) (hw : w.OK π me)
    {fs : FS} (h0 : CacheOK π fs) (k : Nat) (torn : Option Nat) : CrashOK π (crash k torn w.prog fs) :=
  crash_crashOK hco (workload_sat w hw hcd) h0 (cacheOK_crashOK h0) k torn

/-- **final_name_complete.** At every prefix — torn or not — of every workload, a file named `output.pkl` holds a
complete pickle of a value for that entry's argument and a file named `metadata.json` the complete metadata text: a
final name only ever appears by `rename` of a completely written private temporary. -/
theorem final_name_complete {me : Nat} (hco : CodeOK π) (hcd : CodecOK π.cd) (w : Workload) (hw : w.OK π me)
    {fs : FS} (h0 : CacheOK π fs) (k : Nat) (torn : Option Nat) : FinalComplete π (crash k torn w.prog fs) :=
  inv_final_names (crash_state_ok hco hcd w hw h0 k torn).1

/-- a fresh process making a call on any `CrashOK` directory returns `f(a)` (a value of the live source for the argument
`a`, of some generation — which generations are acceptable is the business of `expiry_recovery_partial` below) -/
theorem recover_correct {me : Nat} (hcd : CodecOK π.cd) (c : Cfg) (hc : CfgOK π me c) (hsh : c.shelve = false) (a : Nat)
    {fs : FS} (h : CrashOK π fs) : ∃ g, (run (callProc c a) fs).1 = .ok ⟨π.ver, a, g⟩ :=
  (recover_value hcd c hc.base hsh a h).imp fun _ hg => hg.1

/-- **crash_recovery.** For every workload, every `k`, every torn length: the call `f(a)` made afterwards by a fresh
process (any argument `a`, any validation callback, e.g. `expires_after`) returns `f(a)` and does not raise. -/
theorem crash_recovery {me me' : Nat} (hco : CodeOK π) (hcd : CodecOK π.cd) (w : Workload) (hw : w.OK π me)
    {fs : FS} (h0 : CacheOK π fs) (k : Nat) (torn : Option Nat)
    (c : Cfg) (hc : CfgOK π me' c) (hsh : c.shelve = false) (a : Nat) :
    ∃ g, (run (callProc c a) (crash k torn w.prog fs)).1 = .ok ⟨π.ver, a, g⟩ :=
  recover_correct hcd c hc hsh a (crash_state_ok hco hcd w hw h0 k torn)

/-! ## After the recovery

Full statement (FALSE for the source-change workload — `stale_after_crash_witness`):
  `recovery_idempotent : CrashOK π fs → CacheOK π (run (callProc c a) fs).2`
(the directory the recovering call leaves is again one nobody was killed in, so every later call is right). -/

theorem cacheOK_of_live {fs : FS} (h : Inv π true fs) : CacheOK π fs :=
  ⟨inv_weaken h, fun _ _ _ _ _ => h, fun _ _ => h⟩

/-- the recovering call keeps `CacheOK` -/
theorem recover_keeps_cacheOK {me : Nat} (hcd : CodecOK π.cd) (c : Cfg) (hc : CfgOK π me c) (hsh : c.shelve = false)
    (a : Nat) {fs : FS} (h : CacheOK π fs) : CacheOK π (run (callProc c a) fs).2 :=
  (callProc_solo hcd c hc.base hsh a (cacheOK_iff.mp h)).elim fun _ hg => cacheOK_of_live (hg.2 trivial)

/-- a sequence of later calls, each by a fresh process -/
def laterCalls : List (Cfg × Nat) → FS → List (Outcome Val) × FS
  | [], fs => ([], fs)
  | (c, a) :: r, fs =>
    let x := run (callProc c a) fs
    let y := laterCalls r x.2
    (x.1 :: y.1, y.2)

/-- an outcome without the generation of the value: (source version, argument) -/
def noGen : Outcome Val → Outcome (Nat × Nat)
  | .ok v => .ok (v.ver, v.arg)
  | .raised e => .raised e

/-- From a directory nobody was killed in, any sequence of calls by fresh processes returns the right values. -/
theorem calls_correct {me : Nat} (hcd : CodecOK π.cd) :
    ∀ (l : List (Cfg × Nat)) (fs : FS), (∀ x ∈ l, CfgOK π me x.1 ∧ x.1.shelve = false) → CacheOK π fs →
      (laterCalls l fs).1.map noGen = l.map fun x => .ok (π.ver, x.2) := by
  intro l
  induction l with
  | nil => intro fs _ _; rfl
  | cons x r ih =>
    intro fs hl h
    obtain ⟨c, a⟩ := x
    have hx := hl (c, a) List.mem_cons_self
    simp only [laterCalls, List.map_cons]
    obtain ⟨g, hg⟩ := recover_correct hcd c hx.1 hx.2 a (cacheOK_crashOK h)
    rw [hg]
    rw [ih _ (fun y hy => hl y (List.mem_cons_of_mem _ hy)) (recover_keeps_cacheOK hcd c hx.1 hx.2 a h)]
    rfl

/-- Crash states of a workload started in a directory whose results are all of the live source (every workload but the
call after a source change) are again such directories. -/
theorem crash_state_live {me : Nat} (hcd : CodecOK π.cd) (w : Workload) (hw : w.OK π me)
    {fs : FS} (h0 : Inv π true fs) (k : Nat) (torn : Option Nat) : Inv π true (crash k torn w.prog fs) :=
  crash_inv (workload_sat w hw hcd) (cacheOK_of_live h0) h0 k torn

/-- **later_calls_correct_partial.** If the results in the directory were all of the live source when the workload
started (i.e. for every workload except the call after a source change), then after a kill at any point EVERY later
call — any number of them, any arguments — returns the right value. -/
theorem later_calls_correct_partial {me me' : Nat} (hcd : CodecOK π.cd) (w : Workload) (hw : w.OK π me)
    {fs : FS} (h0 : Inv π true fs) (k : Nat) (torn : Option Nat)
    (l : List (Cfg × Nat)) (hl : ∀ x ∈ l, CfgOK π me' x.1 ∧ x.1.shelve = false) :
    (laterCalls l (crash k torn w.prog fs)).1.map noGen = l.map fun x => .ok (π.ver, x.2) :=
  calls_correct hcd l _ hl (cacheOK_of_live (crash_state_live hcd w hw h0 k torn))

/-- **recovery_idempotent_partial.** From a directory nobody was killed in, the recovering call returns `f(a)` and leaves
such a directory again (so making it twice, or any number of times, changes nothing about correctness). -/
theorem recovery_idempotent_partial {me : Nat} (hcd : CodecOK π.cd) (c : Cfg) (hc : CfgOK π me c) (hsh : c.shelve = false)
    (a : Nat) {fs : FS} (h : CacheOK π fs) :
    (∃ g, (run (callProc c a) fs).1 = .ok ⟨π.ver, a, g⟩) ∧ CacheOK π (run (callProc c a) fs).2 ∧
    ∃ g, (run (callProc c a) (run (callProc c a) fs).2).1 = .ok ⟨π.ver, a, g⟩ :=
  ⟨recover_correct hcd c hc hsh a (cacheOK_crashOK h), recover_keeps_cacheOK hcd c hc hsh a h,
   recover_correct hcd c hc hsh a (cacheOK_crashOK (recover_keeps_cacheOK hcd c hc hsh a h))⟩

/-! ## Witnesses on a concrete instance (the drivers' codec; source of version 0 / 1: `def f(x):\n` / `def g(x):\n`) -/

open JoblibModel.StoreIO in
def cdW : Codec := mkCodec false 1 [[100, 101, 102, 32, 102, 40, 120, 41, 58, 10], [100, 101, 102, 32, 103, 40, 120, 41, 58, 10]]

def cfg0 : Cfg := { codec := cdW, me := 0, ver := 0 }
def cfg1 : Cfg := { codec := cdW, me := 1, ver := 1 }
/-- the kernel lists `func_code.py` before the entry directories -/
def rankW : Name → Nat
  | .funcCode => 0
  | _ => 1

open JoblibModel.StoreIO in
theorem cdW_ok : CodecOK cdW := by
  intro v; simp [cdW, mkCodec, toyPickle, toyUnpickle]

theorem cdW_stamp : CodecStamp cdW := ⟨cdW_ok, fun _ => rfl⟩

/-- The cache after version 0 computed `f(3)` and `f(4)`. -/
def fsOld : FS := (run (callProc cfg0 4) (run (callProc cfg0 3) FS.empty).2).2

/-- The kill of F36 and what follows it, in one command: the four facts below walk the same first 11 system calls
from `fsOld`, and within one evaluation the kernel reduces each state once. -/
private theorem crash11_facts :
    (laterCalls [({ cfg1 with me := 2 }, 3), ({ cfg1 with me := 3 }, 4)]
      (crash 11 none (callProc { cfg1 with rank := rankW } 3) fsOld)).1 = [.ok ⟨1, 3, 0⟩, .ok ⟨0, 4, 0⟩] ∧
    ((runLog (callProc { cfg1 with rank := rankW } 3) fsOld).1.take 11).all
      (fun x => match x.1 with | .creat p => p != pCode | _ => true) = true ∧
    (((crash 11 none (callProc { cfg1 with rank := rankW } 3) fsOld).get (pOut 3)).isSome = true ∧
      ((crash 11 none (callProc { cfg1 with rank := rankW } 3) fsOld).get (pOut 4)).isSome = true ∧
      (crash 11 none (callProc { cfg1 with rank := rankW } 3) fsOld).get pCode = none) ∧
    (((runLog (callProc { cfg1 with rank := rankW } 3) fsOld).1.take 11).getLast?.map
      fun x => ((match x.1 with | .unlink p _ => p == pCode | _ => false), x.2)) = some (true, .ok) := by
  decide +kernel

/-- **stale_after_crash_witness (F36).** The source changes to version 1; the next call starts emptying the function
directory and is killed after 11 system calls — `func_code.py` is unlinked, the entries are still there. The recovering
call `f(3)` is right (`⟨1, 3⟩`), but the call `f(4)` after it returns version 0's value `⟨0, 4⟩`. -/
theorem stale_after_crash_witness :
    (laterCalls [({ cfg1 with me := 2 }, 3), ({ cfg1 with me := 3 }, 4)]
      (crash 11 none (callProc { cfg1 with rank := rankW } 3) fsOld)).1 = [.ok ⟨1, 3, 0⟩, .ok ⟨0, 4, 0⟩] :=
  crash11_facts.1

/-- the crash point of F36, exactly: among the killed call's first 11 system calls none creates `func_code.py` … -/
example : ((runLog (callProc { cfg1 with rank := rankW } 3) fsOld).1.take 11).all
    (fun x => match x.1 with | .creat p => p != pCode | _ => true) = true := crash11_facts.2.1

/-- … both old entries are still there … -/
example : ((crash 11 none (callProc { cfg1 with rank := rankW } 3) fsOld).get (pOut 3)).isSome = true ∧
    ((crash 11 none (callProc { cfg1 with rank := rankW } 3) fsOld).get (pOut 4)).isSome = true ∧
    (crash 11 none (callProc { cfg1 with rank := rankW } 3) fsOld).get pCode = none := crash11_facts.2.2.1

/-- … and the 11th system call is the unlink of `func_code.py` -/
example : (((runLog (callProc { cfg1 with rank := rankW } 3) fsOld).1.take 11).getLast?.map
    fun x => ((match x.1 with | .unlink p _ => p == pCode | _ => false), x.2)) = some (true, .ok) :=
  crash11_facts.2.2.2

/-- The cold call killed after 25 system calls and inside its 15th, old and repaired code, in one command: the two kills share
the call's first 14 system calls (as `crash11_facts`). -/
private theorem cold_kill_facts :
    ((run (callProc { cfg0 with me := 1, callback := .expires true, legacy := true } 3)
        (crash 25 none (callProc cfg0 3) FS.empty)).1 = .raised .keyError ∧
      (run (callProc { cfg0 with me := 1, callback := .expires true } 3)
        (crash 25 none (callProc cfg0 3) FS.empty)).1 = .ok ⟨0, 3, 0⟩) ∧
    (run (callProc { cfg0 with me := 1, legacy := true } 3)
      (crash 15 (some 13) (callProc cfg0 3) FS.empty)).1 = .raised .valueError ∧
    (run (callProc { cfg0 with me := 1 } 3) (crash 15 (some 13) (callProc cfg0 3) FS.empty)).1 = .ok ⟨0, 3, 0⟩ := by
  decide +kernel

/-- **old_code_F8_witness.** Code before fix F08: a cold call killed after the `output.pkl` rename and before the
`metadata.json` rename (25 calls); the same call with `expires_after(...)` raises `KeyError`. -/
theorem old_code_F8_witness :
    (run (callProc { cfg0 with me := 1, callback := .expires true, legacy := true } 3)
      (crash 25 none (callProc cfg0 3) FS.empty)).1 = .raised .keyError := cold_kill_facts.1.1

/-- the repaired code recomputes -/
example : (run (callProc { cfg0 with me := 1, callback := .expires true } 3)
      (crash 25 none (callProc cfg0 3) FS.empty)).1 = .ok ⟨0, 3, 0⟩ := cold_kill_facts.1.2

/-- **old_code_F9_witness.** Code before fix F09: a cold call killed inside the write of `func_code.py` (15th call), 13
bytes transferred (`# first line:`); the same call raises `ValueError`. -/
theorem old_code_F9_witness :
    (run (callProc { cfg0 with me := 1, legacy := true } 3)
      (crash 15 (some 13) (callProc cfg0 3) FS.empty)).1 = .raised .valueError := cold_kill_facts.2.1

/-- the repaired code treats it as changed code and recomputes -/
example : (run (callProc { cfg0 with me := 1 } 3) (crash 15 (some 13) (callProc cfg0 3) FS.empty)).1 = .ok ⟨0, 3, 0⟩ :=
  cold_kill_facts.2.2

def πW : Par := ⟨cdW, 0⟩

theorem inv_empty (π : Par) (s : Bool) : Inv π s FS.empty := JoblibModel.Store.inv_empty π s

example : CacheOK πW FS.empty := cacheOK_of_live (inv_empty _ _)
example : CodecOK πW.cd := cdW_ok
example : CfgOK πW 0 cfg0 := ⟨rfl, rfl, rfl, rfl, rfl, rfl, rfl⟩

/-- `CodeOK` for the concrete comparison `checkCodeImpl` and both sources: no strict prefix of the stored text compares
equal (all 26 of them checked). -/
theorem cdW_codeOK : ∀ v < 2, CodeOK ⟨cdW, v⟩ := by
  intro v hv
  have : v = 0 ∨ v = 1 := by omega
  rcases this with rfl | rfl
  · exact codeOK_of_prefixes 26 (by decide +kernel) (by decide) (by decide +kernel)
  · exact codeOK_of_prefixes 26 (by decide +kernel) (by decide) (by decide +kernel)

open JoblibModel.StoreIO in
example : CodeOK πW := cdW_codeOK 0 (by decide)


/-! ## Generations and validity stamps (expiry)

The cached function is not pure: its value carries the GENERATION (`Val.gen`) of the execution that produced it, and
`metadata.json` carries a STAMP — the generation in which `_persist_input` read `time.time()`. A validation callback
`since g` (`expires_after` seen from a fixed instant) accepts an entry iff its stamp is `≥ g`. The property "a later
call returns the correct value … including when `expires_after` is configured" then means: the value returned under
`since g` is of a generation `≥ g` — an entry refreshed after its expiry must never look newer than the value it holds.

Full statements (NOT claimed as properties: the property theorems of this section stay those of the finite family `casesW`):
  `stamp_not_newer_than_value : CodeOK π → CodecOK π.cd → w.OK π me → CacheOK π fs → (no stamp or value of a generation later
     than the workload's, stamps not newer than values) → ∀ k torn a, stampLeValue π.cd (crash k torn w.prog fs) a`
  `expiry_recovery : … → ∀ k torn, CfgOK π me' c → c.callback = .since g → g ≤ c.gen → c.shelve = false →
     ∃ g', (run (callProc c a) (crash k torn w.prog fs)).1 = .ok ⟨π.ver, a, g'⟩ ∧ g ≤ g'`
What is proved in general, and what the `_partial` theorems are instances of: `crash_stampOK` (Lemmas/StoreCrash.lean) — every
crash state of a solo run of own calls of generation `τ` (every workload: `workload_sat`) from a directory with `StampOK τ` has
`StampOK τ`, for every codec with `CodecStamp`. The reason is the order of the two renames: the derivations of
`Lemmas/StoreCall.lean` show that a process alone with the directory does not fail in `dump_item` (`safeWrite_sat`), so at the
`rename` that installs `metadata.json` the `output.pkl` next to it is this call's (`OutFresh`, `dumpItem_sat`, `storeMetadata_sat`). For the second statement, `recover_value`: the
value returned was computed by the recovering call or stood next to a stamp the callback accepted (`recover_since` below).
The family's initial directories get `StampOK` from `crash_stampOK` itself (`fsGen0_ok`, `casesW_ok`); no crash state is
evaluated. The full statements additionally need `CodecStamp` (`get_metadata` reads back the `'time'` that was written), which
the statement of the property does not assume, and the second a recovering generation not older than anything in the
directory. -/

/-- generation of the value `output.pkl` of entry `a` holds (if it loads) -/
def outGen (cd : Codec) (fs : FS) (a : Nat) : Option Nat :=
  (fs.dataAt (pOut a)).bind fun d => (cd.unpickle d).map (·.gen)

/-- stamp of `metadata.json` of entry `a` (if it reads as JSON with a time) -/
def metaStampOf (cd : Codec) (fs : FS) (a : Nat) : Option Nat := (fs.dataAt (pMeta a)).bind cd.metaStamp

/-- the invariant: a readable stamp is not newer than the value it stands next to -/
def stampLeValue (cd : Codec) (fs : FS) (a : Nat) : Bool :=
  match metaStampOf cd fs a, outGen cd fs a with
  | some s, some g => decide (s ≤ g)
  | _, _ => true

/-- **entry_without_metadata_is_not_valid_under_a_callback.** For EVERY configuration of the code (any codec, any
validation callback other than `None`, legacy or repaired `expires_after`, with or without `clear_item` of rejected
entries) and EVERY directory: when `metadata.json` of the entry is missing, is a directory, or does not read as JSON
with a time stamp, `_is_in_cache_and_valid` does not answer `True` — the entry's age is unknown, it is not served. (The
seeded variant `skipCallbackWithoutMetadata` is the negation: `skip_callback_without_metadata_counterexample`.) -/
theorem entry_without_metadata_is_not_valid_under_a_callback (c : Cfg) (a : Nat) (fs : FS)
    (hcb : c.callback ≠ .none) (hskip : c.skipCallbackWithoutMetadata = false)
    (hm : ∀ d, fs.dataAt (pMeta a) = some d → c.codec.metaStamp d = none) :
    (run (isInCacheAndValid c a) fs).1 ≠ .ok true := by
  intro h
  obtain ⟨t, ht, _⟩ := (isInCacheAndValid_true c a fs h).2 hskip hcb
  cases hd : fs.dataAt (pMeta a) with
  | none => rw [hd] at ht; cases ht
  | some d => rw [hd, Option.bind_some, hm d hd] at ht; cases ht

/-- **accepted_under_since_has_recent_stamp.** For EVERY configuration of the code with the callback `since g` and EVERY
directory: if `_is_in_cache_and_valid` answers `True`, then `metadata.json` of the entry carries a readable stamp of a
generation `≥ g` (and `_check_previous_func_code` changed nothing). -/
theorem accepted_under_since_has_recent_stamp (c : Cfg) (a : Nat) (fs : FS) (g : Nat)
    (hcb : c.callback = .since g) (hskip : c.skipCallbackWithoutMetadata = false)
    (h : (run (isInCacheAndValid c a) fs).1 = .ok true) :
    ∃ t, metaStampOf c.codec fs a = some t ∧ g ≤ t := by
  obtain ⟨t, ht, hacc⟩ := (isInCacheAndValid_true c a fs h).2 hskip (by rw [hcb]; intro e; cases e)
  rw [hcb] at hacc
  exact ⟨t, ht, by simpa [Callback.accepts] using hacc⟩

/-- Hence, in EVERY directory in which the stamp of the entry is not newer than its value (`stampLeValue`), an entry that
`_is_in_cache_and_valid` accepts under `since g` holds — if it loads — a value of a generation `≥ g`. -/
theorem accepted_under_since_has_recent_value (c : Cfg) (a : Nat) (fs : FS) (g g' : Nat)
    (hcb : c.callback = .since g) (hskip : c.skipCallbackWithoutMetadata = false)
    (hinv : stampLeValue c.codec fs a = true) (hval : outGen c.codec fs a = some g')
    (h : (run (isInCacheAndValid c a) fs).1 = .ok true) : g ≤ g' := by
  obtain ⟨t, ht, hgt⟩ := accepted_under_since_has_recent_stamp c a fs g hcb hskip h
  unfold stampLeValue at hinv
  rw [ht, hval] at hinv
  have : t ≤ g' := by simpa using hinv
  omega
/-! ### The finite family (the drivers' codec `cdW`; generations 0 and 1; threshold `since 1`) -/

/-- a participant of generation `g` -/
def cfgG (me g : Nat) : Cfg := { codec := cdW, me := me, ver := 0, gen := g }

/-- the kernel lists `output.pkl` before `metadata.json` (the default rank lists them in creation order reversed) -/
def rankOutFirst : Name → Nat
  | .output => 0
  | _ => 1

/-- The cache after generation 0 computed and stored `f(3)` and `f(4)`. -/
def fsGen0 : FS := (run (callProc (cfgG 1 0) 4) (run (callProc (cfgG 0 0) 3) FS.empty).2).2

deriving instance DecidableEq for FS

/-- that cache, written out, so that the evaluated facts below start from it without running the two calls again -/
def fsTwo : FS :=
  ⟨[(pMeta 4, .file 12 (cdW.metaText 0)), (pOut 4, .file 11 (cdW.pickle ⟨0, 4, 0⟩)), (pEntry 4, .dir 10),
    (pGit, .file 3 cdW.gitText), (pMeta 3, .file 9 (cdW.metaText 0)), (pOut 3, .file 8 (cdW.pickle ⟨0, 3, 0⟩)),
    (pEntry 3, .dir 7), (pCode, .file 6 (cdW.codeText 0)), (pFunc, .dir 5), (pMod, .dir 4), (pLoc, .dir 2), (pCache, .dir 1)],
   [], 13⟩

theorem fsGen0_eq : fsGen0 = fsTwo := by decide +kernel

/-- the refresh: in generation 1, under "valid iff stamped in generation ≥ 1", the call `f(3)` -/
def refreshCfg : Cfg := { cfgG 2 1 with callback := .since 1 }

/-- a workload of the family: initial directory, program, live source version -/
structure CaseW where
  init : FS
  w : Workload
  ver : Nat := 0

/-- The family: first calls (generation 0 and 1) in an empty directory; the refresh of an expired entry under both
directory orders, as `__call__` and as `call_and_shelve(...).get()`; the refresh started in the directory a killed
refresh left behind (new `output.pkl`, no `metadata.json`; and: entry removed); a warm call without callback in
generation 1; a call after a source change in generation 1; `reduce_size` and `clear` in generation 1. -/
def casesW : List CaseW := [
  { init := FS.empty, w := .call (cfgG 2 0) 3 },
  { init := FS.empty, w := .call { cfgG 2 1 with callback := .since 1 } 3 },
  { init := fsGen0, w := .call refreshCfg 3 },
  { init := fsGen0, w := .call { refreshCfg with rank := rankOutFirst } 3 },
  { init := fsGen0, w := .call { refreshCfg with shelve := true } 3 },
  { init := crash 22 none (callProc refreshCfg 3) fsGen0, w := .call { refreshCfg with me := 3 } 3 },
  { init := crash 16 none (callProc refreshCfg 3) fsGen0, w := .call { refreshCfg with me := 3 } 3 },
  { init := fsGen0, w := .call (cfgG 2 1) 3 },
  { init := fsGen0, w := .call { cfgG 2 1 with ver := 1, callback := .since 1, rank := rankW } 3, ver := 1 },
  { init := fsGen0, w := .reduce (cfgG 2 1) [4, 3] },
  { init := fsGen0, w := .clear (cfgG 2 1) } ]

/-- kill points: after `k` system calls, `k < 64` (no workload of the family makes more than 50: beyond its last call
`crash` is the final state) -/
def killsW : List Nat := List.range 64

/-- torn lengths: the `k`-th call, when it is a write, transfers only its first `n` bytes, `n < 28` (the longest content
written, `func_code.py`, has 26 bytes), or is not torn -/
def tornsW : List (Option Nat) := none :: (List.range 28).map some

/-- the recovering call: a fresh process of generation 1 under "valid iff stamped in generation ≥ 1" -/
def recCfg (ver : Nat) : Cfg := { cfgG 9 1 with ver := ver, callback := .since 1 }

/-! `crashStates p fs` lists, executably, exactly the states a kill can leave (`crash_mem_crashStates`, `crashStates_sound`): the
bridge a finite check over crash states needs. The `_partial` theorems below do not go through it; it serves the evaluated example
on the halves of C05-r4-m1 below, and `crash_mem_crashStates` is among the theorems harness/props/c05.py audits. -/

/-- the states a kill inside the call `o` can leave (a `write` cut to each strict prefix) -/
def tornStates (o : Op) (fs : FS) : List FS :=
  match o with
  | .write p i d => (List.range d.length).map fun n => (apply (.write p i (d.take n)) fs).2
  | _ => []

/-- every state a kill can leave: before the first call, inside each call, after each call -/
def crashStates {α : Type} : Prog α → FS → List FS
  | .ret _, fs => [fs]
  | .raise _, fs => [fs]
  | .op o k, fs => fs :: (tornStates o fs ++ crashStates (k (apply o fs).1) (apply o fs).2)

theorem self_mem_crashStates {α : Type} (p : Prog α) (fs : FS) : fs ∈ crashStates p fs := by
  cases p <;> simp [crashStates]

/-- `crashStates` is complete: the state after a kill at any point, torn or not, is one of them. -/
theorem crash_mem_crashStates {α : Type} (k : Nat) (torn : Option Nat) :
    ∀ (p : Prog α) (fs : FS), crash k torn p fs ∈ crashStates p fs := by
  induction k with
  | zero => intro p fs; cases p <;> exact self_mem_crashStates _ fs
  | succ k ih =>
    intro p fs
    cases p with
    | ret a => exact self_mem_crashStates _ fs
    | raise e => exact self_mem_crashStates _ fs
    | op o kont =>
      have rest : ∀ s, s ∈ crashStates (kont (apply o fs).1) (apply o fs).2 → s ∈ crashStates (.op o kont) fs :=
        fun s hs => List.mem_cons_of_mem _ (List.mem_append_right _ hs)
      have whole : (apply o fs).2 ∈ crashStates (.op o kont) fs := rest _ (self_mem_crashStates _ _)
      cases k with
      | zero =>
        cases torn with
        | none => exact rest _ (ih _ _)
        | some n =>
          show (apply (tear n o) fs).2 ∈ _
          rcases tear_eq n o with e | ⟨p, i, d, rfl, e⟩
          · rw [e]; exact whole
          · rw [e]
            by_cases hn : n < d.length
            · refine List.mem_cons_of_mem _ (List.mem_append_left _ ?_)
              simp only [tornStates, List.mem_map, List.mem_range]
              exact ⟨n, hn, rfl⟩
            · rw [List.take_of_length_le (by omega)]; exact whole
      | succ k' => exact rest _ (ih _ _)

theorem crashStates_sound {α : Type} {s : FS} :
    ∀ {p : Prog α} {fs : FS}, s ∈ crashStates p fs → ∃ k torn, s = crash k torn p fs := by
  intro p
  induction p with
  | ret a => intro fs h; exact ⟨0, none, List.mem_singleton.mp h⟩
  | raise e => intro fs h; exact ⟨0, none, List.mem_singleton.mp h⟩
  | op o kont ih =>
    intro fs h
    rcases List.mem_cons.mp h with rfl | h
    · exact ⟨0, none, rfl⟩
    rcases List.mem_append.mp h with h | h
    · cases o with
      | write p i d =>
        obtain ⟨n, _, rfl⟩ := List.mem_map.mp h
        exact ⟨1, some n, rfl⟩
      | _ => cases h
    · obtain ⟨k, torn, rfl⟩ := ih _ h
      cases k with
      | zero => exact ⟨1, none, rfl⟩
      | succ k => exact ⟨k + 2, torn, rfl⟩

/-- the cache after generation 0's two calls; its stamps are in order by `crash_stampOK` through `crash_all`, no run is evaluated -/
private theorem fsGen0_ok : Inv ⟨cdW, 0⟩ true fsGen0 ∧ StampOK cdW 1 fsGen0 := by
  have cfgOK : ∀ me, CfgOK ⟨cdW, 0⟩ me (cfgG me 0) := fun _ => ⟨rfl, rfl, rfl, rfl, rfl, rfl, rfl⟩
  have call : ∀ {me a : Nat} {fs : FS}, CacheOK ⟨cdW, 0⟩ fs → StampOK cdW 0 fs →
      Inv ⟨cdW, 0⟩ true (run (callProc (cfgG me 0) a) fs).2 ∧ StampOK cdW 0 (run (callProc (cfgG me 0) a) fs).2 :=
    fun {me a fs} h0 hst =>
      ⟨(callProc_solo (π := ⟨cdW, 0⟩) cdW_ok _ (cfgOK me).base rfl a (cacheOK_iff.mp h0)).elim
        fun _ h => h.2 trivial, by
        rw [← crash_all]
        exact crash_stampOK (π := ⟨cdW, 0⟩) cdW_stamp
          (call_sat (quiet := True) _ (cfgOK me).base (fun _ => rfl) a cdW_ok) h0 hst _ _⟩
  have g3 := call (me := 0) (a := 3) (cacheOK_of_live (inv_empty _ _)) (stampOK_empty _ _)
  have g4 := call (me := 1) (a := 4) (cacheOK_of_live g3.1) g3.2
  -- the constant is rewritten with its equation first: left to match it against its body, the kernel performs the two runs
  rw [fsGen0]
  exact ⟨g4.1, g4.2.mono (by decide)⟩

/-- About a variable `fs`: with a directory defined by runs in its place (`fsGen0`), the kernel performs those runs when it
unfolds `FS.dataAt` in this proof. -/
private theorem cacheOK_of_differs {cd : Codec} {w v : Nat} {fs : FS} (live : Inv ⟨cd, w⟩ true fs)
    (old : (fs.dataAt pCode).map (cd.checkCode v) = some .differs) : CacheOK ⟨cd, v⟩ fs := by
  refine ⟨inv_false_ver v live, fun _ i d hg hsame => ?_, fun _ hg => ?_⟩
  · simp only [FS.dataAt, hg, Option.map_some] at old
    rw [hsame] at old; cases old
  · simp only [FS.dataAt, hg] at old; cases old

/-- the initial directories are built from the empty one by calls and kills, which keep `CacheOK` and the order of the stamps;
`func_code.py` of version 0 differs from 1 -/
theorem casesW_ok : ∀ x ∈ casesW, CodeOK ⟨cdW, x.ver⟩ ∧ CacheOK ⟨cdW, x.ver⟩ x.init ∧ (∃ me, x.w.OK ⟨cdW, x.ver⟩ me) ∧
    x.w.gen ≤ 1 ∧ StampOK cdW x.w.gen x.init := by
  have code0 : CodeOK ⟨cdW, 0⟩ := cdW_codeOK 0 (by decide)
  have code1 : CodeOK ⟨cdW, 1⟩ := cdW_codeOK 1 (by decide)
  have empty : CacheOK ⟨cdW, 0⟩ FS.empty := cacheOK_of_live (inv_empty _ _)
  obtain ⟨live, s4⟩ := fsGen0_ok
  have gen0 : CacheOK ⟨cdW, 0⟩ fsGen0 := cacheOK_of_live live
  have rsat := call_sat (π := ⟨cdW, 0⟩) (me := 2) (quiet := True) refreshCfg ⟨rfl, rfl, rfl, rfl, rfl⟩ (fun _ => rfl) 3 cdW_ok
  have killed : ∀ k, CacheOK ⟨cdW, 0⟩ (crash k none (callProc refreshCfg 3) fsGen0) := fun k =>
    cacheOK_of_live (crash_inv rsat gen0 live k none)
  have sk : ∀ k, StampOK cdW 1 (crash k none (callProc refreshCfg 3) fsGen0) := fun k =>
    crash_stampOK (π := ⟨cdW, 0⟩) cdW_stamp rsat gen0 s4 k none
  -- `func_code.py` of `fsGen0` is there and does not match version 1
  have old : (fsGen0.dataAt pCode).map (cdW.checkCode 1) = some .differs := by rw [fsGen0_eq]; decide +kernel
  have gen0' : CacheOK ⟨cdW, 1⟩ fsGen0 := cacheOK_of_differs live old
  intro x hx
  simp only [casesW, List.mem_cons, List.mem_nil_iff, or_false] at hx
  -- (`dsimp only` reduces `{ init := _, .. }.init`: matching `fsGen0` against it would evaluate the runs)
  rcases hx with rfl | rfl | rfl | rfl | rfl | rfl | rfl | rfl | rfl | rfl | rfl <;> dsimp only
  · exact ⟨code0, empty, ⟨2, rfl, rfl, rfl, rfl, rfl, rfl, rfl⟩, by decide, stampOK_empty _ _⟩
  · exact ⟨code0, empty, ⟨2, rfl, rfl, rfl, rfl, rfl, rfl, rfl⟩, by decide, stampOK_empty _ _⟩
  · exact ⟨code0, gen0, ⟨2, rfl, rfl, rfl, rfl, rfl, rfl, rfl⟩, by decide, s4⟩
  · exact ⟨code0, gen0, ⟨2, rfl, rfl, rfl, rfl, rfl, rfl, rfl⟩, by decide, s4⟩
  · exact ⟨code0, gen0, ⟨2, rfl, rfl, rfl, rfl, rfl, rfl, rfl⟩, by decide, s4⟩
  · exact ⟨code0, killed 22, ⟨3, rfl, rfl, rfl, rfl, rfl, rfl, rfl⟩, by decide, sk 22⟩
  · exact ⟨code0, killed 16, ⟨3, rfl, rfl, rfl, rfl, rfl, rfl, rfl⟩, by decide, sk 16⟩
  · exact ⟨code0, gen0, ⟨2, rfl, rfl, rfl, rfl, rfl, rfl, rfl⟩, by decide, s4⟩
  · exact ⟨code1, gen0', ⟨2, rfl, rfl, rfl, rfl, rfl, rfl, rfl⟩, by decide, s4⟩
  · exact ⟨code0, gen0, ⟨0, trivial⟩, by decide, s4⟩
  · exact ⟨code0, gen0, ⟨0, trivial⟩, by decide, s4⟩

/-- what `StampOK` says of one entry, in the executable form of the statements below -/
private theorem stampOK_bool {cd : Codec} {B : Nat} {fs : FS} (h : StampOK cd B fs) (a : Nat) :
    stampLeValue cd fs a = true ∧ (outGen cd fs a).all (· ≤ B) = true := by
  obtain ⟨h1, -, h3⟩ := h a
  unfold stampLeValue metaStampOf outGen
  cases hO : fs.dataAt (pOut a) with
  | none => simp
  | some d =>
    cases hv : cd.unpickle d with
    | none => simp [hv]
    | some v =>
      have hb := h1 d v hO hv
      cases hM : fs.dataAt (pMeta a) with
      | none => simpa [hv] using hb
      | some e =>
        cases ht : cd.metaStamp e with
        | none => simpa [hv, ht] using hb
        | some t => simpa [hv, ht] using ⟨h3 e d hM hO t v ht hv, hb⟩

/-- the instance of `crash_stampOK` for the family -/
theorem casesW_stamps (x : CaseW) (hx : x ∈ casesW) (k : Nat) (torn : Option Nat) (a : Nat) :
    stampLeValue cdW (crash k torn x.w.prog x.init) a = true ∧
      (outGen cdW (crash k torn x.w.prog x.init) a).all (· ≤ 1) = true := by
  obtain ⟨_, h0, ⟨me, hw⟩, hle, hst⟩ := casesW_ok x hx
  exact stampOK_bool ((crash_stampOK (π := ⟨cdW, x.ver⟩) cdW_stamp
    (workload_sat x.w hw cdW_ok) h0 hst k torn).mono hle) a

/-- `recover_value` under `since g0`: an accepted stamp is `≥ g0`, and not newer than the value next to it -/
private theorem recover_since {me : Nat} (hcd : CodecOK π.cd) (c : Cfg) (hc : CfgBase π me c) (hsh : c.shelve = false)
    (a : Nat) {fs : FS} (h : CrashOK π fs) {g0 : Nat} (hcb : c.callback = .since g0)
    (hle : stampLeValue π.cd fs a = true) :
    ∃ g, (run (callProc c a) fs).1 = .ok ⟨π.ver, a, g⟩ ∧ (g = c.gen ∨ (outGen π.cd fs a = some g ∧ g0 ≤ g)) := by
  obtain ⟨g, hg, hprov⟩ := recover_value hcd c hc hsh a h
  refine ⟨g, hg, hprov.imp_right fun ⟨hld, hst⟩ => ?_⟩
  obtain ⟨t, ht, hacc⟩ := hst (by rw [hcb]; intro e; cases e)
  have hout : outGen π.cd fs a = some g := by
    simpa [outGen, Option.map_bind, Function.comp_def] using congrArg (Option.map (·.gen)) hld
  unfold stampLeValue at hle
  rw [show metaStampOf π.cd fs a = some t from ht, hout] at hle
  rw [hcb] at hacc
  exact ⟨hout, Nat.le_trans (by simpa [Callback.accepts] using hacc) (by simpa using hle)⟩

/-- … so in generation 1 under `since 1`, with no stored value newer than 1, it is of generation 1 -/
private theorem recover_gen1 {v me : Nat} {c : Cfg} (hc : CfgBase ⟨cdW, v⟩ me c) (hsh : c.shelve = false)
    (hcb : c.callback = .since 1) (hgen : c.gen = 1) {a : Nat} {s : FS} (h : CrashOK ⟨cdW, v⟩ s)
    (hst : stampLeValue cdW s a = true ∧ (outGen cdW s a).all (· ≤ 1) = true) :
    (run (callProc c a) s).1 = .ok ⟨v, a, 1⟩ := by
  obtain ⟨g, hg, hprov⟩ := recover_since (π := ⟨cdW, v⟩) cdW_ok c hc hsh a h hcb hst.1
  rw [hg]
  rcases hprov with rfl | ⟨hout, h1⟩
  · rw [hgen]
  · have h2 : g ≤ 1 := by simpa [hout] using hst.2
    rw [Nat.le_antisymm h2 h1]

/-- **stamp_not_newer_than_value_partial.** In EVERY crash state (every `k`, every torn length) of every workload of the
family, for every entry: the stamp of `metadata.json`, when readable, is not newer than the generation of the value in
the `output.pkl` next to it. (`output.pkl` is installed before `metadata.json`, and a rejected entry is removed before
it is recomputed: that order is what makes it hold — `metadata_first_counterexample`.) -/
theorem stamp_not_newer_than_value_partial (x : CaseW) (hx : x ∈ casesW) (k : Nat) (torn : Option Nat) (a : Nat)
    (ha : a ∈ [3, 4, 5]) : stampLeValue cdW (crash k torn x.w.prog x.init) a = true :=
  (casesW_stamps x hx k torn a).1

/-- **expiry_recovery_partial.** After a kill at any point (every `k`, every torn length) of every workload of the family,
the call `f(a)` made by a fresh process of generation 1 under the validation callback `since 1` does not raise and
returns the value of generation 1 (`≥ 1`: never the expired generation-0 value), for the refreshed argument and for
the bystander. Extends `crash_recovery` (which says: some generation) on this family. -/
theorem expiry_recovery_partial (x : CaseW) (hx : x ∈ casesW) (k : Nat) (torn : Option Nat) (a : Nat) (ha : a ∈ [3, 4]) :
    (run (callProc (recCfg x.ver) a) (crash k torn x.w.prog x.init)).1 = .ok ⟨x.ver, a, 1⟩ :=
  (casesW_ok x hx).elim fun hco ⟨h0, ⟨_, hw⟩, _⟩ =>
    recover_gen1 (me := 9) ⟨rfl, rfl, rfl, rfl, rfl⟩ rfl rfl rfl (crash_state_ok hco cdW_ok x.w hw h0 k torn)
      (casesW_stamps x hx k torn a)

/-- C05-r4-m1: `metadata.json` before `output.pkl`, rejected entries not removed -/
def m1 (c : Cfg) : Cfg := { c with metadataFirst := true, keepRejected := true }
/-- C05-r4-m2: the callback is not consulted when there is no metadata -/
def m2 (c : Cfg) : Cfg := { c with skipCallbackWithoutMetadata := true }


/-- The refresh with `metadata.json` first, killed after 14 system calls: the state it leaves and the calls it made, in one
command (as `crash11_facts`). -/
private theorem crash14_facts :
    (stampLeValue cdW (crash 14 none (callProc (m1 refreshCfg) 3) fsGen0) 3 = false ∧
      metaStampOf cdW (crash 14 none (callProc (m1 refreshCfg) 3) fsGen0) 3 = some 1 ∧
      outGen cdW (crash 14 none (callProc (m1 refreshCfg) 3) fsGen0) 3 = some 0 ∧
      (run (callProc (m1 (recCfg 0)) 3) (crash 14 none (callProc (m1 refreshCfg) 3) fsGen0)).1 = .ok ⟨0, 3, 0⟩) ∧
    (((runLog (callProc (m1 refreshCfg) 3) fsGen0).1.take 14).getLast?.map
        fun x => ((match x.1 with | .rename _ q => q == pMeta 3 | _ => false), x.2)) = some (true, .ok) ∧
      ((runLog (callProc (m1 refreshCfg) 3) fsGen0).1.take 14).all
        (fun x => match x.1 with | .rename _ q => q != pOut 3 | _ => true) = true := by
  rw [fsGen0_eq]; decide +kernel

/-- **metadata_first_counterexample (C05-r4-m1).** With `metadata.json` stored before `output.pkl` and rejected entries
not removed, the refresh of the expired entry `f(3)` killed after 14 system calls (the new `metadata.json` is installed,
the new `output.pkl` is not) leaves the generation-1 stamp next to the generation-0 value: the invariant fails, and the
recovering call of generation 1 under `since 1` accepts the entry and returns the EXPIRED value `⟨0, 3, 0⟩`. -/
theorem metadata_first_counterexample :
    stampLeValue cdW (crash 14 none (callProc (m1 refreshCfg) 3) fsGen0) 3 = false ∧
    metaStampOf cdW (crash 14 none (callProc (m1 refreshCfg) 3) fsGen0) 3 = some 1 ∧
    outGen cdW (crash 14 none (callProc (m1 refreshCfg) 3) fsGen0) 3 = some 0 ∧
    (run (callProc (m1 (recCfg 0)) 3) (crash 14 none (callProc (m1 refreshCfg) 3) fsGen0)).1 = .ok ⟨0, 3, 0⟩ :=
  crash14_facts.1

/-- the 14th call of that refresh is the `rename` that installs `metadata.json`; no `output.pkl` is renamed before it -/
example : (((runLog (callProc (m1 refreshCfg) 3) fsGen0).1.take 14).getLast?.map
      fun x => ((match x.1 with | .rename _ q => q == pMeta 3 | _ => false), x.2)) = some (true, .ok) ∧
    ((runLog (callProc (m1 refreshCfg) 3) fsGen0).1.take 14).all
      (fun x => match x.1 with | .rename _ q => q != pOut 3 | _ => true) = true := crash14_facts.2

/-- each half of C05-r4-m1 alone is harmless for this refresh: every crash state recovers to the generation-1 value -/
example : ∀ c ∈ [{ refreshCfg with metadataFirst := true }, { refreshCfg with keepRejected := true }],
    ∀ s ∈ crashStates (callProc c 3) fsGen0, ∀ a ∈ [3, 4],
      (run (callProc { recCfg 0 with metadataFirst := c.metadataFirst, keepRejected := c.keepRejected } a) s).1
        = .ok ⟨0, a, 1⟩ := by
  -- with `metadata.json` first the order of the stamps is not kept in general: for this refresh it is evaluated
  have first : ∀ s ∈ crashStates (callProc { refreshCfg with metadataFirst := true } 3) fsGen0, ∀ a ∈ [3, 4],
      stampLeValue cdW s a = true ∧ (outGen cdW s a).all (· ≤ 1) = true := by rw [fsGen0_eq]; decide +kernel
  have hco : CodeOK ⟨cdW, 0⟩ := cdW_codeOK 0 (by decide)
  have h0 : CacheOK ⟨cdW, 0⟩ fsGen0 := cacheOK_of_live fsGen0_ok.1
  have hst := fsGen0_ok.2
  intro c hc s hs a ha
  simp only [List.mem_cons, List.mem_nil_iff, or_false] at hc
  have key : CfgBase ⟨cdW, 0⟩ 2 c ∧
      CfgBase ⟨cdW, 0⟩ 9 { recCfg 0 with metadataFirst := c.metadataFirst, keepRejected := c.keepRejected } ∧
      stampLeValue cdW s a = true ∧ (outGen cdW s a).all (· ≤ 1) = true := by
    rcases hc with rfl | rfl
    · exact ⟨⟨rfl, rfl, rfl, rfl, rfl⟩, ⟨rfl, rfl, rfl, rfl, rfl⟩, first s hs a ha⟩
    · -- rejected entries kept, `output.pkl` first: `crash_stampOK`
      obtain ⟨k, torn, rfl⟩ := crashStates_sound hs
      exact ⟨⟨rfl, rfl, rfl, rfl, rfl⟩, ⟨rfl, rfl, rfl, rfl, rfl⟩,
        stampOK_bool (crash_stampOK (π := ⟨cdW, 0⟩) cdW_stamp
          (call_sat (me := 2) (quiet := True) _ ⟨rfl, rfl, rfl, rfl, rfl⟩ (fun _ => rfl) 3 cdW_ok) h0 hst k torn) a⟩
  obtain ⟨k, torn, rfl⟩ := crashStates_sound hs
  exact recover_gen1 key.2.1 rfl rfl rfl (crash_crashOK hco
    (call_sat (quiet := False) c key.1 False.elim 3 cdW_ok) h0 (cacheOK_crashOK h0) k torn) key.2.2

/-- **skip_callback_without_metadata_counterexample (C05-r4-m2).** A first call in generation 0 killed after 22 system
calls (`output.pkl` installed, `metadata.json` not yet): the entry has a value of generation 0 and no stamp. The code
(`entry_without_metadata_is_not_valid_under_a_callback`) recomputes; the variant that does not consult the callback
without metadata serves the generation-0 value to a call of generation 1 under `since 1` — and would for ever. -/
theorem skip_callback_without_metadata_counterexample :
    metaStampOf cdW (crash 22 none (callProc (m2 (cfgG 2 0)) 3) FS.empty) 3 = none ∧
    outGen cdW (crash 22 none (callProc (m2 (cfgG 2 0)) 3) FS.empty) 3 = some 0 ∧
    (run (callProc (m2 (recCfg 0)) 3) (crash 22 none (callProc (m2 (cfgG 2 0)) 3) FS.empty)).1 = .ok ⟨0, 3, 0⟩ ∧
    (run (callProc (recCfg 0) 3) (crash 22 none (callProc (m2 (cfgG 2 0)) 3) FS.empty)).1 = .ok ⟨0, 3, 1⟩ := by
  decide +kernel

/-! Non-vacuity: the family's workloads satisfy the hypotheses of the general theorems (`Workload.OK`, `CacheOK` of the
empty directory), and the refresh really goes through the expiry path: it removes the entry and stores generation 1. -/
/-- The refresh run to its end and its crash states, in one command (as `crash11_facts`). -/
private theorem refresh_facts :
    ((run (callProc refreshCfg 3) fsGen0).1 = .ok ⟨0, 3, 1⟩ ∧ steps (callProc refreshCfg 3) fsGen0 = 27 ∧
      outGen cdW fsGen0 3 = some 0 ∧ metaStampOf cdW fsGen0 3 = some 0 ∧
      outGen cdW (run (callProc refreshCfg 3) fsGen0).2 3 = some 1 ∧
      metaStampOf cdW (run (callProc refreshCfg 3) fsGen0).2 3 = some 1) ∧
    (crashStates (callProc refreshCfg 3) fsGen0).length = 41 := by rw [fsGen0_eq]; decide +kernel

example : (Workload.call refreshCfg 3).OK πW 2 := ⟨rfl, rfl, rfl, rfl, rfl, rfl, rfl⟩
example : (run (callProc refreshCfg 3) fsGen0).1 = .ok ⟨0, 3, 1⟩ ∧ steps (callProc refreshCfg 3) fsGen0 = 27 ∧
    outGen cdW fsGen0 3 = some 0 ∧ metaStampOf cdW fsGen0 3 = some 0 ∧
    outGen cdW (run (callProc refreshCfg 3) fsGen0).2 3 = some 1 ∧
    metaStampOf cdW (run (callProc refreshCfg 3) fsGen0).2 3 = some 1 := refresh_facts.1
example : (crashStates (callProc refreshCfg 3) fsGen0).length = 41 := refresh_facts.2

end C05
