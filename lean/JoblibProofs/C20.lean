import JoblibProofs.Lemmas.Tracker
import JoblibProofs.Lemmas.TrackerClient
import JoblibProofs.Lemmas.TrackerSignals
import JoblibModel.TrackerLag
/-!
# C20 — tracked temporary resources are deleted exactly when their last user is gone

Statement (properties.jsonl): every temporary file or folder registered with joblib's resource tracker is
deleted exactly when its reference count returns to zero — never while another registered user remains — and
whatever is still registered when the last client process exits, normally or by being killed, is deleted then.
Unbalanced or malformed requests neither stop the tracker nor make it delete a path that was not registered.

Quantifier reached here: request histories of ANY length (induction over the list of lines the tracker reads),
arbitrary bytes on each line (so every interleaving of the writes of any number of clients — the tracker sees one
byte stream), every resource type, names of any length including names containing ':' and non-ASCII bytes.
A client exiting or being killed is, for the tracker, the end of that client's lines; the death of the last client
is the end of the list (EOF of the pipe — an assumption about the OS, see TRUSTED_EXTRA in harness/props/c20.py).

Model: `JoblibModel.Tracker` (`step`, `run`, `finish`, `main`; abstract counter `absCount`, `netFrom`).

The abstract multiset: per (type, name) a natural number — `REGISTER` +1, `UNREGISTER` → 0, `MAYBE_UNLINK` −1 when
positive and nothing otherwise (`absCount`). "registers minus maybe-unlinks since the last unregister" read
literally (`netFrom`, an integer with no floor) is what `absCount` equals on balanced histories
(`refcount_balanced`); on an unbalanced history the literal reading is not what the code does (an extra
`MAYBE_UNLINK` is dropped, it does not make a later `REGISTER` start from −1): `net_differs_when_unbalanced`.

`Inv` of `client_invariants` and its groups are not part of the model: `Lemmas/TrackerClient/Inv.lean` declares them in the
model's namespace `JoblibModel.TrackerClient` (`Wire`: `Basic.lean`).
-/
namespace C20
open JoblibModel.Tracker

/-- The dict invariant of the model: names are distinct inside every per-type registry, after any history. -/
theorem distinct_keys (lines : List Line) : (run Registry.empty lines).1.Distinct :=
  run_distinct _ _ empty_distinct

/-- Invariant: every count stored in the registry is at least 1, after any history
(so `registry[rtype][name] -= 1` never goes below 0 and the `== 0` test cannot be jumped over). -/
theorem counts_positive (lines : List Line) (rt : RType) (name : Name) (c : Int)
    (h : lookup ((run Registry.empty lines).1.get rt) name = some c) : 1 ≤ c := by
  -- the stored count is the abstract count, and an absent name stands for 0
  rw [run_empty_refines, enc] at h
  split at h
  · cases h
  · cases h; omega

/-- The registry refines the abstract counter, for every history: a name is in `registry[rt]` exactly when
its abstract count is positive, and then the stored count is that number. -/
theorem refcount_refines (lines : List Line) (rt : RType) (name : Name) :
    lookup ((run Registry.empty lines).1.get rt) name =
      if absCount rt name lines = 0 then none else some (absCount rt name lines : Int) :=
  run_empty_refines lines rt name

/-- On a balanced history (no `MAYBE_UNLINK` for the name while it has no user) the abstract count is literally
"registers minus maybe-unlinks since the last unregister". -/
theorem refcount_balanced (lines : List Line) (rt : RType) (name : Name)
    (hb : BalancedFrom rt name 0 lines) :
    (absCount rt name lines : Int) = netFrom rt name 0 lines := by
  simpa [absCount] using balanced_net rt name 0 lines hb

/-- A clean-up action for `(rt, name)` is emitted by the loop exactly when the line is a `MAYBE_UNLINK` for that
type and name and it has exactly one user left (count 1 → 0) — whatever the history before. -/
theorem delete_iff_zero (lines : List Line) (l : Line) (rt : RType) (name : Name) :
    Action.cleanup rt name ∈ (step (run Registry.empty lines).1 l).2 ↔
      classify l = .req .maybeUnlink rt name ∧ absCount rt name lines = 1 := by
  rw [mem_step_cleanup, run_empty_refines, enc_eq_some_one]

/-- … and that line emits nothing else, and afterwards the name has no user (it is gone from the registry). -/
theorem delete_is_single (lines : List Line) (l : Line) (rt : RType) (name : Name)
    (h : Action.cleanup rt name ∈ (step (run Registry.empty lines).1 l).2) :
    (step (run Registry.empty lines).1 l).2 = [.cleanup rt name] ∧
      absCount rt name (lines ++ [l]) = 0 ∧
      lookup ((run Registry.empty (lines ++ [l])).1.get rt) name = none := by
  obtain ⟨h1, h2⟩ := step_cleanup_single _ (distinct_keys lines) l rt name h
  rw [← run_snoc] at h2
  exact ⟨h1, (enc_eq_none _).mp ((run_empty_refines ..).symm.trans h2), h2⟩

/-- Whatever the tracker cleans up — in the loop or at EOF — has at least one user at that moment. -/
theorem cleanup_needs_user (lines : List Line) (l : Line) (rt : RType) (name : Name)
    (h : Action.cleanup rt name ∈ (step (run Registry.empty lines).1 l).2 ∨
         Action.cleanup rt name ∈ finish (run Registry.empty lines).1) :
    0 < absCount rt name lines := by
  rcases h with h | h
  · have := ((delete_iff_zero lines l rt name).mp h).2; omega
  · rw [mem_finish_cleanup, run_empty_refines, Ne, enc_eq_none] at h; omega

/-- Nothing is ever cleaned up — by the loop or by the EOF clean-up — that no `REGISTER` line named, with that
very type and name, earlier in the history. Unknown commands, unknown types, undecodable or unbalanced lines
therefore cannot make the tracker delete a path. -/
theorem never_delete_unregistered (lines : List Line) (rt : RType) (name : Name)
    (h : Action.cleanup rt name ∈ main lines) :
    ∃ l ∈ lines, classify l = .req .register rt name := by
  unfold main at h
  rcases List.mem_append.mp h with h | h
  · obtain ⟨pre, l, post, e, hm⟩ := mem_run_acts _ _ _ h
    have hpos := cleanup_needs_user pre l rt name (Or.inl hm)
    rcases registered_of_pos rt name pre 0 hpos with h0 | ⟨l', hl', hc⟩
    · omega
    · exact ⟨l', by simp [e, hl'], hc⟩
  · have hpos := cleanup_needs_user lines [] rt name (Or.inr h)
    rcases registered_of_pos rt name lines 0 hpos with h0 | h1
    · omega
    · exact h1

/-- The lines that must have no effect: undecodable bytes, an unknown resource type, an unknown command, and the
unbalanced requests (`UNREGISTER` / `MAYBE_UNLINK` of a name that registry does not hold). -/
def Malformed (reg : Registry) (l : Line) : Prop :=
  classify l = .undecodable ∨ (∃ c n r, classify l = .unknownType c n r) ∨
  (∃ c n rt, classify l = .unknownCmd c n rt) ∨
  (∃ rt name, (classify l = .req .unregister rt name ∨ classify l = .req .maybeUnlink rt name) ∧
    lookup (reg.get rt) name = none)

/-- A malformed or unbalanced line, in any state of the registry: the state is unchanged, no clean-up is done
(the only effect is one exception handed to `sys.excepthook`), and the loop continues — the lines after it are
processed exactly as if it had not been there. -/
theorem malformed_is_noop (reg : Registry) (l : Line) (rest : List Line) (h : Malformed reg l) :
    ∃ e, step reg l = (reg, [.report e]) ∧
      run reg (l :: rest) = ((run reg rest).1, .report e :: (run reg rest).2) := by
  have key : ∀ e, step reg l = (reg, [.report e]) →
      run reg (l :: rest) = ((run reg rest).1, .report e :: (run reg rest).2) := by
    intro e he; simp [run, he]
  rcases h with h | ⟨c, n, r, h⟩ | ⟨c, n, rt, h⟩ | ⟨rt, name, h | h, hl⟩
  · exact ⟨_, step_undecodable reg h, key _ (step_undecodable reg h)⟩
  · exact ⟨_, step_unknownType reg h, key _ (step_unknownType reg h)⟩
  · exact ⟨_, step_unknownCmd reg h, key _ (step_unknownCmd reg h)⟩
  · have : step reg l = (reg, [.report .keyError]) := by rw [step_req _ _ _ _ _ h, exec_unreg_none hl]
    exact ⟨.keyError, this, key _ this⟩
  · have : step reg l = (reg, [.report .keyError]) := by rw [step_req _ _ _ _ _ h, exec_mu_none hl]
    exact ⟨.keyError, this, key _ this⟩

/-- After any history, a request is unbalanced exactly when the abstract count of its name is 0. -/
theorem unbalanced_iff (lines : List Line) (rt : RType) (name : Name) :
    lookup ((run Registry.empty lines).1.get rt) name = none ↔ absCount rt name lines = 0 := by
  rw [run_empty_refines, enc_eq_none]

/-- `PROBE` changes nothing and does nothing. It is what `ensure_running` sends to a tracker launched before:
`_check_alive`, inherited from CPython's `multiprocessing.resource_tracker.ResourceTracker`, writes `b"PROBE:0:noop\n"`. -/
theorem probe_is_noop (reg : Registry) (l : Line) (h : classify l = .probe) : step reg l = (reg, []) :=
  step_probe reg h

/-- EOF: (1) exactly the names that still have a user are cleaned up, (2) no action is repeated (each remaining
name is cleaned once, whatever its count), (3) every clean-up of a folder comes after every clean-up of a file or
semaphore — the output splits into a part without folder clean-ups followed by a part with nothing but the
folder warning and folder clean-ups. -/
theorem eof_deletes_rest_folders_last (lines : List Line) :
    (∀ rt name, Action.cleanup rt name ∈ finish (run Registry.empty lines).1 ↔ 0 < absCount rt name lines) ∧
    (finish (run Registry.empty lines).1).Nodup ∧
    ∃ others folders, finish (run Registry.empty lines).1 = others ++ folders ∧
      (∀ a ∈ others, ∀ name, a ≠ .cleanup .folder name) ∧
      (∀ a ∈ folders, (∃ name, a = .cleanup .folder name) ∨ ∃ n, a = .leakWarning .folder n) :=
  ⟨fun rt name => by rw [mem_finish_cleanup, run_empty_refines, Ne, enc_eq_none]; omega,
   finish_nodup _ (distinct_keys lines), finish_folders_last _⟩

/-- `"REGISTER"`, `"UNREGISTER"`, `"MAYBE_UNLINK"`. -/
def cmdStr : Cmd → Name
  | .register => sREGISTER
  | .unregister => sUNREGISTER
  | .maybeUnlink => sMAYBE_UNLINK

/-- What `ResourceTracker._send` writes, `f"{cmd}:{name}:{rtype}\n".encode("ascii")`, is read back as that very
request, for EVERY ASCII name — in particular names that contain ':' (the loop re-joins the middle fields),
spaces, or look like commands. (A name containing `\n` never reaches `step` as one line; `_send` does not check
for it — joblib's names are paths it generates itself.) -/
theorem parse_send_format (c : Cmd) (rt : RType) (name : Name) (hascii : ∀ b ∈ name, b < 128) :
    classify (cmdStr c ++ 58 :: name ++ 58 :: rt.str ++ [10]) = .req c rt name :=
  classify_send cmdStr rfl rfl rfl c rt name hascii

/-- `f"{cmd}:{name}:{rtype}\n"` — the line `_send` writes. (With `cmdStr` above, a copy of `JoblibModel.TrackerClient.reqLine` /
`cmdStr`, equal by `rfl`; in this namespace the bare names mean the copies, also after the `open` below.) -/
def reqLine (c : Cmd) (rt : RType) (name : Name) : Line := cmdStr c ++ 58 :: name ++ 58 :: rt.str ++ [10]
def nA : Name := [47, 116, 47, 97]        -- "/t/a"
def nBC : Name := [47, 116, 47, 98, 58, 99] -- "/t/b:c"
def nD : Name := [47, 116, 47, 100]       -- "/t/d"

/-- The literal reading "registers minus maybe-unlinks" is NOT what the code does on an unbalanced history:
`MAYBE_UNLINK` then `REGISTER` of a fresh name leaves count 1 (the path is protected), where the literal
difference would be 0. This is the behaviour the property wants ("unbalanced requests … do not make it delete");
it is recorded so that nobody reads `refcount_refines` as the unfloored difference. -/
theorem net_differs_when_unbalanced :
    absCount .file nA [reqLine .maybeUnlink .file nA, reqLine .register .file nA] = 1 ∧
    netFrom .file nA 0 [reqLine .maybeUnlink .file nA, reqLine .register .file nA] = 0 ∧
    lookup ((run Registry.empty [reqLine .maybeUnlink .file nA, reqLine .register .file nA]).1.get .file) nA
      = some 1 := by
  decide +kernel

/-! Non-vacuity: concrete histories exercising the hypotheses and every branch. `nA` = "/t/a", `nBC` = "/t/b:c"
(a name with a colon), `nD` = "/t/d". -/
def hist : List Line :=
  [reqLine .register .file nA, reqLine .register .file nA, reqLine .register .file nBC,
   reqLine .register .folder nD, reqLine .maybeUnlink .file nA]

/-- What the examples below say of `hist`, in one command: they parse the same five lines, and within one evaluation the
kernel reduces each parse once. -/
private theorem hist_facts :
    (absCount .file nA hist = 1 ∧ absCount .file nBC hist = 1 ∧ absCount .folder nD hist = 1) ∧
    (step (run Registry.empty hist).1 (reqLine .maybeUnlink .file nA)).2 = [.cleanup .file nA] ∧
    (run Registry.empty (hist ++ [reqLine .maybeUnlink .file nA, reqLine .maybeUnlink .file nA])).2
      = [.cleanup .file nA, .report .keyError] ∧
    finish (run Registry.empty hist).1
      = [.leakWarning .file 2, .cleanup .file nA, .cleanup .file nBC, .leakWarning .folder 1, .cleanup .folder nD] := by
  decide +kernel

example : absCount .file nA hist = 1 ∧ absCount .file nBC hist = 1 ∧ absCount .folder nD hist = 1 := hist_facts.1
example : BalancedFrom .file nA 0 hist := by
  simp only [hist, BalancedFrom]; decide +kernel
-- the second MAYBE_UNLINK is the one that deletes; a third one is unbalanced and reported
example : (step (run Registry.empty hist).1 (reqLine .maybeUnlink .file nA)).2 = [.cleanup .file nA] := hist_facts.2.1
example : (run Registry.empty (hist ++ [reqLine .maybeUnlink .file nA, reqLine .maybeUnlink .file nA])).2
    = [.cleanup .file nA, .report .keyError] := hist_facts.2.2.1
-- EOF: the file with a colon in its name first, the folder last, one warning per non-empty type
example : finish (run Registry.empty hist).1
    = [.leakWarning .file 2, .cleanup .file nA, .cleanup .file nBC, .leakWarning .folder 1, .cleanup .folder nD] :=
  hist_facts.2.2.2
-- every kind of malformed line satisfies `Malformed` in the empty registry
example : Malformed Registry.empty [255, 58, 120, 58, 102, 105, 108, 101, 10] := Or.inl (by decide +kernel)
example : Malformed Registry.empty [103, 97, 114, 98, 97, 103, 101, 10] :=
  Or.inr (Or.inl ⟨[103, 97, 114, 98, 97, 103, 101], [], [103, 97, 114, 98, 97, 103, 101], by decide +kernel⟩)
example : Malformed Registry.empty ([70, 79, 79] ++ 58 :: nA ++ 58 :: RType.str .file ++ [10]) :=
  Or.inr (Or.inr (Or.inl ⟨[70, 79, 79], nA, .file, by decide +kernel⟩))
example : Malformed Registry.empty (reqLine .maybeUnlink .file nA) :=
  Or.inr (Or.inr (Or.inr ⟨.file, nA, Or.inr (parse_send_format .maybeUnlink .file nA (by decide)), by decide⟩))
-- PROBE:0:noop
example : classify [80, 82, 79, 66, 69, 58, 48, 58, 110, 111, 111, 112, 10] = .probe := by decide +kernel
-- a last line without '\n' (EOF right after it) and surrounding blanks are accepted as the code accepts them
example : classify ([32, 9] ++ cmdStr .register ++ 58 :: nA ++ 58 :: RType.str .file ++ [32, 13]) =
    .req .register .file nA := by decide +kernel
-- "REGISTER:file": one separator only — the name is empty and the line is a valid request for ""
example : classify (cmdStr .register ++ 58 :: RType.str .file ++ [10]) = .req .register .file [] := by decide +kernel

/-! ## The client side: who sends which request when

Model: `JoblibModel.TrackerClient` — the main process (`TemporaryResourcesManager`, the reducer, executors and
pools), the worker processes, the temp root, composed with the tracker above: every line a process writes is read by
`Tracker.step` before the client looks at the disk again (`send`).  Operations (`Op`): `configure k`, `spawn k`,
`reduce k array`, `load c i`, `drop i` (a memmap is garbage-collected), `childExit c`, `childKill c`, `terminate k`,
`abort k`, `execTerminate kill`, `exitParent`, `killParent`, in ANY order and number (`runOps`), then `eof`.
Quantifier reached: every operation sequence (induction over the list), every configuration (`max_nbytes`, number of
`Parallel` objects, which of them use the multiprocessing backend), both variants of the code (`Cfg.fix`).

Ghost fields the statements speak about (no influence on the behaviour): `extra` — the files whose extra reference
the parent holds; `leaked` — registered references nobody will give back (memmaps of killed workers, pickles never
loaded); `dup` — some clean-up released an extra reference that was not held (F45); `bad` — the monitor: every
file that left the disk while it had a live user (`applyAction`: a clean-up action of the tracker while
`liveUsers > 0`; `clientRmtree`: a `shutil.rmtree` of the main process while a worker-side user remains — these two
functions are the only places where `disk.files` shrinks).

Full statement of `never_deleted_while_held`, FALSE on the older code (`Cfg.fix = false`: /repo before 1f8bf3e; /repo now
is `Cfg.fix = true`) (F45, `extra_reference_released_twice_counterexample`):
  ∀ cfg ops, (runOps cfg State.init ops).bad = []
Proved: `never_deleted_while_held_partial` under the guard "no clean-up (`_clean_temporary_resources(force=False)`)
meets a file whose extra reference is not held" — i.e. no file is met by two non-forced clean-ups (`dup = false`;
the extra reference is registered once per file name, `is_new_memmap`, but released by every clean-up that finds the
file) — and `never_deleted_while_held` for the repaired code (`Cfg.fix`: `fixes/F45-*.diff`), where the guard is a
theorem (`repaired_never_releases_twice`).

The parts of the property on this side, as the docstrings below label them: (a) every line a client writes is a
well-formed request; (b) no file leaves the disk while it has a live user; (c) once the last process is gone — and
already when the main process exits normally — nothing is left under the temp root; (d) the tracker's count of a file
is the number of its registered users. -/

open JoblibModel.TrackerClient

/-- The invariants behind the theorems below hold after every operation sequence (what is cached is registered
and has its atexit callback, what is on disk is registered, a memmap is held by a live worker of the owning
executor, …): `JoblibModel.TrackerClient.Inv`. -/
theorem client_invariants (cfg : Cfg) (ops : List Op) : Inv cfg (runOps cfg State.init ops) :=
  inv_runOps ops State.init (inv_init cfg)

/-- The composition is the tracker's own loop: the registry of the composed system is `Tracker.run` over exactly the
lines the processes wrote, in the order they wrote them. -/
theorem client_tracker_composed (cfg : Cfg) (ops : List Op) :
    (runOps cfg State.init ops).reg = (run Registry.empty (runOps cfg State.init ops).sent.reverse).1 :=
  (client_invariants cfg ops).wire.isRun

/-- (a) Every line a client ever writes is `f"{cmd}:{name}:{rtype}\n"` for one of the three commands, type "file" or
"folder" and an ASCII name, and the tracker's parser reads it back as that very request (`parse_send_format`). -/
theorem client_requests_wellformed (cfg : Cfg) (ops : List Op) :
    ∀ l ∈ (runOps cfg State.init ops).sent, ∃ c rt name, l = C20.reqLine c rt name ∧ (rt = .file ∨ rt = .folder) ∧
      classify l = .req c rt name := by
  intro l hl
  obtain ⟨c, rt, name, rfl, ha, hrt⟩ := (client_invariants cfg ops).wire.lines l hl
  exact ⟨c, rt, name, rfl, hrt, parse_send_format c rt name ha⟩

theorem enc_inj {a b : Nat} (h : enc a = enc b) : a = b := by
  unfold enc at h
  by_cases ha : a = 0 <;> by_cases hb : b = 0 <;> simp [ha, hb] at h <;> omega

/-- (d) The refinement: as long as no clean-up has released an extra reference that was not held, the tracker's
count of every file is the number of its registered users in the client model (the parent's extra reference,
pickles on their way, memmaps alive in workers, and the references that will never be given back) — in the
registry, and as the abstract counter of `refcount_refines` over the lines written. -/
theorem refcount_matches_users (cfg : Cfg) (ops : List Op) (f : FileKey)
    (hd : (runOps cfg State.init ops).dup = false) :
    lookup ((runOps cfg State.init ops).reg.get .file) f.name
        = (if trackedUsers (runOps cfg State.init ops).toClient f = 0 then none
           else some (trackedUsers (runOps cfg State.init ops).toClient f : Int)) ∧
    absCount .file f.name (runOps cfg State.init ops).sent.reverse
        = trackedUsers (runOps cfg State.init ops).toClient f := by
  have hi := client_invariants cfg ops
  have hj := (hi.cnt hd).j1 f
  refine ⟨hj, ?_⟩
  have hr := refcount_refines (runOps cfg State.init ops).sent.reverse .file f.name
  rw [← hi.wire.isRun, hj] at hr
  exact (enc_inj hr).symm

/-- With the repair no clean-up ever releases an extra reference that is not held — for every operation sequence. -/
theorem repaired_never_releases_twice (cfg : Cfg) (hfix : cfg.fix = true) (ops : List Op) :
    (runOps cfg State.init ops).dup = false :=
  ((client_invariants cfg ops).fix hfix).x0

/-- (d) for the repaired code: unconditionally. -/
theorem refcount_matches_users_repaired (cfg : Cfg) (hfix : cfg.fix = true) (ops : List Op) (f : FileKey) :
    absCount .file f.name (runOps cfg State.init ops).sent.reverse
        = trackedUsers (runOps cfg State.init ops).toClient f :=
  (refcount_matches_users cfg ops f (repaired_never_releases_twice cfg hfix ops)).2

/-- (b), the part that holds on the older code: as long as no clean-up has met a file whose extra reference was
not held (`dup = false` at the end, hence all along), no file has left the disk while it had a live user — neither
through the tracker (a registered user: a worker's memmap not yet collected, a pickle on its way, the extra
reference of the living parent) nor through a `rmtree` of the main process (any worker-side user). -/
theorem never_deleted_while_held_partial (cfg : Cfg) (ops : List Op)
    (hd : (runOps cfg State.init ops).dup = false) : (runOps cfg State.init ops).bad = [] :=
  ((client_invariants cfg ops).cnt hd).b

/-- (b) for the repaired code, at full strength: for EVERY operation sequence no file leaves the disk while it has
a live user. -/
theorem never_deleted_while_held (cfg : Cfg) (hfix : cfg.fix = true) (ops : List Op) :
    (runOps cfg State.init ops).bad = [] :=
  never_deleted_while_held_partial cfg ops (repaired_never_releases_twice cfg hfix ops)

/-- F45 as a program: one `Parallel` object, one worker; the array is dumped, the worker maps it and keeps it; the
call ends (`terminate`: the extra reference is released); the same object is used again and terminated again: the
clean-up finds the file and sends a second `MAYBE_UNLINK`. -/
def f45Program : List Op :=
  [.configure 0, .spawn 0, .reduce 0 ⟨1, false, false, 5000⟩, .load 0 0, .terminate 0, .configure 0, .terminate 0]

def cfgPinned : Cfg := ⟨false, some 4096, 4, []⟩
def cfgRepaired : Cfg := ⟨true, some 4096, 4, []⟩

/-- (b) at full strength is FALSE on the older code: after `f45Program` the file `/d_k/a` has been deleted while
worker 0 still maps it (the second `terminate` brought the count 1 → 0), and the tracker's count (0) is no longer
the number of users (1). -/
theorem extra_reference_released_twice_counterexample :
    (runOps cfgPinned State.init f45Program).bad = [⟨0, 1, 1⟩] ∧
    (runOps cfgPinned State.init f45Program).dup = true ∧
    (runOps cfgPinned State.init f45Program).holdings = [⟨0, ⟨0, 1, 1⟩, true⟩] ∧
    lookup ((runOps cfgPinned State.init f45Program).reg.get .file) (FileKey.mk 0 1 1).name = none ∧
    trackedUsers (runOps cfgPinned State.init f45Program).toClient ⟨0, 1, 1⟩ = 1 := by
  decide +kernel

theorem never_deleted_while_held_fails_on_pinned :
    ¬ ∀ ops : List Op, (runOps cfgPinned State.init ops).bad = [] := by
  intro h
  have := h f45Program
  rw [extra_reference_released_twice_counterexample.1] at this
  exact absurd this (by simp)

/-- (c) EOF: whatever the history, once the last process is gone and the tracker has run its `finally:` clean-up,
no folder and no file of any context is left under the temp root; and (`eof_deletes_rest_folders_last`) in that
clean-up every file is removed before every folder. -/
theorem eventually_deleted (cfg : Cfg) (ops : List Op) :
    (eof (runOps cfg State.init ops)).disk.dirs = [] ∧ (eof (runOps cfg State.init ops)).disk.files = [] := by
  rw [eof_disk_empty (client_invariants cfg ops)]; exact ⟨rfl, rfl⟩

/-- (c) the parent's own final clean-up: when the main process exits normally (its workers have left, its atexit
callbacks run) every folder and file of every context of every manager is gone already — before EOF. -/
theorem eventually_deleted_at_exit (cfg : Cfg) (ops : List Op)
    (hpa : (runOps cfg State.init ops).parentAlive = true) :
    (stepOp cfg (runOps cfg State.init ops) .exitParent).1.disk.dirs = [] ∧
    (stepOp cfg (runOps cfg State.init ops) .exitParent).1.disk.files = [] := by
  have e : (stepOp cfg (runOps cfg State.init ops) .exitParent).1 = exitParent (runOps cfg State.init ops) := by
    simp [stepOp, Op.isWorkerOp, hpa, parentStep]
  rw [e, exitParent_disk_empty (client_invariants cfg ops) hpa]; exact ⟨rfl, rfl⟩

/-! Non-vacuity: the same program on the repaired code — the second clean-up skips the released file, the worker
keeps its file, the count is the number of users; after the memmap is collected the file goes, and the exit of the
parent leaves nothing. -/
private theorem repaired_facts :
    ((runOps cfgRepaired State.init f45Program).bad = [] ∧
      (runOps cfgRepaired State.init f45Program).disk.files = [⟨0, 1, 1⟩] ∧
      lookup ((runOps cfgRepaired State.init f45Program).reg.get .file) (FileKey.mk 0 1 1).name = some 1 ∧
      trackedUsers (runOps cfgRepaired State.init f45Program).toClient ⟨0, 1, 1⟩ = 1) ∧
    (runOps cfgRepaired State.init (f45Program ++ [.drop 0])).disk.files = [] ∧
    (runOps cfgRepaired State.init (f45Program ++ [.drop 0])).disk.dirs = [⟨0, 1⟩] ∧
    (runOps cfgRepaired State.init (f45Program ++ [.drop 0, .exitParent])).disk.dirs = [] := by
  -- one command: the three runs are `f45Program` and two continuations of it
  decide +kernel

example : (runOps cfgRepaired State.init f45Program).bad = [] ∧
    (runOps cfgRepaired State.init f45Program).disk.files = [⟨0, 1, 1⟩] ∧
    lookup ((runOps cfgRepaired State.init f45Program).reg.get .file) (FileKey.mk 0 1 1).name = some 1 ∧
    trackedUsers (runOps cfgRepaired State.init f45Program).toClient ⟨0, 1, 1⟩ = 1 := repaired_facts.1
example : (runOps cfgRepaired State.init (f45Program ++ [.drop 0])).disk.files = [] ∧
    (runOps cfgRepaired State.init (f45Program ++ [.drop 0])).disk.dirs = [⟨0, 1⟩] ∧
    (runOps cfgRepaired State.init (f45Program ++ [.drop 0, .exitParent])).disk.dirs = [] := repaired_facts.2
-- the guard of the partial theorem is satisfiable by a history in which files are released and deleted
example : (runOps cfgPinned State.init
      [.configure 0, .spawn 0, .reduce 0 ⟨1, false, false, 5000⟩, .load 0 0, .drop 0, .terminate 0]).dup = false ∧
    (runOps cfgPinned State.init
      [.configure 0, .spawn 0, .reduce 0 ⟨1, false, false, 5000⟩, .load 0 0, .drop 0, .terminate 0]).disk.dirs = [] := by
  decide +kernel
-- what the client writes for the first two operations of the program
example : (runOps cfgPinned State.init [.configure 0]).sent.reverse =
    [C20.reqLine .register .folder (FolderKey.mk 0 0).name, C20.reqLine .register .folder (FolderKey.mk 0 1).name] := by
  decide +kernel

/-! ### signals: the tracker outlives ^C and `killall python` at every phase of its life

Model: `JoblibModel.TrackerSignals` (mask, disposition, pending bit per signal; the head of `main` as the code has it). -/
section Signals
open JoblibModel.TrackerSignals

/-- The tracker outlives SIGINT and SIGTERM at every phase of its life. Spawned by `ensure_running` (both signals
blocked; `pi`/`pt`: one already pending when `main` starts), with any number of further arrivals before the first
statement of `main` (`a0`), between `signal(SIGINT, SIG_IGN)`, `signal(SIGTERM, SIG_IGN)` and
`pthread_sigmask(SIG_UNBLOCK, …)` (`a1`, `a2`), and during the command loop and the EOF clean-up (`a3`): the tracker
is alive at the end and ignores both signals. (So what is registered is still deleted when the last client is gone:
`eof_deletes_rest_folders_last`, `eventually_deleted`.) -/
theorem start_never_loses_to_a_pending_signal (pi pt : Bool) (a0 a1 a2 a3 : List Sig) :
    (life pi pt a0 a1 a2 a3).alive = true ∧ (life pi pt a0 a1 a2 a3).int.ignored = true
      ∧ (life pi pt a0 a1 a2 a3).term.ignored = true := by
  have e : schedule a0 a1 a2 a3 = (arrivals a0 ++ .ignore .int :: (arrivals a1 ++ .ignore .term :: arrivals a2))
      ++ .unblockAll :: arrivals a3 := by simp [schedule]
  rw [life, e]
  exact sigRun_survives _ _ (by simp [arrivals]) (by simp) (by simp) _ (by simp [sigSafe, launched])

/-- The order of the two steps matters: unblocking BEFORE ignoring loses the tracker to a SIGTERM or SIGINT that was
pending on the launcher's mask, or that arrives between the two steps. -/
theorem unblock_before_ignore_counterexample :
    (sigRun (launched false true) [.unblockAll, .ignore .int, .ignore .term]).alive = false
      ∧ (sigRun (launched true false) [.unblockAll, .ignore .int, .ignore .term]).alive = false
      ∧ (sigRun (launched false false) [.unblockAll, .arrive .term, .ignore .int, .ignore .term]).alive = false := by decide +kernel

/-- Why the launcher blocks the signals around the spawn (bpo-33613): a tracker spawned without the mask dies of a
SIGTERM arriving before `main`'s first statement; with the mask the same signal is survived. -/
theorem launcher_mask_is_needed :
    (sigRun unprotected (.arrive .term :: mainStart)).alive = false
      ∧ (sigRun (launched false false) (.arrive .term :: mainStart)).alive = true := by decide +kernel

example : (life true true [.int, .term] [.term] [.int, .int] [.term, .int, .term]).alive = true :=
  (start_never_loses_to_a_pending_signal _ _ _ _ _ _).1
end Signals

/-! ### the pipe is asynchronous: the tracker may lag behind the clients (finding F60)

`never_deleted_while_held` is about the SYNCHRONOUS composition (`TrackerClient.send` = the write and the tracker's
`step` at once). With a FIFO between clients and tracker (`JoblibModel.TrackerLag`: the tracker consumes at arbitrary
later points, `os.path.exists` / `os.listdir` / the worker's `open` see the disk as the tracker has left it so far) the
statement is FALSE even for the repaired manager: `tracker_lag_counterexample`. Hypothesis under which the synchronous
theorems speak about the real system: the tracker has read every line written before the next step of any client
that looks at the disk — `Op.catchUp` between any two client steps (`lag_with_caught_up_tracker_is_synchronous`);
the F60 schedule violates exactly this (the worker's `MAYBE_UNLINK` is still in the pipe when the reducer of the next
call runs `os.path.exists`). The general safety statement for `runSync` on this cut-down model is not proved here
(it is `never_deleted_while_held` on the full model); only the F60 client program is evaluated in both. -/
section Lag
open JoblibModel.TrackerLag

/-- F60: one unmanaged `Parallel` object called twice with the same array. With the tracker lagging behind the
worker's `MAYBE_UNLINK` of call 1, call 2's reducer still sees the dump (`os.path.exists`), skips the dump and only
registers the task; the tracker then reaches count 0 and unlinks the file while the pickled task of call 2 needs it
(`bad = [1]`), the worker gets `FileNotFoundError` (`loadfail = 1`). The same client steps composed synchronously:
nothing deleted in use, no failed load, the dump is on disk for the second task. -/
theorem tracker_lag_counterexample :
    (runL LState.init f60Lagging).bad = [1] ∧ (runL LState.init f60Lagging).loadfail = 1
      ∧ (runL LState.init f60Lagging).files = []
      ∧ (runSync LState.init f60Client).bad = [] ∧ (runSync LState.init f60Client).loadfail = 0
      ∧ (runSync LState.init f60Client).files = [1] := by decide +kernel

/-- The precise synchrony hypothesis: a lagging system in which the tracker catches up after every client step IS the
synchronous composition (for every start state and every client program). -/
theorem lag_with_caught_up_tracker_is_synchronous (s : LState) (ops : List JoblibModel.TrackerLag.Op) :
    runL s (ops.flatMap (fun op => [op, JoblibModel.TrackerLag.Op.catchUp])) = runSync s ops := by
  induction ops generalizing s with
  | nil => rfl
  -- both sides unfold to the run from `drain (stepL s op)`: `stepL _ .catchUp` is `drain`
  | cons op r ih => exact ih (drain (stepL s op))

end Lag

end C20
