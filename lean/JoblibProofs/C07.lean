import JoblibProofs.Lemmas.FilterArgs
/-!
# C07 — argument canonicalisation binds parameters exactly as Python does

Statement (properties.jsonl): for every Python function signature — positional-only,
positional-or-keyword, `*args`, keyword-only and `**kwargs` parameters, each with or without a
default, and bound methods — and every call that Python accepts, joblib's `filter_args` (which keys
the `Memory` cache) succeeds and maps each parameter name to the value Python would bind to it, with
surplus positionals and keywords under `'*'` and `'**'`. Removing names via the ignore list removes
exactly those entries.

Quantifier reached here: signatures of ANY length (induction over the parameter list, not
enumeration), any mix of the five kinds that `inspect.Signature` can hold (`WF`), any defaults, any
number of positional arguments, any keyword dict (`CallWF`: distinct keys), any ignore list.
properties.jsonl asks for "up to 5 parameters"; the harness enumerates that slice exhaustively
against the real code and the theorems extend it to every length.

Model: `JoblibModel.FilterArgs`.
* `filterArgs`, `filterArgsMethod` transcribe `filter_args` WITH `fixes/F02-F05-filter-args.diff`.
* `bind` is Python's binding (the specification; validated by the harness against really calling
  generated functions and against `inspect.Signature.bind`), `rename` puts it in `filter_args`'
  output format, `SameDict` is `==` of the two dicts (order-insensitive, also inside `'**'`).
* `filterArgsOld` transcribes the pinned tree. For it the statement is FALSE — section `Old` keeps
  the four defect shapes F2–F5 of DESIGN §7 machine-checked.

Values are abstract ids in the model, so the theorems say nothing about code that inspects a value
(`default != empty`, `if value:`); that the implementation never does is an assumption of the model,
checked by the correspondence stream with identity-compared exotic objects (harness/props/c07.py).

Not claimed: that `filter_args` rejects every call Python rejects. It does not, before or after the
fix (`lenient_too_many_positionals`, `lenient_multiple_values`), and the property does not ask for it.

`WF`, `CallWF`, `SameDict`, `rename` are definitions of the model; the theorems are corollaries of `core_eq_parts`,
`core_eq_bind`, `core_ok_iff`, `core_nodup` in `Lemmas/FilterArgs.lean`.
-/
namespace C07
open JoblibModel.FilterArgs

/-- **Main theorem.** For every well-formed signature (any length) and every call Python accepts
(`bind` succeeds with mapping `b`), `filter_args` with an empty ignore list succeeds and its result
is, as a dict, Python's mapping with the `*args` / `**kwargs` parameters filed under `'*'` / `'**'`. -/
theorem filterArgs_eq_bind (s : Sig) (c : Call) (b : List (Nat × Val))
    (hs : WF s) (hc : CallWF c) (hb : bind s c = .ok b) :
    ∃ d, filterArgs s [] c = .ok d ∧ SameDict d (rename s b) :=
  core_eq_bind hs (walkOK_walk hs) hc hb

/-- The same for a bound method `obj.m`: `selfP` is the first parameter of `m.__func__` (positional,
no default), `s` the rest of its signature; Python binds `obj.m(*a, **k)` as `m.__func__(obj, *a, **k)`
(`bindMethod`), and `filter_args` files `obj` under the name of `selfP`. -/
theorem filterArgsMethod_eq_bind (selfP : Param) (selfV : Nat) (s : Sig) (c : Call)
    (b : List (Nat × Val)) (hs : WF (selfP :: s)) (hself : selfP.positional = true)
    (hd : selfP.default = none) (hc : CallWF c) (hb : bindMethod selfP selfV s c = .ok b) :
    ∃ d, filterArgsMethod selfP selfV s [] c = .ok d ∧ SameDict d (rename (selfP :: s) b) :=
  core_eq_bind hs (walkOK_method hs hself hd) hc hb

/-- The result never has two entries for one key, whatever the signature, call and ignore list: the
association list IS a dict, as `SameDict` (equality up to the order of the entries) takes for granted. -/
theorem keys_nodup (s : Sig) (ig : List Key) (c : Call) (d : Dict)
    (h : filterArgs s ig c = .ok d) : (d.map Prod.fst).Nodup :=
  core_nodup h

/-- Python's mapping in `filter_args`' format has distinct keys as well. -/
theorem bound_keys_nodup (s : Sig) (c : Call) (b : List (Nat × Val))
    (hs : WF s) (hc : CallWF c) (hb : bind s c = .ok b) :
    ((rename s b).map Prod.fst).Nodup :=
  let ⟨d, hd, sd⟩ := filterArgs_eq_bind s c b hs hc hb
  sd.keys_perm.nodup_iff.mp (keys_nodup s [] c d hd)

/-- **The ignore list removes exactly the named entries.** If the call canonicalises to `d₀` without
an ignore list, then with ignore list `ig` the result is `d₀` minus the keys in `ig` — and
`filter_args` succeeds iff `ig` has no repetition and names only keys of `d₀` (parameter names,
`'*'`, `'**'`). -/
theorem ignore_removes_exactly (s : Sig) (ig : List Key) (c : Call) (d₀ d : Dict)
    (h₀ : filterArgs s [] c = .ok d₀) :
    filterArgs s ig c = .ok d ↔
      ig.Nodup ∧ (∀ k ∈ ig, k ∈ d₀.map Prod.fst) ∧ d = d₀.filter (fun e => decide (e.1 ∉ ig)) :=
  core_ok_iff h₀ d

/-- When the ignore list is what makes `filter_args` fail, the failure is the
"argument is not defined" `ValueError`. -/
theorem ignore_failure_is_undefined (s : Sig) (ig : List Key) (c : Call) (d₀ : Dict) (e : Err)
    (h₀ : filterArgs s [] c = .ok d₀) (h : filterArgs s ig c = .error e) : e = .ignoreUndefined := by
  unfold filterArgs at h₀ h
  rw [core_nil_ignore, h₀] at h
  exact ignoreLoop_error h

/-- **The `Memory` wrapper accepts every call the function accepts.** For a call Python accepts and
an ignore list without repetition naming only parameters of the function (`'*'` / `'**'` for the
variadic ones), `filter_args` succeeds, and its result is Python's mapping minus the ignored keys.  (Stated for
plain functions; `core_eq_bind` and `core_ok_iff` are about `core`, so with `walkOK_method` the same three lines give it
for a bound method.) -/
theorem wrapper_accepts (s : Sig) (c : Call) (b : List (Nat × Val)) (ig : List Key)
    (hs : WF s) (hc : CallWF c) (hb : bind s c = .ok b)
    (hig : ig.Nodup) (hkeys : ∀ k ∈ ig, k ∈ (rename s b).map Prod.fst) :
    ∃ d, filterArgs s ig c = .ok d ∧
      SameDict d ((rename s b).filter (fun e => decide (e.1 ∉ ig))) := by
  obtain ⟨d₀, h₀, sd⟩ := filterArgs_eq_bind s c b hs hc hb
  exact ⟨_, (core_ok_iff h₀ _).mpr ⟨hig, fun k hk => sd.keys_perm.mem_iff.mpr (hkeys k hk), rfl⟩,
    sd.filter fun k => decide (k ∉ ig)⟩

/-- The converse on the errors that matter: `filter_args` (no ignore list) raises only on calls
Python itself rejects. -/
theorem error_implies_python_rejects (s : Sig) (c : Call) (e : Err)
    (hs : WF s) (hc : CallWF c) (h : filterArgs s [] c = .error e) : ∃ e', bind s c = .error e' := by
  cases hb : bind s c with
  | error e' => exact ⟨e', rfl⟩
  | ok b =>
    obtain ⟨d, hd, _⟩ := filterArgs_eq_bind s c b hs hc hb
    rw [hd] at h; cases h

/-! ## Non-vacuity: the hypotheses hold for a signature using all five kinds

`def f(a, /, b=11, *args, c=12, d, **kw)` called as `f(1, 2, 3, 4, d=5, x=6)`;
names: a=0 b=1 args=2 c=3 d=4 kw=5, x=23. -/
def sigEx : Sig :=
  [⟨0, .posOnly, none⟩, ⟨1, .posKw, some 11⟩, ⟨2, .varPos, none⟩, ⟨3, .kwOnly, some 12⟩,
   ⟨4, .kwOnly, none⟩, ⟨5, .varKw, none⟩]
def callEx : Call := ⟨[1, 2, 3, 4], [(23, 6), (4, 5)]⟩

example : WF sigEx := by decide +kernel
example : CallWF callEx := by decide +kernel
example : bind sigEx callEx =
    .ok [(0, .one 1), (1, .one 2), (2, .seq [3, 4]), (3, .one 12), (4, .one 5), (5, .map [(23, 6)])] := by
  decide +kernel
example : filterArgs sigEx [] callEx =
    .ok [(.name 0, .one 1), (.name 1, .one 2), (.name 3, .one 12), (.name 4, .one 5),
         (.dstar, .map [(23, 6)]), (.star, .seq [3, 4])] := by decide +kernel
example : filterArgs sigEx [.star, .name 1] callEx =
    .ok [(.name 0, .one 1), (.name 3, .one 12), (.name 4, .one 5), (.dstar, .map [(23, 6)])] := by
  decide +kernel
/-- A keyword naming a positional-only parameter goes to `**kw` (Python accepts `f(a=7)` here). -/
example : filterArgs [⟨0, .posOnly, some 10⟩, ⟨1, .varKw, none⟩] [] ⟨[], [(0, 7)]⟩ =
    .ok [(.name 0, .one 10), (.dstar, .map [(0, 7)])] := by decide +kernel
/-- A bound method `def m(self, x, y=3)`, `obj.m(1)` (self=18, obj=999). -/
example : filterArgsMethod ⟨18, .posKw, none⟩ 999 [⟨0, .posKw, none⟩, ⟨1, .posKw, some 3⟩] [] ⟨[1], []⟩ =
    .ok [(.name 18, .one 999), (.name 0, .one 1), (.name 1, .one 3)] := by decide +kernel

/-! ## What is NOT claimed: `filter_args` is lenient on two kinds of calls Python rejects
(unchanged by the fix; the property is about accepted calls only). -/

/-- `def f(a)`, `f(1, 2)`: Python raises TypeError, `filter_args` drops the surplus positional. -/
theorem lenient_too_many_positionals :
    bind [⟨0, .posKw, none⟩] ⟨[1, 2], []⟩ = .error .tooManyPositional ∧
    filterArgs [⟨0, .posKw, none⟩] [] ⟨[1, 2], []⟩ = .ok [(.name 0, .one 1)] := by decide +kernel

/-- `def f(a)`, `f(1, a=2)`: Python raises TypeError, `filter_args` lets the keyword win. -/
theorem lenient_multiple_values :
    bind [⟨0, .posKw, none⟩] ⟨[1], [(0, 2)]⟩ = .error .multipleValues ∧
    filterArgs [⟨0, .posKw, none⟩] [] ⟨[1], [(0, 2)]⟩ = .ok [(.name 0, .one 2)] := by decide +kernel

/-! ## Old — the pinned tree before `fixes/F02-F05-filter-args.diff`

`filterArgsOld` transcribes `filter_args` as it was. Each theorem states what Python binds and what
the old code returned, on the witnesses of DESIGN §7 (F2–F5); `old_filterArgs_eq_bind_false` is the
negation of the main theorem for the old code. The harness replays the same witnesses on the real
function (corpus cases, run first). -/
section Old

/-- F2: `def f(a, /, b)`, `f(1, 2)` — the positional-only parameter is skipped and `b` gets the
value of `a`. -/
theorem old_F2_positional_only_dropped :
    WF [⟨0, .posOnly, none⟩, ⟨1, .posKw, none⟩] ∧
    bind [⟨0, .posOnly, none⟩, ⟨1, .posKw, none⟩] ⟨[1, 2], []⟩ = .ok [(0, .one 1), (1, .one 2)] ∧
    filterArgsOld [⟨0, .posOnly, none⟩, ⟨1, .posKw, none⟩] [] ⟨[1, 2], []⟩ = .ok [(.name 1, .one 1)] := by
  decide +kernel

/-- F2 (second shape): `def f(a, /)` — every call gets the same, empty key. -/
theorem old_F2_positional_only_empty_key :
    filterArgsOld [⟨0, .posOnly, none⟩] [] ⟨[1], []⟩ = .ok [] ∧
    filterArgsOld [⟨0, .posOnly, none⟩] [] ⟨[2], []⟩ = .ok [] := by decide +kernel

/-- F3: `def f(a=10, b=11, *, c, d=20)`, `f(1, c=0)` — `b` gets the default of `a`. -/
theorem old_F3_wrong_default :
    WF [⟨0, .posKw, some 10⟩, ⟨1, .posKw, some 11⟩, ⟨2, .kwOnly, none⟩, ⟨3, .kwOnly, some 20⟩] ∧
    bind [⟨0, .posKw, some 10⟩, ⟨1, .posKw, some 11⟩, ⟨2, .kwOnly, none⟩, ⟨3, .kwOnly, some 20⟩]
        ⟨[1], [(2, 0)]⟩
      = .ok [(0, .one 1), (1, .one 11), (2, .one 0), (3, .one 20)] ∧
    filterArgsOld [⟨0, .posKw, some 10⟩, ⟨1, .posKw, some 11⟩, ⟨2, .kwOnly, none⟩, ⟨3, .kwOnly, some 20⟩]
        [] ⟨[1], [(2, 0)]⟩
      = .ok [(.name 0, .one 1), (.name 1, .one 10), (.name 2, .one 0), (.name 3, .one 20)] := by
  decide +kernel

/-- F4: `def f(a, *args, k=0)`, `f(1, 2, 3)` — rejected ("keyword-only passed as positional"). -/
theorem old_F4_varargs_keyword_only_rejected :
    WF [⟨0, .posKw, none⟩, ⟨1, .varPos, none⟩, ⟨2, .kwOnly, some 0⟩] ∧
    bind [⟨0, .posKw, none⟩, ⟨1, .varPos, none⟩, ⟨2, .kwOnly, some 0⟩] ⟨[1, 2, 3], []⟩
      = .ok [(0, .one 1), (1, .seq [2, 3]), (2, .one 0)] ∧
    filterArgsOld [⟨0, .posKw, none⟩, ⟨1, .varPos, none⟩, ⟨2, .kwOnly, some 0⟩] [] ⟨[1, 2, 3], []⟩
      = .error .kwOnlyAsPositional := by
  decide +kernel

/-- F5: `def f(a, *, b=1, c)`, `f(0, c=5)` — rejected ("wrong number of arguments"). -/
theorem old_F5_required_keyword_only_after_default_rejected :
    WF [⟨0, .posKw, none⟩, ⟨1, .kwOnly, some 1⟩, ⟨2, .kwOnly, none⟩] ∧
    bind [⟨0, .posKw, none⟩, ⟨1, .kwOnly, some 1⟩, ⟨2, .kwOnly, none⟩] ⟨[0], [(2, 5)]⟩
      = .ok [(0, .one 0), (1, .one 1), (2, .one 5)] ∧
    filterArgsOld [⟨0, .posKw, none⟩, ⟨1, .kwOnly, some 1⟩, ⟨2, .kwOnly, none⟩] [] ⟨[0], [(2, 5)]⟩
      = .error .wrongNumber := by
  decide +kernel

/-- The main theorem is false of the old code. -/
theorem old_filterArgs_eq_bind_false :
    ¬ ∀ (s : Sig) (c : Call) (b : List (Nat × Val)), WF s → CallWF c → bind s c = .ok b →
        ∃ d, filterArgsOld s [] c = .ok d ∧ SameDict d (rename s b) := by
  intro h
  obtain ⟨d, hd, _⟩ := h _ ⟨[1, 2, 3], []⟩ _ old_F4_varargs_keyword_only_rejected.1 (by decide +kernel)
    old_F4_varargs_keyword_only_rejected.2.1
  rw [old_F4_varargs_keyword_only_rejected.2.2] at hd
  cases hd

/-- The repaired function on the same four witnesses. -/
theorem fixed_on_the_witnesses :
    filterArgs [⟨0, .posOnly, none⟩, ⟨1, .posKw, none⟩] [] ⟨[1, 2], []⟩
      = .ok [(.name 0, .one 1), (.name 1, .one 2)] ∧
    filterArgs [⟨0, .posKw, some 10⟩, ⟨1, .posKw, some 11⟩, ⟨2, .kwOnly, none⟩, ⟨3, .kwOnly, some 20⟩]
        [] ⟨[1], [(2, 0)]⟩
      = .ok [(.name 0, .one 1), (.name 1, .one 11), (.name 2, .one 0), (.name 3, .one 20)] ∧
    filterArgs [⟨0, .posKw, none⟩, ⟨1, .varPos, none⟩, ⟨2, .kwOnly, some 0⟩] [] ⟨[1, 2, 3], []⟩
      = .ok [(.name 0, .one 1), (.name 2, .one 0), (.star, .seq [2, 3])] ∧
    filterArgs [⟨0, .posKw, none⟩, ⟨1, .kwOnly, some 1⟩, ⟨2, .kwOnly, none⟩] [] ⟨[0], [(2, 5)]⟩
      = .ok [(.name 0, .one 0), (.name 1, .one 1), (.name 2, .one 5)] := by
  decide +kernel

end Old

end C07
