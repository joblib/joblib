import JoblibProofs.Lemmas.ParallelCalls
import JoblibProofs.Lemmas.AutoBatch
import JoblibProofs.Lemmas.ParallelSeq
import JoblibProofs.Lemmas.EvalExpr
import JoblibProofs.Lemmas.ParallelReconf
/-!
# C09 — Parallel consumes its input lazily, boundedly and from one thread at a time

Statement (properties.jsonl): `Parallel` takes items from its input iterable lazily and never from two threads at
once: at every moment the number of items taken exceeds the number of completed tasks by at most a bound fixed by
`pre_dispatch`, `n_jobs` and the batch size — never by the input length — no more than the pre-dispatched number of
batches is in flight, and `pre_dispatch='all'` takes everything up front. Once a task has failed or the output
generator has been closed, no further items are taken.

Model: `JoblibModel.ParallelProto` (M1). "Items taken" is `St.srcPos`, "completed tasks" is `St.nCompleted`,
"batches in flight" is `ownParked t0 s` (parked batches of the running call), `bmax c` is the largest scripted
batch size.

Quantifier reached: ALL schedules, ALL input lengths, ALL configurations (`n_jobs ≥ 2`, scripted batch sizes ≥ 1),
every state of a call (invariants `Inv`, `InvB`). The configuration-only bound of the statement is FALSE under
adversarial schedules (finding F18, `lookahead_unbounded_counterexample`): what is proved is
`lookahead_bound_partial`, configuration-only when no completion is delivered before `_start` returns, and growing
by `n_jobs · bmax` per task completed during `_start` otherwise.

"Arithmetic-only evaluation of pre_dispatch expressions" (`_utils.eval_expr`) and the way `pre_dispatch` fixes the
amount of the bound: model `JoblibModel.EvalExpr` (section "`_utils.eval_expr` …" below). Quantifier reached there:
EVERY AST `ast.parse(…, mode="eval").body` can be and EVERY interpretation of the eight operator functions
(`eval_arithmetic_only`, `eval_rejects_cleanly_partial`); every AST of the integer fragment (`eval_sound`); every
`pre_dispatch` value (text, int, float, bool, other) and every `n_jobs` for the resolution, which is a function
(`resolve_amount_fixed`), with `lookahead_bound_user` re-stating the look-ahead bound in terms of the USER's
`pre_dispatch` and `n_jobs`. Floats are binary64 values computed exactly except the general case of `float ** float`
(abstention, see the model's header); the parser is a sub-grammar (abstention outside it), tied by correspondence only.

Further sections: the sequential path `n_jobs == 1` (model `JoblibModel.ParallelSeq`: look-ahead at most one re-batched
tuple, no pull after a failure), the growth of the auto batch size (`auto_batch_size_at_most_doubles`, model
`JoblibModel.AutoBatch`) and a configuration that changes between the calls of one object (model
`JoblibModel.ParallelReconf`, last section).
-/
namespace C09
open JoblibModel.ParallelProto

/-- NO PULL AFTER ABORT. Once the call is aborting (a task failed, the input raised, the timeout expired, or the
generator was closed), `dispatch_one_batch` — from the caller or from a completion callback, including its locked
region re-check — returns without touching anything: the input position, the log's pull events, the queues are
unchanged; completions delivered by the backend change nothing but the backend's own bookkeeping. (The abort flag
itself is never cleared within a call: C04 `aborting_is_monotone`.) -/
theorem no_pull_after_abort (c : Cfg) {s : St} (hab : s.aborting = true) :
    (∀ fo bs, dispatchLocked c fo bs s = (s, false)) ∧ dispatchOneCb c s = (s, false) ∧
    dispatchOneMain c s = (s, false) ∧ (∀ b, dispatch c s b = s) ∧
    (∀ k, ∃ lg pk ib, deliver c k s = { s with log := lg, parked := pk, inCb := ib }) :=
  aborting_stops_dispatch c hab

/-- ALL IS EAGER. With `pre_dispatch='all'`: when `_start` returns without the call aborting, the whole input has
been taken (`srcPos = n`, the iterator is exhausted, nothing is left in the look-ahead queue); and in every state
of such a call `_original_iterator` is `None`, so no completion callback ever pulls: a completion leaves the input
position unchanged. -/
theorem all_is_eager {c : Cfg} (hnj : 2 ≤ c.nj) (hbs : ∀ b ∈ c.bs, 1 ≤ b) (hmode : c.pdMode = 1) :
    (∀ (fuel base : Nat) (spec : CallSpec) (s₀ : St), Idle s₀ → s₀.hung = false → spec.n + 2 ≤ fuel →
      ∃ s1, callStart c fuel base spec s₀ = (s1, none) ∧
        (s1.aborting = false → s1.srcPos = spec.n ∧ s1.srcDead = true ∧ s1.ready = [])) ∧
    (∀ (t0 : Nat) (s : St), Inv c t0 s → s.origAlive = false ∧ ∀ k, (deliver c k s).srcPos = s.srcPos) := by
  have hc := cfgOK_of hnj hbs
  have horig : ∀ {t0 : Nat} {s : St}, Inv c t0 s → s.origAlive = false :=
    fun h => Bool.eq_false_iff.mpr fun hx => h.L.orig_mode hx hmode
  constructor
  · intro fuel base spec s₀ hi hh hf
    obtain ⟨s1, he, hS⟩ := callStart_started hc fuel base spec hi hh
    refine ⟨s1, he, fun hna => ?_⟩
    have hit : s1.iterating = false :=
      Bool.eq_false_iff.mpr fun hx => Bool.noConfusion ((hS.inv.L.iter_orig hx).symm.trans (horig hS.inv))
    obtain ⟨h1, h2⟩ := hS.post hf hh (Or.inl hmode) hna hit
    have := (hS.inv.S.dead hna h2).1
    exact ⟨by rw [this, hS.spec], h2, h1⟩
  · intro t0 s h
    exact ⟨horig h, fun k => deliver_srcPos_of_not_orig c k (horig h)⟩

/-- PULLS ONLY IN THE LOCKED REGION. The input position is moved by nothing but the locked region of
`dispatch_one_batch` (`dispatchLocked`): registering an outcome, `_dispatch`, `get_status`, `get_result`, `_abort`,
the `finally` block and the exception handler leave it unchanged; a completion callback moves it only through
`dispatch_one_batch(self._original_iterator)`, which moves it only inside its locked region. Since the model's
callbacks are atomic and the locked region is entered by one thread at a time, the iterator is never advanced by
two threads at once. -/
theorem pulls_only_in_locked_region (c : Cfg) (s : St) :
    (∀ i st r, (registerOutcome c s i st r).srcPos = s.srcPos) ∧ (∀ b, (dispatch c s b).srcPos = s.srcPos) ∧
    (∀ i, (getStatus c s i).1.srcPos = s.srcPos) ∧ (∀ i, (getResult s i).1.srcPos = s.srcPos) ∧
    (abort c s).srcPos = s.srcPos ∧ (finallyBlock s).1.srcPos = s.srcPos ∧
    (handleException c s).srcPos = s.srcPos ∧
    (∀ i failed, (callback c s i failed).srcPos = s.srcPos ∨
      (s.origAlive = true ∧ ∃ s1, s1.srcPos = s.srcPos ∧
        (callback c s i failed).srcPos = (dispatchOneCb c s1).1.srcPos)) ∧
    ((dispatchOneCb c s).1.srcPos = s.srcPos ∨
      ∃ bs s1, s1.srcPos = s.srcPos ∧ (dispatchOneCb c s).1 = (dispatchLocked c true bs s1).1) :=
  ⟨fun i st r => (registerOutcome_core c s i st r).srcPos, dispatch_srcPos c s, getStatus_srcPos c s,
    getResult_srcPos s, abort_srcPos c s, finallyBlock_srcPos s, handleException_srcPos c s,
    callback_srcPos c s, dispatchOneCb_srcPos c s⟩

/-
Full statement (FALSE, see `lookahead_unbounded_counterexample`):
  lookahead_bound: in every state of every call, `srcPos − nCompleted ≤ B(c)` with `B` a function of
  `pre_dispatch`, `n_jobs` and `bmax` only.
What is proved (`lookahead_bound_partial`): the bound with `B = (pd + k · n_jobs · bmax + n_jobs) · bmax`, `k` =
number of TASKS completed before `_start` returned; for `k = 0` it is `(pd + n_jobs) · bmax`, configuration-only.
What is missing is exactly what F18 shows to be false: a bound on the batches the caller dispatches during
`_start` when completions interleave with its pre-dispatch loop.
-/

/-- LOOK-AHEAD BOUND, state form. In every state of a call that is not aborting: items taken − tasks completed
`≤ (P + n_jobs) · bmax`, `P` = number of parked batches of the call; and `P ≤` items taken `≤ pre_dispatch +
completed · n_jobs · bmax` (`pre_dispatch ≠ 'all'`). Neither bound mentions the input length. -/
theorem lookahead_bound_state {c : Cfg} {t0 : Nat} {s : St} (h : Inv c t0 s) (hB : InvB c t0 s)
    (hna : s.aborting = false) :
    s.srcPos - s.nCompleted ≤ (ownParked t0 s + c.nj) * bmax c ∧
    ownParked t0 s ≤ s.srcPos ∧
    (c.pdMode ≠ 1 → s.srcPos ≤ c.pd + s.nCompleted * (c.nj * bmax c)) := by
  refine ⟨by have := lookahead_le h hB hna; omega, ownParked_le_pulled h hna, fun hm => ?_⟩
  obtain ⟨r, _, h2⟩ := hB.budget hm
  omega

/-- The size invariant `InvB` (every batch ≤ `bmax`, look-ahead queue ≤ `n_jobs · bmax` tasks, input position paid
for by `pre_dispatch` + `n_jobs · bmax` per completed task) holds when `callStart` returns and is preserved by every
step of the protocol: hook points with any completions, the caller's `dispatch_one_batch`, `get_status`. So
`lookahead_bound_state` applies in every state of a call. -/
theorem size_invariant {c : Cfg} (hnj : 2 ≤ c.nj) (hbs : ∀ b ∈ c.bs, 1 ≤ b) :
    (∀ (fuel base : Nat) (spec : CallSpec) (s₀ : St), Idle s₀ → s₀.hung = false →
      ∃ s1, callStart c fuel base spec s₀ = (s1, none) ∧ Inv c s₀.trk.length s1 ∧ InvB c s₀.trk.length s1) ∧
    (∀ (t0 : Nat) (s : St), Inv c t0 s → InvB c t0 s →
      (∀ sleep, InvB c t0 (hook c sleep s)) ∧ (∀ k, InvB c t0 (deliver c k s)) ∧
      InvB c t0 (dispatchOneMain c s).1 ∧ (∀ i, InvB c t0 (getStatus c s i).1)) := by
  have hc := cfgOK_of hnj hbs
  constructor
  · intro fuel base spec s₀ hi hh
    obtain ⟨s1, he, hS⟩ := callStart_started hc fuel base spec hi hh
    exact ⟨s1, he, hS.inv, hS.invB⟩
  · intro t0 s h hB
    exact ⟨fun sl => (hook_spec hc sl h).B hB, fun k => (deliver_spec hc k h).1.B hB,
      (dispatchOneMain_spec hc h).B hB, fun i => getStatus_B i hB⟩

/-- PARKED BOUND. A completion (any hook point, any completions the schedule delivers there) never increases the
number of parked batches of the call: each completed batch leaves and its callback dispatches at most one new one.
Only the caller's pre-dispatch loop adds to the batches in flight. -/
theorem parked_bound {c : Cfg} (hnj : 2 ≤ c.nj) (hbs : ∀ b ∈ c.bs, 1 ≤ b) {t0 : Nat} {s : St} (h : Inv c t0 s) :
    (∀ k, ownParked t0 (deliver c k s) ≤ ownParked t0 s) ∧
    (∀ sleep, ownParked t0 (hook c sleep s) ≤ ownParked t0 s) ∧
    (∀ i, ownParked t0 (getStatus c s i).1 = ownParked t0 s) :=
  ⟨fun k => (deliver_spec (cfgOK_of hnj hbs) k h).1.parked_le, fun sl => (hook_spec (cfgOK_of hnj hbs) sl h).parked_le,
    fun i => getStatus_ownParked c t0 s i⟩

/-- LOOK-AHEAD BOUND (partial: depends on the completions that happened before `_start` returned). Let `s₁` be
the state in which `callStart` (i.e. `_start`) returns on an idle object with `pre_dispatch ≠ 'all'`, and `k =
s₁.nCompleted` the number of tasks completed by then. In EVERY state `s` reachable afterwards by the steps of the
retrieval phase — any hook points with any completions, `get_status`, pops, yields, consumer pauses — that is not
aborting:
`items taken − tasks completed ≤ (pre_dispatch + k · n_jobs · bmax + n_jobs) · bmax`, and the batches in flight
are at most `pre_dispatch + k · n_jobs · bmax`. For every schedule that delivers no completion during `_start`
(`k = 0`) this is `(pre_dispatch + n_jobs) · bmax`: a function of the configuration only. -/
theorem lookahead_bound_partial {c : Cfg} (hnj : 2 ≤ c.nj) (hbs : ∀ b ∈ c.bs, 1 ≤ b) (hmode : c.pdMode ≠ 1)
    {fuel base : Nat} {spec : CallSpec} {s₀ s₁ s : St} (hi : Idle s₀) (hh : s₀.hung = false)
    (hstart : callStart c fuel base spec s₀ = (s₁, none)) (hna1 : s₁.aborting = false)
    (hr : RetrievalReach c s₀.trk.length s₁ s) (hna : s.aborting = false) :
    s.srcPos - s.nCompleted ≤ (c.pd + s₁.nCompleted * (c.nj * bmax c) + c.nj) * bmax c ∧
    ownParked s₀.trk.length s ≤ c.pd + s₁.nCompleted * (c.nj * bmax c) := by
  have hc := cfgOK_of hnj hbs
  obtain ⟨s1', he, hS⟩ := callStart_started hc fuel base spec hi hh
  obtain rfl : s1' = s₁ := (Prod.mk.inj (he.symm.trans hstart)).1
  obtain ⟨i1, i2, i3, _⟩ := hr.spec hc hS.inv hS.invB
  obtain ⟨_, a2, a3⟩ := lookahead_bound_state hS.inv hS.invB hna1
  have hP := Nat.le_trans i3 (Nat.le_trans a2 (a3 hmode))
  exact ⟨Nat.le_trans (lookahead_bound_state i1 i2 hna).1 (Nat.mul_le_mul_right _ (by omega)), hP⟩

/-- F18 (known finding): the configuration-only bound is FALSE. `n_jobs = 2`, `pre_dispatch = 1`, batch size 1
(`(pre_dispatch + n_jobs) · bmax = 3`): if one batch completes between every two dispatches of the caller's
pre-dispatch loop, that loop keeps draining the look-ahead batches sliced by the callbacks; with 10 such
completions `_start` returns with 17 items taken, 8 completed (look-ahead 9, 9 batches in flight), with 40 of them
and 40 tasks the whole input has been taken with only 20 completed (look-ahead 20): it grows with the input. -/
theorem lookahead_unbounded_counterexample :
    let c : Cfg := ⟨2, true, [1], 0, 1, 0, -1, false, true⟩
    let s10 := (callStart c 200 0 ⟨40, [], -1, []⟩ ({ sched := List.replicate 10 [0] } : St)).1
    let s40 := (callStart c 200 0 ⟨40, [], -1, []⟩ ({ sched := List.replicate 40 [0] } : St)).1
    (c.pd + c.nj) * bmax c = 3 ∧
    s10.srcPos - s10.nCompleted = 9 ∧ s10.parked.length = 9 ∧ s10.aborting = false ∧
    s40.srcPos - s40.nCompleted = 20 ∧ s40.aborting = false := by
  decide +kernel

/-- One `compute_batch_size()` call of the auto-batching backends at most doubles the effective batch size: the
`bmax` of the look-ahead bound grows at most geometrically per adjustment, never with the input length. -/
theorem auto_batch_size_at_most_doubles (s : JoblibModel.AutoBatch.St) (h : 1 ≤ s.eff) :
    (JoblibModel.AutoBatch.compute s).2 ≤ 2 * s.eff :=
  JoblibModel.AutoBatch.compute_le_double s h

/-! ### the hypotheses are satisfiable -/

/-- A run in which no completion is delivered during `_start` (`k = 0`): the state in which `callStart` returns
satisfies the hypotheses of `lookahead_bound_partial` with `nCompleted = 0`. -/
example : (callStart (⟨3, true, [2, 1], 0, 4, 0, -1, false, true⟩ : Cfg) 200 0 ⟨30, [], -1, []⟩
      ({ sched := [[], [], [], [], [], []] } : St)).1.nCompleted = 0 ∧
    (callStart (⟨3, true, [2, 1], 0, 4, 0, -1, false, true⟩ : Cfg) 200 0 ⟨30, [], -1, []⟩
      ({ sched := [[], [], [], [], [], []] } : St)).1.aborting = false := by decide +kernel


/-! ### the sequential path (`n_jobs == 1`) -/

section Sequential
open JoblibModel.ParallelSeq

/-- SEQUENTIAL IS LAZY. The invariant `SInv` of the suspended sequential generator holds when `seqStart` returns and
after every `next()` that yields a value; under it the items taken from the input exceed the tasks executed by
exactly the number of not yet executed items of the current re-batched tuple, at most `max batch_size 1` — whatever
the input length. -/
theorem sequential_is_lazy (c : Cfg) :
    (∀ (base : Nat) (spec : CallSpec) (s₀ : St), Idle s₀ →
      ∃ s1 bs, seqStart c base spec s₀ = (s1, { bs := bs }, none) ∧ SInv s1 { bs := bs }) ∧
    (∀ (fuel : Nat) (s s' : St) (g g' : SGen) (v : Nat), SInv s g → seqNext (fuel + 2) s g = (s', g', .value v) →
      SInv s' g' ∧ g'.bs = g.bs) ∧
    (∀ (s : St) (g : SGen), SInv s g →
      s.srcPos - s.nCompleted = g.pending.length ∧ s.srcPos - s.nCompleted ≤ max g.bs 1) := by
  refine ⟨?_, ?_, ?_⟩
  · intro base spec s₀ hi
    obtain ⟨s1, bs, he, hI, _⟩ := seqStart_spec c base spec hi
    exact ⟨s1, bs, he, hI⟩
  · intro fuel s s' g g' v h he
    have := seqNext_spec fuel h
    rw [he] at this
    exact ⟨this.inv, this.bs⟩
  · intro s g h
    have := h.pos
    exact ⟨by omega, Nat.le_trans (by omega) h.plen⟩

/-- SEQUENTIAL: NO PULL AFTER FAILURE. Once `next()` has raised (a task failed or the input raised) or the generator
was closed, the generator is finished: every further `next()` returns `StopIteration` and leaves the whole state —
in particular the input position — unchanged. -/
theorem sequential_no_pull_after_failure :
    (∀ (fuel : Nat) (s s' : St) (g g' : SGen) (e : Exc), SInv s g → seqNext (fuel + 2) s g = (s', g', .raise e) →
      ∀ fuel', seqNext (fuel' + 1) s' g' = (s', g', .stop)) ∧
    (∀ (s : St) (g : SGen) (fuel' : Nat), g.live = true →
      seqNext (fuel' + 1) (seqClose s g).1 (seqClose s g).2 = ((seqClose s g).1, (seqClose s g).2, .stop) ∧
      (seqClose s g).1.srcPos = s.srcPos) := by
  constructor
  · intro fuel s s' g g' e h he fuel'
    have := seqNext_spec fuel h
    rw [he] at this
    exact seqNext_dead fuel' s' this.1.dead
  · intro s g fuel' hl
    rw [seqClose_live s hl]
    exact ⟨seqNext_dead fuel' _ rfl, rfl⟩

end Sequential


/-! ### `_utils.eval_expr` and the `pre_dispatch` resolution -/

section EvalExprSection
open JoblibModel
open JoblibModel.EvalExpr hiding Exc Res

/-- ARITHMETIC ONLY. For EVERY interpretation `ops` of `node.value` and of the eight operator functions, and every
AST: if `eval_expr` returns a value then the AST is built only from `Constant` nodes, `BinOp` nodes with one of the 7
operators `+ - * / // % **` and `UnaryOp` nodes with unary minus — no `Name`, `Call`, `Attribute`, … node and no other
operator occurs anywhere in it; and a node of any other class is never handed to anything: `eval_` raises `TypeError`
on it at once. -/
theorem eval_arithmetic_only {α : Type} (ops : Ops α) (e : Ast) (v : α) (h : evalExprWith ops e = .ok v) :
    isArith e = true ∧ ∀ k, evalRaw ops (.other k) = .raise .TypeError :=
  ⟨evalRaw_ok_isArith ops e v (wrap_ok.1 h), fun _ => rfl⟩

/-
Full statement (FALSE, see `eval_rejects_cleanly_counterexample`):
  eval_rejects_cleanly: every AST outside the arithmetic fragment yields `ValueError`.
What is proved (`eval_rejects_cleanly_partial`): never a value; `ValueError`, unless a call of an operator function made
earlier in evaluation order (left operand before right operand, operator lookup before both) did not return a value —
then the outcome is that call's outcome (after the `TypeError → ValueError` re-labelling). With the model's Python
operator functions the classes that can get out are `ZeroDivisionError` and `OverflowError` (`eval_exception_classes`);
when every operator call succeeds the outcome is exactly `ValueError` (`eval_rejects_cleanly_when_ops_succeed`).
-/

/-- REJECTION (partial: see the comment above). For every interpretation of the operator functions and every AST
outside the arithmetic fragment: `eval_expr` never returns a value; it raises `ValueError`, or its outcome is the
(re-labelled) outcome `wrap r` of one call `r` of an operator function that did not return a value. -/
theorem eval_rejects_cleanly_partial {α : Type} (ops : Ops α) (e : Ast) (h : isArith e = false) :
    (∀ v, evalExprWith ops e ≠ .ok v) ∧
    (evalExprWith ops e = .raise .ValueError ∨
      ∃ r, OpCall ops r ∧ (∀ v, r ≠ .ok v) ∧ evalExprWith ops e = wrap r) := by
  have hno : ∀ v, evalRaw ops e ≠ .ok v := fun v hv => by
    have := evalRaw_ok_isArith ops e v hv
    rw [h] at this
    cases this
  refine ⟨fun v hv => hno v (wrap_ok.1 hv), ?_⟩
  rcases evalRaw_origin ops e with ⟨v, hv⟩ | h1 | h1 | h1
  · exact absurd hv (hno v)
  · left; simp [evalExprWith, h1, wrap]
  · left; simp [evalExprWith, h1, wrap]
  · right; exact ⟨_, h1, hno, rfl⟩

/-- When every call of an operator function returns a value, an AST outside the arithmetic fragment yields exactly
`ValueError`. -/
theorem eval_rejects_cleanly_when_ops_succeed {α : Type} (ops : Ops α)
    (happ : ∀ f a b, ∃ v, ops.apply f a b = .ok v) (hneg : ∀ a, ∃ v, ops.neg a = .ok v)
    (e : Ast) (h : isArith e = false) : evalExprWith ops e = .raise .ValueError := by
  rcases (eval_rejects_cleanly_partial ops e h).2 with h1 | ⟨r, hc, hno, _⟩
  · exact h1
  · rcases hc with ⟨f, a, b, hr⟩ | ⟨a, hr⟩
    · obtain ⟨v, hv⟩ := happ f a b
      exact absurd (hr.symm.trans hv) (hno v)
    · obtain ⟨v, hv⟩ := hneg a
      exact absurd (hr.symm.trans hv) (hno v)

/-- The unconditional rejection statement is FALSE of the model and of the code alike: in `(1/0) + foo` the left
operand is evaluated before the `Name` node is reached, and `ZeroDivisionError` is not among the exceptions
`eval_expr` re-labels (`eval_expr("(1/0)+foo")` raises `ZeroDivisionError`). Harmless for the security clause: nothing
of the `Name` node is evaluated. -/
theorem eval_rejects_cleanly_counterexample :
    isArith (.binOp .add (.binOp .div (.const (.int 1)) (.const (.int 0))) (.other .name)) = false ∧
    evalExpr (.binOp .add (.binOp .div (.const (.int 1)) (.const (.int 0))) (.other .name)) =
      .raise .ZeroDivisionError := by
  decide +kernel

/-- With the model's Python operator functions: whatever the AST, the only exception classes that leave `eval_expr`
are `ValueError`, `ZeroDivisionError` and `OverflowError`; in particular an AST outside the arithmetic fragment yields
one of these three or the model abstains (a float power it does not track was evaluated on the way) — never a value. -/
theorem eval_exception_classes (e : Ast) :
    (∀ x, evalExpr e = .raise x → x = .ValueError ∨ x = .ZeroDivisionError ∨ x = .OverflowError) ∧
    (isArith e = false → evalExpr e = .raise .ValueError ∨ evalExpr e = .raise .ZeroDivisionError ∨
      evalExpr e = .raise .OverflowError ∨ evalExpr e = .untracked) := by
  refine ⟨fun x hx => evalExpr_raise_class hx, fun h => ?_⟩
  cases hr : evalExpr e with
  | ok v => exact absurd hr ((eval_rejects_cleanly_partial pyOps e h).1 v)
  | untracked => exact Or.inr (Or.inr (Or.inr rfl))
  | raise x =>
    rcases evalExpr_raise_class hr with hx | hx | hx <;> subst hx
    · exact Or.inl rfl
    · exact Or.inr (Or.inl rfl)
    · exact Or.inr (Or.inr (Or.inl rfl))

/-- SOUNDNESS ON THE INTEGER FRAGMENT. `intDenote` is the mathematical value of an expression built from integer
constants, `+ - *`, `//` and `%` (Lean's floor division `Int.fdiv` / `Int.fmod`, divisor ≠ 0), `**` with a non-negative
exponent (`a ^ b`) and unary minus. Whenever it is defined, `eval_expr` — which computes `//`, `%` the way CPython's
`l_divmod` does (truncate, then fix the signs) and `**` by square-and-multiply — returns exactly that integer; the
only alternative is that the model abstains, which it does only when some power exceeds `intPowBitBound` bits
(`powWithinBound e = false`). -/
theorem eval_sound (e : Ast) (n : Int) (h : intDenote e = some n) :
    (powWithinBound e = true → evalExpr e = .ok (.int n)) ∧
    (evalExpr e = .ok (.int n) ∨ evalExpr e = .untracked) := by
  obtain ⟨h1, h2⟩ := evalRaw_int_sound e n h
  refine ⟨fun hp => ?_, ?_⟩
  · simp [evalExpr, evalExprWith, h1 hp, wrap]
  · rcases h2 with h2 | h2
    · left; simp [evalExpr, evalExprWith, h2, wrap]
    · right; simp [evalExpr, evalExprWith, h2, wrap]

/-- The denotation's `//` and `%` are Python's: `a = b·(a // b) + a % b` with the remainder in `[0, b)` for a positive
and in `(b, 0]` for a negative divisor (floor semantics, e.g. `7 // -2 = -4`, `7 % -2 = -1`). -/
theorem floor_semantics (a b : Int) (hb : b ≠ 0) :
    a = b * Int.fdiv a b + Int.fmod a b ∧ (0 < b → 0 ≤ Int.fmod a b ∧ Int.fmod a b < b) ∧
    (b < 0 → b < Int.fmod a b ∧ Int.fmod a b ≤ 0) ∧
    intDenote (.binOp .floorDiv (.const (.int 7)) (.unaryOp .usub (.const (.int 2)))) = some (-4) ∧
    intDenote (.binOp .mod (.const (.int 7)) (.unaryOp .usub (.const (.int 2)))) = some (-1) := by
  obtain ⟨h1, h2, h3⟩ := fdiv_fmod_floor a b
  exact ⟨h1, h2, h3, by decide, by decide⟩

/-- THE AMOUNT IS FIXED BY `pre_dispatch` AND `n_jobs`. The resolution is a function of the user's `pre_dispatch` and
the effective `n_jobs` alone: two M1 configurations set up from the same two arguments have the same `n_jobs`, the
same mode (`'all'` or not) and the same `islice` amount; `'all'` is recognised by string equality only; and an amount
handed to `islice` is at most `sys.maxsize`. -/
theorem resolve_amount_fixed (pd : PreDispatch) (n_jobs : Nat) :
    (∀ c c' : Cfg, UserCfg c pd n_jobs → UserCfg c' pd n_jobs →
      c.nj = c'.nj ∧ (c.pdMode = 1 ↔ c'.pdMode = 1) ∧ (c.pdMode ≠ 1 → c.pd = c'.pd)) ∧
    (resolvePreDispatch pd n_jobs = .all ↔ pd = .str allText) ∧
    (∀ a, resolvePreDispatch pd n_jobs = .amount a → a ≤ maxsize) := by
  -- every route but the text `all` ends in `isliceStop`, an exception or an abstention
  let P (r : Resolved) : Prop := r ≠ .all ∧ ∀ a, r = .amount a → a ≤ maxsize
  have hraise : ∀ x, P (.raise x) := fun _ => ⟨Resolved.noConfusion, fun _ h => Resolved.noConfusion h⟩
  have hunt : P .untracked := ⟨Resolved.noConfusion, fun _ h => Resolved.noConfusion h⟩
  have hstop : ∀ n, P (isliceStop n) := fun n =>
    ⟨by unfold isliceStop; split <;> exact Resolved.noConfusion, fun a h => (isliceStop_amount h).2⟩
  have hval : ∀ v, P (resolveVal v) := fun v => by
    unfold resolveVal resolveInt
    split
    · exact hstop _
    · exact hraise _
    · exact hunt
  have hast : ∀ e, P (resolveAst e) := fun e => by
    unfold resolveAst
    split
    · exact hval _
    · exact hraise _
    · exact hunt
  have hpd : pd ≠ .str allText → P (resolvePreDispatch pd n_jobs) := by
    intro hne
    cases pd with
    | str s =>
      have hs : s ≠ allText := fun h => hne (by rw [h])
      simp only [resolvePreDispatch, hs, if_false]
      split
      · exact hast _
      · exact hraise _
      · exact hunt
    | int n => exact hval _
    | flt f => exact hval _
    | bool b => exact hval _
    | bytes => exact hraise _
    | other => exact hraise _
  have hall : resolvePreDispatch (.str allText) n_jobs = .all := by simp [resolvePreDispatch]
  refine ⟨?_, ⟨fun h => Decidable.byContradiction fun hne => (hpd hne).1 h, fun h => by rw [h, hall]⟩, fun a h => ?_⟩
  · intro c c' ⟨h1, h2⟩ ⟨h1', h2'⟩
    refine ⟨h1.trans h1'.symm, ?_⟩
    generalize resolvePreDispatch pd n_jobs = r at h2 h2'
    cases r with
    | all => exact ⟨⟨fun _ => h2', fun _ => h2⟩, fun hm => absurd h2 hm⟩
    | amount a => exact ⟨⟨fun hm => absurd hm h2.1, fun hm => absurd hm h2'.1⟩, fun _ => h2.2.trans h2'.2.symm⟩
    | raise x | untracked => exact h2.elim
  · by_cases hp : pd = .str allText
    · rw [hp, hall] at h; cases h
    · exact (hpd hp).2 a h

/-- LOOK-AHEAD BOUND IN TERMS OF THE USER'S ARGUMENTS (corollary of `lookahead_bound_partial`). Let the user pass
`pre_dispatch` (any text / number) and let the backend give `n_jobs ≥ 2`; if the resolution yields the amount `a`
(`resolvePreDispatch pre_dispatch n_jobs = .amount a`) then in every non-aborting state reachable in the retrieval
phase: `items taken − tasks completed ≤ (a + k · n_jobs · bmax + n_jobs) · bmax`, `k` = tasks completed before `_start`
returned, and at most `a + k · n_jobs · bmax` batches are in flight — a function of the user's `pre_dispatch`, `n_jobs`
and the batch size only (`k = 0`: no completion during `_start`). -/
theorem lookahead_bound_user {c : Cfg} {pd : PreDispatch} {n_jobs a : Nat} (hu : UserCfg c pd n_jobs)
    (ha : resolvePreDispatch pd n_jobs = .amount a) (hnj : 2 ≤ n_jobs) (hbs : ∀ b ∈ c.bs, 1 ≤ b)
    {fuel base : Nat} {spec : CallSpec} {s₀ s₁ s : St} (hi : Idle s₀) (hh : s₀.hung = false)
    (hstart : callStart c fuel base spec s₀ = (s₁, none)) (hna1 : s₁.aborting = false)
    (hr : RetrievalReach c s₀.trk.length s₁ s) (hna : s.aborting = false) :
    s.srcPos - s.nCompleted ≤ (a + s₁.nCompleted * (n_jobs * bmax c) + n_jobs) * bmax c ∧
    ownParked s₀.trk.length s ≤ a + s₁.nCompleted * (n_jobs * bmax c) := by
  obtain ⟨h1, h2⟩ := hu
  rw [ha] at h2
  have := lookahead_bound_partial (c := c) (by omega) hbs h2.1 hi hh hstart hna1 hr hna
  rw [h1, h2.2] at this
  exact this

/-- THE COMMON TEXTS, FOR EVERY `n_jobs`. `'n_jobs'`, `'2*n_jobs'` and the default `'2 * n_jobs'` resolve to `n_jobs`,
resp. `2·n_jobs`, for every `n_jobs ≥ 1` (below `sys.maxsize`): `str(n_jobs)` is substituted into the text, the text is
lexed and parsed back to the same integer, and evaluated. (Other texts: `resolve_text_witnesses`, and the
correspondence streams of the check.) -/
theorem resolve_common_texts (n_jobs : Nat) (h1 : 1 ≤ n_jobs) :
    (n_jobs ≤ maxsize → resolvePreDispatch (.str "n_jobs".toList) n_jobs = .amount n_jobs) ∧
    (2 * n_jobs ≤ maxsize → resolvePreDispatch (.str "2*n_jobs".toList) n_jobs = .amount (2 * n_jobs)) ∧
    (2 * n_jobs ≤ maxsize → resolvePreDispatch (.str "2 * n_jobs".toList) n_jobs = .amount (2 * n_jobs)) :=
  JoblibModel.EvalExpr.resolve_common_texts n_jobs h1

/-- LOOK-AHEAD BOUND FOR THE DEFAULT `pre_dispatch='2 * n_jobs'`, every `n_jobs ≥ 2`: in every non-aborting state of
the retrieval phase `items taken − tasks completed ≤ (3 · n_jobs + k · n_jobs · bmax) · bmax` (`k` = tasks completed
before `_start` returned; `3 · n_jobs · bmax` when no completion is delivered during `_start`), and at most
`2 · n_jobs + k · n_jobs · bmax` batches are in flight. -/
theorem lookahead_bound_default {c : Cfg} {n_jobs : Nat} (hu : UserCfg c (.str "2 * n_jobs".toList) n_jobs)
    (hnj : 2 ≤ n_jobs) (hm : 2 * n_jobs ≤ maxsize) (hbs : ∀ b ∈ c.bs, 1 ≤ b)
    {fuel base : Nat} {spec : CallSpec} {s₀ s₁ s : St} (hi : Idle s₀) (hh : s₀.hung = false)
    (hstart : callStart c fuel base spec s₀ = (s₁, none)) (hna1 : s₁.aborting = false)
    (hr : RetrievalReach c s₀.trk.length s₁ s) (hna : s.aborting = false) :
    s.srcPos - s.nCompleted ≤ (3 * n_jobs + s₁.nCompleted * (n_jobs * bmax c)) * bmax c ∧
    ownParked s₀.trk.length s ≤ 2 * n_jobs + s₁.nCompleted * (n_jobs * bmax c) := by
  have ha := (resolve_common_texts n_jobs (by omega)).2.2 hm
  obtain ⟨b1, b2⟩ := lookahead_bound_user hu ha hnj hbs hi hh hstart hna1 hr hna
  refine ⟨?_, b2⟩
  have e : 2 * n_jobs + s₁.nCompleted * (n_jobs * bmax c) + n_jobs =
      3 * n_jobs + s₁.nCompleted * (n_jobs * bmax c) := by omega
  rw [e] at b1
  exact b1

/-- `'all'`, user form: the configuration set up for `pre_dispatch='all'` is in mode 1, so `all_is_eager` applies. -/
theorem all_is_eager_user {c : Cfg} {n_jobs : Nat} (hu : UserCfg c (.str allText) n_jobs) : c.pdMode = 1 := by
  obtain ⟨_, h2⟩ := hu
  simpa [resolvePreDispatch] using h2

/-- ZERO AND NEGATIVE AMOUNTS, numbers. An int `n`: negative or above `sys.maxsize` ⇒ `islice` raises `ValueError`
(nothing is dispatched, the call fails); otherwise the amount is `n` — in particular `0` for `0` (finding F11: nothing
is dispatched, the call returns `[]`). A finite float is truncated TOWARD ZERO by `int()`: every float in `(-1, 1)`
gives the amount 0 (so `-0.5` is accepted and dispatches nothing), a float `≤ -1` raises `ValueError`; `inf` raises
`OverflowError`, `nan` raises `ValueError`, `True`/`False` are 1/0, objects without `__int__` raise `TypeError`. -/
theorem resolve_numbers (n_jobs : Int) :
    (∀ n : Int, n < 0 → resolvePreDispatch (.int n) n_jobs = .raise .ValueError) ∧
    (∀ n : Int, (maxsize : Int) < n → resolvePreDispatch (.int n) n_jobs = .raise .ValueError) ∧
    (∀ n : Int, 0 ≤ n → n ≤ (maxsize : Int) → resolvePreDispatch (.int n) n_jobs = .amount n.toNat) ∧
    (∀ m e : Int, resolvePreDispatch (.flt (.fin m e)) n_jobs = isliceStop (Int.tdiv (finRat m e).1 (finRat m e).2)) ∧
    (∀ m e : Int, resolvePreDispatch (.flt (.fin m e)) n_jobs = .amount 0 ↔ (finRat m e).1.natAbs < (finRat m e).2) ∧
    resolvePreDispatch (.flt .inf) n_jobs = .raise .OverflowError ∧
    resolvePreDispatch (.flt .nan) n_jobs = .raise .ValueError ∧
    resolvePreDispatch (.bool true) n_jobs = .amount 1 ∧ resolvePreDispatch (.bool false) n_jobs = .amount 0 ∧
    resolvePreDispatch .other n_jobs = .raise .TypeError ∧ resolvePreDispatch .bytes n_jobs = .raise .TypeError := by
  refine ⟨fun n h => isliceStop_neg h, fun n h => isliceStop_big h, fun n h0 h1 => isliceStop_ok h0 h1,
    fun m e => rfl, fun m e => ?_, rfl, rfl, rfl, rfl, rfl, rfl⟩
  show isliceStop (Int.tdiv (finRat m e).1 (finRat m e).2) = .amount 0 ↔ _
  rw [← tdiv_eq_zero_iff _ (finRat_den_pos m e)]
  constructor
  · intro h
    have := (isliceStop_amount h).1
    simpa using this
  · intro h
    rw [h]
    decide

/-- ZERO AND NEGATIVE AMOUNTS, texts (witnesses, evaluated by the kernel on the model — the same definitions the
driver runs). Amount 0 (F11): `'0*n_jobs'`, `'0.4*n_jobs'` with `n_jobs = 2` (0.8), `'-0.5'`, `'n_jobs//n_jobs - 1'`;
`ValueError` from `islice`: `'-1'`, `'-n_jobs'`, `'n_jobs - 2*n_jobs'`, `'-1.5'`, `'2**63'` (but `'2**63-1'` is
accepted), `'1 + 2*3**(4) / (6 + -7)'` (the docstring's `-161.0`). -/
theorem resolve_zero_negative_witnesses :
    resolvePreDispatch (.str "0*n_jobs".toList) 2 = .amount 0 ∧
    resolvePreDispatch (.str "0.4*n_jobs".toList) 2 = .amount 0 ∧
    resolvePreDispatch (.str "0.4*n_jobs".toList) 3 = .amount 1 ∧
    resolvePreDispatch (.str "-0.5".toList) 2 = .amount 0 ∧
    resolvePreDispatch (.str "n_jobs//n_jobs - 1".toList) 4 = .amount 0 ∧
    resolvePreDispatch (.str "-1".toList) 2 = .raise .ValueError ∧
    resolvePreDispatch (.str "-n_jobs".toList) 2 = .raise .ValueError ∧
    resolvePreDispatch (.str "n_jobs - 2*n_jobs".toList) 3 = .raise .ValueError ∧
    resolvePreDispatch (.str "-1.5".toList) 2 = .raise .ValueError ∧
    resolvePreDispatch (.str "2**63".toList) 2 = .raise .ValueError ∧
    resolvePreDispatch (.str "2**63-1".toList) 2 = .amount (2 ^ 63 - 1) ∧
    resolvePreDispatch (.str "1 + 2*3**(4) / (6 + -7)".toList) 2 = .raise .ValueError := by
  -- a literal is `String.ofList` of its characters: rewritten away here, the kernel does not decode it from its UTF-8
  -- bytes (`String.reduceToList` would leave that to the kernel: its `rfl` is checked by evaluation)
  repeat rw [String.toList_ofList]
  decide +kernel

/-- THE SUBSTITUTION IS TEXTUAL (witnesses). `n_jobs` is replaced in the text before parsing: `'2*n_jobs'`,
`'n_jobs'`, `'1.5*n_jobs'`, `'3 * n_jobs // 2'` mean what they say, but `'n_jobs2'` is `22`, `'1n_jobs'` is `12`,
`'n_jobs.5'` is `2.5`, `'n_jobsx'` is a `SyntaxError` (→ `ValueError`) and `'xn_jobs'`, `'n_jobs.real'`,
`'(1).__class__'` are rejected; exceptions that are NOT re-labelled surface as they are: `'n_jobs/0'`
(`ZeroDivisionError`), `'1e999'`, `'2.0**2000'` (`OverflowError`), `'None'`, `'1j'` (`TypeError` from `int()`). -/
theorem resolve_text_witnesses :
    resolvePreDispatch (.str "2*n_jobs".toList) 4 = .amount 8 ∧
    resolvePreDispatch (.str "n_jobs".toList) 16 = .amount 16 ∧
    resolvePreDispatch (.str "1.5*n_jobs".toList) 3 = .amount 4 ∧
    resolvePreDispatch (.str "3 * n_jobs // 2".toList) 3 = .amount 4 ∧
    resolvePreDispatch (.str "n_jobs2".toList) 2 = .amount 22 ∧
    resolvePreDispatch (.str "1n_jobs".toList) 2 = .amount 12 ∧
    resolvePreDispatch (.str "n_jobs.5".toList) 2 = .amount 2 ∧
    resolvePreDispatch (.str "n_jobsx".toList) 2 = .raise .ValueError ∧
    resolvePreDispatch (.str "xn_jobs".toList) 2 = .raise .ValueError ∧
    resolvePreDispatch (.str "n_jobs.real".toList) 2 = .raise .ValueError ∧
    resolvePreDispatch (.str "(1).__class__".toList) 2 = .raise .ValueError ∧
    resolvePreDispatch (.str "n_jobs/0".toList) 2 = .raise .ZeroDivisionError ∧
    resolvePreDispatch (.str "1e999".toList) 2 = .raise .OverflowError ∧
    resolvePreDispatch (.str "2.0**2000".toList) 2 = .raise .OverflowError ∧
    resolvePreDispatch (.str "None".toList) 2 = .raise .TypeError ∧
    resolvePreDispatch (.str "1j".toList) 2 = .raise .TypeError ∧
    resolvePreDispatch (.str "all".toList) 2 = .all ∧
    evalExpr (.other .call) = .raise .ValueError ∧ evalExpr (.other .attribute) = .raise .ValueError ∧
    evalExpr (.binOp .matMult (.const (.int 1)) (.const (.int 2))) = .raise .ValueError ∧
    evalExpr (.unaryOp .invert (.const (.int 1))) = .raise .ValueError :=
  ⟨(resolve_common_texts 4 (by decide)).2.1 (by decide), (resolve_common_texts 16 (by decide)).1 (by decide), by
    repeat rw [String.toList_ofList]
    decide +kernel⟩

/-! the hypotheses are satisfiable -/

/-- `Parallel(n_jobs=3, pre_dispatch='2*n_jobs')` with scripted batch sizes 2, 1: the configuration with `pd = 6`. -/
example : UserCfg ⟨3, true, [2, 1], 2, 6, 0, -1, false, true⟩ (.str "2*n_jobs".toList) 3 := by
  refine ⟨rfl, ?_⟩
  have : resolvePreDispatch (.str "2*n_jobs".toList) ((3 : Nat) : Int) = .amount 6 :=
    (resolve_common_texts 3 (by decide)).2.1 (by decide)
  rw [this]
  exact ⟨by decide, rfl⟩

/-- An expression of the integer fragment whose powers are within the bound: `3 * 4 // 2 - 2 ** 5 % 7`. -/
example : intDenote (.binOp .sub (.binOp .floorDiv (.binOp .mult (.const (.int 3)) (.const (.int 4))) (.const (.int 2)))
      (.binOp .mod (.binOp .pow (.const (.int 2)) (.const (.int 5))) (.const (.int 7)))) = some 2 ∧
    powWithinBound (.binOp .sub (.binOp .floorDiv (.binOp .mult (.const (.int 3)) (.const (.int 4))) (.const (.int 2)))
      (.binOp .mod (.binOp .pow (.const (.int 2)) (.const (.int 5))) (.const (.int 7)))) = true := by decide +kernel

end EvalExprSection

/-! ### the configuration of the object changes between calls (`JoblibModel.ParallelReconf`)

The bounds above (`lookahead_bound_state`, `lookahead_bound_user`, `parked_bound`, …) are statements about ONE call with the
`Cfg` it runs under, from any idle start state: they do not mention how the object was configured in earlier calls. In the model
of a sequence of calls with a configuration per call (`runCallsV`: `p.n_jobs` / the backend's worker count, `p.pre_dispatch`,
`p.batch_size`, `p.timeout` reassigned between calls) every call is the one-call model `runCallF` applied with ITS configuration - nothing
of an earlier configuration is carried over - and the event-log correspondence ties the code to that. -/

/-- Conservative extension: with the same configuration at every call the per-call model is the scenario model of `ParallelStartup`
(so every theorem about `runScenarioF` / `runScenario` speaks about these scenarios unchanged). -/
theorem reconf_same_cfg_is_old_model (c : JoblibModel.ParallelProto.Cfg) (guard : Bool) (enter : JoblibModel.ParallelStartup.Fault)
    (calls : List (JoblibModel.ParallelProto.CallSpec × JoblibModel.ParallelStartup.Fault)) (sched : List (List Nat)) :
    JoblibModel.ParallelReconf.runScenarioV c guard enter (calls.map (fun x => (c, x.1, x.2))) sched =
      JoblibModel.ParallelStartup.runScenarioF c guard enter calls sched :=
  JoblibModel.ParallelReconf.runScenarioV_same c guard enter calls sched

/-- Each call of a reconfigured object runs the one-call model under its OWN configuration: the step of `runCallsV` for the
call `(c, spec, f)` is `runCallF c …` whatever the configurations `cprev` of the earlier calls were (they only serve the hook
point before the call, where late completions of the earlier call are delivered). -/
theorem reconf_call_uses_its_own_cfg (guard : Bool) (fuel k base : Nat) (cprev c : JoblibModel.ParallelProto.Cfg)
    (spec : JoblibModel.ParallelProto.CallSpec) (f : JoblibModel.ParallelStartup.Fault)
    (rest : List (JoblibModel.ParallelProto.Cfg × JoblibModel.ParallelProto.CallSpec × JoblibModel.ParallelStartup.Fault))
    (s : JoblibModel.ParallelProto.St) (hh : s.hung = false) :
    JoblibModel.ParallelReconf.runCallsV guard fuel k base cprev ((c, spec, f) :: rest) s =
      JoblibModel.ParallelReconf.runCallsV guard fuel (k + 1) (base + spec.n) c rest
        (JoblibModel.ParallelStartup.runCallF c guard fuel base spec f
          (JoblibModel.ParallelProto.ev (if k ≥ 1 then JoblibModel.ParallelProto.hook cprev false s else s) ("call " ++ toString k))) := by
  simp [JoblibModel.ParallelReconf.runCallsV, hh]

/-- Seed `C09-r5-m2` as a witness: one object, `pre_dispatch='2*n_jobs'`, first call with 8 workers (amount 16), second call
with 2 workers (amount 4), 20 tasks, no completion during pre-dispatch: the second call takes exactly 4 items before it waits
(the first call's 16 would exceed that call's bound `(4 + 2) * 1 = 6`). -/
example : ((JoblibModel.ParallelReconf.runScenarioV ⟨8, false, [1], 2, 16, 0, -1, false, true⟩ true {}
      [(⟨8, false, [1], 2, 16, 0, -1, false, true⟩, ⟨1, [], -1, []⟩, {}),
       (⟨2, false, [1], 2, 4, 0, -1, false, true⟩, ⟨20, [], -1, []⟩, {})] []).dropWhile (· != "call 1")).take 12 =
    ["call 1", "configure", "start_call", "pull 1", "pull 2", "submit 1", "submit 2", "pull 3", "pull 4", "submit 3", "submit 4",
     "complete 1"] := by
  decide +kernel

end C09
