import JoblibProofs.Lemmas.Config
/-!
# C17 — parallel_config settings are scoped, thread-local and correctly prioritised

Statement (properties.jsonl): settings made with `parallel_config` / `parallel_backend` apply exactly
within their `with` block in the thread that entered it: on exit — normal or by exception, at any
nesting depth — the previous settings are back, and other threads never observe them. For every
setting a value passed explicitly to `Parallel` wins over the innermost enclosing context, which
wins over outer contexts, which win over the defaults; `require='sharedmem'` always yields a
thread-based backend and `prefer` is only a hint that an explicitly chosen backend overrides.

Quantifier reached here: program trees of ANY depth and width (the statement asks depth ≤ 4), and
GENERAL programs (`XProg`: `with` blocks plus context objects made by plain calls, `unregister()` on
any object at any time in any order any number of times, raising bodies); any number of threads
under ANY interleaving of their steps, threads started at any point in any of three ways
(`threading.Thread`, a thread in a copied `contextvars` context, `asyncio.to_thread`); all eight keys, arbitrary values
(`None`, integers, strings, backend instances of the four classes with or without a nesting level),
every combination of explicit `Parallel` arguments, any defaults table and any `DEFAULT_BACKEND`.

Model: `JoblibModel.Config`. It is the code of the pinned tree with two one-line repairs:
* F21 — `Parallel.__init__` tested the RAW `require` argument, so a `require='sharedmem'` coming
  from a context did not stop an explicitly named process backend (`sharedmem_unrepaired_counterexample`);
* F22 — `_get_active_backend` replaced the context's `n_jobs` by 1 in every thread fallback, also
  when the context had not chosen any backend (`n_jobs_unrepaired_counterexample`).
Three variants of the code that the property excludes are switches of the model (`Variant`), each
with a witness: `guarded_unregister_counterexample`, `context_var_counterexample`,
`gab_literal_defaults_counterexample`. All other theorems are about `Variant.code`.
What remains partial after the repairs (policy pinned by joblib's own test-suite, listed as a known
finding): when the backend chosen *in a context* is replaced by the thread fallback because of
`require='sharedmem'`, the context's `n_jobs` is replaced by 1 (`precedence_n_jobs_partial`,
`n_jobs_when_context_backend_replaced`, `n_jobs_fallback_counterexample`).
`Op.scoped`, `enclosing` (statements) and `StackRel`, `ActiveOk`, `ParallelInitOk` (proofs) are defined in `Lemmas/Config.lean`.
-/
namespace C17
open JoblibModel.Config

/-- `exit_restores`. After running ANY program tree — blocks nested to any depth, any number of
blocks in sequence, bodies that return or raise, exceptions caught at any level or not at all, blocks
whose constructor itself raises — the thread's configuration is the one it had before. Along the
branches of `run`. -/
theorem exit_restores (p : Prog) (c : Config) : (run p c).cfg = c := by
  fun_induction run p c
  case case1 => rfl  -- done
  case case2 ih => exact ih  -- par
  case case3 ih => exact ih  -- gab
  case case4 => rfl  -- block, the constructor raised
  case case5 args body k c cm c' hinit rb c'' hraised ihb => exact parallelConfigInit_ok hinit  -- block, the body raised
  case case6 args body k c cm c' hinit rb c'' hraised rk ihb ihk => exact ihk.trans (parallelConfigInit_ok hinit)  -- block, then k
  case case7 => rfl  -- raise
  case case8 ihb ihk => exact ihk.trans ihb  -- try_

/-- The same fact for a single block inside a larger program: whatever the body does, the code after
the block (`k`) starts in the configuration the block was entered from, and an exception leaving
the block leaves that configuration behind. -/
theorem exit_restores_block (args : Config) (body k : Prog) (c : Config) (cm : Ctx) (c' : Config)
    (h : parallelConfigInit c args = .ok (cm, c')) :
    (run (.block args body k) c).cfg = c ∧
    (run (.block args body k) c).raised =
      (if (run body c').raised then true else (run k c).raised) := by
  refine ⟨exit_restores _ _, ?_⟩
  have hold : unregister cm = c := parallelConfigInit_ok h
  simp only [run, h]
  split
  · rfl
  · rw [hold]

/-- The big-step semantics of general programs and the step machine agree: replaying the steps a
program executed ends in the state `xrun` computes (all of it: configuration, stack of enclosing
blocks, objects made, identity of the active dictionary). What the program observes (`Out.par`, `Out.gab`) is in
neither `XResult` nor this statement: the `Parallel()` at a point of the program sees `parallelInit` of the configuration
after replaying the prefix of `ops` up to it. -/
theorem xrun_ops (env : Env) (p : XProg) (s : TState) :
    (runThread env s (xrun p s).ops).1 = (xrun p s).state := by
  fun_induction xrun p s
  case case1 => rfl  -- done
  case case2 ih => exact (runThread_cons ..).trans ih  -- par
  case case3 ih => exact (runThread_cons ..).trans ih  -- gab
  case case4 args body k s e hobj => simp only [runThread_cons, runThread_nil, step, stepV, hobj]  -- block, the constructor raised
  case case5 args body k s o s' hobj rb s'' hraised ihb =>  -- block, the body raised
    simp only [List.cons_append, runThread_cons, runThread_append, runThread_nil, step, stepV, hobj]
    exact congrArg (fun t => (exitStep Variant.code t).1) ihb
  case case6 args body k s o s' hobj rb s'' hraised rk ihb ihk =>  -- block, then k
    simp only [List.cons_append, runThread_cons, runThread_append, step, stepV, hobj]
    exact (congrArg (fun t => (runThread env (exitStep Variant.code t).1 _).1) ihb).trans ihk
  case case7 args k s e hobj => simp only [runThread_cons, runThread_nil, step, stepV, hobj]  -- create, raised
  case case8 args k s o s' hobj r ih => simp only [runThread_cons, step, stepV, hobj]; exact ih  -- create
  case case9 ih => exact (runThread_cons ..).trans ih  -- unreg
  case case10 => rfl  -- raise
  case case11 ihb ihk =>  -- try_
    rw [runThread_append]
    exact (congrArg (fun t => (runThread env t _).1) ihb).trans ihk

/-- The tree semantics and the step machine agree: replaying the steps a program executed, from ANY
thread state (any configuration, any stack of outer blocks, any objects made earlier), ends in
the configuration `run` computes with the same stack of outer blocks — hence (with `exit_restores`)
in the configuration it started from. -/
theorem run_ops (env : Env) (p : Prog) (s : TState) :
    (runThread env s (run p s.cfg).ops).1.cfg = (run p s.cfg).cfg ∧
    (runThread env s (run p s.cfg).ops).1.stack = s.stack := by
  obtain ⟨h1, _, _, h4⟩ := xrun_embed p s
  rw [← h4, xrun_ops]
  exact ⟨h1, xrun_stack _ _⟩

/-- `exit_restores` on the step machine, from any thread state. -/
theorem exit_restores_steps (env : Env) (p : Prog) (s : TState) :
    (runThread env s (run p s.cfg).ops).1.cfg = s.cfg ∧
    (runThread env s (run p s.cfg).ops).1.stack = s.stack := by
  have := run_ops env p s
  rw [exit_restores] at this
  exact this

/-- LIFO is what `with` guarantees and what the theorem needs: `unregister()` called by hand out of
order leaves a stale configuration behind (witness; not a `with` program). -/
theorem unregister_out_of_order_counterexample :
    ∃ a b : Config,
      ∃ cm1 c1 cm2 c2, parallelConfigInit Config.unset a = .ok (cm1, c1) ∧
        parallelConfigInit c1 b = .ok (cm2, c2) ∧
        -- cm1.unregister() then cm2.unregister()
        unregister cm2 ≠ Config.unset :=
  ⟨{ Config.unset with verbose := some (.int 7) }, { Config.unset with n_jobs := some (.int 3) },
    _, _, _, _, rfl, rfl, by decide⟩

/-- Non-interference, the strong form: under ANY interleaving with any other threads, thread `t`
(not started again in the meantime) ends in the state, and sees exactly the results (every
`Parallel(...)` and `get_active_backend()` observation), it would have had running its own steps
alone — whatever the steps are: `with` blocks, objects made by plain calls, `unregister()` in any
order, threads it starts. -/
theorem thread_noninterference (env : Env) (sched : List (Nat × Op)) (g : Global) (t : Nat)
    (h : ∀ x ∈ sched, ∀ k, x.2 ≠ .spawn t k) :
    ((grun env g sched).1 t,
      (grun env g sched).2.filterMap (fun x => if x.1 = t then some x.2 else none)) =
    runThread env (g t) (sched.filterMap (fun x => if x.1 = t then some x.2 else none)) := by
  induction sched generalizing g with
  | nil => rfl
  | cons x rest ih =>
    obtain ⟨u, op⟩ := x
    simp only [grun, grunV]
    have hsp := h (u, op) (by simp)
    have := ih (gstepV Variant.code env g u op).1 (fun y hy => h y (by simp [hy]))
    simp only [grun] at this
    by_cases hu : u = t
    · subst hu
      obtain ⟨gs1, gs2⟩ := gstepV_self Variant.code env g hsp
      rw [gs1] at this
      obtain ⟨e1, e2⟩ := Prod.ext_iff.1 this
      simp only [runThread] at e1 e2
      simp only [List.filterMap_cons, if_true, runThread, runThreadV]
      rw [gs2, ← e1, ← e2]
    · simp only [List.filterMap_cons, if_neg hu]
      rw [this, gstepV_other Variant.code env g hu hsp]

/-- `thread_frame`. Steps of other threads never change thread `t`'s configuration, block stack or
objects, for any interleaving — as long as `t` is not a thread they START (`spawn t`: a thread is
started once, before its first step). -/
theorem thread_frame (env : Env) (sched : List (Nat × Op)) (g : Global) (t : Nat)
    (h : ∀ x ∈ sched, x.1 ≠ t ∧ ∀ k, x.2 ≠ .spawn t k) : (grun env g sched).1 t = g t := by
  have hnil : sched.filterMap (fun x => if x.1 = t then some x.2 else none) = [] :=
    List.filterMap_eq_nil_iff.2 fun x hx => if_neg (h x hx).1
  have := thread_noninterference env sched g t fun x hx => (h x hx).2
  rw [hnil] at this
  exact congrArg Prod.fst this

/-- At every point a thread can reach, its configuration is determined by the blocks it is inside
(`enclosing`: their effective arguments, innermost first) and by nothing else — not by blocks
already left, not by other threads. (`hops`: the thread uses `with` blocks only; what objects made
by plain calls and `unregister()` by hand do is `unregister_is_restore` / `unreg_exact`.) -/
theorem reachable_cfg (env : Env) (ops : List Op) (hops : ∀ op ∈ ops, op.scoped = true) :
    (runThread env TState.init ops).1.cfg = stackCfg (enclosing [] ops) :=
  runThread_cfg_eq_stackCfg env ops hops [] TState.init rfl trivial

/-- `precedence`. The value resolved for key `k` at a program point is the explicit argument if one
is given, else the value of the innermost enclosing block that sets `k`, else the default. -/
theorem precedence (env : Env) (ops : List Op) (hops : ∀ op ∈ ops, op.scoped = true)
    (explicit : Slot) (k : Key) :
    getConfigParam env.d explicit (runThread env TState.init ops).1.cfg k =
      match explicit with
      | some v => v
      | none =>
        match (enclosing [] ops).findSome? (·.get k) with
        | some v => v
        | none => env.d.get k := by
  rw [reachable_cfg env ops hops]
  unfold getConfigParam
  cases explicit with
  | some v => rfl
  | none =>
    show (match (stackCfg (enclosing [] ops)).get k with
      | some v => v
      | none => env.d.get k) = _
    rw [stackCfg_get]
    rfl

/-- What a block contributes: for every key but `backend` exactly the argument it was given
(for `backend`: what `_check_backend` made of it — an instance carrying a nesting level). -/
theorem block_contributes {old args nc : Config} (h : newConfig old args = .ok nc) (k : Key)
    (hk : k ≠ .backend) : nc.get k = args.get k := by
  obtain ⟨b, _, h⟩ := Except.bind_ok h
  cases h
  cases k <;> first | rfl | exact absurd rfl hk

/-- A constructed `Parallel` carries, for verbose / temp_folder / mmap_mode / prefer / require /
max_nbytes, exactly the value `precedence` describes (max_nbytes after `memstr_to_bytes`, the
backend's own `verbose` reduced by 50). -/
theorem precedence_parallel {env : Env} {cfg e : Config} {r : ParObs}
    (h : parallelInit env cfg e = .ok r) :
    r.verbose = getConfigParam env.d e.verbose cfg .verbose ∧
    r.temp_folder = getConfigParam env.d e.temp_folder cfg .temp_folder ∧
    r.mmap_mode = getConfigParam env.d e.mmap_mode cfg .mmap_mode ∧
    r.prefer = getConfigParam env.d e.prefer cfg .prefer ∧
    r.require = getConfigParam env.d e.require cfg .require ∧
    postMaxNbytes (getConfigParam env.d e.max_nbytes cfg .max_nbytes) = .ok r.max_nbytes ∧
    kwVerbose r.verbose = .ok r.kw_verbose := by
  obtain ⟨a, _, _, ok, _⟩ := parallelInit_ok h
  exact ⟨ok.verbose, ok.temp_folder, ok.mmap_mode, ok.prefer, ok.require, ok.max_nbytes, ok.kw_verbose⟩

/-- The one situation in which the context's `n_jobs` is not used: the context chose a backend, it
does not support shared memory, and the resolved constraint is `require='sharedmem'`. -/
def ContextBackendReplaced (env : Env) (cfg e : Config) : Prop :=
  ∃ b, contextBackend env cfg = .ok (true, b) ∧ b.cls.supportsSharedmem = false ∧
    getConfigParam env.d e.require cfg .require = .str "sharedmem"

/-
FULL STATEMENT (false of the code, by design of joblib — see `n_jobs_fallback_counterexample`):
  parallelInit env cfg e = .ok r → resolveNJobs env.d e.n_jobs cfg r.backend.cls = .ok r.n_jobs
i.e. `n_jobs` = explicit argument (not None) > innermost context > default (None → the backend's
`default_n_jobs`), converted with `int`.  Missing: the `ContextBackendReplaced` case.
-/
/-- `precedence` for `n_jobs` on a constructed `Parallel`, outside the documented fallback. -/
theorem precedence_n_jobs_partial {env : Env} {cfg e : Config} {r : ParObs}
    (h : parallelInit env cfg e = .ok r) (hn : ¬ ContextBackendReplaced env cfg e) :
    resolveNJobs env.d e.n_jobs cfg r.backend.cls = .ok r.n_jobs := by
  obtain ⟨a, explicit, b, ok, aok⟩ := parallelInit_ok h
  have hcfg : a.config = cfg := by
    rw [aok.config]
    cases explicit with
    | false => exact activeConfig_implicit ..
    | true => exact (activeConfig_explicit ..).trans (if_neg fun hc => hn ⟨b, aok.context, hc.2, hc.1⟩)
  rw [← hcfg]; exact ok.n_jobs

/-- …and inside it: the context's `n_jobs` counts as 1 (an explicit argument still wins). -/
theorem n_jobs_when_context_backend_replaced {env : Env} {cfg e : Config} {r : ParObs}
    (h : parallelInit env cfg e = .ok r) (hr : ContextBackendReplaced env cfg e) :
    resolveNJobs env.d e.n_jobs (cfg.set .n_jobs (some (.int 1))) r.backend.cls = .ok r.n_jobs ∧
    r.backend.cls.supportsSharedmem = true := by
  obtain ⟨a, x, b', ok, aok⟩ := parallelInit_ok h
  obtain ⟨b, hcb, hss, hrq⟩ := hr
  cases hcb.symm.trans aok.context
  have hc : a.config = cfg.set .n_jobs (some (.int 1)) := by
    rw [aok.config, activeConfig_explicit, if_pos ⟨hrq, hss⟩]
  refine ⟨by rw [← hc]; exact ok.n_jobs, parallelInit_sharedmem h ?_⟩
  rw [ok.require]; exact hrq

/-- An explicit `n_jobs` (anything but `None`) always wins. -/
theorem explicit_n_jobs_wins {env : Env} {cfg e : Config} {r : ParObs} {v : Val}
    (h : parallelInit env cfg e = .ok r) (he : e.n_jobs = some v) (hv : v ≠ .none) :
    toInt v = .ok r.n_jobs := by
  obtain ⟨a, _, _, ok, _⟩ := parallelInit_ok h
  rw [← resolveNJobs_some env.d hv a.config r.backend.cls, ← he]
  exact ok.n_jobs

/-- Witness of the pinned policy (joblib's test_backend_hinting_and_constraints asserts it):
`with parallel_config("loky", n_jobs=2): Parallel(require="sharedmem")` has `n_jobs == 1`. -/
theorem n_jobs_fallback_counterexample :
    (parallelInit Env.pinned
        (update Config.unset ⟨some (.backend .loky (some 0)), some (.int 2), none, none, none, none, none, none⟩)
        { Config.unset with require := some (.str "sharedmem") }).toOption.map
      (fun r => (r.backend.cls, r.n_jobs)) = some (.threading, 1) := by decide +kernel

/-- F22 (defect of the pinned tree, repaired): `with parallel_config(n_jobs=4): Parallel(prefer="threads")`
got `n_jobs == 1` although no backend had been chosen in the context; the repaired code gives 4. -/
theorem n_jobs_unrepaired_counterexample :
    let cfg := { Config.unset with n_jobs := some (.int 4) }
    let e := { Config.unset with prefer := some (.str "threads") }
    (parallelInitUnrepaired Env.pinned cfg e).toOption.map (fun r => (r.backend.cls, r.n_jobs))
        = some (.threading, 1) ∧
    (parallelInit Env.pinned cfg e).toOption.map (fun r => (r.backend.cls, r.n_jobs))
        = some (.threading, 4) := by decide +kernel

/-- The backend of a constructed `Parallel`: an explicitly named class / instance wins over
everything; otherwise it is the active backend (the context's, or the default one adjusted by the
hint and the constraint). -/
theorem precedence_backend {env : Env} {cfg e : Config} {r : ParObs}
    (h : parallelInit env cfg e = .ok r) :
    ∃ a, getActiveBackend' env cfg e.prefer e.require e.verbose = .ok a ∧
      (match e.backend with
       | none => r.backend = a.backend
       | some .none => r.backend = a.backend
       | some (.backend c none) => r.backend = ⟨c, a.backend.level⟩
       | some (.backend c (some l)) => r.backend = ⟨c, some l⟩
       | some (.str name) => registry name = some r.backend.cls ∧ r.backend.level = a.backend.level
       | some (.int _) => False) := by
  obtain ⟨a, _, _, ok, _⟩ := parallelInit_ok h
  exact ⟨a, ok.active, chooseBackend_ok ok.backend⟩

/-- `sharedmem_is_threads`. Whenever construction succeeds and the resolved constraint — given
explicitly OR by any enclosing context — is `require='sharedmem'`, the backend supports shared
memory, i.e. it is the threading or the sequential backend. -/
theorem sharedmem_is_threads {env : Env} {cfg e : Config} {r : ParObs}
    (h : parallelInit env cfg e = .ok r) (hr : r.require = .str "sharedmem") :
    r.backend.cls.supportsSharedmem = true ∧
      (r.backend.cls = .threading ∨ r.backend.cls = .sequential) := by
  have := parallelInit_sharedmem h hr
  refine ⟨this, ?_⟩
  revert this
  cases r.backend.cls <;> simp [BackendClass.supportsSharedmem]

/-- The same for `get_active_backend(require=…)`. -/
theorem sharedmem_is_threads_active {env : Env} {cfg : Config} {p r v : Slot} {a : Active}
    (h : getActiveBackend' env cfg p r v = .ok a)
    (hr : getConfigParam env.d r cfg .require = .str "sharedmem") :
    a.backend.cls.supportsSharedmem = true := by
  obtain ⟨explicit, b, ok⟩ := getActive_ok h
  rw [ok.backend, hr]
  exact activeBackend_sharedmem _ _ fun hp => ok.compatible ⟨hp, hr⟩

/-- F21 (defect of the pinned tree, repaired):
`with parallel_config(require="sharedmem"): Parallel(backend="loky", n_jobs=2)` built a LokyBackend
with two processes; the repaired code raises `ValueError` like `Parallel(backend="loky",
require="sharedmem")` always did. -/
theorem sharedmem_unrepaired_counterexample :
    let cfg := { Config.unset with require := some (.str "sharedmem") }
    let e := { Config.unset with backend := some (.str "loky"), n_jobs := some (.int 2) }
    (parallelInitUnrepaired Env.pinned cfg e).toOption.map
        (fun r => (r.backend.cls, r.n_jobs, r.require)) = some (.loky, 2, .str "sharedmem") ∧
    parallelInit Env.pinned cfg e = .error .valueError := by decide +kernel

/-- A backend was chosen explicitly: as an argument of `Parallel`, or by an enclosing context. -/
def BackendChosen (cfg e : Config) : Prop :=
  (∃ c l, e.backend = some (.backend c l)) ∨ (∃ s, e.backend = some (.str s)) ∨
    (∃ c l, cfg.backend = some (.backend c l))

/-- `prefer_is_hint`. When a backend was chosen explicitly, `prefer` — wherever it comes from, an
argument or a context, and whatever its value — changes neither the backend nor `n_jobs`: two
constructions that differ only in `prefer` and both succeed agree on both. -/
theorem prefer_is_hint {env : Env} {cfg1 cfg2 e1 e2 : Config} {r1 r2 : ParObs}
    (hcfg : ∀ k, k ≠ .prefer → cfg1.get k = cfg2.get k)
    (he : ∀ k, k ≠ .prefer → e1.get k = e2.get k)
    (hb : BackendChosen cfg1 e1)
    (h1 : parallelInit env cfg1 e1 = .ok r1) (h2 : parallelInit env cfg2 e2 = .ok r2) :
    r1.backend = r2.backend ∧ r1.n_jobs = r2.n_jobs := by
  obtain ⟨a1, x, b, ok1, k1⟩ := parallelInit_ok h1
  obtain ⟨a2, x', b', ok2, k2⟩ := parallelInit_ok h2
  have hch1 := ok1.backend
  have hch2 := ok2.backend
  have hnj1 := ok1.n_jobs
  have ebk : e1.backend = e2.backend := he .backend (by decide)
  have enj : e1.n_jobs = e2.n_jobs := he .n_jobs (by decide)
  have cnj : cfg1.get .n_jobs = cfg2.get .n_jobs := hcfg .n_jobs (by decide)
  -- the context's backend and the resolved constraint are the same on both sides
  cases ((contextBackend_congr env (hcfg .backend (by decide))).trans k2.context).symm.trans k1.context
  have hreq : getConfigParam env.d e1.require cfg1 .require = getConfigParam env.d e2.require cfg2 .require := by
    rw [show e1.require = e2.require from he .require (by decide)]
    exact getConfigParam_congr _ _ _ _ _ (hcfg .require (by decide))
  have hlevel : a1.backend.level = a2.backend.level := by
    rw [k1.backend, k2.backend, activeBackend_level, activeBackend_level]
  -- what the fallback does to a backend chosen in the context does not read the hint
  have hctx : x = true → a1.backend = a2.backend := by
    rintro rfl
    rw [k1.backend, k2.backend, activeBackend_explicit, activeBackend_explicit, hreq]
  have hnjcfg : a1.config.get .n_jobs = a2.config.get .n_jobs := by
    rw [k1.config, k2.config]
    cases x with
    | true =>
      rw [activeConfig_explicit, activeConfig_explicit, hreq]
      split
      · rw [set_get_same, set_get_same]
      · exact cnj
    | false => rw [activeConfig_implicit, activeConfig_implicit]; exact cnj
  have hbackend : r1.backend = r2.backend := by
    rw [← ebk] at hch2
    have named : ∀ v, e1.backend = some v → v ≠ .none → r1.backend = r2.backend := fun v hv hne => by
      rw [hv] at hch1 hch2
      rw [chooseBackend_level hlevel hne, hch2] at hch1
      exact (Except.ok.inj hch1).symm
    rcases hb with ⟨c, l, hc⟩ | ⟨s, hs⟩ | ⟨c, l, hc⟩
    · exact named _ hc (by simp)
    · exact named _ hs (by simp)
    · have hx : x = true := by
        have := (contextBackend_of_backend env hc).symm.trans k1.context
        cases this; rfl
      rw [hctx hx, hch2] at hch1
      exact (Except.ok.inj hch1).symm
  refine ⟨hbackend, ?_⟩
  rw [enj, hbackend, resolveNJobs_congr _ _ hnjcfg, ok2.n_jobs] at hnj1
  exact (Except.ok.inj hnj1).symm

/-- …and when no backend was chosen, the hint decides between the default thread backend and the
default process backend (here with the pinned defaults, `DEFAULT_BACKEND = "loky"`). -/
theorem prefer_decides_default :
    (parallelInit Env.pinned Config.unset { Config.unset with prefer := some (.str "threads") }).toOption.map
        (·.backend.cls) = some .threading ∧
    (parallelInit Env.pinned Config.unset { Config.unset with prefer := some (.str "processes") }).toOption.map
        (·.backend.cls) = some .loky ∧
    (parallelInit ⟨.threading, Defaults.pinned⟩ Config.unset
        { Config.unset with prefer := some (.str "processes") }).toOption.map
        (·.backend.cls) = some .loky := by decide +kernel

/-- `exit_restores_whatever_the_body_left`. For EVERY general program: when the `with` block of an
object exits — `rb.raised = false`: normally, `rb.raised = true`: by an exception — the thread's
configuration (and the identity of the active dictionary, and the stack of enclosing blocks) is
exactly what it was when the object was made, WHATEVER the body did: made objects by plain calls
and left them registered, unregistered any object in any order (this block's own object included),
nested further blocks, raised. `after` is the state right after `__exit__`; the last two clauses
say that this is where the program goes on (or from where the exception propagates). -/
theorem exit_restores_whatever_the_body_left (args : Config) (body k : XProg) (s : TState)
    (o : Obj) (s' : TState) (h : createObj s args = .ok (o, s')) :
    let rb := xrun body { s' with stack := o :: s'.stack }
    let after := (exitStep Variant.code rb.state).1
    after.cfg = s.cfg ∧ after.cur = s.cur ∧ after.stack = s.stack ∧ after.objs = rb.state.objs ∧
    (xrun (.block args body k) s).state = (if rb.raised then after else (xrun k after).state) ∧
    (xrun (.block args body k) s).raised = (if rb.raised then true else (xrun k after).raised) := by
  intro rb after
  have he : after = { rb.state with stack := s.stack, cfg := s.cfg, cur := s.cur } :=
    exitStep_made h (xrun_stack body _)
  refine ⟨by rw [he], by rw [he], by rw [he], by rw [he], ?_, ?_⟩
  · simp only [xrun, h]
    split <;> rfl
  · simp only [xrun, h]
    split <;> rfl

/-- `unreg_exact`: what `cm_k.unregister()` does, exactly — it puts back the configuration that
was active when `cm_k` was made (and nothing else changes), whichever objects were made or
unregistered since, whether `cm_k` is "the current one" or not, whether it was unregistered
before or not. -/
theorem unreg_exact (env : Env) (s : TState) (k : Nat) (o : Obj) (h : s.objs[k]? = some o) :
    (step env s (.unreg k)).1 = { s with cfg := o.cm.old_parallel_config, cur := o.oldOwner } := by
  simp only [step, stepV, unregStep, h, unregisterV_code]

/-- `unregister_is_restore`. An object is made (by a plain call: `mk = create`, or by a `with`
statement: `mk = enter`) in state `s`; then the thread does ANYTHING (`ops`: any steps, in any
order, any number of them); then it calls `unregister()` on that object. The configuration is
the one of `s` again, nothing else changes, and a second `unregister()` changes nothing
(idempotent). -/
theorem unregister_is_restore (env : Env) (s : TState) (args : Config) (mk : Op) (ops : List Op)
    (hmk : mk = .create args ∨ mk = .enter args) {cm : Ctx} {cfg : Config}
    (hok : parallelConfigInit s.cfg args = .ok (cm, cfg)) :
    let k := s.objs.length
    let s2 := (runThread env s (mk :: ops)).1
    let s3 := (step env s2 (.unreg k)).1
    s3.cfg = s.cfg ∧ s3.cur = s.cur ∧ s3.stack = s2.stack ∧ s3.objs = s2.objs ∧
      (step env s3 (.unreg k)).1 = s3 := by
  intro k s2 s3
  have hc := createObj_eq_of_init_ok hok
  have hget1 : (step env s mk).1.objs[k]? = some ⟨s.objs.length, cm, s.cur⟩ := by
    rcases hmk with rfl | rfl <;> simp [step, stepV, hc, k]
  have hget2 : s2.objs[k]? = some ⟨s.objs.length, cm, s.cur⟩ := by
    show (runThread env s (mk :: ops)).1.objs[k]? = _
    rw [runThread_cons]
    exact runThreadV_objs_get Variant.code env ops _ k _ hget1
  have h3 : s3 = { s2 with cfg := cm.old_parallel_config, cur := s.cur } :=
    unreg_exact env s2 k _ hget2
  have hold : cm.old_parallel_config = s.cfg := parallelConfigInit_ok hok
  refine ⟨by rw [h3]; exact hold, by rw [h3], by rw [h3], by rw [h3], ?_⟩
  have hget3 : s3.objs[k]? = some ⟨s.objs.length, cm, s.cur⟩ := by rw [h3]; exact hget2
  rw [unreg_exact env s3 k _ hget3, h3]

/-- `unregister()` out of order, stated exactly. Two objects `a` then `b` made by plain calls:
unregistering in LIFO order (`b`, `a`) or `a` alone gives the starting configuration back;
unregistering `a` FIRST and then `b` leaves the configuration `b` saved, i.e. the one with `a`'s
settings — `b.unregister()` puts back what was active when `b` was made, not what is "underneath"
now. (That is the code's behaviour and what the harness observes; it is why the property speaks of
`with` blocks.) -/
theorem unregister_out_of_order (env : Env) (s : TState) (a b : Config) {cm1 cm2 : Ctx}
    {c1 c2 : Config} (h1 : parallelConfigInit s.cfg a = .ok (cm1, c1))
    (h2 : parallelConfigInit c1 b = .ok (cm2, c2)) :
    let k := s.objs.length
    (runThread env s [.create a, .create b, .unreg (k + 1), .unreg k]).1.cfg = s.cfg ∧
    (runThread env s [.create a, .create b, .unreg k]).1.cfg = s.cfg ∧
    (runThread env s [.create a, .create b, .unreg k, .unreg (k + 1)]).1.cfg = c1 := by
  intro k
  have lifo := (unregister_is_restore env s a (.create a) [.create b, .unreg (k + 1)] (.inl rfl) h1).1
  have alone := (unregister_is_restore env s a (.create a) [.create b] (.inl rfl) h1).1
  simp only [runThread_cons, runThread_nil] at lifo alone ⊢
  refine ⟨lifo, alone, ?_⟩
  have hsa : (step env s (.create a)).1 =
      { s with cfg := c1, objs := s.objs ++ [⟨s.objs.length, cm1, s.cur⟩], cur := some s.objs.length } := by
    simp only [step, stepV, createObj_eq_of_init_ok h1]
  have := (unregister_is_restore env
    { s with cfg := c1, objs := s.objs ++ [⟨s.objs.length, cm1, s.cur⟩], cur := some s.objs.length }
    b (.create b) [.unreg k] (.inl rfl) h2).1
  simp only [runThread_cons, runThread_nil, List.length_append, List.length_cons, List.length_nil] at this
  rw [hsa]
  exact this

/-- `balanced_program_restores`: the tree-shaped theorem (`exit_restores`) in the general semantics — a program
made of `with` blocks only, run from any thread state (inside any blocks,
after any objects made by plain calls), gives back the configuration, the active dictionary and
the stack it started with. -/
theorem balanced_program_restores (p : Prog) (s : TState) :
    (xrun p.embed s).state.cfg = s.cfg ∧ (xrun p.embed s).state.cur = s.cur ∧
      (xrun p.embed s).state.stack = s.stack := by
  obtain ⟨h1, h2, _⟩ := xrun_embed p s
  exact ⟨h1.trans (exit_restores p s.cfg), h2, xrun_stack _ _⟩

/-- `new_thread_starts_from_defaults`. A thread `u` started by thread `t` — in any of the three ways,
whatever `t`'s configuration is at that moment, whatever all other threads do afterwards (`sched`:
any steps of threads other than `u`) — is in the initial state: default configuration, inside no
block, no objects; a `Parallel(...)` it constructs is the one constructed under the defaults. -/
theorem new_thread_starts_from_defaults (env : Env) (g : Global) (t u : Nat) (kind : SpawnKind)
    (sched : List (Nat × Op)) (h : ∀ x ∈ sched, x.1 ≠ u ∧ ∀ k, x.2 ≠ .spawn u k) (e : Config) :
    let g' := (grun env (gstep env g t (.spawn u kind)).1 sched).1
    g' u = TState.init ∧ parallelInit env (g' u).cfg e = parallelInit env Config.unset e := by
  intro g'
  have h1 : g' u = TState.init := by
    show (grun env (gstep env g t (.spawn u kind)).1 sched).1 u = _
    rw [thread_frame env sched _ u h]
    simp [gstep, gstepV, childInit, Variant.code]
  exact ⟨h1, by rw [h1]; rfl⟩

/-- `other_threads_unaffected`, for the general programs: whatever the other threads do — blocks,
objects made by plain calls and left registered, `unregister()` in any order, starting further
threads (other than `t`) — thread `t`'s state does not change, and neither does anything it can
observe (`Parallel(...)`, `get_active_backend(...)`). -/
theorem other_threads_unaffected (env : Env) (sched : List (Nat × Op)) (g : Global) (t : Nat)
    (h : ∀ x ∈ sched, x.1 ≠ t ∧ ∀ k, x.2 ≠ .spawn t k) (e : Config) (p r v : Slot) :
    (grun env g sched).1 t = g t ∧
    parallelInit env ((grun env g sched).1 t).cfg e = parallelInit env (g t).cfg e ∧
    getActiveBackend env ((grun env g sched).1 t).cfg p r v = getActiveBackend env (g t).cfg p r v := by
  have := thread_frame env sched g t h
  exact ⟨this, by rw [this], by rw [this]⟩

/-- `gab_agrees_with_parallel`. At the same place (same thread configuration `cfg`, any defaults,
any `DEFAULT_BACKEND`), `get_active_backend()` and `Parallel()` — both without arguments — agree:
same backend (class and nesting level); the same `n_jobs` whenever `get_active_backend` reports
one (it reports `None` when no context sets it, `Parallel` then uses the backend's default); and
under `require='sharedmem'` (from any enclosing context) the reported backend supports shared
memory. -/
theorem gab_agrees_with_parallel {env : Env} {cfg : Config} {g : GabObs} {r : ParObs}
    (hg : getActiveBackend env cfg none none none = .ok g)
    (hp : parallelInit env cfg Config.unset = .ok r) :
    g.backend = r.backend ∧ (g.n_jobs ≠ .none → toInt g.n_jobs = .ok r.n_jobs) ∧
    (getConfigParam env.d none cfg .require = .str "sharedmem" →
      g.backend.cls.supportsSharedmem = true) := by
  obtain ⟨a, _, _, ok, _⟩ := parallelInit_ok hp
  have ha := ok.active
  have hch := ok.backend
  have hnj := ok.n_jobs
  have ha' : getActiveBackend' env cfg none none none = .ok a := ha
  simp only [getActiveBackend, ha', bind, Except.bind, pure, Except.pure] at hg
  have hg' := Except.ok.inj hg
  subst hg'
  refine ⟨Except.ok.inj hch, ?_, fun hr => sharedmem_is_threads_active ha' hr⟩
  intro hne
  exact (resolveNJobs_none env.d hne r.backend.cls).symm.trans hnj

/-- Variant `guardedUnregister` (seeded C17-r4-m2): `with parallel_config(n_jobs=2):` whose body
calls `parallel_backend("threading", n_jobs=4)` and leaves it registered — after the block the
variant still has the settings, joblib is back at the defaults. -/
theorem guarded_unregister_counterexample :
    let ops := [Op.enter { Config.unset with n_jobs := some (.int 2) },
      .create (parallelBackendArgs (.str "threading") (some (.int 4))), .exit]
    (runThreadV ⟨true, false, false⟩ Env.pinned TState.init ops).1.cfg ≠ Config.unset ∧
    (runThread Env.pinned TState.init ops).1.cfg = Config.unset := by decide +kernel

/-- Variant `contextVar` (seeded C17-r4-m1): thread 0 is inside `with parallel_config(n_jobs=3)` and
starts thread 1 in a copy of its context — the variant's thread 1 sees `n_jobs=3`, joblib's starts
from the defaults; a plain thread starts from the defaults in both. -/
theorem context_var_counterexample :
    let g0 : Global := fun _ => TState.init
    let sched (k : SpawnKind) :=
      [(0, Op.enter { Config.unset with n_jobs := some (.int 3) }), (0, Op.spawn 1 k)]
    ((grunV ⟨false, true, false⟩ Env.pinned g0 (sched .copiedContext)).1 1).cfg ≠ Config.unset ∧
    ((grunV ⟨false, true, false⟩ Env.pinned g0 (sched .toThread)).1 1).cfg ≠ Config.unset ∧
    ((grunV ⟨false, true, false⟩ Env.pinned g0 (sched .plain)).1 1) = TState.init ∧
    ((grun Env.pinned g0 (sched .copiedContext)).1 1) = TState.init := by decide +kernel

/-- Variant `gabLiteralDefaults` (seeded C17-r4-m3): inside `with parallel_config(prefer="threads")`
the variant's `get_active_backend()` reports the loky backend while `Parallel()` gets the threading
backend; inside `parallel_config("loky", require="sharedmem")` it reports a backend without shared
memory. joblib's reports the threading backend in both. -/
theorem gab_literal_defaults_counterexample :
    let c1 := { Config.unset with prefer := some (.str "threads") }
    let c2 := { Config.unset with backend := some (.backend .loky (some 0)),
                                  require := some (.str "sharedmem") }
    let cls (r : Except Err GabObs) := r.toOption.map (·.backend.cls)
    cls (getActiveBackendV ⟨false, false, true⟩ Env.pinned c1 none none none) = some .loky ∧
    cls (getActiveBackendV Variant.code Env.pinned c1 none none none) = some .threading ∧
    (parallelInit Env.pinned c1 Config.unset).toOption.map (·.backend.cls) = some .threading ∧
    cls (getActiveBackendV ⟨false, false, true⟩ Env.pinned c2 none none none) = some .loky ∧
    cls (getActiveBackendV Variant.code Env.pinned c2 none none none) = some .threading := by decide +kernel

/-- depth 3, width 2, an exception raised in the innermost block and caught one level up -/
def exProg : Prog :=
  .block { Config.unset with backend := some (.str "threading"), n_jobs := some (.int 3) }
    (.try_
      (.block { Config.unset with verbose := some (.int 7), require := some (.str "sharedmem") }
        (.block { Config.unset with n_jobs := some (.int 5) } (.par Config.unset .raise) .done)
        (.par Config.unset .done))
      (.par { Config.unset with n_jobs := some (.int 2) } .done))
    (.gab none none none .done)

example : (run exProg Config.unset).ops.length = 9 := by decide +kernel
example : (run exProg Config.unset).raised = false := by decide +kernel
example : (run exProg Config.unset).cfg = Config.unset := exit_restores _ _
example : BackendChosen Config.unset { Config.unset with backend := some (.str "loky") } :=
  .inr (.inl ⟨"loky", rfl⟩)
example : ContextBackendReplaced Env.pinned
    { Config.unset with backend := some (.backend .loky (some 0)) }
    { Config.unset with require := some (.str "sharedmem") } :=
  ⟨⟨.loky, some 0⟩, rfl, rfl, rfl⟩
example : ¬ ContextBackendReplaced Env.pinned { Config.unset with n_jobs := some (.int 4) }
    { Config.unset with prefer := some (.str "threads") } := by
  rintro ⟨b, hb, _⟩; cases hb
example : (parallelInit Env.pinned { Config.unset with require := some (.str "sharedmem"), n_jobs := some (.int 4) }
    Config.unset).toOption.map (fun r => (r.backend.cls, r.n_jobs, r.require))
      = some (.threading, 4, .str "sharedmem") := by decide +kernel

/-- a general program: a block whose body makes an object by a plain call, leaves it registered and
raises; the exception is caught; then an object made by a plain call and `unregister()` out of order,
twice, on an object of an exited block -/
def exXProg : XProg :=
  .try_
    (.block { Config.unset with n_jobs := some (.int 2) }
      (.create (parallelBackendArgs (.str "threading") (some (.int 4))) (.par Config.unset .raise)) .done)
    (.par Config.unset
      (.create { Config.unset with verbose := some (.int 7) } (.unreg 1 (.unreg 2 (.unreg 1 .done)))))

example : (xrun exXProg TState.init).ops.length = 9 := by decide +kernel
example : (xrun exXProg TState.init).raised = false := by decide +kernel
/-- right after the block (4 steps: enter, create, par, exit) the defaults are back -/
example : (runThread Env.pinned TState.init ((xrun exXProg TState.init).ops.take 4)).1.cfg = Config.unset := by
  decide +kernel
/-- …and the out-of-order `unregister()` calls end in the configuration object 1 saved -/
example : (xrun exXProg TState.init).state.cfg = { Config.unset with n_jobs := some (.int 2) } := by decide +kernel
example : (xrun exXProg TState.init).state.objs.length = 3 := by decide +kernel
example : (xrun exProg.embed TState.init).state.cfg = Config.unset := (balanced_program_restores _ _).1
/-- the hypotheses of `gab_agrees_with_parallel` are met where the backend is replaced -/
example : ∃ g r, getActiveBackend Env.pinned
      { Config.unset with backend := some (.backend .loky (some 0)), n_jobs := some (.int 4),
                          require := some (.str "sharedmem") } none none none = .ok g ∧
    parallelInit Env.pinned
      { Config.unset with backend := some (.backend .loky (some 0)), n_jobs := some (.int 4),
                          require := some (.str "sharedmem") } Config.unset = .ok r ∧
    g.backend.cls = .threading ∧ g.n_jobs = .int 1 ∧ r.n_jobs = 1 :=
  ⟨_, _, rfl, rfl, by decide, by decide, by decide⟩

end C17
