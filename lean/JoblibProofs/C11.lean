import JoblibProofs.Lemmas.StoreCrash
import JoblibProofs.Lemmas.StoreWitness
import JoblibModel.StoreIO
import JoblibModel.StoreObjects
/-!
# C11 — concurrent users of one cache directory always get correct values

Statement (properties.jsonl): any number of threads and processes may call functions cached in the same directory at
the same time — with equal or different arguments, while others evict entries with `reduce_size` or clear the cache —
and every such call still returns the correct value and never raises because of the concurrent activity. Concurrent
writers of one entry leave one complete result, never a mixture.

Model: `JoblibModel.Store` — every participant is a program (`Prog`) whose steps are single system calls on a shared
file system with inodes; the repaired code (fixes F08, F09) is modelled, `Cfg.legacy := true` is the code before them.

Form: rely/guarantee. `Allowed π lvl who fs o` says that a participant whose id satisfies `who` may issue the system
call `o` in state `fs`; the three levels are the guarantees of the statement:
* `G_calls`  — create directories; create / write its own temporaries; rename a complete temporary holding the right
  content onto its final name; (re)write `func_code.py` (a prefix of the live text) and `.gitignore` in place;
* `G_evict`  — additionally remove anything inside entry directories and the entry directories themselves;
* `G_clear`  — additionally remove anything below `<location>/joblib`.
`Runs R p fs tr out fs'` is an execution of `p` from `fs` in which the environment makes ANY number of `R`-steps before
each system call of `p` — so the theorems cover any number of other participants (their steps are just steps of the
relation), any interleaving, with no bound on pre-emptions or on the length of the run. The lemmas of `Lemmas/Store*.lean`
call the relation "one call allowed at level `lvl` to a participant other than `me`" `Env π lvl me`: it is `G_calls`,
`G_evict`, `G_clear π (· ≠ me)` (`G_eq_env`); theorems about every level are stated with `Env`.

Quantifier reached: all initial directories satisfying the invariant `Inv` (arbitrary other entries, temporaries,
orphaned open files), all arguments, all codecs with `unpickle (pickle v) = v`, all `func_code.py` contents and all
comparison functions `checkCode` (the call is correct whatever it reads there), all callbacks of the `expires_after`
family, all directory orders, all environments satisfying the guarantee. `call_and_shelve` is not covered here
(`c.shelve = false`): `MemorizedResult.get()` is documented to raise `KeyError` when the entry was evicted.

What is false of the code (and of the model), with witnesses:
* `call_correct_under_G_clear` — a call interleaved with `Memory.clear()` can raise `FileNotFoundError`
  (F19, `call_under_G_clear_can_raise`); the fragment that holds is `call_correct_under_G_clear_partial`
  (it never returns a wrong value).
* `participants_satisfy_G_calls` — a *calling* participant is not confined to `G_calls`: when `func_code.py` does not
  compare equal to its source (e.g. it reads the file while another first-time caller is rewriting it in place) it
  empties the function directory (`caller_leaves_G_calls`), so callers only guarantee `G_clear`
  (`participants_satisfy_G`), and a closed system of ≥ 3 first-time callers inherits F19 (confirmed on the real code by a
  forced schedule, harness/props/c11.py `first-call-race`).
-/
namespace C11
open JoblibModel.Store

variable {π : Par}

/-- `numpy_pickle.load(numpy_pickle.dump(v)) = v` -/
def CodecOK (cd : Codec) : Prop := ∀ v, cd.unpickle (cd.pickle v) = some v

/-- One step of a participant whose id satisfies `who`, at each guarantee level. -/
def G_calls (π : Par) (who : Nat → Prop) (fs fs' : FS) : Prop := ∃ o, Allowed π .calls who fs o ∧ fs' = (apply o fs).2
def G_evict (π : Par) (who : Nat → Prop) (fs fs' : FS) : Prop := ∃ o, Allowed π .evict who fs o ∧ fs' = (apply o fs).2
def G_clear (π : Par) (who : Nat → Prop) (fs fs' : FS) : Prop := ∃ o, Allowed π .clear who fs o ∧ fs' = (apply o fs).2

/-- the steps of the others at a level are the environment `Env` of the rely/guarantee lemmas at that level -/
theorem G_eq_env (me : Nat) : G_calls π (· ≠ me) = Env π .calls me ∧ G_evict π (· ≠ me) = Env π .evict me ∧
    G_clear π (· ≠ me) = Env π .clear me := ⟨rfl, rfl, rfl⟩

theorem G_calls_sub_evict {who : Nat → Prop} {fs fs' : FS} (h : G_calls π who fs fs') : G_evict π who fs fs' := by
  obtain ⟨o, ha, e⟩ := h; exact ⟨o, ha.mono_level (Or.inl rfl), e⟩

theorem G_evict_sub_clear {who : Nat → Prop} {fs fs' : FS} (h : G_evict π who fs fs') : G_clear π who fs fs' := by
  obtain ⟨o, ha, e⟩ := h; exact ⟨o, ha.mono_level (Or.inr (Or.inr rfl)), e⟩

/-- "Final names only ever hold complete content": a file named `output.pkl` is the complete pickle of a value computed
for that entry's argument, a file named `metadata.json` is the complete metadata text. -/
def FinalComplete (π : Par) (fs : FS) : Prop :=
  (∀ a d, fs.dataAt (pOut a) = some d → ∃ v g, d = π.cd.pickle ⟨v, a, g⟩) ∧
  (∀ a d, fs.dataAt (pMeta a) = some d → ∃ g, d = π.cd.metaText g)

theorem inv_final {s : Bool} {fs : FS} (h : Inv π s fs) : FinalComplete π fs := inv_final_names h

/-- **one_complete_result.** Whatever the participants do within the strongest guarantee (`G_clear`, which contains the
other two) — in any number, in any order — the invariant is kept; in particular a final name never holds a torn or
mixed result. With `s = true` the result files moreover all hold the value of the live source. -/
theorem one_complete_result {s : Bool} {who : Nat → Prop} {fs fs' : FS} (h : Inv π s fs) (hg : G_clear π who fs fs') :
    Inv π s fs' ∧ FinalComplete π fs' := by
  obtain ⟨o, ha, rfl⟩ := hg
  exact ⟨inv_apply h ha, inv_final (inv_apply h ha)⟩

inductive Star (G : FS → FS → Prop) : FS → FS → Prop
  | refl (fs : FS) : Star G fs fs
  | step {fs fs' fs'' : FS} : G fs fs' → Star G fs' fs'' → Star G fs fs''

/-- The same after any number of steps, by any number of participants. -/
theorem one_complete_result_star {s : Bool} {who : Nat → Prop} {fs fs' : FS} (h : Inv π s fs)
    (hs : Star (G_clear π who) fs fs') : Inv π s fs' ∧ FinalComplete π fs' := by
  induction hs with
  | refl fs => exact ⟨h, inv_final h⟩
  | step hg _ ih => exact ih (one_complete_result h hg).1

/-- **participants_satisfy_G (calls).** Every system call a cached call makes — whatever the other participants do at
any level `lvl` — is one `G_clear` allows to participant `me` (not `G_calls`: see `caller_leaves_G_calls`); moreover it
completes `func_code.py` only when every result present is of the live source (`CodeSafe`). -/
theorem participants_satisfy_G {lvl : Level} {me : Nat} {c : Cfg} {a : Nat} (hc : CfgOK π me c) (hsh : c.shelve = false)
    (hcd : CodecOK π.cd) {fs fs' : FS} {tr : List (FS × Op)} {out : Outcome Val}
    (hi : Inv π true fs) (hr : Runs (Env π lvl me) (callProc c a) fs tr out fs') :
    ∀ x ∈ tr, Allowed π .clear (fun o => o = me) x.1 x.2 ∧ CodeSafe π x.1 x.2 := fun x hx =>
  have h := (callProc_env hc.base hcd hi hr).1 x hx
  ⟨h.allowed, h.codeSafe trivial⟩

/-- **participants_satisfy_G (reduce_size).** Every system call of `Memory.reduce_size` is one `G_evict` allows. -/
theorem participants_satisfy_G_evict {lvl : Level} {me : Nat} {c : Cfg} {victims : List Nat}
    {fs fs' : FS} {tr : List (FS × Op)} {out : Outcome Unit}
    (hi : Inv π true fs) (hr : Runs (Env π lvl me) (reduceProc c victims) fs tr out fs') :
    ∀ x ∈ tr, Allowed π .evict (fun o => o = me) x.1 x.2 := fun x hx =>
  (((reduceProc_sat (strong := True) (quiet := False) (τ := 0) (world_env lvl me) c victims).sound hr (good_inv (world_env lvl me)).stable hi).1 x hx).1

/-- **participants_satisfy_G (clear).** Every system call of `Memory.clear()` is one `G_clear` allows. -/
theorem participants_satisfy_G_clear {lvl : Level} {me : Nat} {c : Cfg}
    {fs fs' : FS} {tr : List (FS × Op)} {out : Outcome Unit}
    (hi : Inv π true fs) (hr : Runs (Env π lvl me) (clearProc c) fs tr out fs') :
    ∀ x ∈ tr, Allowed π .clear (fun o => o = me) x.1 x.2 := fun x hx =>
  (((clearProc_sat (strong := True) (quiet := False) (τ := 0) (world_env lvl me) c).sound hr (good_inv (world_env lvl me)).stable hi).1 x hx).1

/-- **call_correct_under_G_calls.** A cached call interleaved with ANY sequence of steps of other participants that
satisfy `G_calls` returns `f(a)` and does not raise. -/
theorem call_correct_under_G_calls {me : Nat} {c : Cfg} {a : Nat} (hc : CfgOK π me c) (hsh : c.shelve = false)
    (hcd : CodecOK π.cd) {fs fs' : FS} {tr : List (FS × Op)} {out : Outcome Val}
    (hi : Inv π true fs) (hr : Runs (G_calls π (fun o => o ≠ me)) (callProc c a) fs tr out fs') :
    ∃ g, out = .ok ⟨π.ver, a, g⟩ := call_correct_env (by decide) hc.base hsh hcd hi ((G_eq_env me).1 ▸ hr)

/-- **call_correct_under_G_evict.** The same when the other participants may also evict entries (`reduce_size`, an
expiring validation callback, …). -/
theorem call_correct_under_G_evict {me : Nat} {c : Cfg} {a : Nat} (hc : CfgOK π me c) (hsh : c.shelve = false)
    (hcd : CodecOK π.cd) {fs fs' : FS} {tr : List (FS × Op)} {out : Outcome Val}
    (hi : Inv π true fs) (hr : Runs (G_evict π (fun o => o ≠ me)) (callProc c a) fs tr out fs') :
    ∃ g, out = .ok ⟨π.ver, a, g⟩ := call_correct_env (by decide) hc.base hsh hcd hi ((G_eq_env me).2.1 ▸ hr)

/-- After the call the invariant still holds (so the next call, by anybody, starts from a good directory). -/
theorem call_keeps_invariant {lvl : Level} {me : Nat} {c : Cfg} {a : Nat} (hc : CfgOK π me c) (hsh : c.shelve = false)
    (hcd : CodecOK π.cd) {fs fs' : FS} {tr : List (FS × Op)} {v : Val}
    (hi : Inv π true fs) (hr : Runs (Env π lvl me) (callProc c a) fs tr (.ok v) fs') : Inv π true fs' :=
  (callProc_env hc.base hcd hi hr).2.1

/-! ## Against `Memory.clear()`

Full statement (FALSE — `call_under_G_clear_can_raise`):
  `call_correct_under_G_clear : … Runs (G_clear π (· ≠ me)) (callProc c a) fs tr out fs' → ∃ g, out = .ok ⟨π.ver, a, g⟩`. -/

/-- **call_correct_under_G_clear_partial.** Interleaved with participants that may clear the cache, a cached call
never returns a wrong value: if it returns, it returns `f(a)`. (It may raise: F19.) -/
theorem call_correct_under_G_clear_partial {me : Nat} {c : Cfg} {a : Nat} (hc : CfgOK π me c) (hsh : c.shelve = false)
    (hcd : CodecOK π.cd) {fs fs' : FS} {tr : List (FS × Op)} {v : Val}
    (hi : Inv π true fs) (hr : Runs (G_clear π (fun o => o ≠ me)) (callProc c a) fs tr (.ok v) fs') :
    ∃ g, v = ⟨π.ver, a, g⟩ :=
  (callProc_env hc.base hcd hi ((G_eq_env me).2.2 ▸ hr : Runs (Env π .clear me) (callProc c a) fs tr (.ok v) fs')).2.2.2 hsh

open JoblibModel.StoreIO in
/-- a concrete codec (the one of the drivers): source `def f(x): …` of one version, first line 1 -/
def cdW : Codec := mkCodec false 1 [[100, 101, 102, 32, 102, 40, 120, 41, 58, 10]]

def πW : Par := ⟨cdW, 0⟩
def cfgW : Cfg := { codec := cdW, me := 0, ver := 0 }

theorem cfgW_ok : CfgOK πW 0 cfgW := ⟨rfl, rfl, rfl, rfl, rfl, rfl, rfl⟩

open JoblibModel.StoreIO in
theorem cdW_ok : CodecOK cdW := by
  intro v
  simp [cdW, mkCodec, toyPickle, toyUnpickle]

/-- **call_under_G_clear_can_raise (F19).** There is an execution, starting from an empty scratch directory, of ONE
cached call interleaved with two steps that `G_clear` allows to another participant (`Memory.clear()` removing the
function directory and the module directory, placed after the call's `exists(func_path)` and before its
`open(func_code.py, 'wb')`), in which the call raises `FileNotFoundError`. -/
theorem call_under_G_clear_can_raise :
    ∃ tr fs', Inv πW true FS.empty ∧
      Runs (G_clear πW (fun o => o ≠ 0)) (callProc cfgW 3) FS.empty tr (.raised .fileNotFound) fs' := by
  obtain ⟨tr, fs', hr⟩ := runWithEnv_runs (R := G_clear πW (fun o => o ≠ 0))
    (fun o fs hok => ⟨o, clearRemovalB_sound hok, rfl⟩) (callProc cfgW 3) FS.empty
    [[], [], [], [], [], [], [], [], [], [], [], [], [], [.rmdir pFunc, .rmdir pMod]] (.raised .fileNotFound) (by decide +kernel)
  exact ⟨tr, fs', inv_empty _ _, hr⟩

/-- Hence the full-strength statement is false. -/
theorem call_correct_under_G_clear_counterexample :
    ¬ (∀ (fs fs' : FS) (tr : List (FS × Op)) (out : Outcome Val), Inv πW true fs →
        Runs (G_clear πW (fun o => o ≠ 0)) (callProc cfgW 3) fs tr out fs' → ∃ g, out = .ok ⟨πW.ver, 3, g⟩) := by
  intro h
  obtain ⟨tr, fs', hi, hr⟩ := call_under_G_clear_can_raise
  obtain ⟨g, hg⟩ := h _ _ _ _ hi hr
  cases hg

/-- **caller_leaves_G_calls.** A first-time caller that reads a half-written `func_code.py` (here: created by another
first-time caller, not yet written — the empty file) removes `func_code.py` and the function directory: a step outside
`G_calls` and `G_evict`. (`Memory` users that only *call* cached functions are therefore clearing participants.) -/
theorem caller_leaves_G_calls :
    ∃ fs, Inv πW true fs ∧ (run (callProc cfgW 3) fs).1 = .ok ⟨0, 3, 0⟩ ∧
      (runLog (callProc cfgW 3) fs).1.any
        (fun x => (match x.1 with | .unlink p _ => p == pCode | _ => false) && x.2 == .ok) = true := by
  -- the state a first-time caller killed right after creating `func_code.py` leaves
  refine ⟨crash 14 none (callProc cfgW 3) FS.empty, ?_, by decide +kernel⟩
  exact crash_inv (callProc_sat (strong := True) (quiet := False) solo cfgW cfgW_ok.base False.elim 3 cdW_ok)
    (pre_true _ (inv_empty _ _)) (inv_empty _ _) 14 none

example : CodecOK cdW := cdW_ok
example : CfgOK πW 0 cfgW := cfgW_ok
example : Inv πW true FS.empty := inv_empty _ _
example : (run (callProc cfgW 3) FS.empty).1 = .ok ⟨0, 3, 0⟩ := by decide +kernel
example : (run (callProc cfgW 3) (run (callProc { cfgW with me := 1 } 3) FS.empty).2).1 = .ok ⟨0, 3, 0⟩ := by decide +kernel


/-! ## Object histories (`JoblibModel.StoreObjects`): users that live on, others clear / evict between their operations -/
section Objects
open JoblibModel.StoreObjects

/-- the witness history: object A (process 0) is created and calls `f 3`, `f 4`; object B of ANOTHER process is created
and clears the cache; A calls `f 5` (new), `f 3` (cleared), `f 3` (cached again) — then the same with B evicting. -/
def histW (disturb : Step) : List Step :=
  [.new 0 cfgW, .call 0 0 cfgW 3, .call 0 0 cfgW 4, .new 1 { cfgW with me := 1 }, disturb,
   .call 0 0 cfgW 5, .call 0 0 cfgW 3, .call 0 0 cfgW 3]

/-- A process that does not know the function object takes the decisions of the fresh user of `Store` (the in-memory
shortcut is the only difference between an object that lives on and a fresh one). -/
theorem checkPreviousObj_fresh (c : Cfg) (m : ProcMem) (g : Nat) (hk : m.knows g = false) (hl : c.legacy = false) :
    ((checkPreviousObj c m g).bind fun r => Prog.ret r.1) = checkPrevious c := by
  -- both sides are the same tree of calls; at each leaf they differ by the bracketing of `bind` only
  unfold checkPreviousObj checkPrevious
  simp only [hk, hl, Bool.false_eq_true, if_false, Prog.bind]
  congr 1; funext r            -- the result of `open`
  cases r <;> simp only [Prog.bind, Prog.bind_assoc]
  congr 1; funext r            -- the result of `read`
  cases r <;> simp only [Prog.bind]
  cases c.codec.checkCode c.ver _ <;> simp only [Prog.bind, Prog.bind_assoc]

/-- Witness (concrete history, evaluated): after ANOTHER object — of another process, so that nothing this process
remembers is reset — cleared the cache, cleared the function, evicted everything or evicted one entry, every call of
the first object still returns `f x`, recomputing exactly what was removed. -/
theorem object_history_witness :
    (history [] FS.empty (histW (.clear 1 { cfgW with me := 1 }))).drop 5
      = [.value ⟨0, 5, 0⟩ true, .value ⟨0, 3, 0⟩ true, .value ⟨0, 3, 0⟩ false] ∧
    (history [] FS.empty (histW (.fclear 1 1 { cfgW with me := 1 }))).drop 5
      = [.value ⟨0, 5, 0⟩ true, .value ⟨0, 3, 0⟩ true, .value ⟨0, 3, 0⟩ false] ∧
    (history [] FS.empty (histW (.reduce 1 { cfgW with me := 1 } [4, 3]))).drop 5
      = [.value ⟨0, 5, 0⟩ true, .value ⟨0, 3, 0⟩ true, .value ⟨0, 3, 0⟩ false] ∧
    (history [] FS.empty (histW (.iclear 1 { cfgW with me := 1 } 3))).drop 5
      = [.value ⟨0, 5, 0⟩ true, .value ⟨0, 3, 0⟩ true, .value ⟨0, 3, 0⟩ false] := by
  decide +kernel

end Objects

end C11
