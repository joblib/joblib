import JoblibProofs.Lemmas.FuncCode
import JoblibProofs.Lemmas.FuncCodeText
import JoblibProofs.Lemmas.FuncCodeFault
/-!
# C12 — a cached function never returns a value computed by different source code

Statement (properties.jsonl): after a cached function's definition changes — edited between
sessions, redefined under the same name in the same session, or its code object swapped — calls
run the new code rather than returning values cached by the old one, and a still-referenced older
definition keeps returning its own values.  Unchanged code keeps its cache across sessions.

Model: `JoblibModel.FuncCode` — one function identifier cached in ANY NUMBER of cache locations
(several `Memory` objects, on different directories or on the same one): the live function objects
of the current process (each with its current code object), the `MemorizedFunc` wrappers (each
belongs to one location — the string `store_backend.location` and the directory it denotes — and
has its cached source, `func_code_info`), the PROCESS-GLOBAL tables `_FUNCTION_HASHES` (keyed by
the function object alone) and `_FUNC_CODE_WRITERS` (keyed by the location string), and per
directory the on-disk `func_code.py` (missing / unreadable / readable-but-garbled / a source text)
and the entries stored beside it; `_check_previous_func_code`, `_write_func_code`, `clear`,
`Memory.clear` as the code has them.  What is compared on disk is the SOURCE TEXT only, exactly
(the `# first line:` comment is stripped; the line number serves the collision warnings).
`Cfg.fixed` is the code as it is in the tree (WITH fixes/F10-same-name-redefinition.diff and
fixes/F38-code-swap.diff); `{ Cfg.fixed with writerCheck := false }` is the tree before the F10
repair, `{ … infoIdUpdate := false }` the tree before the F38 repair, `{ … writerKeyHasLocation :=
false }` a seeded regression (`writer_key = self.func_id`), `Cfg.resolved` the tree with the
candidate repair fixes/F46-writer-key-realpath.diff.

Quantifier reached: EVERY history (any length) over {execute a `def`/`lambda` creating a new
function object with any source text, cached at any location; wrap a live function once more
(`memory.cache(f)` again) with a `Memory` object of ANY location — the same function object may be
cached at several; assign ANY code object to a live function's `__code__` (swap, swap back, any
number of times); call / `check_call_in_cache` any live wrapper with any argument;
`MemorizedFunc.clear`; `Memory.clear` of any location; TRUNCATE `func_code.py` of any location at
any point of the history (unreadable: cut right after the `# first line:` marker, before the first digit
of the line number, or inside a multi-byte character; garbled: cut anywhere else — `torn_reads` says what
each cut reads as; the text layer and these two classes are tied by this sentence only, no definition maps
a text to a `CodeFile`); start a fresh process}, every number of locations, live objects, wrappers and
versions, every value function `sem`.
Sessions are sequential.  Not in the model: two processes at once (C11), source texts that do not
determine the behaviour (closures / defaults differing at equal text — outside the domain of the
property), dead function objects leaving `_FUNCTION_HASHES` (weak references), one location string
denoting two directories in one process (a relative path and `os.chdir`).

TWO exclusions:
* `NoDelete`: `func_code.py` DELETED while entries remain (an interrupted `clear`, or a user): the
  code then takes the "first use" branch, writes the current source and keeps the entries — they
  are served to the edited function (`deleted_func_code_counterexample`, a known finding, F39).
* `Canonical` (F46; only for the tree as it is, not for `Cfg.resolved`): every directory is
  addressed under ONE spelling.  `_FUNC_CODE_WRITERS` is keyed by the location STRING: with
  `Memory(d)` and `Memory(d + "/.")` in one process the write of one does not pop the writer entry of
  the other, and the F10 failure is back (`aliased_location_counterexample`).  With the writer key
  resolved to the directory the theorem holds without this hypothesis
  (`value_from_own_version_resolved`).

The predicates of the statements (`Correct`, `AllCorrect`, `NoDelete`, `Canonical`, `NoDamageAt`, `QuietAt`, `Inv`;
`CorrectF`, `AllCorrectF`) are defined at the top of `Lemmas/FuncCode.lean` and `Lemmas/FuncCodeFault.lean`.
-/
namespace C12
open JoblibModel.FuncCode
open JoblibModel.FilterArgs (dget)

variable {R : Type}

/-- **Every call returns the value its own version computes — at every location.**  In every
history run from empty cache directories that never deletes a `func_code.py` and addresses every
directory under one spelling, every call through a live wrapper — of whatever `Memory` object, at
whatever location — whose function's current code object has source `k`, with argument `a`, returns
`sem k a` — whether the call was served from the cache or executed, whatever other versions of the
same-named function were defined, called, swapped in and out, cleared, at this location or at any
other, or whatever truncation any `func_code.py` suffered before, in this process or in earlier
ones (`Correct` at every step: `AllCorrect`). -/
theorem value_from_own_version (sem : Src → Nat → R) (ops : List Op) (hnd : ∀ op ∈ ops, NoDelete op)
    (hcan : ∀ op ∈ ops, Canonical op) :
    AllCorrect Cfg.fixed sem (init : State R) ops :=
  (exec_spec good_fixed ops _ (inv_init _ sem) hnd fun op h => keyOK_of_good good_fixed (hcan op h)).1

/-- The same from any state the repaired code can have produced (the invariant `Inv`). -/
theorem value_from_own_version_from (sem : Src → Nat → R) (st : State R) (hi : Inv Cfg.fixed sem st)
    (ops : List Op) (hnd : ∀ op ∈ ops, NoDelete op) (hcan : ∀ op ∈ ops, Canonical op) :
    AllCorrect Cfg.fixed sem st ops :=
  (exec_spec good_fixed ops st hi hnd fun op h => keyOK_of_good good_fixed (hcan op h)).1

/-- … and every reachable state has that invariant. -/
theorem reachable_inv (sem : Src → Nat → R) (ops : List Op) (hnd : ∀ op ∈ ops, NoDelete op)
    (hcan : ∀ op ∈ ops, Canonical op) :
    Inv Cfg.fixed sem (exec Cfg.fixed sem (init : State R) ops) :=
  (exec_spec good_fixed ops _ (inv_init _ sem) hnd fun op h => keyOK_of_good good_fixed (hcan op h)).2

/-- With the candidate repair of F46 (the writer key is the resolved directory) the first theorem
needs no hypothesis on how the directories are spelled. -/
theorem value_from_own_version_resolved (sem : Src → Nat → R) (ops : List Op)
    (hnd : ∀ op ∈ ops, NoDelete op) : AllCorrect Cfg.resolved sem (init : State R) ops :=
  (exec_spec good_resolved ops _ (inv_init _ sem) hnd fun op _ => keyOK_resolved op).1

/-- **Unchanged code keeps its cache, at every location.**  Fix a directory `d`.  Take any history
`pre` and `mid` in which every definition and every swapped-in code object has the one source text
`k` and nothing is cleared or damaged AT `d` (`QuietAt k d`: any number of re-executions of the same
`def`, further wrappers at any location, swaps between code objects of that text, fresh processes,
calls and checks with any arguments at any location — and, at OTHER locations, `Memory.clear()` and
truncated `func_code.py` files).  If a wrapper `w` at `d` is called with `a` after `pre`, then after
`mid` a call of ANY live wrapper `w'` at `d` (same process or a later one) with `a` is served from
the cache: the body is not executed, the value is `sem k a`, and no directory is written to. -/
theorem unchanged_code_keeps_cache (sem : Src → Nat → R) (k : Src) (d : Loc) (pre mid : List Op)
    (w w' : Nat) (a : Nat) (hpre : ∀ op ∈ pre, QuietAt k d op) (hmid : ∀ op ∈ mid, QuietAt k d op)
    (hlive : ∃ t, lookup (exec Cfg.fixed sem (init : State R) pre) w = some t ∧ t.dir = d)
    (hlive' : ∃ t, lookup (exec Cfg.fixed sem (init : State R) (pre ++ .call w a :: mid)) w' = some t ∧
      t.dir = d) :
    let st := exec Cfg.fixed sem (init : State R) (pre ++ .call w a :: mid)
    (step Cfg.fixed sem st (.call w' a)).1 = .value (sem k a) false ∧
      (step Cfg.fixed sem st (.call w' a)).2.disk = st.disk := by
  obtain ⟨t, hl, rfl⟩ := hlive
  obtain ⟨t', hl', hd'⟩ := hlive'
  obtain ⟨hi0, hs0, _⟩ := quiet_exec good_fixed (sem := sem) pre _ (inv_init _ sem) (allSrc_init k t.dir) hpre
  rw [exec_append] at hl' ⊢
  exact cache_kept good_fixed hi0 hs0 hl hmid hl' hd'

/-- The step-level fact behind it, from any state with the invariant: stored code of the wrapper's
location = the current code's source and the entry present there ⇒ hit, nothing executed, no
directory written to. -/
theorem hit_when_code_unchanged (sem : Src → Nat → R) (st : State R) (hi : Inv Cfg.fixed sem st)
    (w : Nat) (t : Target) (a : Nat) (r : R)
    (hl : lookup st w = some t) (hc : (dirAt st t.dir).code = .ok t.cur.2)
    (he : dget a (dirAt st t.dir).entries = some r) :
    (step Cfg.fixed sem st (.call w a)).1 = .value r false ∧
      (step Cfg.fixed sem st (.call w a)).2.disk = st.disk :=
  call_hit good_fixed hi hl hc he

/-- **Locations are independent.**  A step that works on another directory — a call, check or
`clear` through a wrapper of another location, `Memory.clear()` or a fault there — or on none
(definitions, wrappers, swaps, a fresh process) leaves directory `d` exactly as it was:
`func_code.py` and every entry.  For EVERY version of the code (`cfg` arbitrary) and every state. -/
theorem locations_independent (cfg : Cfg) (sem : Src → Nat → R) (st : State R) (op : Op) (d : Loc)
    (h : opDir st op ≠ some d) :
    (dirAt (step cfg sem st op).2 d).code = (dirAt st d).code ∧
      (dirAt (step cfg sem st op).2 d).entries = (dirAt st d).entries := by
  rw [step_frame cfg sem st op d h]; exact ⟨rfl, rfl⟩

/-- **The in-memory shortcut answers only for a directory that is this function's own** (the
invariant the F10 repair established, now per location).  In every reachable state, whenever the
`_FUNCTION_HASHES` / `_FUNC_CODE_WRITERS` branch of `_check_previous_func_code` answers True for a
live wrapper `w` — at whatever location `w` caches —, `func_code.py` of THAT location is present,
holds, if it still reads back as a source text at all (it may have been truncated since), the source
of `w`'s function's current code object, and every entry stored at that location is the value this
source computes. -/
theorem shortcut_implies_directory_is_own (sem : Src → Nat → R) (ops : List Op)
    (hnd : ∀ op ∈ ops, NoDelete op) (hcan : ∀ op ∈ ops, Canonical op) (w : Nat) (t : Target) :
    let st := exec Cfg.fixed sem (init : State R) ops
    lookup st w = some t → shortcut Cfg.fixed st t = true →
      (dirAt st t.dir).code ≠ .missing ∧ (∀ s, (dirAt st t.dir).code = .ok s → s = t.cur.2) ∧
        ∀ a r, dget a (dirAt st t.dir).entries = some r → r = sem t.cur.2 a := by
  intro st hl hs
  have hi := reachable_inv sem ops hnd hcan
  have hp := shortcut_post good_fixed hi (lookup_tok hi hl).2 hs
  exact ⟨hp.present, hp.code, hp.vals⟩

/-- … and when `func_code.py` of that location was not truncated in the history, it holds exactly
this function's own current source. -/
theorem shortcut_implies_stored_code_is_own (sem : Src → Nat → R) (ops : List Op)
    (hnd : ∀ op ∈ ops, NoDelete op) (hcan : ∀ op ∈ ops, Canonical op) (w : Nat) (t : Target)
    (hdam : ∀ op ∈ ops, NoDamageAt t.dir op) :
    let st := exec Cfg.fixed sem (init : State R) ops
    lookup st w = some t → shortcut Cfg.fixed st t = true →
      (dirAt st t.dir).code = .ok t.cur.2 := by
  intro st hl hs
  obtain ⟨h1, h2, _⟩ := shortcut_implies_directory_is_own sem ops hnd hcan w t hl hs
  rcases intact_exec Cfg.fixed sem t.dir ops _ (intact_init t.dir) hdam with hm | ⟨s, ho⟩
  · exact absurd hm h1
  · rw [ho, h2 s ho]

/-! ## Non-vacuity: a history with two live versions, swaps there and back, two wrappers of one
function, truncated `func_code.py`, a fresh process and a clear; then the same function object at
two locations, a `Memory.clear()` and a fault at one of them -/

/-- versions 1 and 2 of `f` return `(version, arg)` -/
def semEx : Src → Nat → Nat × Nat := fun k a => (k, a)

def histEx : List Op :=
  [.define 1 1 true 0, .call 1 7, .define 2 2 true 0, .call 2 7, .call 1 7, .check 2 7, .call 2 7,
   .swap 1 (2, 2), .call 1 7, .swap 1 (1, 1), .call 1 7, .wrap 5 1 0 0, .call 5 7,
   .damage 0 .unreadable, .call 2 7, .call 2 7, .fresh, .define 3 1 true 0, .damage 0 .other, .call 3 7,
   .clearFn 3, .call 3 7]

example : run Cfg.fixed semEx init histEx =
    [.done, .value (1, 7) true, .done, .value (2, 7) true, .value (1, 7) true, .flag false,
     .value (2, 7) true, .done, .value (2, 7) false, .done, .value (1, 7) true, .done, .value (1, 7) false,
     .done, .value (2, 7) true, .value (2, 7) false, .done, .done, .done, .value (1, 7) true, .done,
     .value (1, 7) true] := by decide +kernel

example : ∀ op ∈ histEx, NoDelete op := by decide +kernel
example : ∀ op ∈ histEx, Canonical op := by decide +kernel

/-- Function 1 (version 1) is cached at locations 0 and 1 (wrappers 1 and 5), function 2 (version 2)
at location 1 (wrapper 2); in the next process function 3 (version 1 again) at locations 0 and 1 (wrappers 3
and 6) and function 4 (version 2) at location 0 (wrapper 4).  Location 1 changes hands twice;
location 0 keeps version 1's entry through all of it, through `Memory.clear()` of location 1 and
through a truncated `func_code.py` there — until version 2 is called at location 0 as well. -/
def histMulti : List Op :=
  [.define 1 1 true 0, .wrap 5 1 1 1, .call 1 7, .call 5 7, .define 2 2 true 1, .call 2 7, .call 5 7,
   .call 1 7, .clearAll 1, .call 1 7, .call 5 7, .damage 1 .other, .call 5 7, .call 1 7, .fresh,
   .define 3 1 true 0, .call 3 7, .wrap 6 3 1 1, .call 6 7, .define 4 2 true 0, .call 4 7, .call 3 7,
   .call 6 7]

example : run Cfg.fixed semEx init histMulti =
    [.done, .done, .value (1, 7) true, .value (1, 7) true, .done, .value (2, 7) true, .value (1, 7) true,
     .value (1, 7) false, .done, .value (1, 7) false, .value (1, 7) true, .done, .value (1, 7) false,
     .value (1, 7) false, .done, .done, .value (1, 7) false, .done, .value (1, 7) true, .done,
     .value (2, 7) true, .value (1, 7) true, .value (1, 7) false] := by decide +kernel

example : ∀ op ∈ histMulti, NoDelete op := by decide +kernel
example : ∀ op ∈ histMulti, Canonical op := by decide +kernel

example : ∀ op ∈ [Op.define 1 5 true 0, .call 1 0, .swap 1 (9, 5), .wrap 4 1 1 1, .call 4 0, .clearAll 1,
    .damage 2 .other, .fresh, .define 2 5 true 1, .wrap 3 2 0 0, .check 3 0], QuietAt 5 0 op := by decide +kernel

/-- The shortcut does answer True in such histories (second call of wrapper 1), also for a function
object cached at two locations (wrapper 5, second call). -/
example :
    let st := exec Cfg.fixed semEx (init : State (Nat × Nat))
      [.define 1 1 true 0, .wrap 5 1 1 1, .call 1 7, .call 5 7]
    (lookup st 1).map (shortcut Cfg.fixed st) = some true ∧
      (lookup st 5).map (shortcut Cfg.fixed st) = some true := by decide +kernel

/-! ## the writer key without the location (a seeded regression) -/

/-- `writer_key = self.func_id`: version 1 is cached at location 1 (argument 3); the file is edited;
in the next session version 2 is called through a `Memory` at location 0, then through one at
location 1 — and is served version 1's value there: the writer slot filled at location 0 answers
for location 1, whose `func_code.py` is never read. -/
theorem writer_key_without_location_counterexample :
    run { Cfg.fixed with writerKeyHasLocation := false } semEx init
        [.define 1 1 true 1, .call 1 3, .fresh, .define 2 2 true 0, .wrap 5 2 1 1, .call 2 3, .call 5 3] =
      [.done, .value (1, 3) true, .done, .done, .done, .value (2, 3) true, .value (1, 3) false] := by
  decide +kernel

/-- The same in one process (the module re-imported: both definitions alive). -/
theorem writer_key_without_location_one_process_counterexample :
    run { Cfg.fixed with writerKeyHasLocation := false } semEx init
        [.define 1 1 true 1, .call 1 3, .define 2 2 true 0, .wrap 5 2 1 1, .call 2 3, .call 5 3] =
      [.done, .value (1, 3) true, .done, .done, .value (2, 3) true, .value (1, 3) false] := by
  decide +kernel

/-- The first theorem is false with that writer key. -/
theorem writer_key_without_location_value_from_own_version_false :
    ¬ ∀ ops : List Op, (∀ op ∈ ops, NoDelete op) → (∀ op ∈ ops, Canonical op) →
        AllCorrect { Cfg.fixed with writerKeyHasLocation := false } semEx (init : State (Nat × Nat)) ops := by
  intro h
  exact absurd (h [.define 1 1 true 1, .call 1 3, .fresh, .define 2 2 true 0, .wrap 5 2 1 1, .call 2 3,
    .call 5 3] (by decide +kernel) (by decide +kernel)) (by decide +kernel)

/-- The code as it is, on the two histories. -/
theorem fixed_on_the_writer_key_witnesses :
    run Cfg.fixed semEx init
        [.define 1 1 true 1, .call 1 3, .fresh, .define 2 2 true 0, .wrap 5 2 1 1, .call 2 3, .call 5 3] =
      [.done, .value (1, 3) true, .done, .done, .done, .value (2, 3) true, .value (2, 3) true] ∧
    run Cfg.fixed semEx init
        [.define 1 1 true 1, .call 1 3, .define 2 2 true 0, .wrap 5 2 1 1, .call 2 3, .call 5 3] =
      [.done, .value (1, 3) true, .done, .done, .value (2, 3) true, .value (2, 3) true] := by
  decide +kernel

/-! ## F46 — one directory under two spellings (the tree as it is) -/

/-- F46: `Memory(d)` and `Memory(d + "/.")` (location strings 1 and 9 of directory 1).  Version 1 is
cached through the first, the same-named version 2 through the second; the calls
`c1(1), c2(1), c1(1)` return `(1,1), (2,1), (2,1)`: version 2's write popped the writer entry of
string 9, not that of string 1, so version 1's shortcut still answers True — F10 again. -/
theorem aliased_location_counterexample :
    run Cfg.fixed semEx init
        [.define 1 1 true 1, .define 2 2 true 7, .wrap 5 2 9 1, .call 1 1, .call 5 1, .call 1 1] =
      [.done, .done, .done, .value (1, 1) true, .value (2, 1) true, .value (2, 1) false] := by
  decide +kernel

/-- Without `Canonical` the first theorem is false of the tree as it is. -/
theorem aliased_location_value_from_own_version_false :
    ¬ ∀ ops : List Op, (∀ op ∈ ops, NoDelete op) →
        AllCorrect Cfg.fixed semEx (init : State (Nat × Nat)) ops := by
  intro h
  exact absurd (h [.define 1 1 true 1, .define 2 2 true 7, .wrap 5 2 9 1, .call 1 1, .call 5 1, .call 1 1]
    (by decide +kernel)) (by decide +kernel)

/-- With the writer key resolved to the directory (the candidate repair) the same history is right. -/
theorem resolved_on_the_aliased_witness :
    run Cfg.resolved semEx init
        [.define 1 1 true 1, .define 2 2 true 7, .wrap 5 2 9 1, .call 1 1, .call 5 1, .call 1 1] =
      [.done, .done, .done, .value (1, 1) true, .value (2, 1) true, .value (1, 1) true] := by
  decide +kernel

/-! ## F38 — `func_code_info` before the repair -/

/-- The tree before the F38 repair. -/
def cfgF38 : Cfg := { Cfg.fixed with infoIdUpdate := false }

/-- The tree before the F10 repair. -/
def cfgF10 : Cfg := { Cfg.fixed with writerCheck := false }

/-- F38: `f.__code__ = A.__code__; cf(0)`, `f.__code__ = B.__code__; cf(0)`,
`f.__code__ = A.__code__; cf(0)` returns B's value the third time: `_func_code_id` keeps the first
code object ever seen (A's), so after the swap back the cached source (B's, read at the second
call) is not refreshed, matches the stored code and B's entry is served. -/
theorem old_F38_counterexample :
    run cfgF38 semEx init
        [.define 1 9 true 0, .swap 1 (100, 1), .call 1 0, .swap 1 (101, 2), .call 1 0,
         .swap 1 (100, 1), .call 1 0] =
      [.done, .done, .value (1, 0) true, .done, .value (2, 0) true, .done, .value (2, 0) false] := by
  decide +kernel

/-- The same through two wrappers of one function: wrapper 1 goes A, B, back to A; after a
`Memory.clear()` it writes its STALE cached source (B's) into `func_code.py` while the function runs
A's code and stores A's value; the function then gets B's code again and wrapper 2 (whose own cache
is right) finds "its" source on disk and is served A's value. -/
theorem old_F38_two_wrappers_counterexample :
    run cfgF38 semEx init
        [.define 1 1 true 0, .wrap 2 1 0 0, .call 1 0, .swap 1 (101, 2), .call 1 0, .swap 1 (1, 1),
         .clearAll 0, .call 1 0, .swap 1 (101, 2), .call 2 0] =
      [.done, .done, .value (1, 0) true, .done, .value (2, 0) true, .done, .done, .value (1, 0) true,
       .done, .value (1, 0) false] := by
  decide +kernel

/-- The first theorem is false of the tree before the F38 repair. -/
theorem old_F38_value_from_own_version_false :
    ¬ ∀ ops : List Op, (∀ op ∈ ops, NoDelete op) → (∀ op ∈ ops, Canonical op) →
        AllCorrect cfgF38 semEx (init : State (Nat × Nat)) ops := by
  intro h
  exact absurd (h [.define 1 9 true 0, .swap 1 (100, 1), .call 1 0, .swap 1 (101, 2), .call 1 0,
    .swap 1 (100, 1), .call 1 0] (by decide +kernel) (by decide +kernel)) (by decide +kernel)

/-- The repaired code on the two histories. -/
theorem fixed_on_the_F38_witnesses :
    run Cfg.fixed semEx init
        [.define 1 9 true 0, .swap 1 (100, 1), .call 1 0, .swap 1 (101, 2), .call 1 0,
         .swap 1 (100, 1), .call 1 0] =
      [.done, .done, .value (1, 0) true, .done, .value (2, 0) true, .done, .value (1, 0) true] ∧
    run Cfg.fixed semEx init
        [.define 1 1 true 0, .wrap 2 1 0 0, .call 1 0, .swap 1 (101, 2), .call 1 0, .swap 1 (1, 1),
         .clearAll 0, .call 1 0, .swap 1 (101, 2), .call 2 0] =
      [.done, .done, .value (1, 0) true, .done, .value (2, 0) true, .done, .done, .value (1, 0) true,
       .done, .value (2, 0) true] := by
  decide +kernel

/-! ## `func_code.py` deleted while entries remain (known finding) -/

/-- Version 1 caches arguments 0 and 1; `func_code.py` is deleted; in a fresh process the EDITED
function (version 2) is called with both: the first call takes the "no func_code.py" branch (writes
the new source, recomputes), the second is then served version 1's value. -/
theorem deleted_func_code_counterexample :
    run Cfg.fixed semEx init
        [.define 1 1 true 0, .call 1 0, .call 1 1, .damage 0 .delete, .fresh, .define 2 2 true 0,
         .call 2 0, .call 2 1] =
      [.done, .value (1, 0) true, .value (1, 1) true, .done, .done, .done, .value (2, 0) true,
       .value (1, 1) false] := by
  decide +kernel

/-- A truncated (unreadable or garbled) file in the same place is handled: everything is recomputed. -/
theorem truncated_func_code_witness :
    run Cfg.fixed semEx init
        [.define 1 1 true 0, .call 1 0, .call 1 1, .damage 0 .unreadable, .fresh, .define 2 2 true 0,
         .call 2 0, .call 2 1] =
      [.done, .value (1, 0) true, .value (1, 1) true, .done, .done, .done, .value (2, 0) true,
       .value (2, 1) true] ∧
    run Cfg.fixed semEx init
        [.define 1 1 true 0, .call 1 0, .call 1 1, .damage 0 .other, .fresh, .define 2 2 true 0,
         .call 2 0, .call 2 1] =
      [.done, .value (1, 0) true, .value (1, 1) true, .done, .done, .done, .value (2, 0) true,
       .value (2, 1) true] := by
  decide +kernel

/-! ## Transient faults on the WRITE of `func_code.py` (`JoblibModel.FuncCodeFault`)

`open(func_code.py, "wb")` or the `write` after it raises (`EMFILE`, `ENOSPC`, `EACCES`, …) during any call,
`check_call_in_cache` or `MemorizedFunc.clear`, any number of times in a history, while every other write
succeeds.  The code as it is lets the `OSError` reach the caller BEFORE the function is executed and before
anything is stored.  F39 (`deleted_func_code_counterexample`) is about a `func_code.py` somebody DELETED; the
theorems here say that the code itself never makes that state, faults on its own writes included. -/

/-- **Every value that is returned is the own version's, write faults included.**  In every history — with
any operation run while the write of `func_code.py` fails on `open` or on `write` — that never deletes a
`func_code.py` and addresses every directory under one spelling: only a faulted operation raises, and every
call that returns, returns the value its function's current code computes. -/
theorem value_from_own_version_with_write_faults (sem : Src → Nat → R) (ops : List FOp)
    (hnd : ∀ op ∈ ops, NoDelete op.op) (hcan : ∀ op ∈ ops, Canonical op.op) :
    AllCorrectF Cfg.fixed false sem (init : State R) ops :=
  (execF_spec good_fixed ops _ (inv_init _ sem) hnd fun op h => keyOK_of_good good_fixed (hcan op h)).1

/-- **Entries exist in a function directory only beside the code that computed them.**  After every such
history, in every cache directory: no `func_code.py` ⇒ no entry; and when `func_code.py` holds a source text,
every entry beside it is the value THAT source computes.  (A failing write of `func_code.py` leaves the
directory without entries: it was missing-and-empty, or `clear_path` had just emptied it, and the exception
leaves `_cached_call` before the function runs.) -/
theorem entries_only_beside_their_code (sem : Src → Nat → R) (ops : List FOp)
    (hnd : ∀ op ∈ ops, NoDelete op.op) (hcan : ∀ op ∈ ops, Canonical op.op) (d : Loc) :
    let st := execF Cfg.fixed false sem (init : State R) ops
    ((dirAt st d).code = .missing → (dirAt st d).entries = []) ∧
      ∀ s, (dirAt st d).code = .ok s → ∀ a r, dget a (dirAt st d).entries = some r → r = sem s a := by
  intro st
  have hi : Inv Cfg.fixed sem st :=
    (execF_spec good_fixed ops _ (inv_init _ sem) hnd fun op h => keyOK_of_good good_fixed (hcan op h)).2
  exact ⟨fun h => ((hi.dirs d).missing h).1, (hi.dirs d).stored⟩

/-- A faulted operation either raises or is the plain operation (the fault did not fire: no `func_code.py`
was to be written) — for every version of the in-memory tables (`cfg` arbitrary). -/
theorem write_fault_raises_or_is_plain (cfg : Cfg) (sem : Src → Nat → R) (st : State R) (f : WriteFault) (op : Op) :
    (stepF cfg false sem st (.faulty f op)).1 = .raised ∨
      stepF cfg false sem st (.faulty f op) = (.out (step cfg sem st op).1, (step cfg sem st op).2) :=
  (stepF_faulty_cases cfg sem st f op).elim .inr fun ⟨_, _, _, h, _⟩ => .inl h

/-- The history of the regression: version 1's first call meets `EMFILE` on `open(func_code.py)`; the call is
repeated, arguments 1 and 2 are cached; the function is edited; the next session calls all three. -/
def histWriteFault : List FOp :=
  [.plain (.define 1 1 true 0), .faulty .onOpen (.call 1 0), .plain (.call 1 0), .plain (.call 1 1),
   .plain (.call 1 2), .plain .fresh, .plain (.define 2 2 true 0), .plain (.call 2 0), .plain (.call 2 1),
   .plain (.call 2 2)]

/-- A seeded regression: `store_cached_func_code` swallows the failing write.  The faulted call goes on,
registers the function in the in-memory tables and stores its result — in a directory WITHOUT `func_code.py`;
so do the following calls (the shortcut answers).  After the edit the next session takes the "no
func_code.py" branch for its first call (writes the new source, recomputes that argument only) and serves
version 1's values for the other arguments. -/
theorem swallowed_write_error_counterexample :
    runF Cfg.fixed true semEx init histWriteFault =
      [.out .done, .out (.value (1, 0) true), .out (.value (1, 0) false), .out (.value (1, 1) true),
       .out (.value (1, 2) true), .out .done, .out .done, .out (.value (2, 0) true),
       .out (.value (1, 1) false), .out (.value (1, 2) false)] := by
  decide +kernel

/-- … the state it creates by itself: entries without `func_code.py`. -/
theorem swallowed_write_error_entries_without_code :
    let st := execF Cfg.fixed true semEx (init : State (Nat × Nat)) (histWriteFault.take 5)
    (dirAt st 0).code = .missing ∧ (dirAt st 0).entries.length = 3 := by
  decide +kernel

/-- The theorem with write faults is false once the failing write is swallowed. -/
theorem swallowed_write_error_value_from_own_version_false :
    ¬ ∀ ops : List FOp, (∀ op ∈ ops, NoDelete op.op) → (∀ op ∈ ops, Canonical op.op) →
        AllCorrectF Cfg.fixed true semEx (init : State (Nat × Nat)) ops := by
  intro h
  exact absurd (h histWriteFault (by decide +kernel) (by decide +kernel)) (by decide +kernel)

/-- The code as it is on the same history (the faulted call raises, its repetition writes the code first),
and with the fault on `write` (an empty file is left: the repetition clears and rewrites), and with the fault
met by the EDITED function's first call (after `clear_path`) and by `MemorizedFunc.clear`. -/
theorem fixed_on_the_write_fault_witnesses :
    runF Cfg.fixed false semEx init histWriteFault =
      [.out .done, .raised, .out (.value (1, 0) true), .out (.value (1, 1) true),
       .out (.value (1, 2) true), .out .done, .out .done, .out (.value (2, 0) true),
       .out (.value (2, 1) true), .out (.value (2, 2) true)] ∧
    runF Cfg.fixed false semEx init
        [.plain (.define 1 1 true 0), .faulty .onWrite (.call 1 0), .plain (.call 1 0), .plain (.call 1 1),
         .plain .fresh, .plain (.define 2 2 true 0), .faulty .onOpen (.call 2 1), .plain (.call 2 1),
         .plain (.call 2 0), .faulty .onWrite (.clearFn 2), .plain (.call 2 0), .faulty .onOpen (.call 2 0)] =
      [.out .done, .raised, .out (.value (1, 0) true), .out (.value (1, 1) true), .out .done, .out .done,
       .raised, .out (.value (2, 1) true), .out (.value (2, 0) true), .raised, .out (.value (2, 0) true),
       .out (.value (2, 0) false)] := by
  decide +kernel

example : ∀ op ∈ histWriteFault, NoDelete op.op := by decide +kernel
example : ∀ op ∈ histWriteFault, Canonical op.op := by decide +kernel

/-! ## F10 — the tree before fixes/F10-same-name-redefinition.diff -/

/-- F10: `f` v1 is defined and cached, `f` v2 is defined under the same name and cached; the calls
`c1(1), c2(1), c1(1)` return `(1,1), (2,1), (2,1)`: the third call is answered by the
`_FUNCTION_HASHES` shortcut with the entry version 2 stored. -/
theorem old_F10_counterexample :
    run cfgF10 semEx init [.define 1 1 true 0, .define 2 2 true 0, .call 1 1, .call 2 1, .call 1 1] =
      [.done, .done, .value (1, 1) true, .value (2, 1) true, .value (2, 1) false] := by decide +kernel

/-- The first theorem is false of that tree. -/
theorem old_value_from_own_version_false :
    ¬ ∀ ops : List Op, (∀ op ∈ ops, NoDelete op) → (∀ op ∈ ops, Canonical op) →
        AllCorrect cfgF10 semEx (init : State (Nat × Nat)) ops := by
  intro h
  exact absurd (h [.define 1 1 true 0, .define 2 2 true 0, .call 1 1, .call 2 1, .call 1 1] (by decide +kernel)
    (by decide +kernel)) (by decide +kernel)

/-- A second shape of F10 (through `check_call_in_cache`). -/
theorem old_F10_check_counterexample :
    run cfgF10 semEx init
        [.define 1 1 true 0, .define 2 2 true 0, .call 1 1, .check 2 1, .call 1 1, .call 2 1] =
      [.done, .done, .value (1, 1) true, .flag false, .value (1, 1) true, .value (1, 1) false] := by
  decide +kernel

/-- The repaired code on the same two histories. -/
theorem fixed_on_the_witnesses :
    run Cfg.fixed semEx init [.define 1 1 true 0, .define 2 2 true 0, .call 1 1, .call 2 1, .call 1 1] =
      [.done, .done, .value (1, 1) true, .value (2, 1) true, .value (1, 1) true] ∧
    run Cfg.fixed semEx init
        [.define 1 1 true 0, .define 2 2 true 0, .call 1 1, .check 2 1, .call 1 1, .call 2 1] =
      [.done, .done, .value (1, 1) true, .flag false, .value (1, 1) true, .value (2, 1) true] := by
  decide +kernel

/-! ## The TEXT layer of `func_code.py` (`JoblibModel.FuncCodeText`)

The theorems above treat the stored source as a token and a damaged file as a class. This section is about the
characters: `_write_func_code`'s format string, `extract_first_line`'s parse (`startswith`, `split("\n")`, `int`,
`"\n".join`), and the comparison `old_func_code == func_code`, for every source text and every line number; a torn
file is any strict prefix. (UTF-8 is a parameter: a byte prefix decodes to a code-point prefix or raises
`UnicodeDecodeError`, which is a `ValueError` — case 2 of `torn_reads`.) Tied to `/repo` by the `text` stream of the
check: the real `_write_func_code` / `extract_first_line` on generated texts, intact and cut at every length. -/
section Text
open JoblibModel.FuncCodeText
theorem firstLine_no_nl : NL ∉ firstLineText := by decide +kernel

private theorem head_no_nl (n : Int) : NL ∉ firstLineText ++ SP :: showInt n := by
  intro h
  rcases List.mem_append.1 h with h | h
  · exact firstLine_no_nl h
  · exact (field_chars n _ h).2 rfl

/-- ROUND TRIP of the text layer: what `_write_func_code` writes for (`first_line`, `func_code`) is read back by
`extract_first_line` as exactly (`func_code`, `first_line`) — for EVERY source text (any characters, including
lines that themselves start with `# first line:`, `\r`, empty source) and every line number (negative ones
included: `-1` is what joblib stores when the line is unknown). -/
theorem extract_write_roundtrip (first_line : Int) (func_code : Text) (hl : (showInt first_line).length < 4000) :
    extractFirstLine (writeText first_line func_code) = .ok (func_code, first_line) := by
  rw [writeText_eq, extractFirstLine_head _ _ (head_no_nl first_line) (by simp), (pyInt_showInt first_line hl).1]
  rfl

private theorem isPrefixOf_short (a p : Text) (h : p.length < a.length) : a.isPrefixOf p = false :=
  Bool.eq_false_iff.mpr fun hp => Nat.not_lt.mpr (List.isPrefixOf_iff_prefix.mp hp).length_le h

/-- WHAT A TORN `func_code.py` READS AS.  The writer is killed inside its single `write`: the file holds the first
`k` characters of what `_write_func_code` meant to write (`k` smaller than the full length).  Then
`extract_first_line` does exactly one of four things, whatever the source and the line number:
(1) `k` is inside the marker `# first line:` — the text is returned whole with line `-1`;
(2) `ValueError` (the number is missing: `int('')`, `int(' ')`, `int(' -')`) — caught by
    `_check_previous_func_code` (its `except ValueError` branch), which clears the function's directory;
(3) the text ends inside the first line after at least one digit — EMPTY source, a truncated line number;
(4) the text ends inside the source — a STRICT prefix of the source, the right line number.
The model never abstains here. -/
theorem torn_reads (first_line : Int) (func_code : Text) (hl : (showInt first_line).length < 3999) (k : Nat)
    (hk : k < (writeText first_line func_code).length) :
    let p := (writeText first_line func_code).take k
    (p.length < firstLineText.length ∧ p = firstLineText.take k ∧ extractFirstLine p = .ok (p, -1))
    ∨ extractFirstLine p = .valueError
    ∨ (∃ m, extractFirstLine p = .ok ([], m))
    ∨ (∃ j, j < func_code.length ∧ extractFirstLine p = .ok (func_code.take j, first_line)) := by
  intro p
  have hW := writeText_eq first_line func_code
  rw [hW] at hk
  -- the cut falls inside the marker, inside " <number>", or inside the source
  rcases take_three _ _ _ _ k hk with ⟨h1, hp⟩ | ⟨j, hj, hp⟩ | ⟨j, hj, hp⟩ <;>
    replace hp : p = _ := (congrArg (List.take k) hW).trans hp
  · have hlen : p.length < firstLineText.length := by rw [hp, List.length_take]; omega
    exact .inl ⟨hlen, hp, extractFirstLine_of_not_prefix (isPrefixOf_short _ _ hlen)⟩
  · have hpn : NL ∉ firstLineText ++ (SP :: showInt first_line).take j := fun h =>
      head_no_nl first_line (List.mem_append.2 ((List.mem_append.1 h).imp_right List.mem_of_mem_take))
    have hany : ∀ c ∈ (SP :: showInt first_line).take j, c < 128 := fun c hc =>
      (field_chars first_line c (List.mem_of_mem_take hc)).1
    have hql : ¬ 4000 < ((SP :: showInt first_line).take j).length := by rw [List.length_take]; simp; omega
    rw [hp, ← List.append_nil (_ ++ _), extractFirstLine_head _ _ hpn (by simp)]
    rcases pyInt_tracked _ hany hql with h | ⟨m, h⟩ <;> rw [h]
    · exact .inr (.inl rfl)
    · exact .inr (.inr (.inl ⟨m, rfl⟩))
  · -- the intact file of a prefix of the source
    rw [hp, ← writeText_eq, extract_write_roundtrip first_line _ (by omega)]
    exact .inr (.inr (.inr ⟨j, hj, rfl⟩))

/-- An INTACT `func_code.py` compares `same` with the live source iff the two sources are equal, character for
character; it is never `unreadable`. -/
theorem intact_same_iff (first_line : Int) (stored live : Text) (hl : (showInt first_line).length < 4000) :
    (compareStored (writeText first_line stored) live = .same ↔ stored = live) ∧
    (compareStored (writeText first_line stored) live = .changed ↔ stored ≠ live) := by
  unfold compareStored
  rw [extract_write_roundtrip first_line stored hl]
  by_cases h : stored = live <;> simp [h]

/-- A TORN `func_code.py` is never taken for the code of a different version, except in the one way a prefix can:
if the comparison of `_check_previous_func_code` says `same` for a live source `live`, then `live` is a STRICT
PREFIX of the source that was being written (cases 4), or empty (case 3), or a strict prefix of the marker (case 1).
In particular it never says `same` for the source that was being written itself unless that source is empty or a
fragment of the marker — and a real function source is neither (it contains `def` or `lambda`). -/
theorem torn_same_only_for_prefix (first_line : Int) (func_code live : Text) (hl : (showInt first_line).length < 3999)
    (k : Nat) (hk : k < (writeText first_line func_code).length)
    (h : compareStored ((writeText first_line func_code).take k) live = .same) :
    (∃ j, j < func_code.length ∧ live = func_code.take j) ∨ live = [] ∨
    (live.length < firstLineText.length ∧ live = firstLineText.take k) := by
  obtain ⟨m, hm⟩ := (compareStored_same_iff _ _).mp h
  rcases torn_reads first_line func_code hl k hk with ⟨h1, h2, h3⟩ | h1 | ⟨m', h1⟩ | ⟨j, hj, h1⟩
  · cases hm.symm.trans h3; exact .inr (.inr ⟨h1, h2⟩)
  · cases hm.symm.trans h1
  · cases hm.symm.trans h1; exact .inr (.inl rfl)
  · cases hm.symm.trans h1; exact .inl ⟨j, hj, rfl⟩

/-- On a torn file the model of `int()` never abstains: the comparison always has an answer. -/
theorem torn_never_untracked (first_line : Int) (func_code live : Text) (hl : (showInt first_line).length < 3999)
    (k : Nat) (hk : k < (writeText first_line func_code).length) :
    compareStored ((writeText first_line func_code).take k) live ≠ .untracked := by
  intro h
  rw [compareStored_untracked_iff] at h
  rcases torn_reads first_line func_code hl k hk with ⟨_, _, h1⟩ | h1 | ⟨m, h1⟩ | ⟨j, _, h1⟩ <;>
    cases h.symm.trans h1

/-- The residue is real (not a weakness of the proof): a writer of `def f():\n  return 12` killed after
`…return 1` leaves a file that a process whose `f` is `def f():\n  return 1` reads as its own code. (No entry can be
in the directory at that point: `func_code.py` is written into an empty function directory — `clear_path` has just
run, or there was no `func_code.py` and so, `CellInv.missing`, no entry. `Damage` has no class for this outcome.) -/
theorem torn_prefix_version_witness :
    let long : Text := [100, 101, 102, 32, 102, 40, 41, 58, 10, 32, 32, 114, 101, 116, 117, 114, 110, 32, 49, 50]
    let short : Text := long.take 19
    compareStored ((writeText 7 long).take ((writeText 7 long).length - 1)) short = .same := by
  decide +kernel

/-! Non-vacuity: the length hypothesis holds for the line numbers below 3990; the four cases of `torn_reads` all occur. -/
theorem showNat_length_le (n : Nat) : (showNat n).length ≤ n + 1 := by
  fun_induction showNat n with
  | case1 n h => simp
  | case2 n h ih => simp; omega
theorem showInt_length_lt (n : Int) (h : n.natAbs < 3990) : (showInt n).length < 3999 := by
  cases n with
  | ofNat k => have := showNat_length_le k; simp [showInt] at h ⊢; omega
  | negSucc k => have := showNat_length_le (k + 1); simp [showInt] at h ⊢; omega
example : extractFirstLine ((writeText 12 [100, 101, 102]).take 5) = .ok ([35, 32, 102, 105, 114], -1) := by
  decide +kernel
example : extractFirstLine ((writeText 12 [100, 101, 102]).take 14) = .valueError := by
  decide +kernel
example : extractFirstLine ((writeText 12 [100, 101, 102]).take 15) = .ok ([], 1) := by
  decide +kernel
example : extractFirstLine ((writeText 12 [100, 101, 102]).take 19) = .ok ([100, 101], 12) := by
  decide +kernel

end Text

end C12
