import JoblibProofs.Lemmas.MemoryCache
/-!
# C02 — a Memory-cached function never returns a value belonging to other arguments

Statement (properties.jsonl): a function wrapped by `Memory.cache` always returns a value equal to
what the undecorated function returns for the same arguments, over any history of calls mixing
positional, keyword and defaulted argument forms, cache hits and misses, compression settings and
shelved references (`call_and_shelve(...).get()`).  In particular two calls whose bound argument
values differ outside the ignore list never share a cached result.

Model: `JoblibModel.MemoryCache` — `argsId = H (encode H (embed E (filter_args …)))` composes the
model of `filter_args` (C07) with the model of the `Hasher` stream (C08); the store is a finite map
`(func id, args id) ↦ value`; `step` transcribes `_cached_call`, `call_and_shelve`,
`MemorizedResult.get`, `MemorizedFunc.call`, `check_call_in_cache`, `clear`, `Memory.clear`,
eviction (`reduce_size` / `clear_item`).  The predicates of the statements that the models do not define, and the example
data, are in `Lemmas/MemoryCache.lean`.  Compression is not a parameter of the logic (it only changes the bytes of
`output.pkl`; `load(dump(v)) = v` is C03's contract).

Quantifier reached: signatures of ANY length and kind mix (`WF`), plain / `async def` functions,
bound methods and `functools.partial` objects, any ignore list, any valuation of the argument
values into the universe of C08 (any nesting), EVERY history (any length) of calls, shelved gets,
forced calls, checks, clears, evictions and fresh processes, any number of cached functions sharing
the directory, every answer of a validation callback.

Hypotheses (each satisfiable, see the `example`s at the end):
* `NamesOK E` — identifiers are distinct strings, none is `*` / `**`;
* `Hashable H (embed E d)` for the argument dict `d` of every call of the history — the values are
  hashed WITHOUT the digest fallback (C08's `Plain`) and with < 2^32 memoised objects;
* `NoCollisionOn H (streams of the history)` — the digest has no collision AMONG THE FINITELY MANY
  KEYS OF THE HISTORY (`H` is NOT assumed injective: md5 is not);
* `Respects E fn` — the RESULT of the function is a pure function of its arguments as passed and
  ignores the ignored ones (what the function does TO its arguments in place, `Fn.effect`, is
  unconstrained: "the same arguments" are the arguments as passed);
* one cached callable per function identifier (two functions under one identifier: C12; all
  `functools.partial` objects share one identifier — `shared_function_id_stale_reference_counterexample`).

FULL STATEMENT: the same for ALL argument values of the universe.  It is FALSE on the
digest-fallback path: by F12 (C08, a known finding) a set / dict with mutually unorderable keys and
the container of its keys' own digests are hashed to one stream, so the second call is served the
first call's value — `fallback_collision_counterexample` below.  What is proved are the
`…_partial` theorems: the full statement for histories whose argument dicts are `Hashable`.
The composition is C07 ∘ C08: `sameValue_embed_iff_agree` uses `core_eq_bind` (the lemma behind
`C07.filterArgs_eq_bind` / `filterArgsMethod_eq_bind`, so that bound methods and ignore lists are
covered) and `encode_inj` (the lemma behind `C08.encode_injective_partial`).
-/
namespace C02
open JoblibModel.FilterArgs JoblibModel.MemoryCache
-- `Version` and `step` are the cache's here; the encoder and its decoder have their own of both names
open JoblibModel.HashStream hiding Version step

variable {R : Type}

/-- **Soundness of the key.**  Two calls of one function (or bound method) that Python accepts and
that get the same key bind the same Python values outside the ignore list (`AgreeOutside`: same
parameters; under every non-ignored parameter, values with equal canonical listings).  `H` is only
assumed collision-free on the two streams at hand. -/
theorem key_sound_partial (H : Bs → Bs) (E : Env) (cal : Callable) (ig : List Key) (c₁ c₂ : Call)
    (d₁ d₂ : Dict) (b₁ b₂ : List (Nat × Val)) (hn : NamesOK E) (hf : FuncLike cal)
    (hc₁ : CallWF c₁) (hc₂ : CallWF c₂)
    (hd₁ : argDict cal ig c₁ = .ok d₁) (hd₂ : argDict cal ig c₂ = .ok d₂)
    (hb₁ : bindOf cal c₁ = .ok b₁) (hb₂ : bindOf cal c₂ = .ok b₂)
    (hh₁ : Hashable H (embed E d₁)) (hh₂ : Hashable H (embed E d₂))
    (hH : NoCollisionOn H [stream H E d₁, stream H E d₂])
    (hk : argsId H E cal ig c₁ = argsId H E cal ig c₂) : AgreeOutside E cal.sig ig b₁ b₂ := by
  rw [argsId_ok hd₁, argsId_ok hd₂, Except.ok.injEq] at hk
  exact (sameValue_embed_iff_agree hn hf ⟨hc₁, hd₁, hb₁⟩ ⟨hc₂, hd₂, hb₂⟩).mp (canon_eq_of_stream_eq hh₁ hh₂
    (hH _ List.mem_cons_self _ (List.mem_cons_of_mem _ List.mem_cons_self) hk))

/-- The same for `functools.partial` objects (and every callable `filter_args` does not inspect):
equal keys ⇒ the raw positional tuples and keyword dicts are the same Python values. -/
theorem key_sound_nonfunction_partial (H : Bs → Bs) (E : Env) (s : Sig) (pa : List Nat)
    (pk : List (Nat × Nat)) (ig : List Key) (c₁ c₂ : Call) (hn : NamesOK E)
    (hh₁ : Hashable H (embed E [(.star, .seq c₁.args), (.dstar, .map c₁.kwargs)]))
    (hh₂ : Hashable H (embed E [(.star, .seq c₂.args), (.dstar, .map c₂.kwargs)]))
    (hH : NoCollisionOn H [stream H E [(.star, .seq c₁.args), (.dstar, .map c₁.kwargs)],
      stream H E [(.star, .seq c₂.args), (.dstar, .map c₂.kwargs)]])
    (hk : argsId H E (.part s pa pk) ig c₁ = argsId H E (.part s pa pk) ig c₂) : RawAgree E c₁ c₂ := by
  simp only [argsId, argDict, Except.ok.injEq] at hk
  exact rawAgree_of_canon_eq hn (canon_eq_of_stream_eq hh₁ hh₂
    (hH _ List.mem_cons_self _ (List.mem_cons_of_mem _ List.mem_cons_self) hk))

/-- The general form: from ANY store that satisfies the invariant `StoreOK` — the empty cache directory, or one
left by an earlier history over the same universe `U` of calls (`exec_induction` over `storeOK_change`) — every step of
every history over `U` is `Correct`: every step keeps the invariant, and a value it hands back was read from the store or
has just been computed (`step_spec`). -/
theorem cached_call_correct_from_partial (ver : JoblibModel.MemoryCache.Version) (H : Bs → Bs) (E : Env)
    (U : List (Fn R × Call)) (hu : UnivOK H E U) (st : St R) (hst : StoreOK H E U st.entries)
    (ops : List (Op R)) (hsub : ∀ p ∈ callsOf ops, p ∈ U) : AllCorrect ver H E st ops := by
  induction ops generalizing st with
  | nil => trivial
  | cons op ops ih =>
    obtain ⟨h1, h2⟩ := step_spec (ver := ver) hu hst op fun p hp =>
      hsub p (mem_callsOf List.mem_cons_self hp)
    exact ⟨h2, ih _ h1 fun p hp => hsub p (((List.sublist_cons_self op ops).filterMap _).subset hp)⟩

/-- **Every value handed back is the plain function's.**  For EVERY history `ops` run against one
(initially empty) cache directory — calls, `call_and_shelve`, `.get()` on shelved references, forced
calls, `check_call_in_cache`, `MemorizedFunc.clear`, `Memory.clear`, evictions, fresh processes, with
any number of cached functions and any validation-callback answers — every value returned by a
call, a forced call or a `.get()` whose arguments Python accepts equals `fn.body (bindOf fn.cal c)`:
what the undecorated function returns for those arguments AS PASSED (`Correct` at every step; the
functions may do anything to their arguments in place: `Fn.effect` is unconstrained).  It holds for
both versions of the code (`ver`: with and without the F30 repair of `MemorizedFunc.call`, which
changes how often the function runs, not what is returned). -/
theorem cached_call_correct_partial (ver : JoblibModel.MemoryCache.Version) (H : Bs → Bs) (E : Env) (ops : List (Op R))
    (hu : UnivOK H E (callsOf ops)) : AllCorrect ver H E (St.empty : St R) ops :=
  cached_call_correct_from_partial ver H E _ hu St.empty (storeOK_nil H E _) ops fun _ h => h

/-- "Two calls whose bound argument values differ outside the ignore list never share a cached
result": if two calls of the history are filed under one entry, their arguments are the same. -/
theorem shared_entry_same_args_partial (H : Bs → Bs) (E : Env) (U : List (Fn R × Call))
    (hu : UnivOK H E U) (fn : Fn R) (c₁ c₂ : Call) (h₁ : (fn, c₁) ∈ U) (h₂ : (fn, c₂) ∈ U)
    (b₁ b₂ : List (Nat × Val)) (hb₁ : bindOf fn.cal c₁ = .ok b₁) (hb₂ : bindOf fn.cal c₂ = .ok b₂)
    (k : Bs) (hk₁ : argsId H E fn.cal fn.ig c₁ = .ok k) (hk₂ : argsId H E fn.cal fn.ig c₂ = .ok k) :
    SameArgs E fn.cal fn.ig c₁ c₂ b₁ b₂ := by
  obtain ⟨d₁, hd₁, e₁⟩ := argDict_of_argsId hk₁
  obtain ⟨d₂, hd₂, e₂⟩ := argDict_of_argsId hk₂
  exact hu.sameArgs h₁ h₂ hd₁ hd₂ hb₁ hb₂ (e₁.symm.trans e₂)

/-- **A result is stored under the id computed from THIS call's arguments, and nowhere else.**  When
a call executes the function (either version of the code, any store), the value is afterwards found
under `(fn.fid, args id of this call)`, and the entry under every other id is what it was — whatever
other computations of the same cached function are under way (the id is a parameter of `compute`,
not state of the instance), which is why nested and overlapping computations can be run one after
the other in completion order. -/
theorem stored_under_own_id (ver : JoblibModel.MemoryCache.Version) (H : Bs → Bs) (E : Env) (st : St R)
    (fn : Fn R) (c : Call) (cb : Bool) (k : Bs) (v : R)
    (hk : argsId H E fn.cal fn.ig c = .ok k)
    (hx : (step ver H E st (.call fn c cb)).1 = .value v true) :
    dget (fn.fid, k) (step ver H E st (.call fn c cb)).2.entries = some v ∧
      ∀ id, id ≠ (fn.fid, k) →
        dget id (step ver H E st (.call fn c cb)).2.entries = dget id st.entries := by
  have hent : ∀ id, id ≠ (fn.fid, k) →
      dget id (isInCacheAndValid st (fn.fid, k) cb).2.entries = dget id st.entries := by
    intro id hne
    rcases iic_state_cases st (fn.fid, k) cb with ⟨_, e⟩ | ⟨_, _, e⟩ | ⟨_, e⟩ <;> rw [e]
    exact dget_dpop_ne hne _
  rcases step_call_cases hk st cb with ⟨w, _, e⟩ | ⟨_, e⟩ | ⟨b, _, e⟩ <;> rw [e] at hx ⊢ <;> cases hx
  exact ⟨dget_dset_self _ _ _, fun id hne => (dget_dset_ne hne _ _).trans (hent id hne)⟩

/-! ## Functions that MUTATE their arguments

`Fn.effect` (what the body leaves in the `args` / `kwargs` objects) is arbitrary in every theorem above:
`Correct` compares the value handed back with `fn.body` of the arguments bound from the call AS PASSED
(`bindOf fn.cal c`), `Respects` is about `fn.body` alone, and `UnivOK` asks hashability only of the
arguments as passed — `cached_call_correct_partial` IS the statement for mutating functions ("the value
returned is f's result on the arguments as passed").  The next theorem says why nothing more is
needed; the variant that keys a forced call after the body breaks C02 as well
(`key_after_call_wrong_value_counterexample`). -/

/-- **What a function does to its arguments is invisible to the cache** (the code as it is, either
version): replace the effect on the arguments of every function of a history by ANY other
(`Op.withEffects e`; e.g. by "leaves them alone") — every output of the history (values, executed or
served, check answers, errors) and the final cache directory are the same.  The keys are computed
from the arguments as passed, before the body runs. -/
theorem effect_on_arguments_irrelevant (ver : JoblibModel.MemoryCache.Version) (H : Bs → Bs) (E : Env)
    (e : Fn R → Call → Call) (ops : List (Op R)) (st : St R) :
    run ver H E st (ops.map (Op.withEffects e)) = run ver H E st ops ∧
      exec ver H E st (ops.map (Op.withEffects e)) = exec ver H E st ops := by
  induction ops generalizing st with
  | nil => exact ⟨rfl, rfl⟩
  | cons op ops ih =>
    simp only [List.map_cons, run, exec, step_withEffects]
    exact ⟨by rw [(ih _).1], (ih _).2⟩

/-- `cached_call_correct_partial` for functions that mutate their arguments, spelled out: take a
history whose functions leave their arguments alone and satisfy the hypotheses, and let every function
do ANYTHING to its arguments in place (`e`): every value handed back is still the plain function's
result on the arguments AS PASSED. -/
theorem cached_call_correct_mutating_partial (ver : JoblibModel.MemoryCache.Version) (H : Bs → Bs) (E : Env)
    (e : Fn R → Call → Call) (ops : List (Op R))
    (hu : UnivOK H E (callsOf (ops.map (Op.withEffects e)))) :
    AllCorrect ver H E (St.empty : St R) (ops.map (Op.withEffects e)) :=
  cached_call_correct_partial ver H E _ hu

/-- **Keying a forced call after the body hands out another call's value** (variant `Cfg.keyAfterCall`,
seeded change C06-r4-m3; `fnSort` returns its list argument as passed and sorts it in place):
`cf.call([3, 1, 2])` files its result under the key of `[1, 2, 3]`, and `cf([1, 2, 3])` is then served
`[3, 1, 2]`'s result — not what the plain function returns for `[1, 2, 3]`. -/
theorem key_after_call_wrong_value_counterexample :
    runC ⟨.fixed, true⟩ hId envMut St.empty [.force fnSort ⟨[0], []⟩, .call fnSort ⟨[1], []⟩ true] =
      [.value [(0, .one 0)] true, .value [(0, .one 0)] false] ∧
    bindOf fnSort.cal ⟨[1], []⟩ = .ok [(0, .one 1)] ∧ fnSort.body [(0, .one 1)] = [(0, .one 1)] ∧
    run .fixed hId envMut St.empty [.force fnSort ⟨[0], []⟩, .call fnSort ⟨[1], []⟩ true] =
      [.value [(0, .one 0)] true, .value [(0, .one 1)] true] := by
  decide +kernel

/-! ## The digest fallback (F12) makes the full statement false -/

/-- `def f(a)`; value 0 is `{1, 'a'}`, value 1 is the set of the two digest strings
`{hash(1), hash('a')}`. -/
def envF12 (H : Bs → Bs) : Env where
  val := fun i => if i = 0 then .set [.int 1, .str [97]]
    else .set [.str (H (encode H (.int 1))), .str (H (encode H (.str [97])))]
  name := fun n => [97 + n]

def fnF12 : Fn (List (Nat × Val)) := ⟨0, .func [⟨0, .posKw, none⟩], [], fun b => b, fun c => c⟩

/-- **Counterexample to the full statement** (whatever the digest `H` and the version of the code): `f({1, 'a'})` then
`f({hash(1), hash('a')})` — two different argument values — get the same key (F12), so the second
call is not executed and is handed the FIRST call's bound arguments. -/
theorem fallback_collision_counterexample (ver : JoblibModel.MemoryCache.Version) (H : Bs → Bs) :
    (envF12 H).val 0 ≠ (envF12 H).val 1 ∧
    run ver H (envF12 H) St.empty [.call fnF12 ⟨[0], []⟩ true, .call fnF12 ⟨[1], []⟩ true] =
      [.value [(0, .one 0)] true, .value [(0, .one 0)] false] ∧
    bindOf fnF12.cal ⟨[1], []⟩ = .ok [(0, .one 1)] := by
  refine ⟨by simp [envF12], ?_, by decide⟩
  -- F12: the two argument dicts have one stream, hence one key
  have k₁ : argsId H (envF12 H) fnF12.cal fnF12.ig ⟨[0], []⟩ =
      .ok (H (stream H (envF12 H) [(.name 0, .one 0)])) := rfl
  have k₂ : argsId H (envF12 H) fnF12.cal fnF12.ig ⟨[1], []⟩ =
      .ok (H (stream H (envF12 H) [(.name 0, .one 0)])) := rfl
  -- the first call misses, runs the body and files the result; the second is served it
  have s₁ : step ver H (envF12 H) St.empty (.call fnF12 ⟨[0], []⟩ true) =
      (.value [(0, .one 0)] true,
        ⟨[0], [((0, H (stream H (envF12 H) [(.name 0, .one 0)])), [(0, .one 0)])]⟩) := by
    rw [step_call_eq k₁, isInCacheAndValid_eq]
    rfl
  simp only [run, s₁]
  rw [call_hit (v := [(0, .one 0)]) k₂ List.mem_cons_self (by simp [dget, fnF12])]

/-! ## One function identifier for several callables makes shelved references ambiguous (F35)

`UnivOK.fids` (one cached callable per function identifier) is needed: every `functools.partial`
object gets the identifier `functools/unknown` (F32), and a `MemorizedResult` names its value by
(function id, args id) alone — `.get()` does not look at `func_code.py`. -/

/-- `functools.partial(g, 1)` and `functools.partial(g, 2)` for `def g(a)`: the same function id -/
def fnPart1 : Fn (List (Nat × Val)) := ⟨7, .part [⟨0, .posKw, none⟩] [1] [], [], fun b => b, fun c => c⟩
def fnPart2 : Fn (List (Nat × Val)) := ⟨7, .part [⟨0, .posKw, none⟩] [2] [], [], fun b => b, fun c => c⟩

/-- **Counterexample without `fids`** (either version of the code, any digest): `r = p1.call_and_shelve()`;
then `p2()` — its "source" differs, so `_check_previous_func_code` wipes the shared directory
(`clearFn`) and `p2`'s result is stored under the same (function id, args id); `r.get()` then
returns `p2`'s value `g(2)`, not `g(1)`. -/
theorem shared_function_id_stale_reference_counterexample (ver : JoblibModel.MemoryCache.Version)
    (H : Bs → Bs) :
    run ver H envEx St.empty
        [.shelve fnPart1 ⟨[], []⟩ true, .clearFn fnPart2, .call fnPart2 ⟨[], []⟩ true, .get fnPart1 ⟨[], []⟩] =
      [.ref true, .done, .value [(0, .one 2)] true, .value [(0, .one 2)] false] ∧
    bindOf fnPart1.cal ⟨[], []⟩ = .ok [(0, .one 1)] := by
  refine ⟨?_, by decide⟩
  have b1 : bindOf fnPart1.cal ⟨[], []⟩ = .ok [(0, .one 1)] := by decide
  have b2 : bindOf fnPart2.cal ⟨[], []⟩ = .ok [(0, .one 2)] := by decide
  have f1 : fnPart1.fid = 7 := rfl
  have f2 : fnPart2.fid = 7 := rfl
  have a1 : argDict fnPart1.cal fnPart1.ig ⟨[], []⟩ = .ok [(.star, .seq []), (.dstar, .map [])] := rfl
  have a2 : argDict fnPart2.cal fnPart2.ig ⟨[], []⟩ = .ok [(.star, .seq []), (.dstar, .map [])] := rfl
  simp only [run, step, cachedCall, argsId, a1, a2, isInCacheAndValid, checkCode,
    St.empty, compute, afterCall, b1, b2, f1, f2]
  simp [dget, dset, fnPart1, fnPart2]

/-! ### Values handed out and values kept (seeded change C02-r5-m2)

The model's values have no identity: `Out.value v _` IS the value, and nothing a consumer does to the
Python object it was handed can reach the model's store — "no two hand-outs alias, and none aliases the
store" is true by construction here and is NOT what these theorems establish.  What the model does say is
what every hand-out must EQUAL: dereferencing a reference reads the store and nothing else, leaves it as it
was, and so answers the same however often and whoever asked before.  That the real objects handed out by
`__call__` (hit), `call`, `call_and_shelve().get()` and a kept / pickled `MemorizedResult.get()` are
independent of each other and of anything the cache keeps is established by the CORRESPONDENCE and the
oracle (harness/memcache.py: histories in which the consumer works in place — append, sort, pop, clear,
reverse — on every value it is handed, then asks again; signature `handed-out-value-aliased:<path>`). -/

/-- **Dereferencing a reference leaves the cache directory as it was** (`MemorizedResult.get` only reads)
and what it answers is a function of the entry under the reference's id alone. FULL. -/
theorem get_reads_only (ver : JoblibModel.MemoryCache.Version) (H : Bs → Bs) (E : Env) (st : St R)
    (fn : Fn R) (c : Call) :
    (step ver H E st (.get fn c)).2 = st ∧
      ∀ k, argsId H E fn.cal fn.ig c = .ok k →
        (step ver H E st (.get fn c)).1 =
          (match dget (fn.fid, k) st.entries with | some v => .value v false | none => .keyError) := by
  refine ⟨?_, fun k hk => congrArg Prod.fst (step_get_eq hk st)⟩
  cases hk : argsId H E fn.cal fn.ig c with
  | error e => rw [step_filterErr rfl hk]
  | ok k => rw [step_get_eq hk]

/-- **A reference dereferenced `n` times answers the same every time** — the value the store holds under
its id (or `KeyError` every time) — and leaves the store unchanged: no `get` can depend on an earlier
`get` (or on what its caller did with the answer). FULL: either version, any store, any `n`. -/
theorem get_repeatable (ver : JoblibModel.MemoryCache.Version) (H : Bs → Bs) (E : Env) (st : St R)
    (fn : Fn R) (c : Call) (n : Nat) :
    run ver H E st (List.replicate n (.get fn c)) = List.replicate n (step ver H E st (.get fn c)).1 ∧
      exec ver H E st (List.replicate n (.get fn c)) = st := by
  induction n with
  | zero => exact ⟨rfl, rfl⟩
  | succ n ih =>
    have h := (get_reads_only ver H E st fn c).1
    simp only [List.replicate_succ, run, exec, h]
    exact ⟨by rw [ih.1], ih.2⟩

/-- **What a hit hands out is the stored value, and serving it leaves the entries as they were**: a call
that is served (`executed = false`) returns exactly what `get` on a reference to the same call returns
from the state it leaves, and a second identical call is served the same value. FULL. -/
theorem served_value_is_the_stored_one (ver : JoblibModel.MemoryCache.Version) (H : Bs → Bs) (E : Env) (st : St R)
    (fn : Fn R) (c : Call) (v : R)
    (hx : (step ver H E st (.call fn c true)).1 = .value v false) :
    (step ver H E st (.call fn c true)).2 = st ∧ (step ver H E st (.get fn c)).1 = .value v false := by
  cases hk : argsId H E fn.cal fn.ig c with
  | error e => rw [step_filterErr rfl hk] at hx; cases hx
  | ok k =>
    rcases step_call_cases hk st true with ⟨w, hi, e⟩ | ⟨_, e⟩ | ⟨b, _, e⟩ <;> rw [e] at hx ⊢ <;> cases hx
    obtain ⟨h1, h2, -⟩ := iic_some hi
    rw [step_get_eq hk, h2]
    exact ⟨h1, rfl⟩

/-! ## Non-vacuity: the hypotheses hold for a non-trivial history

`def f(a, b=5, *args, **kw)` cached with `ignore=['b']` and returning its non-ignored bound arguments
(`canonBody`, which `Respects` them); a dict argument and the same dict built in the other
insertion order; keyword / positional / defaulted call forms; a shelved reference, a check, a
validation callback saying no, a clear, a fresh process (`histEx`, 10 operations, 7 hashed calls);
a digest `hEx` that is NOT injective. -/

example : UnivOK hEx envEx (callsOf histEx) := univOK_histEx
example : hEx [1] = hEx [2] ∧ ([1] : Bs) ≠ [2] := hEx_not_injective
example : AllCorrect .fixed hEx envEx St.empty histEx :=
  cached_call_correct_partial .fixed hEx envEx histEx univOK_histEx
example (fid : Nat) (s : Sig) (ig : List Key) (eff : Call → Call) :
    Respects envEx ⟨fid, .func s, ig, canonBody envEx s ig, eff⟩ :=
  respects_canonBody envEx fid s ig eff

end C02
