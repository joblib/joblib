import JoblibProofs.Lemmas.ParallelLockU
/-!
# M1LU — `joblib.Parallel` with `return_as='generator_unordered'` and / or `timeout`, at lock-boundary / backend-call /
# unlocked-access granularity, ALL interleavings

Model: `JoblibModel.ParallelLockU` (the model M1L extended, same granularity; see its header for the new scheduling
points: the control-job pick under the lock, `get_status` with a timeout, `_register_outcome(TimeoutError)` run by the
caller WITHOUT the lock, the unlocked write of `_jobs_set`).  `Reachable c s` = some interleaving of any number of
threads, of any length, leads from the fresh object to `s` (an action that is not enabled is a no-op).

Quantifier reached by every theorem below: ALL configurations (`n_jobs`, batch sizes, `pre_dispatch`, all three
`return_as` modes, any timeout in clock ticks or none, any script of control-job picks, any failing tasks / failing
position of the input iterable) and ALL schedules, by inductive invariants — never by enumeration.
Scope: one call on a fresh object.  The tie to the real code is `harness/m1_lock.py` (scenarios with `ra = 2` or a
timeout go to `drv_m1lu`; complete step-log equality on forced real-thread schedules).

C16 "with `generator_unordered` results are delivered in completion order, each exactly once":
`unordered_completion_order`, `unordered_each_exactly_once_partial`.  C04 "TimeoutError when the caller waited longer
than `timeout`": `timeout_raises`, `timeout_registers`, `timeout_only_when_waited`, `error_surfaces_unordered`.
C01/C04/C09 for every interleaving: `mutex`, `lock_owner_iff`, `pulls_only_by_lock_owner`, `no_deadlock`.

The predicates of the statements are defined with their invariants in `Lemmas/ParallelLockU`: `LockInv`, `Pc.holding`,
`cbHolding` in `Lock`; `Pc.cls` in `Order`; `Pc.ecls` in `ErrSurf`; `Pc.carriesTO`, `Pc.inGetStatus` in `Timeout`;
`chainOK` in `Chain`; `uchainOK`, `Pc.decided` in `UChain`.
-/
namespace M1LU
open JoblibModel.ParallelLockU
open JoblibModel.ParallelLock (Tid Status CbPc DK DRes Act)

/-- `s` is reachable: some finite interleaving of thread steps and backend completions leads from the fresh object to
`s`. -/
def Reachable (c : Cfg) (s : St) : Prop := ∃ sched : List Act, s = run c init sched

/-- The lock invariant holds in every reachable state. -/
theorem reachable_lockInv {c : Cfg} {s : St} (h : Reachable c s) : LockInv s := by
  obtain ⟨sched, rfl⟩ := h
  exact run_lockInv c sched _ lockInv_init

/-- The lock invariant is inductive: preserved by every action of every thread and of the environment. -/
theorem lockInv_inductive {c : Cfg} {s : St} (h : LockInv s) (a : Act) : LockInv (step c s a) := step_lockInv c s h a

/-- Thread `t` is inside a lock-protected segment at a step boundary: it is parked at a backend call (`submit`,
`compute_batch_size`, `retrieve_result_callback`) made while it owns `Parallel._lock`. -/
def inLocked (s : St) : Tid → Bool
  | 0 => s.pc.holding
  | i + 1 => cbHolding (getTrk s i).pc

/-- LOCK OWNER. The lock is owned by thread `t` exactly when `t` is inside a lock-protected segment. -/
theorem lock_owner_iff {c : Cfg} {s : St} (h : Reachable c s) (t : Tid) :
    s.lockOwner = some t ↔ inLocked s t = true := by
  have hi := reachable_lockInv h
  cases t with
  | zero => exact ⟨hi.own0, hi.caller⟩
  | succ i => exact ⟨hi.ownCb i, hi.cb i⟩

/-- MUTEX. In every reachable state at most one thread is inside a lock-protected segment. (Segments that acquire and
release the lock within one atomic step — among them the caller's control-job pick, its `popleft`, and the two critical
sections of `_register_outcome(TimeoutError)` — exclude the others by construction: a step from a lock acquisition is
enabled only while `lockOwner = none`, see `acquire_needs_free_lock`.) -/
theorem mutex {c : Cfg} {s : St} (h : Reachable c s) {t t' : Tid} (h1 : inLocked s t = true)
    (h2 : inLocked s t' = true) : t = t' := by
  have e1 := (lock_owner_iff h t).mpr h1
  have e2 := (lock_owner_iff h t').mpr h2
  rw [e1] at e2
  exact Option.some.inj e2

/-- A thread parked at a lock acquisition is not runnable while the lock is taken. -/
theorem acquire_needs_free_lock (s : St) :
    (s.pc.isAcq = true → callerEnabled s = true → s.lockOwner = none) ∧
    (∀ i, ((getTrk s i).pc = .acqA ∨ (getTrk s i).pc = .acqC) → cbEnabled s i = true → s.lockOwner = none) := by
  constructor
  · intro ha he
    simp only [callerEnabled, ha, Bool.not_true, Bool.false_or, Bool.and_eq_true, beq_iff_eq] at he
    exact he.2
  · intro i hp he
    unfold cbEnabled at he
    rcases hp with hp | hp <;> rw [hp] at he <;> simpa using he

/-- PULLS ONLY BY THE LOCK OWNER (C09). Every item ever taken from the input iterable was taken by the thread that
owned `Parallel._lock` at that instant — in all three `return_as` modes, with or without a timeout. -/
theorem pulls_only_by_lock_owner {c : Cfg} {s : St} (h : Reachable c s) {t : Tid} {id : Nat} {l : Bool}
    (hm : Ev.pull t id l ∈ s.log) : l = true :=
  (reachable_lockInv h).logLocked t id l hm

/-- The caller never parks at the marker `dIn` (it only exists between two effects of one atomic step). -/
theorem never_at_marker {c : Cfg} {s : St} (h : Reachable c s) (k : DK) : s.pc ≠ .dIn k :=
  (reachable_lockInv h).noIn k

/-- Nobody waits while owning the lock: the owner of the lock is always runnable. -/
theorem lock_holder_runnable {c : Cfg} {s : St} (h : Reachable c s) {t : Tid} (ho : s.lockOwner = some t) :
    enabled s (.thread t) = true := by
  have hi := reachable_lockInv h
  cases t with
  | zero =>
    obtain ⟨h1, h2⟩ := Pc.holding_runnable (hi.own0 ho)
    simp only [enabled, callerEnabled, h1, Bool.not_false, Bool.true_or, Bool.and_true, bne_iff_ne, ne_eq]
    exact h2
  | succ i =>
    exact cbEnabled_of_holding (hi.ownCb i ho)

/-- NO DEADLOCK. Until the call has returned / raised, some action is enabled: when the lock is free the caller
itself can move; when it is taken, its owner is parked at a backend call inside its critical section and is runnable.
The new waits (control-job pick, the two critical sections of the caller's `_register_outcome(TimeoutError)`) are
covered: they are lock acquisitions by a thread that owns nothing. -/
theorem no_deadlock {c : Cfg} {s : St} (h : Reachable c s) (hd : s.pc ≠ .done) : ∃ a, enabled s a = true := by
  cases ho : s.lockOwner with
  | none =>
    refine ⟨.thread 0, ?_⟩
    simp only [enabled, callerEnabled, ho, beq_self_eq_true, Bool.or_true, Bool.and_true, bne_iff_ne, ne_eq]
    exact hd
  | some t => exact ⟨.thread t, lock_holder_runnable h ho⟩

theorem reachable_uall {c : Cfg} {s : St} (hra : c.ra = 2) (h : Reachable c s) : UAll s := by
  obtain ⟨sched, rfl⟩ := h
  exact run_uall c hra sched _ uall_init

theorem reachable_ordInv {c : Cfg} {s : St} (hra : c.ra = 2) (h : Reachable c s) : OrdInv s :=
  (reachable_uall hra h).o

theorem reachable_valInv {c : Cfg} {s : St} (h : Reachable c s) : ValInv s := by
  obtain ⟨sched, rfl⟩ := h
  exact run_val c sched _ valInv_init

/-- The task ids of tracker `i` (its batch). -/
def batch (s : St) (i : Nat) : List Nat := (getTrk s i).items

/-- COMPLETION ORDER (C16). `return_as='generator_unordered'`, every interleaving: the values the consumer has received
so far are exactly the batches of the trackers `delivered`, concatenated in that order, and `delivered` is a PREFIX of
`appended` = the sequence in which `_register_outcome` appended the trackers to `_jobs` = the order in which the
completions were registered (under the lock).  So values are yielded in completion-registration order, batch by batch,
without gaps: a later completion is never yielded before an earlier one. -/
theorem unordered_completion_order {c : Cfg} {s : St} (hra : c.ra = 2) (h : Reachable c s) :
    s.delivered <+: s.appended ∧ s.out = s.delivered.flatMap (batch s) := by
  exact ⟨ordOK_prefix (reachable_ordInv hra h), (reachable_valInv h).out⟩

/-- … and nothing that completed is skipped or lost while the retrieval loop runs: at every program point of the loop
(`Pc.cls = A infl`: `infl` = the tracker just popped, not yet handed over) the delivered trackers, the popped one and
the queue `_jobs` ARE the registration sequence; once `_remaining_outputs` is fixed (`Pc.cls = C rest`) what is still
to be yielded continues the registration sequence. -/
theorem unordered_queue_is_registration_order {c : Cfg} {s : St} (hra : c.ra = 2) (h : Reachable c s) :
    (∀ infl, s.pc.cls = .A infl → s.delivered ++ infl ++ s.jobs = s.appended) ∧
    (∀ rest, s.pc.cls = .C rest → (s.delivered ++ rest) <+: s.appended) := by
  have ho := reachable_ordInv hra h
  unfold OrdInv at ho
  constructor
  · intro infl hc; rw [hc] at ho; exact ho
  · intro rest hc; rw [hc] at ho; exact ho

/-- Every delivered tracker exists, its registered values were its own task ids, and the task ids of a tracker never
change (all modes). -/
theorem delivered_trackers_exist {c : Cfg} {s : St} (h : Reachable c s) : ∀ i ∈ s.delivered, i < s.trk.length :=
  (reachable_valInv h).bound

theorem reachable_bInv {c : Cfg} {s : St} (h : Reachable c s) : BInv s := by
  obtain ⟨sched, rfl⟩ := h
  exact (run_bninv c sched _ bInv_init nInv_init).1

theorem reachable_nInv {c : Cfg} {s : St} (h : Reachable c s) : NInv s := by
  obtain ⟨sched, rfl⟩ := h
  exact (run_bninv c sched _ bInv_init nInv_init).2

/-- Every tracker index the object holds (`_jobs`, `_jobs_set`, the control job, the tracker of the caller's
`get_status` program point, the registration sequence) refers to an existing tracker. -/
theorem indices_in_range {c : Cfg} {s : St} (h : Reachable c s) :
    (∀ j ∈ s.jobs, j < s.trk.length) ∧ (∀ j ∈ s.jobsSet, j < s.trk.length) ∧
    (∀ j, s.ctlJob = some j → j < s.trk.length) ∧ (∀ j ∈ s.appended, j < s.trk.length) :=
  ⟨(reachable_bInv h).jobs, (reachable_bInv h).set, (reachable_bInv h).ctl, (reachable_bInv h).app⟩

/-- A TRACKER REGISTERS ONCE. The registration sequence has no duplicates and every tracker in it has left
TASK_PENDING — although two threads may try to register the same tracker (its completion callback, and the caller
with a TimeoutError, which runs `_register_outcome` WITHOUT owning the lock across the whole function): the status
test-and-set under the lock decides, and the loser appends nothing. -/
theorem registration_once {c : Cfg} {s : St} (h : Reachable c s) :
    s.appended.Nodup ∧ ∀ i ∈ s.appended, (getTrk s i).status ≠ .pending :=
  ⟨(reachable_nInv h).nodup, (reachable_nInv h).np⟩

/-- NO BATCH TWICE (C16). `generator_unordered`: no tracker is delivered twice. -/
theorem unordered_no_batch_twice {c : Cfg} {s : St} (hra : c.ra = 2) (h : Reachable c s) : s.delivered.Nodup :=
  List.Nodup.sublist (unordered_completion_order hra h).1.sublist (reachable_nInv h).nodup

/-
FULL STATEMENT of `unordered_each_exactly_once` (NOT proved here):
  Reachable c s → c.ra = 2 →
    (∀ v ∈ s.out, v < c.n) ∧ s.out.Nodup ∧ (s.outcome = some (.ret s.out) → s.out.Perm (List.range c.n))
What is proved: `unordered_each_exactly_once_partial` below — the yielded values are the batches of `delivered`, in
order; `delivered` has NO DUPLICATES (no batch is yielded twice) and is a prefix of the registration sequence
`appended`, which has no duplicates either (a tracker registers once).  What is missing: (1) disjointness and range
of the batches of DIFFERENT trackers — the dispatch side, which is M1L's `exactly_once` / `dispatch_conservation` (the
definitions of `pull` / `dispatchLocked` are the same as M1L's up to `_register_new_job`, but the dispatch-side
invariants `SrcInv`/`ConsInv` are not stated for this state type), (2) at normal exhaustion all n were yielded = M1L's
`no_premature_exit` (`Inv2`, not stated here either).  To prove them one needs first a second characterisation of
`dispatchLocked` in M1L's style (`PullFacts` / `DLCase` of `Lemmas/ParallelLock/Basic.lean`): the `DLCase` of
`Lemmas/ParallelLockU/Basic.lean` forgets source position, look-ahead queue and which ids a new tracker holds, which
is all these invariants are about.  Both are CHECKED by the tie's oracles on every forced schedule
(`wrong-result`, `executed-twice`, `not-executed-once`, `unordered-order`).
-/

/-- EXACTLY ONCE, partial (C16): see the comment above for the full statement and what is missing. -/
theorem unordered_each_exactly_once_partial {c : Cfg} {s : St} (hra : c.ra = 2) (h : Reachable c s) :
    s.out = s.delivered.flatMap (batch s) ∧ s.delivered.Nodup ∧ s.delivered <+: s.appended ∧ s.appended.Nodup ∧
    (∀ i ∈ s.delivered, i < s.trk.length) :=
  ⟨(unordered_completion_order hra h).2, unordered_no_batch_twice hra h, (unordered_completion_order hra h).1,
   (reachable_nInv h).nodup, delivered_trackers_exist h⟩

theorem reachable_tInv {c : Cfg} {s : St} (h : Reachable c s) : TInv c s := by
  obtain ⟨sched, rfl⟩ := h
  exact run_tinv c sched _ (tInv_init c)

/-- TIMEOUT RAISES, step 1 (C04). The caller is at the first status read of `get_status(timeout=T)` on tracker `i`
(head of `_jobs` in the ordered modes, control job in the unordered mode), the tracker is still pending, its counter was
started when the clock read `t0`, and MORE than `T` ticks have passed since (`T < clock - t0`; one tick per
`time.sleep` of the retrieval loop): the caller's next step leads to `_register_outcome(TimeoutError)` — it parks at
that function's lock. -/
theorem timeout_raises {c : Cfg} {s : St} {i : Nat} {k : GK} {T t0 : Nat} (hpc : s.pc = .gsStatus i k)
    (hT : c.timeout = some T) (hp : (getTrk s i).status = .pending) (hc : (getTrk s i).tcnt = some t0)
    (hw : T < s.clock - t0) : (stepCaller c s).pc = .toAcq i k := by
  unfold stepCaller
  simp only [hpc, hp, hc, hT]
  simp [setTrk, hw]

/-- TIMEOUT RAISES, step 2. At the lock of `_register_outcome(TimeoutError)`: if the tracker is STILL pending (no
completion callback registered its outcome in between — that is the only way out) the TimeoutError is registered: the
tracker's status becomes TASK_ERROR and the ghost `toWait` records (tracker, counter, clock). -/
theorem timeout_registers {c : Cfg} {s : St} {i : Nat} {k : GK} (hpc : s.pc = .toAcq i k) (hlt : i < s.trk.length)
    (hp : (getTrk s i).status = .pending) :
    (stepCaller c s).pc = .toRel i k true ∧ (getTrk (stepCaller c s) i).status = .error ∧
    (stepCaller c s).toWait = some (i, (getTrk s i).tcnt.getD s.clock, s.clock) := by
  unfold stepCaller
  simp only [hpc]
  have hne : ((getTrk s i).status != Status.pending) = false := by rw [hp]; rfl
  simp only [hne, Bool.false_eq_true, if_false]
  refine ⟨trivial, ?_, trivial⟩
  simp only [setTrk, getTrk_def]
  rw [getT_set_self hlt]

/-- … and the next steps of the caller store the TimeoutError in the tracker and set `_exception`, `_aborting`. -/
theorem timeout_stored {c : Cfg} {s : St} {i : Nat} {k : GK} (hpc : s.pc = .toRel i k true) (hlt : i < s.trk.length) :
    (getTrk (stepCaller c s) i).result = .exc .timeout ∧ (stepCaller c s).pc = .toStatus i k := by
  unfold stepCaller
  simp only [hpc, if_true]
  refine ⟨?_, trivial⟩
  simp only [setTrk, getTrk_def]
  rw [getT_set_self hlt]

/-- TIMEOUT ONLY WHEN WAITED (C04). In every reachable state: if a TimeoutError exists anywhere — stored in a tracker,
in the caller's hands on its way out, or as the outcome of the call (`raise TimeoutError`) — then the call has a timeout
`T`, and the ghost `toWait = (i, t0, t1)` says: the caller registered it for tracker `i` when the clock read `t1`, the
counter of `i` had been started by the caller at clock `t0` (counters are started only by `get_status` on a pending
tracker and reset only when the unordered branch releases its control job), and `T < t1 - t0`: more than `T`
`time.sleep`s of the retrieval loop lie between the two. -/
theorem timeout_only_when_waited {c : Cfg} {s : St} (h : Reachable c s)
    (hm : s.outcome = some (.raised .timeout) ∨ (∃ i, (getTrk s i).result = .exc .timeout) ∨ s.pc.carriesTO = true) :
    ∃ T i t0 t1, c.timeout = some T ∧ s.toWait = some (i, t0, t1) ∧ T < t1 - t0 := by
  apply (reachable_tInv h).wait
  rcases hm with hm | hm | hm
  · exact Or.inr (Or.inr hm)
  · exact Or.inr (Or.inl hm)
  · exact Or.inl hm

/-- The caller stands at the lock of `_register_outcome(TimeoutError)` only with an expired counter, and the code of the
timeout branch is reached only when `Parallel(timeout=…)` is not None. -/
theorem timeout_branch_guarded {c : Cfg} {s : St} (h : Reachable c s) :
    (s.pc.inGetStatus = true → c.timeout.isSome = true) ∧
    (∀ i k, s.pc = .toAcq i k → c.timeout.getD 0 < s.clock - (getTrk s i).tcnt.getD s.clock) :=
  ⟨(reachable_tInv h).code, fun i _ e => (reachable_tInv h).exp i (by rw [e]; rfl)⟩

theorem reachable_cInv {c : Cfg} {s : St} (hord : c.ra ≠ 2) (h : Reachable c s) : CInv s := by
  obtain ⟨sched, rfl⟩ := h
  exact (run_bncinv c hord sched _ bInv_init nInv_init cInv_init).2.2

/-- TIMEOUT RAISES, trace level, ORDERED modes (`return_as` list / generator; C04). Every interleaving: once the caller
has registered a TimeoutError for a tracker (ghost `toWait ≠ none`; by `timeout_registers` that happens exactly when it
finds the head of `_jobs` still pending at the lock of `_register_outcome`, more than `timeout` ticks after it started
that tracker's counter) the call can only end by raising TimeoutError: when the caller is done, the outcome is
`raise TimeoutError` — no completion callback, however it interleaves, can turn it into a normal return or into another
exception. -/
theorem timeout_registered_raises_ordered {c : Cfg} {s : St} (hord : c.ra ≠ 2) (h : Reachable c s)
    (hw : s.toWait ≠ none) (hd : s.pc = .done) : s.outcome = some (.raised .timeout) := by
  have hc := (reachable_cInv hord h).chain hw
  unfold chainOK at hc
  simp only [hd] at hc
  exact hc

/-- … and until then the caller is on the one-way path `chainOK` (the registered tracker has status TASK_ERROR, holds the
TimeoutError, is the head of `_jobs` until the caller pops it; afterwards the caller carries the TimeoutError through
`except BaseException` / `finally`). -/
theorem timeout_path_ordered {c : Cfg} {s : St} (hord : c.ra ≠ 2) (h : Reachable c s) (hw : s.toWait ≠ none) :
    chainOK s :=
  (reachable_cInv hord h).chain hw

/-- TIMEOUT RAISES, trace level, UNORDERED mode (`generator_unordered`; C04). Every interleaving: once the caller has
registered a TimeoutError for its control job (ghost `toWait ≠ none`) the call can only end by RAISING: when the caller
is done the outcome is `raise e` for some exception `e` — never a normal exhaustion of the generator.  (`e` is the
TimeoutError, or the exception of a task / of the input iterable whose failure was registered in `_jobs` before the
control job: `_raise_error_fast` takes the FIRST error job of `_jobs`.) -/
theorem timeout_registered_raises_unordered {c : Cfg} {s : St} (hra : c.ra = 2) (h : Reachable c s)
    (hw : s.toWait ≠ none) (hd : s.pc = .done) : ∃ e, s.outcome = some (.raised e) := by
  have hc := (reachable_uall hra h).u.chain hw
  unfold uchainOK at hc
  simp only [hd] at hc
  exact hc

/-- … and until then the caller is on the one-way path `uchainOK`: it finishes the registration (`_exception`,
`_aborting`, `_jobs.append`), sleeps, `_wait_retrieval` and `_retrieve` see `_aborting`, `_raise_error_fast` finds an
error job of `_jobs` that holds an exception, `get_result` raises it, `except BaseException`, `finally`. -/
theorem timeout_path_unordered {c : Cfg} {s : St} (hra : c.ra = 2) (h : Reachable c s) (hw : s.toWait ≠ none) :
    uchainOK s :=
  (reachable_uall hra h).u.chain hw

/-- In the retrieval loop of the unordered mode every tracker of `_jobs` with status TASK_ERROR holds an exception
(`get_result` on it raises that exception, never AttributeError) — the window of the caller's own TimeoutError
registration (`status = TASK_ERROR` under the lock, `_result = …` after the release) is closed before the tracker is
appended to `_jobs`. -/
theorem error_jobs_hold_exceptions {c : Cfg} {s : St} (hra : c.ra = 2) (h : Reachable c s)
    (hd : s.pc.decided = false) :
    ∀ j ∈ s.jobs, (getTrk s j).status = .error → ∃ e, (getTrk s j).result = .exc e :=
  (reachable_uall hra h).u.res hd

theorem reachable_eInv {c : Cfg} {s : St} (hra : c.ra = 2) (h : Reachable c s) : EInv s :=
  (reachable_uall hra h).e

/-- ERRORS SURFACE, unordered (C04; it is what the trial change `seeded/C04-r4-m1` breaks, which takes
`_retrieve_result` / `_register_outcome` out of the callback's `with self.parallel._lock:`). `generator_unordered`, every
interleaving: when the caller stands at the lock of `_raise_error_fast` — i.e. `_retrieve` has observed `_aborting` —
then `_aborting` is (still) set and the scan of `_jobs` it is about to make under the lock FINDS a tracker with status
TASK_ERROR.  It holds because the completion callback runs `_register_outcome` inside its first critical section
(status, `_exception`/`_aborting` and `_jobs.append(self)` are ONE atomic step), the tracker registered for an error of
the input iterable is appended in the same locked region, and the caller's own TimeoutError registration appends the
tracker before it can come back to `_retrieve`'s test. -/
theorem error_surfaces_unordered {c : Cfg} {s : St} (hra : c.ra = 2) (h : Reachable c s) (hpc : s.pc = .refAcq) :
    s.aborting = true ∧ ∃ j, firstErrorJob s s.jobs = some j ∧ j ∈ s.jobs ∧ (getTrk s j).status = .error := by
  have hi := reachable_eInv hra h
  have ha := hi.ref hpc
  have hm := hi.main
  rw [hpc] at hm
  exact ⟨ha, firstErrorJob_of_errIn s s.jobs (hm ha)⟩

/-- In the retrieval loop of the unordered mode `_aborting` is never set without an error job being in `_jobs`, in the
caller's hands (just popped), or about to be appended by the caller itself (its TimeoutError registration). -/
theorem aborting_has_error_job {c : Cfg} {s : St} (hra : c.ra = 2) (h : Reachable c s) (ha : s.aborting = true) :
    (s.pc.ecls = .need → ∃ j ∈ s.jobs, (getTrk s j).status = .error) ∧
    (∀ i, s.pc.ecls = .popped i → (∃ j ∈ s.jobs, (getTrk s j).status = .error) ∨ (getTrk s i).status = .error) := by
  have hm := (reachable_eInv hra h).main
  constructor
  · intro hc; rw [hc] at hm; exact hm ha
  · intro i hc; rw [hc] at hm; exact hm ha

/-- 2 tasks, `n_jobs = 2`, batch size 1, `pre_dispatch = 2`, `generator_unordered`, no timeout. -/
def cfgU : Cfg :=
  { nj := 2, bsAuto := false, bs := [1], pdMode := 0, pd := 2, ra := 2, abortDrops := true, n := 2, fails := [],
    iterfail := none }

/-- The caller dispatches both batches and waits; batch 1 completes first and its callback registers; then batch 0;
then the caller drains. -/
def schedU : List Act :=
  List.replicate 30 (.thread 0) ++ [.complete 1] ++ List.replicate 6 (.thread 2) ++ [.complete 0] ++
  List.replicate 6 (.thread 1) ++ List.replicate 12 (.thread 0)

set_option maxRecDepth 100000 in
/-- Completion order, not submission order: batch 1 registered first, so the consumer receives `[1, 0]`. -/
example : (run cfgU init schedU).outcome = some (.ret [1, 0]) ∧ (run cfgU init schedU).appended = [1, 0] := by
  decide +kernel

/-- 1 task, list mode, `timeout = 0` ticks: the caller alone (the batch stays parked in the backend). -/
def cfgT : Cfg :=
  { nj := 2, bsAuto := false, bs := [1], pdMode := 0, pd := 2, ra := 0, abortDrops := true, n := 1, fails := [],
    iterfail := none, timeout := some 0 }

set_option maxRecDepth 100000 in
/-- The caller starts the counter at clock 0, sleeps once, finds the counter expired (0 < 1 - 0), registers the
TimeoutError and raises it. -/
example : (run cfgT init (List.replicate 48 (.thread 0))).outcome = some (.raised .timeout) ∧
    (run cfgT init (List.replicate 48 (.thread 0))).toWait = some (0, 0, 1) := by
  decide +kernel

/-- 2 tasks, unordered, `timeout = 1`: the caller alone; the control job times out after two sleeps. -/
def cfgTU : Cfg := { cfgU with timeout := some 1 }

set_option maxRecDepth 100000 in
example : (run cfgTU init (List.replicate 64 (.thread 0))).outcome = some (.raised .timeout) ∧
    (run cfgTU init (List.replicate 64 (.thread 0))).toWait = some (0, 0, 2) := by
  decide +kernel

/-- Unordered, task 1 fails: its callback registers first; `_raise_error_fast` finds it and the call raises. -/
def cfgF : Cfg := { cfgU with fails := [1] }

set_option maxRecDepth 100000 in
example : (run cfgF init (List.replicate 30 (.thread 0) ++ [.complete 1] ++ List.replicate 3 (.thread 2) ++
    [.complete 0] ++ List.replicate 2 (.thread 1) ++ List.replicate 12 (.thread 0))).outcome
      = some (.raised (.task 1)) := by
  decide +kernel

end M1LU
