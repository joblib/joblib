import JoblibProofs.Lemmas.LokyMgr
import JoblibProofs.Lemmas.LokyMgr.Wakeup
/-!
# C10 — a dying loky worker yields a prompt error, never a hang, and workers heal      (PARTIAL BY DESIGN)

Statement (properties.jsonl): with the default process backend (loky), if a worker process dies abruptly —
killed, segfault, `os._exit` — at any moment, before, during or after running a task, while sending its result,
or while idle between calls, the affected `Parallel` call raises a worker-termination error within bounded time
rather than hanging or returning partial or wrong results. At most one call fails per fault: the following call
transparently gets healthy workers and returns correct results.

What is proved, and about what. The theorems are about `JoblibModel.LokyMgr`: the manager thread's event loop
(`managerStep` = one iteration of `_ExecutorManagerThread.run`), the environment events of workers / OS / client
(`step`), and `get_reusable_executor` + joblib's `LokyBackend` (`getReusableExecutor`, `configure`,
`backendSubmit`, `abortEverything`). Quantifier reached: EVERY reachable state (any number of workers, tasks,
calls; any interleaving of the events of `Event`; a `kill` of any worker at any point of any history), every
history of the executor pool. Process death, pipes, sentinels and signals are MODELLED, not verified: the theorems
say what the event loop does given that a dead process's sentinel is ready, that `recv` needs a complete message,
that the pipe never reports EOF. This is the property where the theorem carries the least of the truth; the tie
to the real code is the fault-injection correspondence of `harness/props/c10.py`.

FULL STATEMENT of the liveness part (kept visible, NOT proved — it is false of model and code):
  "for every reachable state with a dead worker, within a bounded number of manager iterations every pending and
   running future is resolved."
It fails exactly in the hazard state of F15 (`f15_hazard_reachable`, `f15_hazard_blocks_forever`): a worker
killed after writing part of its result message. The proved fragment (`…_partial`) assumes
`NoTornMessage`: "no worker dies between the first and the last byte of its result message".
Sections 8–10 are about the FINE-GRAINED layer of the model (`WState`, `wstep`): the manager's wait set (rebuilt only
when the thread re-enters `wait`), the wake-up pipe with its `_closed` flag, `_shutdown_lock`, `submit`/`shutdown` run
statement by statement; quantifier reached there: every history of `WEvent`s from a fresh executor (any interleaving
of caller statements, manager statements, worker/OS events). §8 is proved IN FULL for the code as it is (`Cfg.code`, which
has the repair F53: `submit` wakes the manager thread AFTER `_ensure_executor_running()`): `wait_set_covers_live_workers`,
`death_wakes_manager_wait_set` — any history, clean worker exits included. For the order BEFORE the repair (`Cfg.preF53`)
the statement is false (`respawn_after_clean_exit_counterexample`; finding F53, reproduced on the code) and only the
`…_partial` versions hold (histories without a clean worker exit).
The predicates of the statements are defined in `Lemmas/LokyMgr.lean`, those of the fine layer (§8–10) in `Lemmas/LokyMgr/Wakeup.lean`.
Also not a theorem: wall-clock latency ("prompt"), and that a healthy executor completes every task (that needs
fairness of the OS scheduler); both are covered by the fault-injection runs only.
-/
namespace C10
open JoblibModel.LokyMgr

/-- The states the theorems quantify over: whatever a fresh executor reaches through any history of events
(client submits and shut-downs, manager iterations, worker steps, kills). -/
def Reachable (fn : Nat → Nat) (s : State) : Prop :=
  ∃ (max_workers queue_size first_pid : Nat) (evs : List Event),
    s = run fn (State.init max_workers queue_size first_pid) evs

theorem reachable_inv {fn : Nat → Nat} {s : State} (h : Reachable fn s) : Inv fn s := by
  obtain ⟨mw, qs, fp, evs, rfl⟩ := h
  exact inv_run (inv_init fn mw qs fp) evs

theorem reachable_run {fn : Nat → Nat} {s : State} (h : Reachable fn s) (evs : List Event) :
    Reachable fn (run fn s evs) := by
  obtain ⟨mw, qs, fp, evs0, rfl⟩ := h
  exact ⟨mw, qs, fp, evs0 ++ evs, by simp [run, List.foldl_append]⟩

/-! ## 1. A death wakes the manager -/

/-- A dead worker's sentinel is in the ready set of `wait`, so `wait` does not block, and the iteration of the
manager's loop does not end "asleep in `wait`" — in ANY state (no invariant needed). -/
theorem death_wakes_manager (s : State) (p : Nat) (hd : DeadIn s p) :
    p ∈ (ready s).sentinels ∧ (ready s).nothing = false ∧ (managerStep s).2 ≠ .blockedInWait := by
  have hm : p ∈ deadPids s.processes := mem_deadPids.mpr hd
  exact ⟨hm, by simp [Ready.nothing, ready, List.isEmpty_eq_false_iff_exists_mem.mpr ⟨p, hm⟩],
    managerStep_not_blockedInWait s p hd⟩

/-- …and of every SUBSEQUENT wait: no event of the workers, the OS or the client takes a dead process out of the
wait set; only the manager's own iteration can (by reaping or killing it — see `dead_worker_unblocks_manager_partial`). -/
theorem death_stays_visible (fn : Nat → Nat) (s : State) (p : Nat) (hd : DeadIn s p) (evs : List Event)
    (hne : ∀ e ∈ evs, e ≠ .mgr) :
    DeadIn (run fn s evs) p ∧ (managerStep (run fn s evs)).2 ≠ .blockedInWait := by
  have : DeadIn (run fn s evs) p :=
    List.foldlRecOn evs _ (motive := (DeadIn · p)) hd fun s hd e he => deadIn_step fn s p e hd (hne e he)
  exact ⟨this, managerStep_not_blockedInWait _ p this⟩

/-- PARTIAL (hypothesis `NoTornMessage`). With a dead worker in its wait set, every iteration of the manager
makes progress: it ends the thread with every future resolved, or it consumes one complete result message, or
(pipe empty) it consumes the pending wake-ups — keeping the dead worker in sight —, or it waits in `recv` for a
LIVE writer to finish its message. It never sleeps in `wait` and never blocks on a dead writer.
(`hnp`: no clean-exit announcement `pid q` is in flight; such a message is how a worker LEAVES without being an
error, `process_result_item`'s `int` branch.)
Missing for the full statement: the torn-message state, where the iteration blocks for ever (`f15_…`). -/
theorem dead_worker_unblocks_manager_partial (fn : Nat → Nat) (s : State) (p : Nat)
    (hreach : Reachable fn s) (hr : s.mgr = .running) (hd : DeadIn s p)
    (hnt : NoTornMessage s) (hnp : ∀ q, Msg.pid q ∉ s.result_pipe) :
    ((managerStep s).1.mgr = .exited ∧ Resolved (managerStep s).1) ∨
    ((managerStep s).2 = .progressed ∧ (managerStep s).1.mgr = .running ∧ DeadIn (managerStep s).1 p ∧
      ((∃ m, s.result_pipe = m :: (managerStep s).1.result_pipe) ∨
       (s.result_pipe = [] ∧ (managerStep s).1.result_pipe = [] ∧ s.wakeups > 0 ∧
        (managerStep s).1.wakeups = 0))) ∨
    (∃ w, (managerStep s).2 = .blockedInRecv w ∧ writerAlive s w = true) := by
  rcases managerStep_deadProgress (reachable_inv hreach) hr hd hnt hnp with
    h | ⟨h1, _, h3, h4, _, h0, h6⟩ | ⟨w, h1, h2, _, _⟩
  · exact Or.inl h
  · exact Or.inr (Or.inl ⟨h1, h3, h4, h6.imp_right fun ⟨a, b, c⟩ => ⟨a, b, c, h0⟩⟩)
  · exact Or.inr (Or.inr ⟨w, h1, h2⟩)

/-! ## 2. Once a death is observed every future is resolved -/

/-- `terminate_broken` leaves no future pending or running, whatever the reachable state it is called in: the
futures of `pending_work_items` (which include the running ones) get the error, and the invariant says every
unresolved future is in `pending_work_items`. -/
theorem terminate_broken_resolves_all (fn : Nat → Nat) (s : State) (hreach : Reachable fn s) (bpe : Exc) :
    Resolved (terminateBroken s bpe) ∧ (terminateBroken s bpe).mgr = .exited ∧
    (terminateBroken s bpe).flags.broken = some bpe ∧
    ∀ wid ∈ s.pending_work_items, ∃ r : FutRec, (terminateBroken s bpe).futures[wid]? = some r ∧
      r.st = .exception bpe := by
  have hI := reachable_inv hreach
  refine ⟨(terminateBroken_resolved hI bpe).2, rfl, rfl, ?_⟩
  intro wid hw
  have hlt := hI.pend_lt wid hw
  refine ⟨{ s.futures[wid] with st := .exception bpe }, ?_, rfl⟩
  show (failAll s.futures s.pending_work_items bpe)[wid]? = _
  rw [getElem?_failAll]
  simp [hw, hlt]

/-- PARTIAL (hypothesis: no partial message in the pipe — `NoTornMessage` for a manager running alone, since a
live writer cannot finish while only the manager moves). From any reachable state with a dead worker, the manager
running, `|buffered complete results| + 2` iterations of the manager suffice: the thread has returned and NO
future is left pending or running (each is resolved with its result, with the task's own exception, or with
`TerminatedWorkerError`/`BrokenProcessPool`). The bound: one iteration per buffered message (results have priority
over sentinels in `wait_result_broken_or_wakeup`), one for a pending wake-up (it, too, has priority), one to see
the sentinel.
Missing for the full statement: the torn-message state (F15). Under interleaving with live workers the same
argument gives "one more iteration per message they add" (`dead_worker_unblocks_manager_partial` is the step). -/
theorem broken_resolves_all_partial (fn : Nat → Nat) (s : State) (p : Nat)
    (hreach : Reachable fn s) (hr : s.mgr = .running) (hd : DeadIn s p)
    (hnt : s.partialMsg = none) (hnp : ∀ q, Msg.pid q ∉ s.result_pipe) :
    (managerSteps (s.result_pipe.length + 2) s).mgr = .exited ∧
    Resolved (managerSteps (s.result_pipe.length + 2) s) :=
  managerSteps_dead_exits _ s (Nat.lt_succ_of_le (backlog_le s)) (reachable_inv hreach) hr hd hnt hnp

/-! ## 3. No wrong results -/

/-- A future resolved with a value got the value computed from the argument of ITS OWN work item: results are
matched by work id, in every reachable state (any kills, any interleaving). -/
theorem no_wrong_results (fn : Nat → Nat) (s : State) (hreach : Reachable fn s)
    (wid : Nat) (r : FutRec) (v : Nat) (hf : s.futures[wid]? = some r) (hv : r.st = .result v) :
    v = fn r.arg :=
  (reachable_inv hreach).res_ok wid r v hf hv

/-- The manager thread never dies of the `KeyError` / `ValueError` its loop could raise
(`pending_work_items[work_id]`, `running_work_items.remove(work_id)`). -/
theorem manager_never_crashes (fn : Nat → Nat) (s : State) (hreach : Reachable fn s) : s.mgr ≠ .crashed :=
  (reachable_inv hreach).not_crashed

/-! ## 4. Healing -/

/-- `get_reusable_executor` never returns an executor flagged broken or shut down (it builds a new one). -/
theorem heal (p : Pool) (max_workers queue_size : Nat) (reuse kill_workers : Bool) :
    ∃ e, (getReusableExecutor p max_workers queue_size reuse kill_workers).1.execs[
            (getReusableExecutor p max_workers queue_size reuse kill_workers).2.1]? = some e ∧
      e.flags.broken = none ∧ e.flags.shutdown = false :=
  getReusableExecutor_healthy p max_workers queue_size reuse kill_workers

/-- For EVERY history of the module (events of any executor, calls of `get_reusable_executor` with any
arguments): once executor `j` is flagged broken it is never handed out again. -/
theorem heal_for_every_history (fn : Nat → Nat) (p : Pool) (j : Nat) (e : State) (b : Exc)
    (hj : p.execs[j]? = some e) (hb : e.flags.broken = some b) (ops : List PoolOp) :
    j ∉ (poolRun fn (p, []) ops).2 :=
  broken_never_returned fn ops (p, []) j e hj (by rw [hb]; rfl) (by simp)

/-- What a fault is charged to. `terminate_broken` fails exactly the futures of `pending_work_items` and leaves
every other future as it was; afterwards `submit` on that executor creates no future, it raises the stored error.
So a fault is charged to the calls that had futures pending at that time and, if the backend still holds the
broken instance (inside a `with Parallel(...)` block, `LokyBackend._workers`), to the first call that submits to
it (`idle_death_in_with_block_costs_one_call`) — whose `abort_everything` then replaces it (`heal`). -/
theorem fault_charged_to_pending_only (s : State) (bpe : Exc) :
    (∀ wid, wid ∉ s.pending_work_items → (terminateBroken s bpe).futures[wid]? = s.futures[wid]?) ∧
    (∀ arg, submit (terminateBroken s bpe) arg = (terminateBroken s bpe, .error bpe)) :=
  ⟨fun wid h => terminateBroken_untouched s bpe wid h,
   fun arg => submit_on_broken _ arg bpe rfl⟩

/-! ## 5. A worker dying while idle -/

/-- PARTIAL (hypothesis: the manager thread gets to run between the death and the next call — it is asleep in
`wait` on the sentinel, so this is "the OS schedules it", not a theorem). A worker dies while the executor is idle
(`Quiescent`). What the code does — there is no respawn of the dead worker (`_adjust_process_count` is only
reached through `submit`, and the dead process still counts in `len(_processes)`): the manager's next iteration
is `terminate_broken`, which flags the executor and, nothing being pending, fails NO future; the next
`configure` (= the next call outside a `with` block) then gets a brand-new healthy executor. No call fails. -/
theorem idle_death_costs_nothing_partial (fn : Nat → Nat) (p : Pool) (i : Nat) (e : State) (victim : Nat)
    (n_jobs queue_size : Nat)
    (hcur : p.current = some i) (he : p.execs[i]? = some e) (hq : Quiescent e) (hd : DeadIn e victim) :
    let p1 := (poolStep fn (p, []) (.exec i .mgr)).1          -- the manager observes the death
    let r := configure p1 n_jobs queue_size                     -- the next call starts
    r.2.workers = some p.execs.length ∧
    (∃ e2, r.1.execs[p.execs.length]? = some e2 ∧ e2.flags.broken = none ∧ e2.flags.shutdown = false) ∧
    (∃ e1, r.1.execs[i]? = some e1 ∧ e1.futures = e.futures ∧ e1.flags.broken = some .terminatedWorker) := by
  have hlt : i < p.execs.length := (List.getElem?_eq_some_iff.mp he).1
  simp only [poolStep_idle_death fn p i e victim he hq hd, configure]
  -- the executor the manager has flagged broken is the current one: it is replaced
  rw [getReusableExecutor_replace (p := { p with execs := p.execs.set i (terminateBroken e .terminatedWorker) })
    (e := terminateBroken e .terminatedWorker) n_jobs queue_size false hcur (by simp [hlt]) rfl]
  exact ⟨by simp, ⟨State.init n_jobs queue_size (firstPid p.execs.length), by simp, rfl, rfl⟩,
    shutdown (terminateBroken e .terminatedWorker) false, by simp [List.getElem?_append_left, hlt],
    (idle_death_step e victim hq hd).2, rfl⟩

/-- Inside a `with Parallel(...)` block the backend keeps its executor (`LokyBackend._workers`) and does not
call `get_reusable_executor` between calls: after an idle death (observed by the manager) the NEXT call's first
`submit` raises `TerminatedWorkerError` — one call fails, with no future created —, and its
`abort_everything(ensure_ready=True)` installs a brand-new healthy executor for the following call. -/
theorem idle_death_in_with_block_costs_one_call (fn : Nat → Nat) (p : Pool) (b : Backend) (i : Nat) (e : State)
    (victim : Nat) (n_jobs queue_size arg : Nat)
    (hcur : p.current = some i) (hb : b.workers = some i) (he : p.execs[i]? = some e)
    (hq : Quiescent e) (hd : DeadIn e victim) :
    let p1 := (poolStep fn (p, []) (.exec i .mgr)).1
    backendSubmit p1 b arg = some (p1, .error .terminatedWorker) ∧
    ∃ p2 b2, abortEverything p1 b n_jobs queue_size true = some (p2, b2) ∧
      b2.workers = some p.execs.length ∧
      ∃ e2, p2.execs[p.execs.length]? = some e2 ∧ e2.flags.broken = none ∧ e2.flags.shutdown = false := by
  have hlt : i < p.execs.length := (List.getElem?_eq_some_iff.mp he).1
  simp only [poolStep_idle_death fn p i e victim he hq hd]
  constructor
  · simp only [backendSubmit, hb, List.getElem?_set, hlt, if_true]
    rw [submit_on_broken _ arg .terminatedWorker rfl]
    simp
  · simp only [abortEverything, hb, List.getElem?_set, hlt, if_true, configure, List.set_set]
    rw [getReusableExecutor_replace (p := { p with execs := p.execs.set i (shutdown (terminateBroken e .terminatedWorker) true) })
      (e := shutdown (terminateBroken e .terminatedWorker) true) n_jobs queue_size false hcur (by simp [hlt]) rfl]
    exact ⟨_, _, rfl, by simp, State.init n_jobs queue_size (firstPid p.execs.length), by simp, rfl, rfl⟩

/-- A pool whose only executor has just served one task with two workers and is idle again. -/
def idlePool : Pool :=
  (poolRun id (Pool.empty, []) [.get 2 5 true false, .exec 0 (.submit 3), .exec 0 .mgr, .exec 0 (.take 100),
    .exec 0 (.sendResult 100), .exec 0 .mgr]).1

/-- COUNTEREXAMPLE to the un-hypothesised "an idle death costs nothing": if the next call starts BEFORE the
manager thread has looked (worker 101 killed; no manager iteration), `get_reusable_executor` reuses the
executor (nothing is flagged yet, and the dead process still counts in `len(_processes)`, so it is not
replaced either); the call's future then fails with `TerminatedWorkerError` at the manager's next look.
One call is lost — which is what the property allows ("at most one call fails per fault"). -/
theorem idle_death_unobserved_is_reused_counterexample :
    let p := (poolRun id (idlePool, []) [.exec 0 (.kill 101)]).1
    let r := getReusableExecutor p 2 5 true false
    r.2 = (0, true) ∧
    ((poolRun id (r.1, []) [.exec 0 (.submit 4), .exec 0 .mgr, .exec 0 .mgr]).1.execs.map
        (fun e => e.futures.map (·.st))) = [[.result 3, .exception .terminatedWorker]] := by
  decide +kernel

/-! ## 6. F15: the hazard, as a witness -/

/-- Two tasks submitted to two workers; worker 100 begins to write its result and is killed; worker 101 is
alive, holding its task (and, like the parent, the write end of the pipe). -/
def hazardEvents : List Event :=
  [.submit 5, .submit 6, .mgr, .take 100, .take 101, .beginSend 100, .kill 100]

def hazardState : State := run id (State.init 2 5 100) hazardEvents

/-- The hazard state is reachable (by construction: it IS a history from a fresh executor) and in it: the manager
is running, the pipe holds only a partial message, its writer (100) is dead, another worker (101) is alive, both
futures are unresolved — and one iteration of the manager ends BLOCKED IN `recv` ON THE DEAD WRITER, not in
`terminate_broken`, although the dead worker's sentinel is ready (the result reader has priority). -/
theorem f15_hazard_reachable :
    Reachable id hazardState ∧
    hazardState.mgr = .running ∧ hazardState.result_pipe = [] ∧ hazardState.partialMsg = some 100 ∧
    writerAlive hazardState 100 = false ∧ writerAlive hazardState 101 = true ∧
    100 ∈ (ready hazardState).sentinels ∧ (ready hazardState).result = true ∧
    (managerStep hazardState).2 = .stuckInRecv 100 ∧
    hazardState.futures.map (·.st) = [.running, .running] :=
  ⟨⟨2, 5, 100, hazardEvents, rfl⟩, by decide +kernel⟩

theorem hazardState_torn : Torn hazardState 100 :=
  ⟨by decide +kernel, by decide +kernel, by decide +kernel, ⟨100, false, some ⟨0, 5⟩, true, false⟩, by decide +kernel, rfl⟩

/-- In ANY reachable torn state (pipe = the first bytes of a message whose writer is dead) the manager is stuck
for ever: whatever the workers, the OS and the client do afterwards (any `evs`, including further manager
iterations, kills of the other workers, shut-downs), the state is still torn, the manager's iteration still ends
blocked in `recv`, and every future that was unresolved is still unresolved: the `Parallel` call hangs.
This is the NEGATION of the full liveness statement on a concrete witness (`hazardState_torn`). -/
theorem f15_hazard_blocks_forever (fn : Nat → Nat) (s : State) (w : Nat) (hreach : Reachable fn s)
    (ht : Torn s w) (evs : List Event) :
    Torn (run fn s evs) w ∧ (managerStep (run fn s evs)).2 = .stuckInRecv w ∧
    ∀ (i : Nat) (r : FutRec), s.futures[i]? = some r → r.st.unresolved = true →
      ∃ r' : FutRec, (run fn s evs).futures[i]? = some r' ∧ r'.st.unresolved = true :=
  torn_forever evs (reachable_inv hreach) ht

/-- The hypothesis of the `…_partial` theorems excludes exactly this: a torn state is not `NoTornMessage`. -/
theorem torn_is_not_noTorn (s : State) (w : Nat) (ht : Torn s w) : ¬ NoTornMessage s := by
  intro h
  have := h w ht.partialMsg
  rw [torn_writer_dead ht] at this
  cases this

/-! ## 7. The tear-down is not atomic: the client between its steps; the error message -/

/-- After the broken flag is set `submit` raises the stored error and accepts nothing. -/
theorem submit_after_flag_raises (s : State) (arg : Nat) (b : Exc) (h : s.flags.broken = some b) :
    submit s arg = (s, .error b) :=
  submit_on_broken s arg b h

/-- NO ORPHAN FUTURE. `terminate_broken` is not atomic: the client thread may call `submit` between any two of
its steps (`a1`: after `flag_as_broken`, `a2`: after the pending items were failed and cleared, `a3`: after
`kill_workers`). BECAUSE THE FLAG IS SET FIRST every one of those submits is rejected (it raises the error, no future
is created), so the outcome is that of the uninterrupted tear-down and, in a reachable state, every future that
`submit` ever accepted is resolved: it was in `pending_work_items` when they were failed. The theorem relies on
exactly this order — flag, then fail-and-clear; see `flag_after_clear_orphans_counterexample`. -/
theorem no_orphan_future (fn : Nat → Nat) (s : State) (hreach : Reachable fn s) (bpe : Exc) (a1 a2 a3 : List Nat) :
    terminateBrokenInterleaved s bpe a1 a2 a3 = terminateBroken s bpe ∧
    Resolved (terminateBrokenInterleaved s bpe a1 a2 a3) ∧
    (∀ a, submit (flagAsBroken s bpe) a = (flagAsBroken s bpe, .error bpe)) := by
  rw [terminateBrokenInterleaved_eq]
  exact ⟨rfl, (terminateBroken_resolved (reachable_inv hreach) bpe).2, fun a => submit_on_broken _ a bpe rfl⟩

/-- The executor of `idlePool` with worker 101 dead: idle, manager asleep on the sentinel. -/
def idleDeadState : State := ((poolRun id (idlePool, []) [.exec 0 (.kill 101)]).1.execs[0]!)

/-- COUNTEREXAMPLE for the other order (pending items failed and cleared FIRST, flag set afterwards): a `submit`
landing in between is accepted — the executor is neither broken nor shut down yet — and its future stays `pending`
for ever: the manager thread has returned (`mgr = exited`), the work id sits in `pending_work_items` of a dead
executor. This is the hang the order of `terminate_broken` exists to prevent. -/
theorem flag_after_clear_orphans_counterexample :
    let s' := terminateBrokenFlagLast idleDeadState .terminatedWorker [9]
    s'.mgr = .exited ∧ s'.flags.broken = some .terminatedWorker ∧ s'.pending_work_items = [1] ∧
    s'.futures.map (·.st) = [.result 3, .pending] := by
  decide +kernel

/-- Building the `TerminatedWorkerError` message never raises, whatever the exit codes of the workers and whatever
signals have a name: `_get_exitcode_name` answers `"UNKNOWN"` for a signal number outside `signal.Signals`
(real-time signals), the `ValueError` does not escape into the manager thread. -/
theorem exitcode_message_never_raises (names : List (Nat × String)) :
    (∀ e : Int, getExitcodeName names e =
      .ok (if e < 0 then (names.lookup (-e).toNat).getD "UNKNOWN" else if e ≠ 255 then "EXIT" else "UNKNOWN")) ∧
    (∀ es : List Int, ∃ msg, formatExitcodes names es = .ok msg) :=
  ⟨getExitcodeName_ok names, formatExitcodes_ok names⟩

/-! ## Non-vacuity: the hypotheses are met by non-trivial reachable states -/

/-- Worker 100 killed holding its task while worker 101's result is buffered: reachable, manager running, a dead
worker in the wait set, no torn message, no exit announcement — the hypotheses of `broken_resolves_all_partial`. -/
def exState : State :=
  run id (State.init 2 5 100) [.submit 5, .submit 6, .submit 7, .mgr, .take 100, .take 101, .sendResult 101, .kill 100]

example : Reachable id exState := ⟨2, 5, 100, _, rfl⟩
example : exState.mgr = .running ∧ exState.partialMsg = none ∧ exState.result_pipe = [.result 1 6] := by decide +kernel
example : DeadIn exState 100 := by decide +kernel
example : ∀ q, Msg.pid q ∉ exState.result_pipe := by
  have : exState.result_pipe = [.result 1 6] := by decide +kernel
  intro q; rw [this]; simp
/-- …and the conclusion on it: after `1 + 2` iterations the thread has returned; the buffered result was
delivered, the other two futures carry `TerminatedWorkerError`. -/
example : (managerSteps 3 exState).mgr = .exited ∧
    (managerSteps 3 exState).futures.map (·.st) =
      [.exception .terminatedWorker, .result 6, .exception .terminatedWorker] := by decide +kernel
/-- An idle executor (`Quiescent`) with a dead worker, for the idle-death theorems. -/
example : Quiescent ((poolRun id (idlePool, []) [.exec 0 (.kill 101)]).1.execs[0]!) := by
  unfold Quiescent; decide +kernel
example : (getReusableExecutor idlePool 2 5 true false).2 = (0, true) := by decide +kernel

example : (getExitcodeName [(9, "SIGKILL"), (34, "SIGRTMIN")] (-35)).toOption = some "UNKNOWN" := by decide +kernel
example : (formatExitcodes [(9, "SIGKILL")] [-9, -35, 3, 255]).toOption =
    some "{SIGKILL(-9), UNKNOWN(-35), EXIT(3), UNKNOWN(255)}" := by decide +kernel

/-! ## 8. The wait set of the manager thread and the start order (fine-grained layer) -/

/-- THE WAIT SET COVERS THE PROCESSES, OR A WAKE-UP IS ON ITS WAY (the code as it is: `wakeup()` is the LAST statement of
`submit`, `cfg.wakeupBeforeRespawn = false`; either start order of `_ensure_executor_running`, with or without the lock
around `close`). After ANY history from a fresh executor — any interleaving of the caller's statements inside any number
of `submit`s / `shutdown`s, the manager's statements, worker and OS events, kills, CLEAN EXITS (idle time-outs) and the
respawns that follow them —: whenever the manager thread is inside `wait`, the sentinel of every process of the executor is
in the list it waits on, or a wake-up byte is in the pipe, or the caller is still inside the `submit` that spawned the
missing processes, before the write of its wake-up. (The list is rebuilt only when the thread re-enters `wait`, so "always
covered" is not true of any order; this is what makes the thread look again.) -/
theorem wait_set_covers_live_workers (cfg : Cfg) (hcfg : cfg.wakeupBeforeRespawn = false) (fn : Nat → Nat)
    (mw qs fp : Nat) (evs : List WEvent) (ws : List Nat) :
    let s := wrun cfg fn (WState.init mw qs fp) evs
    s.base.mgr = .running → s.mph = .waiting ws →
    (∀ w ∈ s.base.processes, w.pid ∈ ws) ∨ s.base.wakeups > 0 ∨ preWrite s.cpc = true :=
  (wakeInv_run cfg hcfg fn _ (wakeInv_init mw qs fp) evs).cover ws

/-- `death_wakes_manager` for the wait set the thread REALLY waits on, for the code as it is, after ANY history: with the
caller outside `submit` (it is waiting for its futures) and a dead process among the executor's processes, `wait` returns
— the dead process's sentinel is in the list, or a wake-up is pending —: the iteration does not end asleep. In particular
for a one-batch call on a fresh executor, and for a one-batch call on an executor whose workers had all left by idle
time-out (F53). -/
theorem death_wakes_manager_wait_set (cfg : Cfg) (hcfg : cfg.wakeupBeforeRespawn = false) (fn : Nat → Nat)
    (mw qs fp : Nat) (evs : List WEvent) (ws : List Nat) (p : Nat) :
    let s := wrun cfg fn (WState.init mw qs fp) evs
    s.base.mgr = .running → s.mph = .waiting ws → preWrite s.cpc = false → DeadIn s.base p →
    waitReady s.base ws = true ∧ (waitStep s.base ws).2 ≠ .blockedInWait ∧ s.asleep = false := by
  intro s hr hw hpc hd
  rcases wait_set_covers_live_workers cfg hcfg fn mw qs fp evs ws hr hw with c | c | c
  · exact awake_of_cover hr hw hd (Or.inl c)
  · exact awake_of_cover hr hw hd (Or.inr c)
  · rw [hpc] at c; cases c

/-- PARTIAL — the order BEFORE the repair F53 (and any other; hypothesis `NoCleanExit`: no worker leaves cleanly — idle time-out, memory-leak restart — in the history).
In the code's order (`_adjust_process_count()` BEFORE `_start_executor_manager_thread()`; `cfg.managerFirst = false`,
with or without the lock around `close`), after ANY history from a fresh executor — any interleaving of the caller's
statements inside any number of `submit`s / `shutdown`s, the manager's statements, worker and OS events, kills —:
whenever the manager thread is inside `wait`, the sentinel of EVERY process of the executor (live or dead) is in the
list it waits on.
Missing for the full statement: after a clean exit `len(_processes) < max_workers`, the next `submit` respawns the
missing workers AFTER its wake-up, and the manager may have consumed the wake-up and re-entered `wait` before:
`respawn_after_clean_exit_counterexample` (confirmed on the code: builders_notes/C10-wakeup.md). -/
theorem wait_set_covers_live_workers_partial (cfg : Cfg) (hcfg : cfg.managerFirst = false) (fn : Nat → Nat)
    (mw qs fp : Nat) (evs : List WEvent) (hev : NoCleanExit evs) (ws : List Nat) :
    let s := wrun cfg fn (WState.init mw qs fp) evs
    s.base.mgr = .running → s.mph = .waiting ws → ∀ w ∈ s.base.processes, w.pid ∈ ws :=
  (coverInv_run cfg hcfg fn _ (coverInv_init mw qs fp) evs hev).cover ws

/-- PARTIAL (same hypothesis). `death_wakes_manager` for the wait set the thread REALLY waits on — in particular for a
call made of ONE batch on a FRESH executor (history = one `callSubmit`, then anything), where the single wake-up of
`submit` is consumed before the workers run: a dead process's sentinel is in the list built at the entry of the wait, so
`wait` returns, the iteration does not end asleep, and the manager is not `asleep`. -/
theorem death_wakes_manager_wait_set_partial (cfg : Cfg) (hcfg : cfg.managerFirst = false) (fn : Nat → Nat)
    (mw qs fp : Nat) (evs : List WEvent) (hev : NoCleanExit evs) (ws : List Nat) (p : Nat) :
    let s := wrun cfg fn (WState.init mw qs fp) evs
    s.base.mgr = .running → s.mph = .waiting ws → DeadIn s.base p →
    p ∈ ws ∧ waitReady s.base ws = true ∧ (waitStep s.base ws).2 ≠ .blockedInWait ∧ s.asleep = false := by
  intro s hr hw hd
  have hc := wait_set_covers_live_workers_partial cfg hcfg fn mw qs fp evs hev ws hr hw
  have ⟨w, hmem, hp, _⟩ := hd
  exact ⟨hp ▸ hc w hmem, awake_of_cover hr hw hd (Or.inl hc)⟩

/-- The instance the round-4 seeded change was about, for the order before F53: ONE `submit` on a fresh executor
(`callSubmit arg`, then anything), any worker killed at any point. -/
theorem death_wakes_manager_single_batch_partial (fn : Nat → Nat) (mw qs fp arg : Nat) (evs : List WEvent)
    (hev : NoCleanExit evs) (ws : List Nat) (p : Nat) :
    let s := wrun Cfg.preF53 fn (WState.init mw qs fp) (.callSubmit arg :: evs)
    s.base.mgr = .running → s.mph = .waiting ws → DeadIn s.base p → p ∈ ws ∧ s.asleep = false := by
  intro s hr hw hd
  have hev' : NoCleanExit (.callSubmit arg :: evs) := by
    intro q hq
    rcases List.mem_cons.mp hq with h | h
    · cases h
    · exact hev q h
  obtain ⟨h1, _, _, h4⟩ :=
    death_wakes_manager_wait_set_partial Cfg.preF53 rfl fn mw qs fp (.callSubmit arg :: evs) hev' ws p hr hw hd
  exact ⟨h1, h4⟩

/-- With the sentinels of all current processes in the wait set, the fine manager (`add_call_item_to_queue`, then the
wait step) IS one `managerStep` of the coarse model the sections 1–7 are about. -/
theorem full_wait_set_is_manager_step (s : State) (hr : s.mgr = .running) (hc : (addCallItems s).mgr ≠ .crashed) :
    waitStep (addCallItems s) (pidsOf (addCallItems s).processes) = managerStep s := by
  rw [managerStep_eq, if_neg (by simp [hr]), if_neg hc]

/-- (Order of `submit` before F53.) One task submitted to a fresh two-worker executor in the OTHER start order (manager
thread started before the workers are spawned — `managerFirst`): the manager consumes the wake-up and re-enters `wait` with an EMPTY sentinel list, then
the workers are spawned, worker 100 takes the task and is killed. -/
def managerFirstEvents : List WEvent :=
  [.callSubmit 5, .caller, .caller,        -- registered; `wakeup()`: test, write
   .caller,                                 -- `_start_executor_manager_thread()` first
   .manager, .manager,                      -- `add_call_item_to_queue`, wait on []; wake-up consumed
   .manager,                                -- next iteration: wait on [] again
   .caller, .caller, .caller,               -- `_adjust_process_count`: two workers; `submit` returns
   .env (.take 100), .env (.kill 100)]

/-- COUNTEREXAMPLE for the other start order: the state reached has a DEAD worker holding the task, its sentinel is NOT
in the wait set, no wake-up is pending, the pipe is empty, the other worker is idle, the call queue is empty — the
manager is asleep, the future stays `running`: a permanent hang (nothing but a further `submit`/`shutdown` of the caller —
who is waiting for this very future — or the idle worker's time-out can wake the thread:
`manager_first_hang_is_permanent`). The same history in the code's start order leaves the manager awake; and with the
repair F53 (wake-up last) the other start order is harmless too (`wait_set_covers_live_workers` does not ask for
`managerFirst = false`): last conjunct. -/
theorem manager_first_counterexample :
    let s := wrun ⟨true, false, true⟩ id (WState.init 2 5 100) managerFirstEvents
    s.base.mgr = .running ∧ s.mph = .waiting [] ∧ s.cpc = .idle ∧ DeadIn s.base 100 ∧
    100 ∉ ([] : List Nat) ∧ s.base.wakeups = 0 ∧ s.base.result_pipe = [] ∧ s.base.partialMsg = none ∧
    s.base.call_queue = [] ∧ s.asleep = true ∧ s.base.futures.map (·.st) = [.running] ∧
    (wrun Cfg.preF53 id (WState.init 2 5 100) managerFirstEvents).asleep = false ∧
    (wrun ⟨true, false, false⟩ id (WState.init 2 5 100)
      [.callSubmit 5, .caller, .manager, .manager, .caller, .caller, .caller, .caller, .caller,
       .env (.take 100), .env (.kill 100)]).asleep = false := by
  decide +kernel

/-- …and that hang is permanent: from the state of `manager_first_counterexample`, whatever the workers, the OS and the
manager thread do afterwards (`Quiet`: every event but a further `submit`/`shutdown` of the caller — who is blocked on
this very future — and a clean exit of the idle worker, i.e. its idle time-out), the manager stays asleep and the futures
stay as they are. -/
theorem manager_first_hang_is_permanent (evs : List WEvent) (hq : ∀ e ∈ evs, Quiet e) :
    let s := wrun ⟨true, false, true⟩ id (WState.init 2 5 100) managerFirstEvents
    (wrun ⟨true, false, true⟩ id s evs).asleep = true ∧
    (wrun ⟨true, false, true⟩ id s evs).base.futures.map (·.st) = [.running] := by
  intro s
  have hs : Stranded s := by
    obtain ⟨h1, h2, h3, _, _, h6, h7, h8, h9, _⟩ := manager_first_counterexample
    refine ⟨h1, h2, h6, h7, h8, h9, h3, ?_⟩
    have hp : s.base.processes = [⟨100, false, some ⟨0, 5⟩, false, false⟩, ⟨101, true, none, false, false⟩] := by decide +kernel
    intro w hw
    rw [hp] at hw
    simp only [List.mem_cons, List.not_mem_nil, or_false] at hw
    rcases hw with rfl | rfl
    · exact Or.inl rfl
    · exact Or.inr rfl
  obtain ⟨h1, h2⟩ := stranded_run ⟨true, false, true⟩ id s hs evs hq
  refine ⟨stranded_asleep h1, ?_⟩
  rw [h2]; decide +kernel

/-- The order of `submit` BEFORE the repair F53 (`Cfg.preF53`), two workers, one task served; worker 101 then leaves cleanly (idle time-out) and is reaped; the
NEXT `submit` writes its wake-up, the manager consumes it and re-enters `wait` on `[100]`, THEN `submit` respawns the
missing worker (pid 102), which takes the task and is killed. -/
def respawnEvents : List WEvent :=
  [.callSubmit 5, .caller, .caller, .caller, .caller, .caller, .caller,
   .manager, .manager, .manager, .env (.take 100), .env (.sendResult 100), .manager, .manager,
   .env (.announceExit 101), .manager, .manager,
   .callSubmit 6, .caller, .caller,          -- second call: registered; wake-up written
   .manager, .manager,                       -- wake-up consumed; wait on [100]
   .caller, .caller, .caller,                -- `_ensure_executor_running`: worker 102 spawned; `submit` returns
   .env (.take 102), .env (.kill 102)]

/-- The same schedule with the repair F53 (`Cfg.code`): the second `submit` respawns worker 102 (killed at once) and THEN
writes its wake-up. -/
def respawnEventsF53 : List WEvent :=
  [.callSubmit 5, .caller, .caller, .caller, .caller, .caller, .caller,
   .manager, .manager, .manager, .env (.take 100), .env (.sendResult 100), .manager, .manager,
   .env (.announceExit 101), .manager, .manager,
   .callSubmit 6,
   .manager,                                 -- (asleep: no wake-up yet)
   .caller, .caller, .caller, .caller, .caller,   -- worker 102 spawned; manager already started; `wakeup()`: test, write
   .env (.take 102), .env (.kill 102)]

/-- COUNTEREXAMPLE (finding F53) to `wait_set_covers_live_workers` / `death_wakes_manager_wait_set` FOR THE ORDER BEFORE
THE REPAIR (`Cfg.preF53`, the code's own start order): after a clean exit the respawned worker 102 is dead, holds the
task, and is not in the wait set `[100]`; no wake-up is pending, the caller is outside `submit`: the manager is asleep and
the second call's future stays `running` — until something else wakes the thread (in the code: the idle time-out of
another worker, `idle_worker_timeout` = 300 s by default in joblib; reproduced, builders_notes/C10-wakeup.md).
With the repair (`Cfg.code`) the analogous schedule leaves a wake-up pending, the manager is not asleep and three
iterations later the call's future carries `TerminatedWorkerError`. -/
theorem respawn_after_clean_exit_counterexample :
    let s := wrun Cfg.preF53 id (WState.init 2 5 100) respawnEvents
    s.base.mgr = .running ∧ s.mph = .waiting [100] ∧ s.cpc = .idle ∧ DeadIn s.base 102 ∧ 102 ∉ [100] ∧
    s.base.wakeups = 0 ∧ s.asleep = true ∧ s.base.futures.map (·.st) = [.result 5, .running] ∧
    (let s' := wrun Cfg.code id (WState.init 2 5 100) respawnEventsF53
     s'.mph = .waiting [100] ∧ DeadIn s'.base 102 ∧ s'.base.wakeups = 1 ∧ s'.asleep = false ∧
     (wrun Cfg.code id s' [.manager, .manager, .manager]).base.futures.map (·.st) =
       [.result 5, .exception .terminatedWorker]) := by
  decide +kernel

/-! ## 9. The wake-up pipe and the shutdown lock -/

/-- With `close` under the lock (`cfg.closeUnlocked = false`; either start order), after ANY history: no `wakeup()` has
ever written to a closed pipe (`oserror = false`: neither `submit` nor `shutdown` raised `OSError`), and whenever the
caller stands between the `_closed` test and the write, it holds the lock and the pipe is still open — so the write
that follows succeeds. -/
theorem wakeup_never_writes_to_closed_pipe (cfg : Cfg) (hcfg : cfg.closeUnlocked = false) (fn : Nat → Nat)
    (mw qs fp : Nat) (evs : List WEvent) :
    let s := wrun cfg fn (WState.init mw qs fp) evs
    s.oserror = false ∧ (s.cpc = .subWrite ∨ s.cpc = .shutWrite → s.lock = true ∧ s.closed = false) := by
  intro s
  have h : LockInv s := lockInv_run cfg hcfg fn _ (lockInv_init mw qs fp) evs
  refine ⟨h.noerr, fun hw => ⟨?_, h.writing hw⟩⟩
  rw [h.held]
  rcases hw with hw | hw <;> rw [hw] <;> rfl

/-- …and the manager cannot close the pipe meanwhile: with the caller between test and write, the manager's statement
leaves `closed` as it is (it waits for the lock). -/
theorem close_waits_for_the_writer (cfg : Cfg) (hcfg : cfg.closeUnlocked = false) (fn : Nat → Nat)
    (mw qs fp : Nat) (evs : List WEvent) :
    let s := wrun cfg fn (WState.init mw qs fp) evs
    s.cpc = .subWrite ∨ s.cpc = .shutWrite → (wstep cfg fn s .manager).closed = false := by
  intro s hw
  obtain ⟨_, h2⟩ := wakeup_never_writes_to_closed_pipe cfg hcfg fn mw qs fp evs
  obtain ⟨hl, hc⟩ := h2 hw
  rcases (managerMicro_frame cfg s).closed with f4 | f4 | f4
  · show (managerMicro cfg s).closed = false
    rw [f4]; exact hc
  · rw [hl] at f4; cases f4
  · rw [hcfg] at f4; cases f4

/-- One task, its worker killed; the manager tears the executor down (`terminate_broken` … `join_executor_internals`)
while the caller aborts the call (`shutdown(kill_workers=True)`): flag, lock, `_closed` tested (open) — the manager
closes the pipe — the caller writes. -/
def closeRaceEvents : List WEvent :=
  [.callSubmit 5, .caller, .caller, .caller, .caller, .caller, .caller,
   .manager, .manager, .manager,
   .env (.take 100), .env (.kill 100),
   .manager,                                 -- the death is seen: `terminate_broken`, up to the close of the pipe
   .callShutdown true, .caller, .caller,     -- the abort: flags; lock taken; `if not self._closed` (open)
   .manager,                                 -- `thread_wakeup.close()`
   .caller]                                  -- `send_bytes`

/-- COUNTEREXAMPLE without the lock around `close` (`closeUnlocked`): the caller's write hits the closed pipe, the abort
raises `OSError` and THAT is what the `Parallel` call raises instead of the `TerminatedWorkerError` its future carries.
With the lock (the code) the same history ends with the pipe open at the write, no `OSError`, the future's error raised. -/
theorem close_unlocked_counterexample :
    let s := wrun ⟨false, true, false⟩ id (WState.init 2 5 100) closeRaceEvents
    s.oserror = true ∧ s.base.futures.map (·.st) = [.exception .terminatedWorker] ∧
    s.raised .terminatedWorker = .osError ∧
    (let s' := wrun Cfg.code id (WState.init 2 5 100) closeRaceEvents
     s'.oserror = false ∧ s'.closed = false ∧ s'.mph = .closing ∧
     s'.raised .terminatedWorker = .exc .terminatedWorker) := by
  decide +kernel

/-! ## 10. The caller's abort -/

/-- What the tear-down after a death stores in the flags — hence what `submit` re-raises and what every failed future
carries — is a worker-termination error (`TerminatedWorkerError` or `BrokenProcessPool`), whatever the wait set. -/
theorem death_error_is_worker_termination (s : State) (ws : List Nat) :
    (waitStep s ws).1.flags.broken = s.flags.broken ∨
    (waitStep s ws).1.flags.broken = some .terminatedWorker ∨ (waitStep s ws).1.flags.broken = some .brokenPool :=
  (waitStep_frame s ws).broken

/-- With the lock (the code), after ANY history the caller's abort (`shutdown` → `wakeup()`) has not raised: a failed
call re-raises exactly the error `e` its future carries — a worker-termination error by
`death_error_is_worker_termination` and `terminate_broken_resolves_all` —, never an `OSError` of the abort itself. -/
theorem abort_raises_only_worker_termination (cfg : Cfg) (hcfg : cfg.closeUnlocked = false) (fn : Nat → Nat)
    (mw qs fp : Nat) (evs : List WEvent) (e : Exc) :
    (wrun cfg fn (WState.init mw qs fp) evs).raised e = .exc e := by
  have h := (wakeup_never_writes_to_closed_pipe cfg hcfg fn mw qs fp evs).1
  simp only [WState.raised] at *
  simp [h]

/-! ### Non-vacuity of sections 8–10 -/

/-- The code's order, one task, worker 100 killed holding it: no clean exit in the history, the manager is inside `wait`
on `[100, 101]`, a dead worker is among the processes — the hypotheses of `death_wakes_manager_wait_set_partial`. -/
def coveredEvents : List WEvent :=
  [.callSubmit 5, .caller, .caller, .caller, .caller, .caller, .caller, .manager, .manager, .manager,
   .env (.take 100), .env (.kill 100)]

example : NoCleanExit coveredEvents := by intro p h; simp [coveredEvents] at h
example : let s := wrun Cfg.code id (WState.init 2 5 100) coveredEvents
    s.base.mgr = .running ∧ s.mph = .waiting [100, 101] ∧ s.base.wakeups = 0 ∧ s.asleep = false ∧
    (wstep Cfg.code id s .manager).base.futures.map (·.st) = [.exception .terminatedWorker] := by decide +kernel
/-- `submit` run statement by statement without interruption is the coarse `submit`. -/
example : (wrun Cfg.code id (WState.init 2 5 100) [.callSubmit 5, .caller, .caller, .caller, .caller, .caller, .caller]).base
    = (submit (State.init 2 5 100) 5).1 := by decide +kernel
/-- The caller between test and write, the manager at the close: reachable (hypothesis of `close_waits_for_the_writer`). -/
example : let s := wrun Cfg.code id (WState.init 2 5 100) (closeRaceEvents.take 16)
    s.cpc = .shutWrite ∧ s.mph = .closing ∧ s.lock = true ∧ (wstep Cfg.code id s .manager) = s := by decide +kernel
/-- The hypotheses of `death_wakes_manager_wait_set` after a history WITH a clean exit and a respawn (the code as it is):
manager inside `wait` on `[100]`, the caller outside `submit`, the respawned worker 102 dead and NOT in the wait set — and
a wake-up pending, as `wait_set_covers_live_workers` says. -/
example : let s := wrun Cfg.code id (WState.init 2 5 100) respawnEventsF53
    s.base.mgr = .running ∧ s.mph = .waiting [100] ∧ preWrite s.cpc = false ∧ s.base.wakeups = 1 ∧
    s.base.processes.map (·.pid) = [100, 102] := by decide +kernel
example : DeadIn (wrun Cfg.code id (WState.init 2 5 100) respawnEventsF53).base 102 := by decide +kernel
/-- `Quiet` continuations exist: kills, worker events, manager iterations. -/
example : ∀ e ∈ [WEvent.manager, .env (.kill 101), .env (.sendResult 100), .caller, .manager], Quiet e := by
  intro e he; simp at he; rcases he with rfl | rfl | rfl | rfl | rfl <;> trivial

end C10
