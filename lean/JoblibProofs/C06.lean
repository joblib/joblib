import JoblibProofs.Lemmas.MemoryCache
/-!
# C06 — Memory serves repeated calls from cache whatever the equivalent call form

Statement (properties.jsonl): in any sequential history of calls, within one process or across
processes sharing a cache directory, once a call has completed, repeating it in any equivalent form
(positional, keyword, defaults spelled out, dict/set arguments built in another order) or with
different values for ignored parameters is served from the cache without executing the function
body again, as long as the entry has not been evicted, cleared or invalidated.
`check_call_in_cache` answers True exactly when the next identical call would not execute the
function, and every call that the plain function accepts is accepted by the cached wrapper.

Model: `JoblibModel.MemoryCache` (see C02); the predicates of the statements that the models do not define, and the example
data, are in `Lemmas/MemoryCache.lean`.  A fresh process is the identity on this model: the key is a function of the call
alone and the store is on disk (the in-memory function table is C12's model).
`step .fixed` is the code WITH fixes/F30-forced-call-checks-func-code.diff
(`MemorizedFunc.call` runs `_check_previous_func_code` before it stores), `step .old` the pinned tree,
for which `check_iff_hit` and "a completed call is served afterwards" FAIL after a forced call on a
directory without `func_code.py` (`old_forced_call_reexecuted_counterexample`,
`old_check_false_but_hit_counterexample`); the repair is small and was made, so the statements are
proved for the repaired code (`check_iff_hit` under the invariant `EntriesCoded`, which every
reachable state of the repaired code has: `reachable_entriesCoded`).

Quantifier reached: signatures of any length / kind mix, plain or `async def` functions and bound
methods, any ignore list (without repetition, naming parameters), any valuation of the values into
C08's universe, any store state, any intermediate history (any length) that does not touch the
entry; functions that do ANYTHING to their arguments in place (`Fn.effect`, arbitrary): "the same call"
means the arguments as they were PASSED (`key_from_arguments_as_passed`,
`hit_after_forced_call_mutating`; the variant keying a forced call after the body is refuted by
`key_after_call_counterexample`).

Hypotheses: `NamesOK E`; `Sortable H (embed E d)` for the two argument dicts (`sorted` is well
defined at every dict / set node — C08's `KeysStrict`; true of every real Python value unless two
keys of one container have colliding digests).  No hypothesis on `H` is needed here.

FULL STATEMENT of `key_complete`: for EVERY cached callable.  It is FALSE for `functools.partial`
objects (and every callable `filter_args` does not inspect): F20, `key_complete_nonfunction_counterexample`
— a known finding (policy).  `key_complete_partial` is the full statement for functions and bound
methods.  (Argument objects that are ALIASED inside one call are outside the model, as in C08: the
model's values have no identity.)
-/
namespace C06
open JoblibModel.FilterArgs JoblibModel.MemoryCache
-- `Version` and `step` are the cache's here; the encoder and its decoder have their own of both names
open JoblibModel.HashStream hiding Version step

variable {R : Type}

/-- **Completeness of the key.**  Two calls of one function (or bound method) that Python accepts
and that bind the same Python values outside the ignore list — whatever the call form (positional,
keyword, defaults left out or spelled out), whatever the insertion order of dict / set arguments,
whatever the values of ignored parameters — are accepted by `filter_args` and get the SAME key.
Uses `encode_reorder`, the lemma behind `C08.encode_perm_invariant` (through `stream_eq_of_canon_eq`). -/
theorem key_complete_partial (H : Bs → Bs) (E : Env) (cal : Callable) (ig : List Key) (c₁ c₂ : Call)
    (b₁ b₂ : List (Nat × Val)) (hn : NamesOK E) (hf : FuncLike cal)
    (hc₁ : CallWF c₁) (hc₂ : CallWF c₂)
    (hb₁ : bindOf cal c₁ = .ok b₁) (hb₂ : bindOf cal c₂ = .ok b₂)
    (hig : ig.Nodup) (hkeys : ∀ k ∈ ig, k ∈ (rename cal.sig b₁).map Prod.fst)
    (hs : ∀ c d, argDict cal ig c = .ok d → (c = c₁ ∨ c = c₂) → Sortable H (embed E d))
    (ha : AgreeOutside E cal.sig ig b₁ b₂) :
    ∃ k, argsId H E cal ig c₁ = .ok k ∧ argsId H E cal ig c₂ = .ok k := by
  have hkeys₂ : ∀ k ∈ ig, k ∈ (rename cal.sig b₂).map Prod.fst := by
    rw [rename_keys, ← ha.1, ← rename_keys]; exact hkeys
  obtain ⟨d₁, hd₁⟩ := argDict_ok hf hc₁ hb₁ hig hkeys
  obtain ⟨d₂, hd₂⟩ := argDict_ok hf hc₂ hb₂ hig hkeys₂
  have : stream H E d₁ = stream H E d₂ :=
    stream_eq_of_canon_eq (hs c₁ d₁ hd₁ (.inl rfl)) (hs c₂ d₂ hd₂ (.inr rfl))
    ((sameValue_embed_iff_agree hn hf ⟨hc₁, hd₁, hb₁⟩ ⟨hc₂, hd₂, hb₂⟩).mpr ha)
  exact ⟨H (stream H E d₁), argsId_ok hd₁, by rw [this]; exact argsId_ok hd₂⟩

/-- **F20 — the full statement is false for `functools.partial` objects.**  `def g(a, b=5)`,
`pg = memory.cache(functools.partial(g, 1))`: `pg(2)` and `pg(b=2)` bind the same arguments
(`a=1, b=2`) but are hashed to different streams (`{'*': [2], '**': {}}` against
`{'*': [], '**': {'b': 2}}`), whatever the digest: two entries, the body runs twice. -/
theorem key_complete_nonfunction_counterexample (H : Bs → Bs) :
    let cal : Callable := .part [⟨0, .posKw, none⟩, ⟨1, .posKw, some 5⟩] [1] []
    bindOf cal ⟨[2], []⟩ = .ok [(0, .one 1), (1, .one 2)] ∧
    bindOf cal ⟨[], [(1, 2)]⟩ = .ok [(0, .one 1), (1, .one 2)] ∧
    ∃ d₁ d₂, argDict cal [] ⟨[2], []⟩ = .ok d₁ ∧ argDict cal [] ⟨[], [(1, 2)]⟩ = .ok d₂ ∧
      stream H envEx d₁ ≠ stream H envEx d₂ := by
  refine ⟨by decide, by decide, _, _, rfl, rfl, ?_⟩
  -- neither dict takes the digest fallback, so the two streams are those of any other digest
  rw [stream_plain_indep H hId (by decide +kernel), stream_plain_indep H hId (by decide +kernel)]
  decide +kernel

/-- **A completed call is served from the cache afterwards.**  From any state of the cache
directory: if the call `fn(c₁)` completes (returns a value, whether executed or not), then after ANY
history `mid` of operations that do not evict, clear or invalidate its entry (`Untouched`: other
calls, shelved gets, forced calls, checks, fresh processes, evictions / clears of other entries), a
call `fn(c₂)` with the same key is NOT executed — it returns a stored value and leaves the
directory as it is.  (Either version of the code.) -/
theorem hit_after_call (ver : JoblibModel.MemoryCache.Version) (H : Bs → Bs) (E : Env) (st : St R)
    (fn : Fn R) (c₁ c₂ : Call) (cb : Bool) (k : Bs) (v : R) (x : Bool) (mid : List (Op R))
    (hk₁ : argsId H E fn.cal fn.ig c₁ = .ok k) (hk₂ : argsId H E fn.cal fn.ig c₂ = .ok k)
    (hdone : (step ver H E st (.call fn c₁ cb)).1 = .value v x)
    (hmid : ∀ op ∈ mid, Untouched H E (fn.fid, k) op) :
    ∃ v', step ver H E (exec ver H E (step ver H E st (.call fn c₁ cb)).2 mid) (.call fn c₂ true) =
      (.value v' false, exec ver H E (step ver H E st (.call fn c₁ cb)).2 mid) :=
  (served_of_present hk₂ (present_exec mid (present_after_call hk₁ hdone) hmid)).imp fun _ h => h.1

/-- The two together: after a completed call, any EQUIVALENT call — another call form, dict / set
arguments built in another order, other values for ignored parameters — is served from the cache
until the entry is evicted, cleared or invalidated. -/
theorem hit_after_equivalent_call_partial (ver : JoblibModel.MemoryCache.Version) (H : Bs → Bs) (E : Env)
    (st : St R) (fn : Fn R)
    (c₁ c₂ : Call) (b₁ b₂ : List (Nat × Val)) (cb : Bool) (v : R) (x : Bool) (mid : List (Op R))
    (hn : NamesOK E) (hf : FuncLike fn.cal) (hc₁ : CallWF c₁) (hc₂ : CallWF c₂)
    (hb₁ : bindOf fn.cal c₁ = .ok b₁) (hb₂ : bindOf fn.cal c₂ = .ok b₂)
    (hig : fn.ig.Nodup) (hkeys : ∀ k ∈ fn.ig, k ∈ (rename fn.cal.sig b₁).map Prod.fst)
    (hs : ∀ c d, argDict fn.cal fn.ig c = .ok d → (c = c₁ ∨ c = c₂) → Sortable H (embed E d))
    (ha : AgreeOutside E fn.cal.sig fn.ig b₁ b₂)
    (hdone : (step ver H E st (.call fn c₁ cb)).1 = .value v x) :
    ∃ k, argsId H E fn.cal fn.ig c₁ = .ok k ∧
      ((∀ op ∈ mid, Untouched H E (fn.fid, k) op) →
        ∃ v', step ver H E (exec ver H E (step ver H E st (.call fn c₁ cb)).2 mid) (.call fn c₂ true) =
          (.value v' false, exec ver H E (step ver H E st (.call fn c₁ cb)).2 mid)) := by
  obtain ⟨k, hk₁, hk₂⟩ := key_complete_partial H E fn.cal fn.ig c₁ c₂ b₁ b₂ hn hf hc₁ hc₂ hb₁ hb₂
    hig hkeys hs ha
  exact ⟨k, hk₁, fun hmid => hit_after_call ver H E st fn c₁ c₂ cb k v x mid hk₁ hk₂ hdone hmid⟩

/-- Every state the REPAIRED code reaches from an empty cache directory keeps every entry beside
its function's `func_code.py` (`EntriesCoded`) — the invariant `check_iff_hit` needs. -/
theorem reachable_entriesCoded (H : Bs → Bs) (E : Env) (ops : List (Op R)) :
    EntriesCoded (exec .fixed H E (St.empty : St R) ops) :=
  entriesCoded_exec ops _ entriesCoded_empty

/-- **`check_call_in_cache` answers True exactly when the next identical call would not execute.**
For a call `filter_args` accepts (key `k`), in a state of the cache directory where every entry lies
beside its `func_code.py` (`EntriesCoded`: every state the repaired code reaches), with the
validation callback answering `cb` both times:
* the check returns the hit test `_is_in_cache_and_valid` of the call, and its ONLY side effects are
  that test's: a missing `func_code.py` is written, an entry the validation callback rejects is
  deleted (`clear_item`);
* answer `True`  ⇒ the directory is unchanged and the identical call — before or after the check —
  returns the stored value without executing the function;
* answer `False` ⇒ the identical call — before or after the check — is not a cache hit (it executes
  the function, or raises what the function raises). -/
theorem check_iff_hit (ver : JoblibModel.MemoryCache.Version) (H : Bs → Bs) (E : Env) (st : St R)
    (hec : EntriesCoded st) (fn : Fn R) (c : Call) (cb : Bool) (k : Bs)
    (hk : argsId H E fn.cal fn.ig c = .ok k) :
    ∃ b st', step ver H E st (.check fn c cb) = (.flag b, st') ∧
      (st' = st ∨ (cb = false ∧ st' = { st with entries := dpop (fn.fid, k) st.entries }) ∨
        (fn.fid ∉ st.coded ∧ st' = { st with coded := fn.fid :: st.coded })) ∧
      (b = true → st' = st ∧ ∃ v, step ver H E st (.call fn c cb) = (.value v false, st)) ∧
      (b = false → ∀ v, (step ver H E st (.call fn c cb)).1 ≠ .value v false ∧
        (step ver H E st' (.call fn c cb)).1 ≠ .value v false) := by
  refine ⟨_, _, step_check_eq hk st cb, ?_, ?_, ?_⟩
  · exact (iic_state_cases st (fn.fid, k) cb).imp And.right (Or.imp And.right id)
  · intro hb
    cases hi : (isInCacheAndValid st (fn.fid, k) cb).1 with
    | none => rw [hi] at hb; cases hb
    | some v =>
      obtain ⟨h1, h2, h3, h4⟩ := iic_some hi
      subst h3
      exact ⟨h1, v, call_hit hk h4 h2⟩
  · intro hb v
    have hi : (isInCacheAndValid st (fn.fid, k) cb).1 = none := by
      cases h : (isInCacheAndValid st (fn.fid, k) cb).1 with
      | none => rfl
      | some r => rw [h] at hb; cases hb
    exact ⟨call_not_hit hk hi v, call_not_hit hk (iic_none_again hec hi) v⟩

/-- **A forced call is served afterwards too** (repaired code, F30): after `MemorizedFunc.call`
returned, the identical cached call does not execute the function.  It is served the value `v` the forced
call returned: more than the instance `mid = []`, `c₂ = c` of `hit_after_forced_call_mutating`, which says that
SOME stored value is served. -/
theorem hit_after_forced_call (H : Bs → Bs) (E : Env) (st : St R) (fn : Fn R) (c : Call) (k : Bs)
    (v : R) (x : Bool) (hk : argsId H E fn.cal fn.ig c = .ok k)
    (hdone : (step .fixed H E st (.force fn c)).1 = .value v x) :
    step .fixed H E (step .fixed H E st (.force fn c)).2 (.call fn c true) =
      (.value v false, (step .fixed H E st (.force fn c)).2) := by
  rw [step_force_eq hk] at hdone ⊢
  cases hb : bindOf fn.cal c <;> simp only [hb, Out.value.injEq, reduceCtorEq] at hdone ⊢
  rw [← hdone.1]
  exact call_hit hk (checkCode_coded_self st fn.fid) (dget_dset_self _ _ _)

/-! ### F30 — the pinned tree: `MemorizedFunc.call` stores without checking the function code -/

/-- one parameter, returns its bound arguments -/
def fnF30 : Fn (List (Nat × Val)) := ⟨0, .func [⟨0, .posKw, none⟩], [], fun b => b, fun c => c⟩

/-- F30 (pinned tree): on a fresh cache directory `cf.call(1)` stores its result without writing
`func_code.py`; the next `cf(1)` finds no `func_code.py`, so it does not look at the entry and
EXECUTES the function again. -/
theorem old_forced_call_reexecuted_counterexample (H : Bs → Bs) :
    run .old H envEx St.empty [.force fnF30 ⟨[1], []⟩, .call fnF30 ⟨[1], []⟩ true] =
      [.value [(0, .one 1)] true, .value [(0, .one 1)] true] := by
  have k : argsId H envEx fnF30.cal fnF30.ig ⟨[1], []⟩ = .ok (H (stream H envEx [(.name 0, .one 1)])) := rfl
  simp only [run, step_force_eq k, step_call_eq k, isInCacheAndValid_eq]
  rfl

/-- F30, second shape (pinned tree): after `cf.call(1)`, `check_call_in_cache(1)` answers `False`
(no `func_code.py`) — and writes it, so that the next identical call IS served from the cache: the
check said "would execute", the call does not. -/
theorem old_check_false_but_hit_counterexample (H : Bs → Bs) :
    run .old H envEx St.empty
        [.force fnF30 ⟨[1], []⟩, .check fnF30 ⟨[1], []⟩ true, .call fnF30 ⟨[1], []⟩ true] =
      [.value [(0, .one 1)] true, .flag false, .value [(0, .one 1)] false] := by
  have k : argsId H envEx fnF30.cal fnF30.ig ⟨[1], []⟩ = .ok (H (stream H envEx [(.name 0, .one 1)])) := rfl
  have b : bindOf fnF30.cal ⟨[1], []⟩ = .ok [(0, .one 1)] := rfl
  simp only [run, step_force_eq k, step_call_eq k, step_check_eq k, isInCacheAndValid_eq, b]
  simp [fnF30, dget, dset, beforeForce, afterCall, St.empty]

/-- The repaired code on the same two histories. -/
theorem fixed_on_the_F30_witnesses (H : Bs → Bs) :
    run .fixed H envEx St.empty [.force fnF30 ⟨[1], []⟩, .call fnF30 ⟨[1], []⟩ true] =
      [.value [(0, .one 1)] true, .value [(0, .one 1)] false] ∧
    run .fixed H envEx St.empty
        [.force fnF30 ⟨[1], []⟩, .check fnF30 ⟨[1], []⟩ true, .call fnF30 ⟨[1], []⟩ true] =
      [.value [(0, .one 1)] true, .flag true, .value [(0, .one 1)] false] := by
  have k : argsId H envEx fnF30.cal fnF30.ig ⟨[1], []⟩ = .ok (H (stream H envEx [(.name 0, .one 1)])) := rfl
  have f : (step .fixed H envEx St.empty (.force fnF30 ⟨[1], []⟩)).1 = .value [(0, .one 1)] true := by
    rw [step_force_eq k]; rfl
  -- the check is `hit_after_forced_call_mutating` (below) with `mid = []`, by the two lemmas it is proved from
  have hit := hit_after_forced_call H envEx St.empty fnF30 _ _ _ _ k f
  obtain ⟨_, -, chk⟩ := served_of_present (ver := .fixed) k (present_after_force k f)
  simp only [run, f, hit, chk, and_self]

/-- **The wrapper accepts what the function accepts** (`C07.wrapper_accepts` for the cached wrapper, bound methods
included; by the same lemmas about `core`, through `argDict_ok`): a call Python accepts, made through the cached
wrapper of a function or method whose ignore list names parameters of the function without repetition, returns a
value — it raises neither from `filter_args` nor from the binding — from any store and whatever the callback says. -/
theorem wrapper_accepts (ver : JoblibModel.MemoryCache.Version) (H : Bs → Bs) (E : Env) (st : St R)
    (fn : Fn R) (c : Call) (cb : Bool)
    (b : List (Nat × Val)) (hf : FuncLike fn.cal) (hc : CallWF c) (hb : bindOf fn.cal c = .ok b)
    (hig : fn.ig.Nodup) (hkeys : ∀ k ∈ fn.ig, k ∈ (rename fn.cal.sig b).map Prod.fst) :
    ∃ v x, (step ver H E st (.call fn c cb)).1 = .value v x := by
  obtain ⟨d, hd⟩ := argDict_ok hf hc hb hig hkeys
  exact call_returns (argsId_ok hd) hb

/-- The same for `functools.partial` objects: `filter_args` never rejects their calls. -/
theorem wrapper_accepts_nonfunction (ver : JoblibModel.MemoryCache.Version) (H : Bs → Bs) (E : Env)
    (st : St R) (fid : Nat) (s : Sig)
    (pa : List Nat) (pk : List (Nat × Nat)) (ig : List Key) (body : List (Nat × Val) → R)
    (eff : Call → Call) (c : Call)
    (cb : Bool) (b : List (Nat × Val)) (hb : bindOf (.part s pa pk) c = .ok b) :
    ∃ v x, (step ver H E st (.call ⟨fid, .part s pa pk, ig, body, eff⟩ c cb)).1 = .value v x :=
  call_returns (fn := ⟨fid, .part s pa pk, ig, body, eff⟩) rfl hb

/-! ## Functions that MUTATE their arguments

A cached function may work in place on the objects it is given (sort a list, pop from a dict):
`Fn.effect` says what the `args` / `kwargs` objects hold once the body has run.  The code computes
every key BEFORE the body runs and hands it down (`_call(call_id, …)` → `_after_call(call_id, …)`), so
`fn.effect` is arbitrary in every theorem of this file; the three below say it explicitly.  The
variant that computes the key of a forced call AFTER the body (`Cfg.keyAfterCall`, seeded change
C06-r4-m3) breaks all of them: `key_after_call_counterexample`. -/

/-- **Every entry is filed under the key of the arguments AS PASSED.**  For every history (either
version of the code, any functions — whatever they do to their arguments — any store to start
from): every key of the cache directory afterwards was there at the start, or is (function id, args id
of the arguments AS PASSED) of one of the history's calls: `__call__`, `call_and_shelve`, the forced
`call` — no path files a result under anything else. -/
theorem key_from_arguments_as_passed (ver : JoblibModel.MemoryCache.Version) (H : Bs → Bs) (E : Env)
    (st : St R) (ops : List (Op R)) (id : Nat × Bs)
    (h : id ∈ (exec ver H E st ops).entries.map Prod.fst) :
    id ∈ st.entries.map Prod.fst ∨
      ∃ fn c, (fn, c) ∈ callsOf ops ∧ id.1 = fn.fid ∧ argsId H E fn.cal fn.ig c = .ok id.2 :=
  exec_induction
    (P := fun s => id ∈ s.entries.map Prod.fst → id ∈ st.entries.map Prod.fst ∨
      ∃ fn c, (fn, c) ∈ callsOf ops ∧ id.1 = fn.fid ∧ argsId H E fn.cal fn.ig c = .ok id.2)
    (fun _ hop _ _ hc ih h => (mem_keys_change hc h).elim ih fun ⟨fn, c, ho, hk⟩ =>
      .inr ⟨fn, c, mem_callsOf hop ho, hk⟩) .inl h

/-- **After a forced call of a function that mutates its arguments, the call with the arguments AS
PASSED is served** (repaired code).  `cf.call(x)` returned; then ANY history `mid` that does not evict,
clear or invalidate the entry; then a call `c₂` with the key of `c₁` — the arguments equal to `x` as
they were PASSED, in any equivalent form (`hit_after_forced_call_mutating_equivalent_partial`):
the call is NOT executed and leaves the directory as it is, and `check_call_in_cache` answers `True`.
`fn.effect` (what the body did to `x`) is arbitrary.  (For `cf(x)` first instead of `cf.call(x)`:
`hit_after_call`, `check_true_after_call`.) -/
theorem hit_after_forced_call_mutating (H : Bs → Bs) (E : Env) (st : St R) (fn : Fn R) (c₁ c₂ : Call)
    (k : Bs) (v : R) (x : Bool) (mid : List (Op R))
    (hk₁ : argsId H E fn.cal fn.ig c₁ = .ok k) (hk₂ : argsId H E fn.cal fn.ig c₂ = .ok k)
    (hdone : (step .fixed H E st (.force fn c₁)).1 = .value v x)
    (hmid : ∀ op ∈ mid, Untouched H E (fn.fid, k) op) :
    ∃ v', step .fixed H E (exec .fixed H E (step .fixed H E st (.force fn c₁)).2 mid) (.call fn c₂ true) =
        (.value v' false, exec .fixed H E (step .fixed H E st (.force fn c₁)).2 mid) ∧
      step .fixed H E (exec .fixed H E (step .fixed H E st (.force fn c₁)).2 mid) (.check fn c₂ true) =
        (.flag true, exec .fixed H E (step .fixed H E st (.force fn c₁)).2 mid) :=
  served_of_present hk₂ (present_exec (ver := .fixed) mid (present_after_force hk₁ hdone) hmid)

/-- The same after a completed `cf(x)` (either version of the code): `check_call_in_cache` on the
arguments as passed answers `True` (the hit itself is `hit_after_call`). -/
theorem check_true_after_call (ver : JoblibModel.MemoryCache.Version) (H : Bs → Bs) (E : Env) (st : St R)
    (fn : Fn R) (c₁ c₂ : Call) (cb : Bool) (k : Bs) (v : R) (x : Bool) (mid : List (Op R))
    (hk₁ : argsId H E fn.cal fn.ig c₁ = .ok k) (hk₂ : argsId H E fn.cal fn.ig c₂ = .ok k)
    (hdone : (step ver H E st (.call fn c₁ cb)).1 = .value v x)
    (hmid : ∀ op ∈ mid, Untouched H E (fn.fid, k) op) :
    step ver H E (exec ver H E (step ver H E st (.call fn c₁ cb)).2 mid) (.check fn c₂ true) =
      (.flag true, exec ver H E (step ver H E st (.call fn c₁ cb)).2 mid) :=
  let ⟨_, _, h⟩ := served_of_present hk₂ (present_exec mid (present_after_call hk₁ hdone) hmid)
  h

/-- … with "the arguments equal to `x` AS PASSED" spelled out: `c₂` is any call Python accepts that
binds, outside the ignore list, the same Python values as `c₁` did when it was made (`AgreeOutside` of
the bound arguments as passed — another call form, dict / set arguments built in another order, other
values for ignored parameters; what the body did to them afterwards plays no role). -/
theorem hit_after_forced_call_mutating_equivalent_partial (H : Bs → Bs) (E : Env) (st : St R) (fn : Fn R)
    (c₁ c₂ : Call) (b₁ b₂ : List (Nat × Val)) (v : R) (x : Bool) (mid : List (Op R))
    (hn : NamesOK E) (hf : FuncLike fn.cal) (hc₁ : CallWF c₁) (hc₂ : CallWF c₂)
    (hb₁ : bindOf fn.cal c₁ = .ok b₁) (hb₂ : bindOf fn.cal c₂ = .ok b₂)
    (hig : fn.ig.Nodup) (hkeys : ∀ k ∈ fn.ig, k ∈ (rename fn.cal.sig b₁).map Prod.fst)
    (hs : ∀ c d, argDict fn.cal fn.ig c = .ok d → (c = c₁ ∨ c = c₂) → Sortable H (embed E d))
    (ha : AgreeOutside E fn.cal.sig fn.ig b₁ b₂)
    (hdone : (step .fixed H E st (.force fn c₁)).1 = .value v x) :
    ∃ k, argsId H E fn.cal fn.ig c₁ = .ok k ∧
      ((∀ op ∈ mid, Untouched H E (fn.fid, k) op) →
        ∃ v', step .fixed H E (exec .fixed H E (step .fixed H E st (.force fn c₁)).2 mid) (.call fn c₂ true) =
            (.value v' false, exec .fixed H E (step .fixed H E st (.force fn c₁)).2 mid) ∧
          step .fixed H E (exec .fixed H E (step .fixed H E st (.force fn c₁)).2 mid) (.check fn c₂ true) =
            (.flag true, exec .fixed H E (step .fixed H E st (.force fn c₁)).2 mid)) := by
  obtain ⟨k, hk₁, hk₂⟩ := key_complete_partial H E fn.cal fn.ig c₁ c₂ b₁ b₂ hn hf hc₁ hc₂ hb₁ hb₂
    hig hkeys hs ha
  exact ⟨k, hk₁, fun hmid => hit_after_forced_call_mutating H E st fn c₁ c₂ k v x mid hk₁ hk₂ hdone hmid⟩

/-- **The variant that computes the key of a forced call AFTER the body is wrong** (`Cfg.keyAfterCall`,
seeded change C06-r4-m3; `fnSort` returns its list argument as passed and sorts it in place, `envMut`:
value 0 = `[3, 1, 2]`, value 1 = `[1, 2, 3]`; an injective digest).  `cf.call([3, 1, 2])`; then
`check_call_in_cache([3, 1, 2])` is `False`; `check_call_in_cache([1, 2, 3])` — a call never made — is
`True`; `cf([1, 2, 3])` is served the result of ANOTHER call (`[3, 1, 2]`: C02); `cf([3, 1, 2])` EXECUTES
AGAIN.  The code as it is, on the same history: `True`, `False`, executed with its own result, served. -/
theorem key_after_call_counterexample :
    runC ⟨.fixed, true⟩ hId envMut St.empty
        [.force fnSort ⟨[0], []⟩, .check fnSort ⟨[0], []⟩ true, .check fnSort ⟨[1], []⟩ true,
          .call fnSort ⟨[1], []⟩ true, .call fnSort ⟨[0], []⟩ true] =
      [.value [(0, .one 0)] true, .flag false, .flag true, .value [(0, .one 0)] false,
        .value [(0, .one 0)] true] ∧
    run .fixed hId envMut St.empty
        [.force fnSort ⟨[0], []⟩, .check fnSort ⟨[0], []⟩ true, .check fnSort ⟨[1], []⟩ true,
          .call fnSort ⟨[1], []⟩ true, .call fnSort ⟨[0], []⟩ true] =
      [.value [(0, .one 0)] true, .flag true, .flag false, .value [(0, .one 1)] true,
        .value [(0, .one 0)] false] ∧
    fnSort.effect ⟨[0], []⟩ = ⟨[1], []⟩ ∧ envMut.val 0 ≠ envMut.val 1 := by
  refine ⟨by decide +kernel, by decide +kernel, by decide +kernel, ?_⟩
  simp [envMut]

/-! ### Partially ordered dict keys / set elements (seeded change C06-r5-m1)

`<` on frozensets is set inclusion — a PARTIAL order: `sorted()` of frozensets, or of tuples holding them,
does not raise and does not order them either; its result follows the order of its input, so a digest
computed from it would follow the INSERTION ORDER of the dict / set.  The code keeps such keys away from
`sorted()` (`hashing._holds_frozenset`, through tuples at any depth) and sorts their digests instead. -/

/-- **`sorted()` is applied to totally ordered key lists only.**  When the encoder sorts the keys of a
dict / the elements of a set themselves (`orderable .fixed keys`), no key is a frozenset or a tuple
holding one at any depth, and EVERY pair of keys is decided by Python's `<` / `==` (`pyCmp` answers;
NaN, which compares False both ways, is not).  Every other key list goes through the digests of its keys:
`keysOf` / `itemsOf` hand `sorted()` the `str` digests (`topOf`), which are totally ordered.
FULL: every key list. -/
theorem sorted_only_on_totally_ordered_keys (H : Bs → Bs) (e : PyVal → Memo → Bs × Memo) (keys : List PyVal) :
    (orderable .fixed keys = true →
      (∀ k ∈ keys, holdsFrozenset k = false) ∧ keys.Pairwise (fun a b => (pyCmp a b).isSome = true)) ∧
    ((∃ k ∈ keys, holdsFrozenset k = true) →
      keysOf H .fixed e keys = keys.map (topOf H e) ∧
        ∀ items : List (PyVal × PyVal), items.map Prod.fst = keys →
          itemsOf H .fixed e items = items.map fun kv => (topOf H e kv.1, kv.2)) := by
  constructor
  · intro h
    simp only [orderable, Bool.and_eq_true, Bool.or_eq_true, decide_eq_true_eq, Bool.not_eq_true',
      List.any_eq_false, reduceCtorEq, false_or] at h
    exact ⟨fun k hk => by simpa using h.1 k hk, (allPairs_iff _ keys).mp h.2⟩
  · rintro ⟨k, hk, hz⟩
    have hno : orderable .fixed keys = false := by
      simp only [orderable, Bool.and_eq_false_iff, Bool.or_eq_false_iff, decide_eq_false_iff_not,
        Bool.not_eq_false', List.any_eq_true]
      exact .inl ⟨by decide, k, hk, hz⟩
    refine ⟨by simp [keysOf, hno], fun items hi => ?_⟩
    simp [itemsOf, hi, hno]

/-- **An equal dict with partially ordered keys, built in another insertion order, is served.**  `envPO`:
value 0 = `{(1, frozenset({1,2})): 'a', (1, frozenset({2,3})): 'b', (1, frozenset({3})): 'c'}`, value 1 = the
same dict built in the reverse order, value 2 = another dict (two values swapped); injective digest.
`cf(d0)`; `check_call_in_cache(d1)` is True; `cf(d1)` and `cf(a=d1)` are served; `cf(d2)` executes.  And the
keys of these dicts are NOT handed to `sorted()` (`orderable` is false of them). -/
theorem reordered_partially_ordered_keys_witness :
    run .fixed hId envPO St.empty
        [.call fnOne ⟨[0], []⟩ true, .check fnOne ⟨[1], []⟩ true, .call fnOne ⟨[1], []⟩ true,
          .call fnOne ⟨[], [(0, 1)]⟩ true, .call fnOne ⟨[2], []⟩ true] =
      [.value [(0, .one 0)] true, .flag true, .value [(0, .one 0)] false, .value [(0, .one 0)] false,
        .value [(0, .one 2)] true] ∧
    envPO.val 0 ≠ envPO.val 1 ∧
    orderable .fixed [.tuple [.int 1, .frozenset [.int 1, .int 2]], .tuple [.int 1, .frozenset [.int 2, .int 3]],
      .tuple [.int 1, .frozenset [.int 3]]] = false := by
  refine ⟨by decide +kernel, ?_, by decide +kernel⟩
  simp [envPO]

/-! ## Non-vacuity

`envEx`, `fnEx` (`def f(a, b=5, *args, **kw)`, `ignore=['b']`): `f(7)` and `f(8, 2)` — value 8 is the
dict of value 7 built in the other insertion order, `b` is ignored — satisfy the hypotheses of
`key_complete_partial` and indeed get one key. -/

example : CallWF ⟨[7], []⟩ ∧ CallWF ⟨[8, 2], []⟩ ∧ FuncLike fnEx.cal ∧ fnEx.ig.Nodup := by
  refine ⟨by decide, by decide, .func (by decide), by decide⟩

example : bindOf fnEx.cal ⟨[7], []⟩ = .ok [(0, .one 7), (1, .one 5), (2, .seq []), (3, .map [])] ∧
    bindOf fnEx.cal ⟨[8, 2], []⟩ = .ok [(0, .one 8), (1, .one 2), (2, .seq []), (3, .map [])] := by
  decide

example : AgreeOutside envEx fnEx.cal.sig fnEx.ig
    [(0, .one 7), (1, .one 5), (2, .seq []), (3, .map [])]
    [(0, .one 8), (1, .one 2), (2, .seq []), (3, .map [])] := by
  refine ⟨rfl, fun n w₁ w₂ hk m₁ m₂ => ?_⟩
  simp at m₁ m₂
  rcases m₁ with ⟨rfl, rfl⟩ | ⟨rfl, rfl⟩ | ⟨rfl, rfl⟩ | ⟨rfl, rfl⟩
  · rcases m₂ with ⟨_, rfl⟩ | ⟨h, _⟩ | ⟨h, _⟩ | ⟨h, _⟩ <;> first | rfl | (exfalso; omega)
  · exact absurd (by decide) hk
  · rcases m₂ with ⟨h, _⟩ | ⟨h, _⟩ | ⟨_, rfl⟩ | ⟨h, _⟩ <;> first | rfl | (exfalso; omega)
  · rcases m₂ with ⟨h, _⟩ | ⟨h, _⟩ | ⟨h, _⟩ | ⟨_, rfl⟩ <;> first | rfl | (exfalso; omega)

set_option maxRecDepth 8000 in
example : Sortable hEx (embed envEx [(.name 0, .one 7), (.dstar, .map []), (.star, .seq [])]) ∧
    Sortable hEx (embed envEx [(.name 0, .one 8), (.dstar, .map []), (.star, .seq [])]) := by
  decide +kernel

example : argsId hEx envEx fnEx.cal fnEx.ig ⟨[7], []⟩ = argsId hEx envEx fnEx.cal fnEx.ig ⟨[8, 2], []⟩ := by
  decide +kernel

end C06
