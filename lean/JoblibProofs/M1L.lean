import JoblibProofs.Lemmas.ParallelLock
/-!
# M1L — `joblib.Parallel` at lock-boundary / backend-call / unlocked-access granularity, ALL interleavings

Model: `JoblibModel.ParallelLock` (see its header for the exact list of scheduling points). A *state* carries the
shared attributes of the Parallel object, the lock owner, the program counter of the caller thread and one program
counter per completion-callback thread. An *action* (`Act`) is one atomic step of one thread or the environment
action `complete k` (the backend finishes the k-th parked batch and starts its callback thread); an action that is
not enabled (thread blocked on the lock, finished, …) leaves the state unchanged, so `run c init sched` is defined for
EVERY list of actions and `Reachable c s` below is "some interleaving of any number of threads, of any length, leads
to `s`".

Quantifier reached by every theorem of this file: ALL configurations of the model's domain (`n_jobs`, fixed or
scripted-auto batch sizes, `pre_dispatch` int / 'all' / expression value, `return_as` list / generator, any number of
tasks, any set of failing tasks, any failing position of the input iterable, backend dropping or keeping in-flight
batches at abort) and ALL schedules, by an inductive invariant (`Inv`, `step_inv`, `run_inv`) — never by enumeration.
Scope: one call on a fresh object, ordered modes, no timeout (see the model header for what is not covered).
The tie to the real code is `harness/m1_lock.py` (real threads forced through the same scheduling points; complete
step-log equality).
The predicates of the statements live in `Lemmas/ParallelLock/`: `Inv`, `CfgOK` in `Basic`; `Inv2`, `Safe`, `PdOK`,
`LegitErr`, `Pc.exiting` in `Inv2`; `Inv3`, `CbPc.live`, `CbPc.rank` in `Inv3`; `Inv4`, the measure `M` in `Term`.
-/
namespace M1L
open JoblibModel.ParallelLock

/-- `s` is reachable: some finite interleaving of thread steps and backend completions leads from the fresh object to
`s`. -/
def Reachable (c : Cfg) (s : St) : Prop := ∃ sched : List Act, s = run c init sched

/-- The core invariant holds in every reachable state (every interleaving, any number of threads, any length). -/
theorem reachable_inv {c : Cfg} {s : St} (h : Reachable c s) : Inv c s := by
  obtain ⟨sched, rfl⟩ := h
  exact run_inv sched (inv_init c)

/-- The invariant is inductive: preserved by every enabled step of every thread and by every environment action
(and trivially by actions that are not enabled). -/
theorem invariant_inductive {c : Cfg} {s : St} (h : Inv c s) (a : Act) : Inv c (step c s a) := step_inv h a

/-- Thread `t` is inside a lock-protected segment at a step boundary: it is parked at a backend call
(`submit`, `compute_batch_size`, `retrieve_result_callback`) made while it owns `Parallel._lock`. -/
def inLocked (s : St) : Tid → Bool
  | 0 => s.pc.holding
  | i + 1 => decide (i < s.trk.length) && (getTrk s i).pc.holding

/-- LOCK OWNER. The lock is owned by thread `t` exactly when `t` is inside a lock-protected segment. -/
theorem lock_owner_iff {c : Cfg} {s : St} (h : Reachable c s) (t : Tid) :
    s.lockOwner = some t ↔ inLocked s t = true := by
  refine (lockInv_iff.mp (reachable_inv h).L t).trans ?_
  cases t with
  | zero => exact Iff.rfl
  | succ i =>
    simp only [inLocked, holds, Bool.and_eq_true, decide_eq_true_eq]
    exact ⟨fun hh => ⟨lt_of_pc_ne_idle (fun e => by rw [e] at hh; cases hh), hh⟩, And.right⟩

/-- MUTEX. In every reachable state at most one thread is inside a lock-protected segment. (Segments that acquire
and release the lock within one atomic step exclude each other by construction: a step from a lock acquisition is
enabled only while `lockOwner = none`, see `acquire_needs_free_lock`.) -/
theorem mutex {c : Cfg} {s : St} (h : Reachable c s) {t t' : Tid} (h1 : inLocked s t = true)
    (h2 : inLocked s t' = true) : t = t' := by
  have e1 := (lock_owner_iff h t).mpr h1
  have e2 := (lock_owner_iff h t').mpr h2
  rw [e1] at e2
  exact Option.some.inj e2

/-- A thread parked before a lock acquisition is not enabled while another thread owns the lock. -/
theorem acquire_needs_free_lock (s : St) :
    (s.pc.isAcq = true → callerEnabled s = true → s.lockOwner = none) ∧
    (∀ i, ((getTrk s i).pc = .acqA ∨ (getTrk s i).pc = .acqC) → cbEnabled s i = true → s.lockOwner = none) := by
  refine ⟨?_, ?_⟩
  · intro h1 h2
    simp only [callerEnabled, h1, Bool.not_true, Bool.false_or, Bool.and_eq_true, beq_iff_eq] at h2
    exact h2.2
  · intro i h1 h2
    unfold cbEnabled at h2
    rcases h1 with h1 | h1 <;> rw [h1] at h2 <;> simpa using h2

/-- PULLS ONLY BY THE LOCK OWNER (C09, "never from two threads at once"). Every `pull` event of every reachable
log was emitted by a thread that owned the lock at that very moment (`Ev.pull t id locked` records
`lockOwner == some t` when item `id` is taken from the input iterable). Together with `mutex`: two threads are
never inside the input iterable at the same time. -/
theorem pulls_only_by_lock_owner {c : Cfg} {s : St} (h : Reachable c s) {t : Tid} {id : Nat} {locked : Bool}
    (hp : Ev.pull t id locked ∈ s.log) : locked = true :=
  (reachable_inv h).logLocked t id locked hp

/-- DISPATCH CONSERVATION (C01). In every reachable state in which no error has been flagged: the ids in the trackers
(in creation order; each tracker is in exactly one state: waiting for `submit`, parked in the backend, being
completed, completed), then the look-ahead queue, are exactly the ids pulled so far, in order — nothing lost,
nothing duplicated. -/
theorem dispatch_conservation {c : Cfg} {s : St} (h : Reachable c s) (ha : s.aborting = false) :
    allItems s ++ s.ready.flatten = List.range' 0 s.srcPos :=
  (reachable_inv h).C.full ha

/-- EXACTLY ONCE (C01; also while aborting). In every reachable state every task id occurs at most once in all
trackers and look-ahead batches together, in increasing order, and only ids already pulled occur: no task is ever
handed to the backend twice. -/
theorem exactly_once {c : Cfg} {s : St} (h : Reachable c s) :
    (allItems s ++ s.ready.flatten).Nodup ∧ List.Pairwise (· < ·) (allItems s ++ s.ready.flatten) ∧
      ∀ x ∈ allItems s ++ s.ready.flatten, x < s.srcPos ∧ x < c.n := by
  have hi := reachable_inv h
  refine ⟨?_, hi.C.sorted, fun x hx => ⟨hi.C.bound x hx, ?_⟩⟩
  · exact hi.C.sorted.imp (fun hlt => Nat.ne_of_lt hlt)
  · have h1 := hi.C.bound x hx
    have h2 := hi.S.le
    have : stopAt c ≤ c.n := by
      unfold stopAt; split <;> omega
    omega

/-- The two counters the retrieval loop reads: `n_dispatched_tasks` is the number of ids in trackers and
`n_completed_tasks` the number of ids of the trackers whose callback went through `n_completed_tasks +=`; hence
`n_completed_tasks ≤ n_dispatched_tasks` in every reachable state. -/
theorem counters {c : Cfg} {s : St} (h : Reachable c s) :
    s.nDispTasks = (allItems s).length ∧ s.nCompleted = countedSum s.trk ∧ s.nCompleted ≤ s.nDispTasks := by
  have hi := reachable_inv h
  refine ⟨hi.N.disp, hi.N.comp, ?_⟩
  rw [hi.N.disp, hi.N.comp]
  exact countedSum_le s.trk

/-- NO PULL AFTER ABORT OBSERVED (C09; the F14 repair). If `_aborting` is set when an action begins — whichever thread
takes it, holding the lock or about to take it — that action leaves the input iterable untouched: no item is taken
and `__next__` is not called. (A pull therefore only happens in a step at whose beginning `_aborting` was false;
within that step the flag is re-read under the lock before the first `next`, see `dispatchLocked`.) -/
theorem no_pull_after_abort_observed {c : Cfg} {s : St} (ha : s.aborting = true) (a : Act) :
    (step c s a).srcPos = s.srcPos ∧ (step c s a).srcDead = s.srcDead := by
  have := step_src_aborting (c := c) ha a
  simp only [srcOf, Prod.mk.injEq] at this
  exact ⟨this.1, this.2.1⟩

/-! ### Functional correctness of the retrieval protocol (second invariant `Inv2`) -/

/-- The second invariant holds in every reachable state, for configurations with `n_jobs ≥ 1`, batch sizes `≥ 1`
(`CfgOK`) and `pre_dispatch = 'all'` or evaluating to `≥ 1` (`PdOK`; 0 is finding F11). -/
theorem reachable_inv2 {c : Cfg} {s : St} (hc : CfgOK c) (hpd : PdOK c) (h : Reachable c s) : Inv2 c s := by
  obtain ⟨sched, rfl⟩ := h
  exact (run_inv23 hc hpd sched ⟨inv_init c, inv2_init c, inv3_init⟩).2.1

/-- `Inv2` is inductive (given `Inv`): preserved by every step of every thread and by every environment action. -/
theorem invariant2_inductive {c : Cfg} {s : St} (hc : CfgOK c) (hpd : PdOK c) (h : Inv c s) (h2 : Inv2 c s) (a : Act) :
    Inv2 c (step c s a) := step_inv2 hc hpd h h2 a

/-- RETURN CORRECT (C01), every interleaving. If the caller's `__call__` returns a list (`return_as='list'`), or the
ordered generator is exhausted (`'generator'`), the values are exactly `[0, …, n-1]` in order — for every schedule of
any number of callback threads at lock-boundary / backend-call / unlocked-access granularity. `Safe c`: the input
iterable never raises, or `_wait_retrieval` reads `_aborting` once more before returning False (`Cfg.recheck = true`: the
code as it is in /repo since the repair of F49, so `Safe c` holds of /repo whatever the input; `recheck = false` is the
code before that repair, of which the statement is FALSE for a raising iterable: `error_surfaces_counterexample`). -/
theorem return_correct {c : Cfg} {s : St} {l : List Nat} (hc : CfgOK c) (hpd : PdOK c) (hs : Safe c)
    (h : Reachable c s) (hl : s.outcome = some (.ret l)) : l = List.range c.n := by
  have := ((reachable_inv2 hc hpd h).O.ret l hl).2 hs
  rw [this.1, List.range_eq_range']

/-- NO PREMATURE EXIT (the place where F13 lived). Whenever the caller has taken the NORMAL exit of the retrieval loop
(`_wait_retrieval()` returned False: program points of the `finally` block and of the tail loop) every dispatched batch
has been completed and counted and its callback is past `dispatch_next` — whatever the interleaving of the caller's
unlocked reads of `_aborting`, `_iterating`, `n_completed_tasks`, `n_dispatched_tasks` with the callbacks. In a `Safe`
configuration moreover all `n` tasks have been dispatched and every tracker is done. -/
theorem no_premature_exit {c : Cfg} {s : St} (hc : CfgOK c) (hpd : PdOK c) (h : Reachable c s)
    (hx : s.pc.exiting = true) :
    (∀ t ∈ s.trk, t.items ≠ [] → t.status = .done ∧ (t.pc = .relC ∨ t.pc = .done true)) ∧
    (Safe c → allItems s = List.range' 0 c.n ∧ ∀ t ∈ s.trk, t.status = .done) := by
  have hi := reachable_inv h
  have h2 := reachable_inv2 hc hpd h
  obtain ⟨hE, hNE, -⟩ := h2.L.exiting hx
  refine ⟨fun t ht hne => ?_, fun hs => ?_⟩
  · have hq := hE.1 t ht hne
    have h0 := (hi.T t ht).pcst
    rcases hq with hp | hp <;> rw [hp] at h0 <;> exact ⟨h0, by simp [hp]⟩
  · exact ⟨(exit_all hi h2 hx hs).2.1, quiet_done hi hE.1 (hNE hs)⟩

/-- Once an outcome is recorded the caller has finished. -/
theorem outcome_done {c : Cfg} {s : St} (hc : CfgOK c) (hpd : PdOK c) (h : Reachable c s) (ho : s.outcome ≠ none) :
    s.pc = .done :=
  if hd : s.pc = .done then hd else absurd ((reachable_inv2 hc hpd h).O.noOutcome hd) ho

/-- WHAT IS RAISED (C04). Whenever the call ends by raising, the exception is the one of a failing task of the call or
the input iterable's own exception — never an internal error (`AttributeError` for a missing `_result`, `IndexError` on
`_jobs`, …). Holds for ALL configurations, including the code before the repair of F49 with a raising iterable. -/
theorem raise_is_legit {c : Cfg} {s : St} {e : Exc} (hc : CfgOK c) (hpd : PdOK c) (h : Reachable c s)
    (he : s.outcome = some (.raised e)) :
    (∃ id, e = .task id ∧ id ∈ c.fails) ∨ (∃ p, e = .iter p ∧ c.iterfail = some p) :=
  (reachable_inv2 hc hpd h).O.raised e he

/-- ERRORS SURFACE (C04), every interleaving, `Safe` configurations. If some task of the call fails, or the input
iterable fails at a position `≤ n`, the call never finishes by returning a list / exhausting the generator: if it
finishes, it raises (and by `raise_is_legit` it raises a task's / the iterable's exception). -/
theorem error_surfaces {c : Cfg} {s : St} (hc : CfgOK c) (hpd : PdOK c) (hs : Safe c) (h : Reachable c s)
    (hfail : (∃ id ∈ c.fails, id < c.n) ∨ (∃ p, c.iterfail = some p ∧ p ≤ c.n)) :
    ∀ l, s.outcome ≠ some (.ret l) := by
  intro l hl
  have hi := reachable_inv h
  have h2 := reachable_inv2 hc hpd h
  obtain ⟨hE, hF⟩ := h2.O.ret l hl
  obtain ⟨_, hne, hall, hdead, hraised⟩ := hF hs
  rcases hfail with ⟨id, hid, hlt⟩ | ⟨p, hp, hle⟩
  · have hm : id ∈ allItems s := by rw [hall, List.mem_range'_1]; omega
    simp only [allItems, List.mem_flatten, List.mem_map] at hm
    obtain ⟨_, ⟨t, ht, rfl⟩, hm⟩ := hm
    have hdone := quiet_done hi hE.1 hne t ht
    have h0 := hi.T t ht
    have hst : t.pc.started = true := by
      rcases hE.1 t ht (hne t ht) with hp | hp <;> rw [hp] <;> rfl
    have hf := h0.failed hst
    rw [h0.doneOk hdone] at hf
    have := List.find?_eq_none.mp hf.symm id hm
    simp [hid] at this
  · have := (hi.S.exhausted hdead hraised).2 p hp
    omega

/-- ERRORS SURFACE, the part that holds for ALL configurations (also `_wait_retrieval` before the repair of F49 with a
raising iterable): if the call returns normally then every batch that was dispatched completed successfully — no task that
ran in a worker raised. (What can be lost when `Safe c` fails is only the exception of the INPUT ITERABLE, see
`error_surfaces_counterexample`.) -/
theorem error_surfaces_partial {c : Cfg} {s : St} {l : List Nat} (hc : CfgOK c) (hpd : PdOK c) (h : Reachable c s)
    (hl : s.outcome = some (.ret l)) : ∀ t ∈ s.trk, t.items ≠ [] → t.status = .done ∧ t.failed = none := by
  intro t ht hne
  have hi := reachable_inv h
  have hE := ((reachable_inv2 hc hpd h).O.ret l hl).1
  have h0 := hi.T t ht
  have hst : t.status = .done := by
    have := h0.pcst
    rcases hE.1 t ht hne with hp | hp <;> rw [hp] at this <;> exact this
  exact ⟨hst, h0.doneOk hst⟩

/-! ### Liveness

The full statement (`quiescent_termination`, after `runChoices`; with an explicit bound `quiescent_termination_bounded`,
`quiescent_termination_init`):

    theorem quiescent_termination (hc : CfgOK c) (hpd : PdOK c) (h : Reachable c s) :
        ∃ fuel, (runChoices c fuel s []).pc = .done

i.e. from every reachable state, if the environment completes every parked batch and every thread is scheduled by the
drain rule (`pickLast`: completions, then callbacks, then the caller), the caller's call returns or raises: no
deadlock, no lost wake-up, no spinning retrieval loop.  Ingredients: `no_deadlock` (some action is always
enabled until the caller is done; a blocked caller is blocked by a RUNNABLE lock owner), `lock_holder_runnable`,
`callback_progress` (every step of a callback thread strictly decreases a rank ≤ 8: a callback terminates within 8 of
its own steps and holds the lock for at most 3), `no_lost_wakeup` / `quiet_exit` (third invariant),
`quiescent_termination_partial` (their conjunction).  The full theorem adds a fourth
invariant (`reachable_inv4`: a batch waiting for its `submit` is pointed to by the thread parked at that `submit`) and
the step-count measure `drainBound` (`drain_step_decreases`: EVERY drain step from a reachable state strictly decreases
it).  Termination is additionally CHECKED on the real code: every forced-schedule run of the harness ends with the drain
rule and must terminate (oracle signatures `hang`, `deadlock`); the model agrees step by step. -/

/-- NO DEADLOCK. In every reachable state in which the caller has not finished, some thread can take a step: the
caller, or — when the caller is parked at a lock acquisition and the lock is taken — the callback thread that owns the
lock (which is parked at a backend call, never at an acquisition). -/
theorem no_deadlock {c : Cfg} {s : St} (h : Reachable c s) (hnd : s.pc ≠ .done) :
    callerEnabled s = true ∨ ∃ i, s.lockOwner = some (i + 1) ∧ cbEnabled s i = true :=
  not_done_enabled (reachable_inv h) hnd

/-- The thread that owns the lock is always runnable (no thread ever waits for anything while owning the lock). -/
theorem lock_holder_runnable {c : Cfg} {s : St} (h : Reachable c s) :
    (s.lockOwner = some 0 → callerEnabled s = true) ∧ (∀ i, s.lockOwner = some (i + 1) → cbEnabled s i = true) :=
  holder_enabled (reachable_inv h)

/-- CALLBACK PROGRESS. Every enabled step of a callback thread strictly decreases its rank (`CbPc.rank ≤ 8`): a
completion callback terminates within 8 of its own steps, whatever the other threads do. -/
theorem callback_progress {c : Cfg} {s : St} {i : Nat} (h : Reachable c s) (he : cbEnabled s i = true) :
    (getTrk (step c s (.thread (i + 1))) i).pc.rank < (getTrk s i).pc.rank := by
  have := stepCb_rank (reachable_inv h) he
  simp only [step, he, if_true]
  exact this

/-- The third invariant (`Inv3`: a callback that gave up implies `_aborting`; `_iterating` implies the original iterator
is alive; while it is alive and the caller counts on callbacks, some batch carries the torch) holds in every reachable
state. -/
theorem reachable_inv3 {c : Cfg} {s : St} (hc : CfgOK c) (hpd : PdOK c) (h : Reachable c s) : Inv3 s := by
  obtain ⟨sched, rfl⟩ := h
  exact (run_inv23 hc hpd sched ⟨inv_init c, inv2_init c, inv3_init⟩).2.2

/-- NO LOST WAKE-UP (the place of the F13 hang), every interleaving. In every reachable state without a flagged error:
if the caller's loop condition `_wait_retrieval()` would still make it wait — `_iterating` is set, or
`n_completed_tasks < n_dispatched_tasks` — then some dispatched batch is still LIVE: waiting for its `submit` (by the
thread that owns the lock), parked in the backend, or its callback thread has not finished. So the caller never waits
for an event that can no longer happen (each live stage makes progress: `lock_holder_runnable`, `callback_progress`, and
the backend contract "every parked batch is eventually completed"). -/
theorem no_lost_wakeup {c : Cfg} {s : St} (hc : CfgOK c) (hpd : PdOK c) (h : Reachable c s) (hna : s.aborting = false)
    (hw : s.iterating = true ∨ s.nCompleted < s.nDispTasks) : ∃ t ∈ s.trk, t.items ≠ [] ∧ t.pc.live = true :=
  waiting_live (reachable_inv h) (reachable_inv3 hc hpd h) hna hw

/-- QUIET ⇒ EXIT. In every reachable state in which no batch is live any more (every callback has finished or the batch
was cancelled) either an error is flagged (the caller then takes the abort path) or the loop condition is false:
`_iterating` is cleared and `n_completed_tasks = n_dispatched_tasks`, so the caller's next evaluation of
`_wait_retrieval()` leaves the loop. -/
theorem quiet_exit {c : Cfg} {s : St} (hc : CfgOK c) (hpd : PdOK c) (h : Reachable c s)
    (hq : ∀ t ∈ s.trk, t.items ≠ [] → t.pc.live = false) :
    s.aborting = true ∨ (s.iterating = false ∧ s.nCompleted = s.nDispTasks) := by
  cases ha : s.aborting with
  | true => exact Or.inl rfl
  | false =>
    right
    have hle := (counters h).2.2
    have key : ¬ (s.iterating = true ∨ s.nCompleted < s.nDispTasks) := by
      intro hw
      obtain ⟨t, ht, h1, h2⟩ := no_lost_wakeup hc hpd h ha hw
      rw [hq t ht h1] at h2; cases h2
    refine ⟨?_, ?_⟩
    · cases hi : s.iterating with
      | false => rfl
      | true => exact absurd (Or.inl hi) key
    · have : ¬ s.nCompleted < s.nDispTasks := fun hh => key (Or.inr hh)
      omega

/-- LIVENESS, the schedule-independent part: until the caller finishes there is always an enabled action, the lock owner
is runnable, and callbacks are rank-decreasing. -/
theorem quiescent_termination_partial {c : Cfg} {s : St} (h : Reachable c s) :
    (s.pc ≠ .done → enabledActs s ≠ []) ∧
    (∀ i, cbEnabled s i = true → (getTrk (step c s (.thread (i + 1))) i).pc.rank < (getTrk s i).pc.rank) := by
  refine ⟨fun hnd => ?_, fun i he => callback_progress h he⟩
  rcases no_deadlock h hnd with he | ⟨i, _, he⟩
  · simp [enabledActs, he]
  · intro hnil
    have hi := cbEnabled_lt he
    have : Act.thread (i + 1) ∈ enabledActs s := by
      simp only [enabledActs, List.mem_append, List.mem_map, List.mem_filter, List.mem_range]
      exact Or.inl (Or.inr ⟨i, ⟨hi, he⟩, rfl⟩)
    rw [hnil] at this; cases this

/-- The driver's total scheduling rule as a pure function: choice `ch` picks `enabledActs[ch % len]`; when the choices
are used up the last enabled action is taken (`fuel` bounds the number of steps). -/
def runChoices (c : Cfg) : Nat → St → List Nat → St
  | 0, s, _ => s
  | fuel + 1, s, ch :: rest =>
    match pick s ch with
    | some a => runChoices c fuel (step c s a) rest
    | none => s
  | fuel + 1, s, [] =>
    match pickLast s with
    | some a => runChoices c fuel (step c s a) []
    | none => s

theorem reachable_step {c : Cfg} {s : St} (h : Reachable c s) (a : Act) : Reachable c (step c s a) := by
  obtain ⟨sched, rfl⟩ := h
  exact ⟨sched ++ [a], (run_append_one c a sched init).symm⟩

theorem runChoices_reachable (c : Cfg) : ∀ (fuel : Nat) (s : St) (chs : List Nat), Reachable c s →
    Reachable c (runChoices c fuel s chs) := by
  intro fuel
  induction fuel with
  | zero => intro s chs h; exact h
  | succ f ih =>
    intro s chs h
    have hstep := reachable_step h
    cases chs with
    | nil =>
      simp only [runChoices]
      split
      · exact ih _ _ (hstep _)
      · exact h
    | cons ch rest =>
      simp only [runChoices]
      split
      · exact ih _ _ (hstep _)
      · exact h

/-! ### Termination under the drain schedule (`quiescent_termination`, with an explicit bound) -/

/-- The fourth invariant (`Inv4`: the caller is never parked at the marker `dIn`; every batch that waits for its
`backend.submit` is pointed to by the thread parked at that `submit`) holds in every reachable state. -/
theorem reachable_inv4 {c : Cfg} {s : St} (h : Reachable c s) : Inv4 s := by
  obtain ⟨sched, rfl⟩ := h
  exact (run_inv4 sched ⟨inv_init c, inv4_init⟩).2

/-- The termination measure of the drain schedule, a computable function of the configuration and the state:
`1300 * W + 100 * P + 100 * L + R` with `W` = items the input iterable can still produce + items in the look-ahead queue
(+ 1 while the iterable has not signalled its end), `P` = Σ over the trackers of the stages the batch still has to go
through (`idle` 10, `parked` 9, `acqA` 8, …, `relC` 1, finished 0), `L` = trackers the caller still has to pop / read,
`R` = rank (≤ 70) of the caller's program point (`JoblibProofs/Lemmas/ParallelLock/Term.lean`). -/
def drainBound (c : Cfg) (s : St) : Nat := M c s

/-- The bound for a whole call on a fresh object: `1300 * (number of items the input produces + 1) + 370`. -/
def drainBound0 (c : Cfg) : Nat := 1300 * (stopAt c + 1) + 370

theorem drainBound_init (c : Cfg) : drainBound c init = drainBound0 c := M_init c

/-- DRAIN PROGRESS. From every reachable state in which the caller has not finished the drain rule (`pickLast`:
environment completions first, then the highest-numbered enabled callback thread, then the caller) picks an action, and
that action strictly decreases the measure: a completion and every callback step decrease `P` (or register a tracker,
which decreases `W`); the caller runs only when nothing else is enabled, and then — outside a lock-protected segment —
no batch is live any more (`Inv4`, `no_lost_wakeup`), so the loop condition of the retrieval loop is false or an error is
flagged, and each of its steps decreases `W`, `P`, `L` or the rank of its program point. -/
theorem drain_step_decreases {c : Cfg} {s : St} (hc : CfgOK c) (hpd : PdOK c) (h : Reachable c s)
    (hnd : s.pc ≠ .done) : ∃ a, pickLast s = some a ∧ drainBound c (step c s a) < drainBound c s := by
  obtain ⟨a, ha, hd⟩ := drain_dec (reachable_inv h) (reachable_inv3 hc hpd h) (reachable_inv4 h) hnd
  exact ⟨a, ha, hd.lt⟩

/-- Once the caller has finished it stays finished (the remaining callbacks may still run). -/
theorem done_stable (c : Cfg) : ∀ (fuel : Nat) (s : St) (chs : List Nat), s.pc = .done →
    (runChoices c fuel s chs).pc = .done := by
  intro fuel
  induction fuel with
  | zero => intro s chs h; exact h
  | succ f ih =>
    intro s chs h
    cases chs with
    | nil =>
      simp only [runChoices]
      split
      · exact ih _ _ (step_pc_done _ h)
      · exact h
    | cons ch rest =>
      simp only [runChoices]
      split
      · exact ih _ _ (step_pc_done _ h)
      · exact h

/-- QUIESCENT TERMINATION, with the explicit bound. From EVERY reachable state, under the drain rule, the caller's call
has finished (returned or raised) after at most `drainBound c s` steps — and stays finished with any larger fuel. No
deadlock, no lost wake-up, no spinning retrieval loop; every configuration of the model's domain, any number of tasks
and callback threads. -/
theorem quiescent_termination_bounded {c : Cfg} (hc : CfgOK c) (hpd : PdOK c) :
    ∀ (fuel : Nat) (s : St), Reachable c s → drainBound c s ≤ fuel → (runChoices c fuel s []).pc = .done := by
  intro fuel
  induction fuel with
  | zero =>
    intro s _ hb
    have : L s = 0 := by unfold drainBound M at hb; omega
    exact L_eq_zero this
  | succ f ih =>
    intro s h hb
    by_cases hnd : s.pc = .done
    · exact done_stable c _ s [] hnd
    · obtain ⟨a, ha, hlt⟩ := drain_step_decreases hc hpd h hnd
      simp only [runChoices, ha]
      exact ih _ (reachable_step h a) (by omega)

/-- QUIESCENT TERMINATION (the full statement): from every reachable state, if the environment completes every parked
batch and every thread is scheduled by the drain rule, the caller's call returns or raises. -/
theorem quiescent_termination {c : Cfg} {s : St} (hc : CfgOK c) (hpd : PdOK c) (h : Reachable c s) :
    ∃ fuel, (runChoices c fuel s []).pc = .done :=
  ⟨drainBound c s, quiescent_termination_bounded hc hpd _ s h (Nat.le_refl _)⟩

/-- … within a number of steps bounded by a computable function of the configuration and the state. -/
theorem quiescent_termination_bound {c : Cfg} {s : St} (hc : CfgOK c) (hpd : PdOK c) (h : Reachable c s) :
    ∃ fuel, fuel ≤ drainBound c s ∧ (runChoices c fuel s []).pc = .done :=
  ⟨drainBound c s, Nat.le_refl _, quiescent_termination_bounded hc hpd _ s h (Nat.le_refl _)⟩

/-- A whole call on a fresh object scheduled by the drain rule finishes within `1300 * (items + 1) + 370` steps. -/
theorem quiescent_termination_init {c : Cfg} (hc : CfgOK c) (hpd : PdOK c) :
    (runChoices c (drainBound0 c) init []).pc = .done :=
  quiescent_termination_bounded hc hpd _ init ⟨[], rfl⟩ (Nat.le_of_eq (drainBound_init c))

/-- … and after ANY forced prefix of choices: the drain that follows a schedule `chs` (the harness rule) terminates. -/
theorem quiescent_termination_after {c : Cfg} (hc : CfgOK c) (hpd : PdOK c) (k : Nat) (chs : List Nat) :
    ∃ fuel, (runChoices c fuel (runChoices c k init chs) []).pc = .done :=
  quiescent_termination hc hpd (runChoices_reachable c k init chs ⟨[], rfl⟩)

/-- The code before the repair of F49 (`recheck := false`), 7 tasks, the input iterable raises at position 2. -/
def cfgX : Cfg :=
  { nj := 2, bsAuto := false, bs := [1], pdMode := 0, pd := 2, ra := 0, abortDrops := true, n := 7, fails := [],
    iterfail := some 2, recheck := false }

/-- The schedule of the replay in `builders_notes/M1L.md` (forced on the real code by `harness/m1_lock.py`). -/
def schedX : List Nat :=
  [3, 3, 3, 5, 3, 1, 0, 3, 0, 3, 3, 4, 0, 5, 3, 2, 5, 1, 4, 0, 2, 0, 0, 0, 5, 4, 0, 3, 5, 1, 3, 5, 0, 4, 1, 3, 3, 4, 1, 2]

/-- The end of the run of `schedX`, evaluated once. -/
private theorem runX_end : (runChoices cfgX 200 init schedX).outcome = some (.ret []) ∧
    (runChoices cfgX 200 init schedX).srcRaised = true ∧ (runChoices cfgX 200 init schedX).pc = .done := by
  decide +kernel

/-- ERRORS SURFACE IS FALSE OF THE CODE BEFORE THE REPAIR when the input iterable raises (finding F49): under this
schedule the iterable raises inside a completion callback after the caller has read `_aborting == False` in
`_wait_retrieval`; another callback then clears `_iterating`; the caller leaves the retrieval loop normally and the call
RETURNS `[]` although the input raised. Reproduced on the real code as it then was (same schedule). -/
theorem error_surfaces_counterexample :
    Reachable cfgX (runChoices cfgX 200 init schedX) ∧
    (runChoices cfgX 200 init schedX).outcome = some (.ret []) ∧
    (runChoices cfgX 200 init schedX).srcRaised = true ∧ cfgX.iterfail = some 2 ∧ ¬ Safe cfgX :=
  ⟨runChoices_reachable cfgX 200 init schedX ⟨[], rfl⟩, runX_end.1, runX_end.2.1, rfl, by
    intro h; rcases h with h | h <;> cases h⟩

/-- With the repair (`recheck := true`, /repo as it is) the same schedule ends by raising the iterable's exception. -/
def cfgXfix : Cfg := { cfgX with recheck := true }

set_option maxRecDepth 20000 in
example : (runChoices cfgXfix 300 init schedX).outcome = some (.raised (.iter 2)) := by decide +kernel

/-! ### The hypotheses are satisfiable by non-trivial reachable states -/

/-- 3 tasks, `n_jobs=2`, `batch_size=1`, `pre_dispatch=2`. -/
def cfgA : Cfg :=
  { nj := 2, bsAuto := false, bs := [1], pdMode := 0, pd := 2, ra := 0, abortDrops := true, n := 3, fails := [],
    iterfail := none }

/-- The caller runs up to `backend.submit` of the first batch (owning the lock); the backend completes nothing yet. -/
def schedA1 : List Act := List.replicate 12 (Act.thread 0)

/-- … then submits, batch 0 completes, its callback thread (thread 1) runs into its second critical section and
parks at `submit` of batch 1 owning the lock, while the caller is blocked at its next acquisition. -/
def schedA2 : List Act :=
  schedA1 ++ [.thread 0, .thread 0, .complete 0, .thread 1, .thread 1, .thread 1, .thread 1, .thread 1, .thread 0]


/-- The state after `schedA2`, evaluated once. -/
private theorem runA2_facts :
    (inLocked (run cfgA init schedA2) 1 = true ∧ (run cfgA init schedA2).lockOwner = some 1) ∧
    ((run cfgA init schedA2).pc.isAcq = true ∧ callerEnabled (run cfgA init schedA2) = false) ∧
    ((run cfgA init schedA2).aborting = false ∧ allItems (run cfgA init schedA2) = [0, 1] ∧
      (run cfgA init schedA2).log.contains (Ev.pull 0 1 true) = true) ∧
    M cfgA (run cfgA init schedA2) = 4355 ∧
    (pickLast (run cfgA init schedA2) = some (.thread 1) ∧
      M cfgA (step cfgA (run cfgA init schedA2) (.thread 1)) < M cfgA (run cfgA init schedA2)) := by decide +kernel

example : Reachable cfgA (run cfgA init schedA2) := ⟨schedA2, rfl⟩
example : inLocked (run cfgA init schedA1) 0 = true := by decide +kernel
example : inLocked (run cfgA init schedA2) 1 = true ∧ (run cfgA init schedA2).lockOwner = some 1 := runA2_facts.1
example : (run cfgA init schedA2).pc.isAcq = true ∧ callerEnabled (run cfgA init schedA2) = false := runA2_facts.2.1
example : (run cfgA init schedA2).aborting = false ∧ allItems (run cfgA init schedA2) = [0, 1] ∧
    (run cfgA init schedA2).log.contains (Ev.pull 0 1 true) = true := runA2_facts.2.2.1

theorem cfgA_ok : CfgOK cfgA ∧ PdOK cfgA ∧ Safe cfgA :=
  ⟨⟨by decide +kernel, by decide +kernel⟩, Or.inr (by decide +kernel), Or.inr rfl⟩

/-- 5 tasks, task 3 fails, auto batch sizes, `pre_dispatch='all'`, ordered generator. -/
def cfgB : Cfg :=
  { nj := 2, bsAuto := true, bs := [1, 2], pdMode := 1, pd := 0, ra := 1, abortDrops := false, n := 5, fails := [3],
    iterfail := none }

/-- An interleaving in which callbacks and the caller alternate (choices) before the drain. -/
def schedB : List Nat := [0, 0, 0, 0, 0, 0, 0, 0, 0, 0, 0, 0, 0, 0, 2, 1, 0, 1, 1, 3, 0, 2, 1, 1, 0, 0, 2, 2, 1, 0, 3, 1]

/-- The drain of `cfgA` from the fresh object after 43, 44, 51 and 52 steps and at its end.  One command for all: the
runs are prefixes of one another, and within one evaluation the kernel reduces each state of the common prefix once. -/
private theorem drainA_facts :
    ((runChoices cfgA 43 init []).pc = .wtIter ∧ pickLast (runChoices cfgA 43 init []) = some (.thread 0) ∧
      drainBound cfgA (runChoices cfgA 44 init []) < drainBound cfgA (runChoices cfgA 43 init [])) ∧
    ((runChoices cfgA 51 init []).pc.exiting = true ∧ (runChoices cfgA 51 init []).pc ≠ .done ∧
      (runChoices cfgA 52 init []).pc = .done) ∧
    ((runChoices cfgA 400 init []).outcome = some (.ret [0, 1, 2]) ∧ (runChoices cfgA 400 init []).pc = .done) ∧
    ∀ t ∈ (runChoices cfgA 400 init []).trk, t.pc.live = false := by
  decide +kernel

example : Reachable cfgA (runChoices cfgA 400 init []) := runChoices_reachable cfgA 400 init [] ⟨[], rfl⟩
-- `return_correct`, `outcome_done`: a reachable state in which the call has returned
example : (runChoices cfgA 400 init []).outcome = some (.ret [0, 1, 2]) ∧ (runChoices cfgA 400 init []).pc = .done :=
  drainA_facts.2.2.1
-- `no_premature_exit`: a reachable state at a program point of the normal exit
example : (runChoices cfgA 51 init []).pc.exiting = true := drainA_facts.2.1.1
-- `error_surfaces`, `raise_is_legit`: a failing task, the call raises its exception
example : CfgOK cfgB ∧ PdOK cfgB ∧ Safe cfgB ∧ (∃ id ∈ cfgB.fails, id < cfgB.n) :=
  ⟨⟨by decide +kernel, by decide +kernel⟩, Or.inl rfl, Or.inr rfl, 3, by decide +kernel, by decide +kernel⟩
/-- The run of `schedB` followed by the drain: its state after 60 steps, and its end (one command, as for `drainA_facts`). -/
private theorem runB_facts :
    (((runChoices cfgB 60 init schedB).aborting = true ∧ (runChoices cfgB 60 init schedB).pc ≠ .done) ∧
      M cfgB (runChoices cfgB 60 init schedB) = 2032 ∧
      (runChoices cfgB 9 (runChoices cfgB 60 init schedB) []).pc = .done) ∧
    (runChoices cfgB 600 init schedB).outcome = some (.raised (.task 3)) ∧
    (runChoices cfgB 600 init schedB).pc = .done ∧ enabledActs (runChoices cfgB 600 init schedB) = [] := by
  decide +kernel

example : (runChoices cfgB 600 init schedB).outcome = some (.raised (.task 3)) := runB_facts.2.1
-- `no_pull_after_abort_observed`: a reachable state with `_aborting` set while callbacks are still running
example : ∃ k, (runChoices cfgB k init schedB).aborting = true ∧ (runChoices cfgB k init schedB).pc ≠ .done :=
  ⟨60, runB_facts.1.1⟩

-- `no_lost_wakeup`: the caller (scheduled alone for 40 choices) spins in the retrieval loop while batches are parked
example : (runChoices cfgA 40 init (List.replicate 40 0)).aborting = false ∧
    (runChoices cfgA 40 init (List.replicate 40 0)).iterating = true ∧
    (runChoices cfgA 40 init (List.replicate 40 0)).nCompleted < (runChoices cfgA 40 init (List.replicate 40 0)).nDispTasks ∧
    (runChoices cfgA 40 init (List.replicate 40 0)).pc.postLoop = true := by decide +kernel
-- `quiet_exit`: after the drain nothing is live
example : ∀ t ∈ (runChoices cfgA 400 init []).trk, t.pc.live = false := drainA_facts.2.2.2
-- the drain rule terminates on these instances (in general: `quiescent_termination`)
example : (runChoices cfgB 600 init schedB).pc = .done ∧ enabledActs (runChoices cfgB 600 init schedB) = [] := runB_facts.2.2
example : (runChoices cfgX 200 init schedX).pc = .done := runX_end.2.2

-- `quiescent_termination_init`: a whole call under the drain rule, within the computed bound
example : (runChoices cfgA (drainBound0 cfgA) init []).pc = .done :=
  quiescent_termination_init cfgA_ok.1 cfgA_ok.2.1
example : drainBound0 cfgA = 5570 ∧ drainBound cfgA (run cfgA init schedA2) = 4355 := ⟨by decide +kernel, runA2_facts.2.2.2.1⟩
-- the bound is not vacuous: the call really takes 52 drain steps (not done after 51)
example : (runChoices cfgA 51 init []).pc ≠ .done ∧ (runChoices cfgA 52 init []).pc = .done := drainA_facts.2.1.2
-- `drain_step_decreases` where the drain rule picks the caller inside the retrieval loop (`r:_iterating`): nothing else
-- is enabled, no batch is live, the loop condition is false
example : (runChoices cfgA 43 init []).pc = .wtIter ∧ pickLast (runChoices cfgA 43 init []) = some (.thread 0) ∧
    drainBound cfgA (runChoices cfgA 44 init []) < drainBound cfgA (runChoices cfgA 43 init []) := drainA_facts.1
-- … and where it picks a callback thread (parked at `submit`, owning the lock) while the caller is blocked
example : callerEnabled (run cfgA init schedA2) = false ∧ pickLast (run cfgA init schedA2) = some (.thread 1) ∧
    drainBound cfgA (step cfgA (run cfgA init schedA2) (.thread 1)) < drainBound cfgA (run cfgA init schedA2) :=
  ⟨runA2_facts.2.1.2, runA2_facts.2.2.2.2⟩
-- `quiescent_termination` from the middle of a racy interleaving with a failing task (state after 60 steps of `schedB`,
-- `_aborting` set, callbacks still running): the drain finishes, here after 9 more steps, bound 2032
example : drainBound cfgB (runChoices cfgB 60 init schedB) = 2032 ∧
    (runChoices cfgB 9 (runChoices cfgB 60 init schedB) []).pc = .done := runB_facts.1.2
-- `reachable_inv4`: a reachable state with a batch waiting for its `submit`, pointed to by the caller
example : (getTrk (run cfgA init schedA1) 0).pc = .idle ∧ (getTrk (run cfgA init schedA1) 0).items = [0] ∧
    (run cfgA init schedA1).pc = .dSubmit .first 0 := by decide +kernel


end M1L
